import MaltModel.Proofs.C01CF
/-!
# C01 (control-flow functionalisation) — theorems about the model of `ControlFlowTransformer` that are not part of
the calling contract (those are in Props/C03.lean)

`cfOutput env nm root` = output of the model (`Conv/ControlFlow.lean`) on the source tree `root`, for the annotation /
directive table `env` and the namer state `nm`.  Predicates: `Conv/CFSpec.lean`.

Routing (feeds C04), and the two side obligations of DESIGN §4 C01 under which the generated module loads: (a) every
`nonlocal x` has a binding of `x` in an enclosing function scope (CPython's `analyze_block` rule), (b) no function both
takes a name as a parameter and declares it `global` / `nonlocal`.  (a) and (b) hold under hypotheses only; these are
decidable predicates on source tree + table, evaluated on the real tables by `./check C03`.
-/
namespace Malt.Conv.CFSpec
open Malt Malt.Py Malt.Naming Malt.Conv.ControlFlow Malt.Conv.Contract

/-- **Routing.**  If no statement carries `SKIP_PROCESSING`, the output contains no native `if`, `while` or synchronous
`for` statement at any depth — in the rewritten function bodies, in the generated body / test functions, in nested
`def`s and classes (expressions, lambdas included, contain no statements). -/
theorem C01CF_routing (env : Env) (nm : Namer) (root : Stmt) (hskip : ∀ id, env.skip id = false) :
    noNativeCFL (cfOutput env nm root) = true :=
  (tStmt_tStmts_routed env hskip).1 {} nm root

/-
(b), full statement:   pdOkS root = true → pdOkL (cfOutput env nm root) = true
FALSE of the library: the setter template hard-codes its parameter `vars_`; a state variable of that name is
declared `nonlocal` in the same function (CPython: "name 'vars_' is parameter and nonlocal"; C11 finding
`user_name_equals_hard_coded_template_identifier`).
-/

/-- **(b)**  No function of the output both takes a name as a parameter and declares it `global` / `nonlocal`, PROVIDED
(`pdHypS`): the source obeys the rule itself; no state tuple contains `vars_`; and every name the body function of a
`for` statement declares (its simple state variables, `glNames`/`nlNames`, and the `global`/`nonlocal` statements of the
loop body) is in the reserved set the namer receives for `itr` (by `namer_fresh` the parameter `itr` then differs
from all of them; the negation is the C11 finding "bound-only user name equals a generated name"). -/
theorem C01CF_params_not_declared_partial (env : Env) (nm : Namer) (root : Stmt)
    (h : pdHypS env {} root = true) : pdOkL (cfOutput env nm root) = true :=
  (tStmt_tStmts_pd env).1 {} nm root h

/-- Counterexample to the full (b): the state functions generated for the state tuple `('vars_',)`. -/
theorem C01CF_params_declared_counterexample :
    pdOkL (stateFunctions ["vars_"] (nonlocalDecls {} ["vars_"]) "get_state" "set_state") = false := by
  decide

/-
(a), full statement:   nlOkS B root = true → nlOkL B (cfOutput env nm root) = true
FALSE for arbitrary annotation tables: a table that reports a state variable as defined on entry although nothing binds
it produces `nonlocal x` without any binding of `x` (`C01CF_nonlocal_unbound_counterexample`).
-/

/-- **(a)**  With `B` = the names bound in the function scopes enclosing `root` (`[]` for a module-level function): every
`nonlocal x` of the output has a binding of `x` in an enclosing function scope, PROVIDED (`nlHypS`, recursively with
`A` = names certainly bound around the current position of the OUTPUT: what the enclosing scopes hand down minus the
names declared `global` on the way, plus parameters, plus what the statements that stay in the block bind, plus the
`x = ag__.Undefined('x')` pre-assignments emitted for the control-flow statements of the block): at every control-flow
statement the simple non-global state variables (`nlNames`) and the `nonlocal` statements inside its blocks are in `A`;
at every `def` its `nonlocal` statements are in `A`; skipped statements obey the rule as they are. -/
theorem C01CF_nonlocals_bound_partial (env : Env) (nm : Namer) (root : Stmt) (B : List String)
    (h : nlHypS env {} B root = true) : nlOkL B (cfOutput env nm root) = true :=
  (tStmt_tStmts_nl env).1 {} nm root B h

/-- Counterexample to the full (a): `def f(): <if-chunk with state ('x',), nothing pre-assigned>`. -/
theorem C01CF_nonlocal_unbound_counterexample (test : Expr) (body : List Stmt) :
    nlOkS [] (fnDef "f" [] (ifChunk { scopeVars := ["x"], undefined := [], nouts := 1, inputOnly := [] }
      (nonlocalDecls {} ["x"]) test body [] "get_state" "set_state" "if_body" "else_body")) = false := by
  simp [ifChunk, stateFunctions, nonlocalDecls, fnDef, argsOf, nlOkL, nlOkS, declG, declN, collectL, collectS,
    gOwn, nOwn, BlockVars.isComposite, undefinedAssigns, localsOf, paramNames, argNames, opCallStmt, bindsOf, bOwn]

/-- … and the same chunk is accepted when an enclosing function scope binds `x`. -/
example (test : Expr) :
    nlOkS ["x"] (fnDef "f" [] (ifChunk { scopeVars := ["x"], undefined := [], nouts := 1, inputOnly := [] }
      (nonlocalDecls {} ["x"]) test [.pass 0] [] "get_state" "set_state" "if_body" "else_body")) = true := by
  rfl

/-- Non-vacuity: a table without `skip` entries satisfies the hypothesis of `C01CF_routing`. -/
example : ∀ id, ({ ann := [(3, "LIVE_VARS_IN", .list [])], dirs := [] } : Env).skip id = false := by
  intro id
  simp [Env.skip, AnnoTable.has, AnnoTable.get]

/-- `pdHypS` / `nlHypS` hold of an ordinary function (`def f(a): x = a; global g`), with the empty table. -/
example :
    pdHypS { ann := [], dirs := [] } {} (.functionDef 1 "f" (argsOf ["a"])
      [.assign 2 [.name 3 "x" .store] (.name 4 "a" .load), .global 5 ["g"]] [] [] false) = true ∧
    nlHypS { ann := [], dirs := [] } {} [] (.functionDef 1 "f" (argsOf ["a"])
      [.assign 2 [.name 3 "x" .store] (.name 4 "a" .load), .global 5 ["g"]] [] [] false) = true := by
  decide

end Malt.Conv.CFSpec
