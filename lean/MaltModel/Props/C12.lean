import MaltModel.Proofs.C12Check
import MaltModel.Proofs.C12Nested
/-!
# C12 — errors in converted code are reported at the original source location

Model: `Rt/Errors.lean` and the call-chain vocabulary of `Proofs/C12Stack`, `C12Nested`, `C12Check`;
`KNOWN_STRING_CONSTRUCTOR_ERRORS`, the fallback type, the `[1:]` slice, the frame test and
the pass-through flags are read from `malt/pyct/error_utils.py` and `malt/impl/api.py` into `Generated/Errors.lean`.

Where the library deviates from the property, the full statement is given as a comment, the `…_partial` theorem
carries the decidable hypothesis that excludes the deviation, and a counterexample shows that the hypothesis cannot
be dropped (findings: `known_findings.d/C12.json`).
-/
namespace Malt.Errors

/-- `create_source_map`, exactly: lines are independent; the entry of a line is the fold of the overlap rules
(`pick`) over the annotated nodes on it, in walk order. -/
theorem C12_srcmap_entry_iff (items : List WalkItem) (k : LineLoc) (o : Origin) :
    (k, o) ∈ createSourceMap items ↔ pick (originsAt items k) = some o := by
  rw [← get_createSourceMap]
  exact ⟨get_of_mem (nodupKeys_createSourceMap items), mem_of_get⟩

theorem C12_srcmap_entry_source {items : List WalkItem} {k : LineLoc} {o : Origin} (h : (k, o) ∈ createSourceMap items) :
    ∃ it ∈ items, it.key = some k ∧ it.origin = some o :=
  mem_originsAt.mp (pick_mem ((C12_srcmap_entry_iff items k o).mp h))

/-- Entries for lines of the generated file `G` are right, whatever else the map contains. `horigin` (every
annotated node on a generated line carries the origin of the statement the line was generated from; `src` depends on
the line alone, one statement per line) is what origin inheritance through the passes provides; it is assumed here. -/
theorem C12_srcmap (G U : String) (src : Nat → Nat) (items : List WalkItem)
    (horigin : ∀ it ∈ items, ∀ k o, it.key = some k → it.origin = some o → k.file = G →
                 o.file = U ∧ o.line = src k.line) :
    ∀ k o, (k, o) ∈ createSourceMap items → k.file = G → o.file = U ∧ o.line = src k.line := by
  intro k o hmem hk
  obtain ⟨it, hit, hkey, horg⟩ := C12_srcmap_entry_source hmem
  exact horigin it hit k o hkey horg hk

/- FULL STATEMENT (false of the library, see `C12_srcmap_counterexample`): `C12_srcmap_partial` without `hkeys`; what
   fails is only that every key lies in the generated file (`k.file = G`). -/

/-- The library violates `hkeys` (as a Boolean: `hasForeignKey … = false`): `copy_origin` annotates the shared
`ast.Load()`/`ast.Store()` singletons, which the walk pairs with themselves. -/
theorem C12_srcmap_partial (G U : String) (src : Nat → Nat) (items : List WalkItem)
    (hkeys : ∀ it ∈ items, ∀ k, it.key = some k → it.origin ≠ none → k.file = G)
    (horigin : ∀ it ∈ items, ∀ k o, it.key = some k → it.origin = some o → k.file = G →
                 o.file = U ∧ o.line = src k.line) :
    ∀ k o, (k, o) ∈ createSourceMap items → k.file = G ∧ o.file = U ∧ o.line = src k.line := by
  intro k o hmem
  obtain ⟨it, hit, hkey, horg⟩ := C12_srcmap_entry_source hmem
  have hk : k.file = G := hkeys it hit k hkey (by simp [horg])
  exact ⟨hk, C12_srcmap G U src items horigin k o hmem hk⟩

theorem C12_srcmap_complete (items : List WalkItem) (it : WalkItem) (hit : it ∈ items)
    (k : LineLoc) (o : Origin) (hk : it.key = some k) (ho : it.origin = some o) :
    ∃ o', (k, o') ∈ createSourceMap items := by
  obtain ⟨o', ho'⟩ := pick_eq_some (List.ne_nil_of_mem (mem_originsAt.mpr ⟨it, hit, hk, ho⟩))
  exact ⟨o', (C12_srcmap_entry_iff items k o').mpr ho'⟩

/-- Among nodes of one original line the first visited gives the column. -/
theorem C12_srcmap_first_wins (items : List WalkItem) (k : LineLoc) (o : Origin) (os : List Origin)
    (hos : originsAt items k = o :: os) (hsame : ∀ o' ∈ os, o'.lineLoc = o.lineLoc) :
    (k, o) ∈ createSourceMap items := by
  rw [C12_srcmap_entry_iff, hos]
  exact pick_first o os hsame

theorem C12_srcmap_leftmost (ex o : Origin) (h : ex.lineLoc ≠ o.lineLoc) :
    pick [ex, o] = some (if ex.col ≤ o.col then ex else o) := by
  by_cases hc : ex.col ≤ o.col <;> simp [pick, pickStep, keep, h, hc]

/-- The traversal order of `parallel_walk` does not matter for the *line* an entry points to, given one statement
per generated line (`hone`). -/
theorem C12_srcmap_order_irrelevant (items items' : List WalkItem) (hperm : items.Perm items')
    (hone : ∀ it₁ ∈ items, ∀ it₂ ∈ items, ∀ k o₁ o₂, it₁.key = some k → it₂.key = some k →
              it₁.origin = some o₁ → it₂.origin = some o₂ → o₁.lineLoc = o₂.lineLoc) :
    ∀ k o, (k, o) ∈ createSourceMap items → ∃ o', (k, o') ∈ createSourceMap items' ∧ o'.lineLoc = o.lineLoc := by
  intro k o hmem
  obtain ⟨it, hit, hkey, horg⟩ := C12_srcmap_entry_source hmem
  obtain ⟨o', ho'⟩ := C12_srcmap_complete items' it (hperm.mem_iff.mp hit) k o hkey horg
  obtain ⟨it2, hit2, hkey2, horg2⟩ := C12_srcmap_entry_source ho'
  exact ⟨o', ho', hone it2 (hperm.mem_iff.mpr hit2) it hit k o' o hkey2 hkey horg2 horg⟩

section srcmap_examples
private def gfile := "/tmp/__autograph_generated_file1.py"
private def ufile := "/u/case.py"
private def o19 (col : Nat) : Origin := ⟨ufile, 19, col, some "top", "r += sum(lvl1(x))"⟩
private def o18 : Origin := ⟨ufile, 18, 8, some "top", "if i:"⟩
/-- Generated lines 30..33 of a conversion of the probe program's `top`. -/
private def exItems : List WalkItem :=
  [ ⟨some ⟨gfile, 30⟩, some o18⟩, ⟨some ⟨gfile, 32⟩, some (o19 12)⟩, ⟨some ⟨gfile, 32⟩, some (o19 17)⟩,
    ⟨some ⟨gfile, 33⟩, none⟩, ⟨some ⟨gfile, 33⟩, some (o19 12)⟩, ⟨none, some o18⟩ ]
private def exSrc : Nat → Nat := fun g => if g = 30 then 18 else 19

/-- The hypotheses of `C12_srcmap_partial` are satisfiable. -/
example : (∀ it ∈ exItems, ∀ k, it.key = some k → it.origin ≠ none → k.file = gfile) ∧
    (∀ it ∈ exItems, ∀ k o, it.key = some k → it.origin = some o → k.file = gfile →
        o.file = ufile ∧ o.line = exSrc k.line) :=
  have h : hasForeignKey gfile exItems = false ∧ exItems.all (originOk gfile ufile exSrc) = true := by decide +kernel
  ⟨(hasForeignKey_false_iff gfile exItems).mp h.1, origin_of_originOk h.2⟩
example : createSourceMap exItems =
    [(⟨gfile, 30⟩, o18), (⟨gfile, 32⟩, o19 12), (⟨gfile, 33⟩, o19 12)] := by decide +kernel

private def exForeign : List WalkItem := exItems ++ [⟨some ⟨ufile, 18⟩, some o18⟩]

/-- COUNTEREXAMPLE to the full statement (finding `C12-srcmap-foreign-key`): the `Load()` singleton, annotated by
`copy_origin` with the `if` on user line 18, is paired with itself; the map gets a key in the *user* file. -/
theorem C12_srcmap_counterexample :
    ∃ items : List WalkItem,
      (∀ it ∈ items, ∀ k o, it.key = some k → it.origin = some o → k.file = gfile →
          o.file = ufile ∧ o.line = exSrc k.line) ∧
      hasForeignKey gfile items = true ∧
      ¬ (∀ k o, (k, o) ∈ createSourceMap items → k.file = gfile) := by
  have h : exForeign.all (originOk gfile ufile exSrc) = true ∧ hasForeignKey gfile exForeign = true ∧
      (⟨ufile, 18⟩, o18) ∈ createSourceMap exForeign ∧ ufile ≠ gfile := by decide +kernel
  exact ⟨exForeign, origin_of_originOk h.1, h.2.1, fun hk => h.2.2.2 (hk _ _ h.2.2.1)⟩
end srcmap_examples

/-- The translated stack by (file, function, line): the frames below the innermost converted site that are outside
`api.py`, then one entry per converted function, innermost first, taken from its source map. -/
theorem C12_stack_exact (api msg : String) (L : List ConvLevel) (T : List Frame) (hne : L ≠ [])
    (hS : ∀ l ∈ L, SiteMapped l) (hK : ∀ l ∈ L, KeysInGen l) (hB : BelowForeign L T) :
    ∃ md, runChain api msg L T = some md ∧ md.cause = msg ∧
      md.stack.map FrameInfo.loc =
        ((lastBelow L T).reverse.filter (fun f => decide (f.file ≠ api))).map Frame.loc
          ++ L.reverse.map (fun l => l.siteOrigin.loc) ∧
      md.stack.filter (·.converted) = L.reverse.map (fun l => FrameInfo.ofOrigin l.siteOrigin) := by
  refine ⟨_, runChain_closed api msg L T hne hS hK hB, rfl, ?_, ?_⟩
  · simp only [List.map_append, elide_map_loc, List.map_nil, List.nil_append, List.map_map]
    rfl
  · rw [List.filter_append, filter_converted_elide, filter_converted_ofOrigin]
    rfl

/-- In a traceback with no mapped frame at all (`hB`) no user frame is dropped, in particular not those of a *user* module
that shares the converter module's base name (`project/api.py`): the frame filter compares full paths
(`Gen.Errors.converterFrameTest`, opened in `elide_map_loc`). -/
theorem C12_user_frames_never_dropped (m : SourceMap) (api : String) (B : List Frame)
    (hB : ∀ f ∈ B, get m ⟨f.file, f.line⟩ = none) :
    ∀ f ∈ B, f.file ≠ api → f.loc ∈ (stackInsideMappedCode B m api).map FrameInfo.loc := by
  intro f hf hne
  rw [stackInside_unmapped m api B hB, elide_map_loc]
  simp only [List.map_nil, List.nil_append, List.mem_map, List.mem_filter, List.mem_reverse]
  refine ⟨f, ⟨hf, ?_⟩, rfl⟩
  simp [hne]

example : (stackInsideMappedCode [⟨"/u/project/main.py", 30, "lookup", ""⟩, ⟨"/u/project/api.py", 6, "scale", "return v // d"⟩]
            [] "/repo/malt/impl/api.py").map FrameInfo.loc
    = [("/u/project/api.py", some "scale", 6), ("/u/project/main.py", some "lookup", 30)] := by decide +kernel

/-- The markers of `g3doc/reference/error_handling.md`: a frame below the innermost converted site carries `**`
(allow-listed) iff its caller is an `api.py` frame, i.e. it is code that was reached but not converted; the entries
of the converted functions carry `*`. -/
theorem C12_stack_markers (api msg : String) (L : List ConvLevel) (T : List Frame) (hne : L ≠ [])
    (hS : ∀ l ∈ L, SiteMapped l) (hK : ∀ l ∈ L, KeysInGen l) (hB : BelowForeign L T) :
    runChain api msg L T = some
      ⟨(markSpec api false (lastBelow L T)).reverse ++ L.reverse.map (fun l => FrameInfo.ofOrigin l.siteOrigin), msg⟩ := by
  rw [runChain_closed api msg L T hne hS hK hB, elide_eq_markSpec]

private theorem flatMap_getLast? (L : List ConvLevel) (hne : L ≠ []) :
    ((L.flatMap (fun l => l.outer ++ [l.orig])).map Frame.loc).getLast? = some (L.getLast hne).orig.loc := by
  rcases List.eq_nil_or_concat L with h | ⟨init, last, h⟩
  · exact absurd h hne
  · subst h
    simp [List.concat_eq_append, List.flatMap_append]

private theorem userLocs_reverse (api U : String) (L : List ConvLevel) (T post : List Frame) (stack : List FrameInfo)
    (hapi : api ≠ U) (hpost : ∀ f ∈ post, f.file ≠ U)
    (hsite : ∀ l ∈ L, l.siteOrigin.loc = l.orig.loc) (hsiteU : ∀ l ∈ L, l.orig.loc.1 = U)
    (hloc : stack.map FrameInfo.loc =
          ((post ++ T).reverse.filter (fun f => decide (f.file ≠ api))).map Frame.loc
            ++ L.reverse.map (fun l => l.siteOrigin.loc)) :
    (userLocs U stack).reverse
        = L.map (fun l => l.orig.loc) ++ (T.filter (fun f => decide (f.file = U))).map Frame.loc := by
  -- the entries of the converted functions all lie in `U`
  have hconv : (L.reverse.map fun l => l.siteOrigin.loc).filter (fun p => decide (p.1 = U))
      = (L.map fun l => l.orig.loc).reverse := by
    rw [List.filter_eq_self.mpr, ← List.map_reverse]
    · exact List.map_congr_left fun l hl => hsite l (List.mem_reverse.mp hl)
    · intro p hp
      obtain ⟨l, hl, rfl⟩ := List.mem_map.mp hp
      simp [hsite l (List.mem_reverse.mp hl), hsiteU l (List.mem_reverse.mp hl)]
  -- of the frames below them, those of `T` that do (none of `post`; `U` is not the converter module)
  have hbelow : (((post ++ T).reverse.filter fun f => decide (f.file ≠ api)).map Frame.loc).filter (fun p => decide (p.1 = U))
      = ((T.filter fun f => decide (f.file = U)).map Frame.loc).reverse := by
    rw [List.filter_map, List.filter_filter, List.filter_reverse, List.filter_append, ← List.map_reverse,
      List.filter_eq_nil_iff.mpr, List.nil_append]
    · congr 2
      exact List.filter_congr fun f _ => by
        by_cases hf : f.file = U
        · simp [Frame.loc, hf, hapi.symm]
        · simp [Frame.loc, hf]
    · intro f hf
      simp [Frame.loc, hpost f hf]
  unfold userLocs
  rw [hloc, List.filter_append, hbelow, hconv, List.reverse_append, List.reverse_reverse, List.reverse_reverse]

private theorem map_orig_sublist (L : List ConvLevel) :
    (L.map (fun l => l.orig.loc)).Sublist ((L.flatMap (fun l => l.outer ++ [l.orig])).map Frame.loc) := by
  induction L with
  | nil => simp
  | cons l ls ih =>
    simp only [List.map_cons, List.flatMap_cons, List.map_append, List.map_nil]
    have h1 : [l.orig.loc].Sublist (l.outer.map Frame.loc ++ [l.orig.loc]) := List.sublist_append_right _ _
    exact List.Sublist.append h1 ih

/- FULL STATEMENT (false of the library): `C12_stack_partial` without `hK` (keys of a source map lie in its
   generated file), without `hB` (no converted function is re-entered further down the path) and without the
   function-name part of `hR` (frames inside lambdas). Counterexamples below. -/

/-- **C12, stack.** For a call path of converted functions `L` (outermost first, any depth) followed by an
unconverted tail `T` (unconverted callees, builtins calling back, machinery) with the failing statement at the
bottom, the exception's metadata
 * carries the original message,
 * lists one converted entry per separately converted function, innermost first, each at the original
   (file, function, line) of the statement that function was executing,
 * lists user frames that all are frames of the unconverted run's traceback, in the same order,
 * and its innermost user frame is that of the unconverted traceback: the statement that failed.
`hapi`, `hpost`: the converter module is not the user file, and below the innermost site lies only its machinery. -/
theorem C12_stack_partial (api U msg : String) (L : List ConvLevel) (T : List Frame) (hne : L ≠ [])
    (hS : ∀ l ∈ L, SiteMapped l) (hK : ∀ l ∈ L, KeysInGen l) (hB : BelowForeign L T)
    (hR : ∀ l ∈ L, SiteResolved U l) (hapi : api ≠ U)
    (hpost : ∀ f ∈ (L.getLast hne).post, f.file ≠ U) :
    ∃ md, runChain api msg L T = some md ∧ md.cause = msg ∧
      md.stack.filter (·.converted) = L.reverse.map (fun l => FrameInfo.ofOrigin l.siteOrigin) ∧
      (md.stack.filter (·.converted)).map FrameInfo.loc = L.reverse.map (fun l => l.orig.loc) ∧
      (userLocs U md.stack).reverse.Sublist ((origTraceback U L T).map Frame.loc) ∧
      (userLocs U md.stack).head? = ((origTraceback U L T).map Frame.loc).getLast? := by
  obtain ⟨md, hrun, hcause, hloc, hconv⟩ := C12_stack_exact api msg L T hne hS hK hB
  have hsite : ∀ l ∈ L, l.siteOrigin.loc = l.orig.loc := by
    intro l hl
    obtain ⟨_, h1, h2, h3⟩ := hR l hl
    simp [Origin.loc, Frame.loc, h1, h2, h3]
  have hsiteU : ∀ l ∈ L, l.orig.loc.1 = U := fun l hl => (hR l hl).1
  -- the listed user frames, outermost first
  have huser : (userLocs U md.stack).reverse
      = L.map (fun l => l.orig.loc) ++ (T.filter (fun f => decide (f.file = U))).map Frame.loc := by
    rw [lastBelow_eq L T hne] at hloc
    exact userLocs_reverse api U L T _ md.stack hapi hpost hsite hsiteU hloc
  refine ⟨md, hrun, hcause, hconv, ?_, ?_, ?_⟩
  · rw [hconv, List.map_map]
    exact List.map_congr_left (fun l hl => by simpa [FrameInfo.ofOrigin, FrameInfo.loc, Origin.loc] using hsite l (List.mem_reverse.mp hl))
  · rw [huser]
    unfold origTraceback
    rw [List.map_append]
    refine List.Sublist.append ?_ (List.Sublist.refl _)
    exact map_orig_sublist L
  · have h1 : (userLocs U md.stack).head? = (userLocs U md.stack).reverse.getLast? := by simp
    rw [h1, huser]
    unfold origTraceback
    rw [List.map_append, List.getLast?_append, List.getLast?_append, flatMap_getLast? L hne]
    rw [List.getLast?_map (l := L), List.getLast?_eq_some_getLast hne]
    rfl

/-- What the harness relies on: a recorded run that passes `stackHypsB` but whose real stack fails `conclusionHolds`
on the same frames shows that implementation and model disagree on that run, provided the recorded tracebacks are nested
suffixes (`decompose` does not check). (`decompose` leaves `outer` empty, so
`origTraceback` is the recorded `orig` frame of each level, then the user frames of the tail.) -/
theorem C12_stack_check_sound (api U msg : String) (raw : List RawLevel) (L : List ConvLevel) (T : List Frame)
    (hd : decompose raw = some (L, T)) (hh : stackHypsB api U L T = true) :
    ∃ md, runChain api msg L T = some md ∧
      conclusionHolds U L md.stack ((origTraceback U L T).map Frame.loc) = true := by
  have hne := decompose_ne_nil hd
  simp only [stackHypsB, Bool.and_eq_true, decide_eq_true_eq] at hh
  obtain ⟨⟨⟨⟨hK, hB⟩, hR⟩, hapi⟩, hpost⟩ := hh
  have hpost' : ∀ f ∈ (L.getLast hne).post, f.file ≠ U := by
    rw [lastBelow_eq L T hne] at hpost
    simpa using hpost
  obtain ⟨md, hrun, _, _, hconv, hsub, hhead⟩ :=
    C12_stack_partial api U msg L T hne (decompose_siteMapped raw L T hd) hK hB hR hapi hpost'
  refine ⟨md, hrun, ?_⟩
  simp only [conclusionHolds, Bool.and_eq_true, decide_eq_true_eq, List.isSublist_iff_sublist]
  exact ⟨⟨hconv, hsub⟩, hhead⟩

section stack_examples
private def apiF := "/repo/malt/impl/api.py"
private def uF := "/u/p1.py"
private def gTop := "/tmp/gen_top.py"
private def gL1 := "/tmp/gen_lvl1.py"
private def oTop : Origin := ⟨uF, 19, 12, some "top", "r += sum(lvl1(x))"⟩
private def oL1 : Origin := ⟨uF, 13, 4, some "lvl1", "t = [mid(v) for v in (1, x)]"⟩
/-- The probe program (`design-notes/probes/probe_error_chain_and_source_map.py`):
converted `top` → converted `lvl1` → do_not_convert `mid` → `lvl2` → `lvl3` (ZeroDivisionError). -/
private def exTop : ConvLevel :=
  { genFile := gTop, map := [(⟨gTop, 40⟩, ⟨uF, 17, 4, some "top", "for i in range(2):"⟩), (⟨gTop, 38⟩, ⟨uF, 18, 8, some "top", "if i:"⟩), (⟨gTop, 33⟩, oTop)],
    pre := [⟨gTop, 40, "ag__top", ""⟩, ⟨"/repo/malt/operators/control_flow.py", 449, "for_stmt", ""⟩, ⟨gTop, 38, "loop_body", ""⟩,
            ⟨"/repo/malt/operators/control_flow.py", 1200, "if_stmt", ""⟩],
    site := ⟨gTop, 33, "if_body", ""⟩, post := [⟨apiF, 377, "converted_call", ""⟩],
    siteOrigin := oTop, orig := ⟨uF, 19, "top", "r += sum(lvl1(x))"⟩, outer := [] }
private def exL1 : ConvLevel :=
  { genFile := gL1, map := [(⟨gL1, 10⟩, oL1)], pre := [], site := ⟨gL1, 10, "ag__lvl1", ""⟩,
    post := [⟨apiF, 331, "converted_call", ""⟩, ⟨apiF, 459, "_call_unconverted", ""⟩],
    siteOrigin := oL1, orig := ⟨uF, 13, "lvl1", "t = [mid(v) for v in (1, x)]"⟩, outer := [] }
private def exTail : List Frame :=
  [⟨apiF, 577, "wrapper", ""⟩, ⟨uF, 11, "mid", "return lvl2(x)"⟩, ⟨uF, 6, "lvl2", "while lvl3(x) > y and y < 3:"⟩, ⟨uF, 3, "lvl3", "return 10 // x"⟩]

/-- The hypotheses of `C12_stack_partial` are satisfiable … -/
example : (∀ l ∈ [exTop, exL1], SiteMapped l) ∧ (∀ l ∈ [exTop, exL1], KeysInGen l) ∧ BelowForeign [exTop, exL1] exTail
    ∧ (∀ l ∈ [exTop, exL1], SiteResolved uF l) ∧ apiF ≠ uF ∧ (∀ f ∈ exL1.post, f.file ≠ uF) := by
  decide +kernel
/-- … and the model computes the stack observed on the real code. -/
example : (runChain apiF "ZeroDivisionError: integer division or modulo by zero" [exTop, exL1] exTail).map
      (fun md => md.stack.map (fun fi => (fi.fn, fi.line, fi.converted, fi.allowlisted)))
    = some [(some "lvl3", 3, false, false), (some "lvl2", 6, false, false), (some "mid", 11, false, true),
            (some "lvl1", 13, true, false), (some "top", 19, true, false)] := by decide +kernel

private def oRecCall : Origin := ⟨uF, 20, 8, some "rec", "return rec(x - 1)"⟩
private def oRecFail : Origin := ⟨uF, 21, 4, some "rec", "return 10 // x"⟩
private def recMap : SourceMap := [(⟨"/tmp/gen_rec.py", 14⟩, oRecCall), (⟨"/tmp/gen_rec.py", 20⟩, oRecFail)]
private def recOuter : ConvLevel :=
  { genFile := "/tmp/gen_rec.py", map := recMap, pre := [⟨"/tmp/gen_rec.py", 25, "ag__rec", ""⟩], site := ⟨"/tmp/gen_rec.py", 14, "if_body", ""⟩,
    post := [⟨apiF, 377, "converted_call", ""⟩], siteOrigin := oRecCall, orig := ⟨uF, 20, "rec", ""⟩, outer := [] }
private def recInner : ConvLevel :=
  { recOuter with pre := [], site := ⟨"/tmp/gen_rec.py", 20, "ag__rec", ""⟩, post := [], siteOrigin := oRecFail, orig := ⟨uF, 21, "rec", ""⟩ }
/-- COUNTEREXAMPLE without `hB` (finding `C12-reentrant-conversion`): a function that calls itself (one generated
file, entered twice).  The outer level finds the *inner* activation's frame first, so the stack lists the failing
line twice and never the line of the recursive call. -/
theorem C12_stack_reentrant_counterexample :
    (∀ l ∈ [recOuter, recInner], SiteMapped l) ∧ (∀ l ∈ [recOuter, recInner], KeysInGen l) ∧
    ¬ BelowForeign [recOuter, recInner] [] ∧
    (runChain apiF "m" [recOuter, recInner] []).map (fun md => md.stack.map FrameInfo.loc)
      = some [(uF, some "rec", 21), (uF, some "rec", 21)] := by
  decide +kernel

private def oG : Origin := ⟨uF, 9, 4, some "g", "b = list(map(h, [x]))"⟩
private def oH4 : Origin := ⟨uF, 4, 4, some "h", "for i in range(10 // z):"⟩
private def junkG : ConvLevel :=
  { genFile := "/tmp/gen_g.py", map := [(⟨"/tmp/gen_g.py", 9⟩, oG), (⟨uF, 4⟩, oH4)], pre := [], site := ⟨"/tmp/gen_g.py", 9, "ag__g", ""⟩,
    post := [⟨apiF, 331, "converted_call", ""⟩], siteOrigin := oG, orig := ⟨uF, 9, "g", ""⟩, outer := [] }
/-- COUNTEREXAMPLE without `hK` (finding `C12-foreign-key-hides-frame`): `g`'s source map holds a key in the *user*
file (line 4 of `h`, left on the `Load()` singleton by an earlier conversion of `h`).  `g` calls `map(h, …)`; `h`
runs unconverted and fails on line 4.  The scan takes that frame for a converted one and stops: `g` gets no entry. -/
theorem C12_stack_foreign_key_counterexample :
    SiteMapped junkG ∧ ¬ KeysInGen junkG ∧ BelowForeign [junkG] [⟨uF, 4, "h", ""⟩] ∧
    (runChain apiF "m" [junkG] [⟨uF, 4, "h", ""⟩]).map (fun md => md.stack.map (fun fi => (fi.loc, fi.converted)))
      = some [((uF, some "h", 4), true)] := by
  decide +kernel

private def oLam : Origin := ⟨uF, 9, 8, some "lam2", "g = lambda v: 10 // v"⟩
private def lamLevel : ConvLevel :=
  { genFile := "/tmp/gen_lam.py", map := [(⟨"/tmp/gen_lam.py", 9⟩, oLam)], pre := [⟨"/tmp/gen_lam.py", 10, "ag__lam2", ""⟩],
    site := ⟨"/tmp/gen_lam.py", 9, "<lambda>", ""⟩, post := [], siteOrigin := oLam, orig := ⟨uF, 9, "<lambda>", ""⟩, outer := [⟨uF, 10, "lam2", ""⟩] }
/-- COUNTEREXAMPLE to the function part of `SiteResolved` (finding `C12-lambda-function-name`): the failing
expression is the body of a lambda; unconverted, the innermost frame is `<lambda>`, but `OriginResolver` only tracks
`FunctionDef`s, so the origin says `lam2`. -/
theorem C12_stack_lambda_counterexample :
    SiteMapped lamLevel ∧ KeysInGen lamLevel ∧ BelowForeign [lamLevel] [] ∧ ¬ SiteResolved uF lamLevel ∧
    ((runChain apiF "m" [lamLevel] []).map (fun md => (userLocs uF md.stack).head?))
      ≠ some (((origTraceback uF [lamLevel] []).map Frame.loc).getLast?) := by
  decide +kernel
end stack_examples

theorem C12_chain_adds_one (tb : List Frame) (c : Metadata) (msg : String) (m : SourceMap) (api : String)
    (md : Metadata) (h : Metadata.init tb (some c) msg m api = some md) :
    ∃ fi, md.stack = c.stack ++ [fi] ∧ (stackInsideMappedCode tb m api).getLast? = some fi ∧ md.cause = c.cause := by
  unfold Metadata.init at h
  simp only at h
  split at h
  · rename_i l hl
    cases h
    exact ⟨l, rfl, hl, rfl⟩
  · cases h

theorem C12_cause_preserved (excName excStr api : String) (ls : List Level) (prev md : Metadata)
    (h : attachAll excName excStr api ls (some prev) = some (some md)) : md.cause = prev.cause := by
  induction ls generalizing prev with
  | nil => simp [attachAll] at h; rw [h]
  | cons l ls ih =>
    simp only [attachAll] at h
    split at h
    · cases h
    · rename_i md' hmd'
      have := ih md' h
      rw [this]
      unfold attach at hmd'
      obtain ⟨_, _, _, hc⟩ := C12_chain_adds_one _ _ _ _ _ _ hmd'
      exact hc

/-- **C12, nested wrappers.** An exception travelling outwards through any interleaving of converted calls (`some a`:
`_attach_error_metadata` runs) and `malt.convert` wrappers (`none`: re-created by `to_exception` and raised anew,
with whatever traceback) ends up with one converted entry per converted call, innermost first, after the frames
below the innermost site, and with the innermost cause message.  The wrappers change nothing in the metadata only
because `to_exception` does not mark the new exception `ag_pass_through` (`Gen.Errors.toExceptionSetsPassThrough`, read from
the source). -/
theorem C12_nested_accumulates (en es api : String) (a0 : ALevel) (rest : List (Option ALevel))
    (h0 : a0.ok) (hr : ∀ a, some a ∈ rest → a.ok) :
    runEvents en es api (evOf (some a0) :: rest.map evOf) ⟨none, false⟩ =
      some ⟨some ⟨elide api a0.below.reverse [] ++
                  FrameInfo.ofOrigin a0.siteOrigin :: (rest.filterMap id).map (fun a => FrameInfo.ofOrigin a.siteOrigin),
                 en ++ ": " ++ es⟩, false⟩ := by
  have hpt : Gen.Errors.toExceptionSetsPassThrough = false := rfl
  rw [runEvents_attach en es api a0 none _ _ (attach_site en es api a0 h0 none), runEvents_accumulates hpt en es api rest _ hr]
  simp

theorem C12_nested_entry_count (en es api : String) (a0 : ALevel) (rest : List (Option ALevel))
    (h0 : a0.ok) (hr : ∀ a, some a ∈ rest → a.ok) :
    ∃ st, runEvents en es api (evOf (some a0) :: rest.map evOf) ⟨none, false⟩ = some st ∧
      ∃ md, st.md = some md ∧ (md.stack.filter (·.converted)).length = 1 + (rest.filterMap id).length := by
  refine ⟨_, C12_nested_accumulates en es api a0 rest h0 hr, _, rfl, ?_⟩
  have hc : (FrameInfo.ofOrigin a0.siteOrigin).converted = true := rfl
  rw [List.filter_append, filter_converted_elide, List.nil_append, List.filter_cons, if_pos hc,
    filter_converted_ofOrigin, List.length_cons, List.length_map]
  omega

section nested_examples
private def nApi := "/repo/malt/impl/api.py"
private def nU := "/u/n1.py"
private def oLeaf : Origin := ⟨nU, 5, 8, some "leaf", "raise KeyError('k%d' % x)"⟩
private def oRelay : Origin := ⟨nU, 9, 4, some "relay", "y = LEAF(x)"⟩
private def oEntry : Origin := ⟨nU, 15, 8, some "entry", "t += RELAY(x)"⟩
private def cc : Frame := ⟨nApi, 377, "converted_call", ""⟩
/-- `leaf` converted by its own wrapper, `relay` and `entry` by the outer one; the inner wrapper raised a fresh
`StagingError`, so the outer levels see only the wrapper's frame below their sites. -/
private def aLeaf : ALevel := ⟨[(⟨"/tmp/g_leaf.py", 18⟩, oLeaf)], cc, [⟨"/tmp/g_leaf.py", 22, "ag__leaf", ""⟩], ⟨"/tmp/g_leaf.py", 18, "if_body", ""⟩, [], oLeaf⟩
private def aRelay : ALevel := ⟨[(⟨"/tmp/g_relay.py", 10⟩, oRelay)], cc, [], ⟨"/tmp/g_relay.py", 10, "ag__relay", ""⟩,
  [⟨nApi, 331, "converted_call", ""⟩, ⟨nApi, 459, "_call_unconverted", ""⟩, ⟨nApi, 629, "wrapper", ""⟩], oRelay⟩
private def aEntry : ALevel := ⟨[(⟨"/tmp/g_entry.py", 30⟩, oEntry)], cc, [⟨"/tmp/g_entry.py", 40, "ag__entry", ""⟩], ⟨"/tmp/g_entry.py", 30, "loop_body", ""⟩,
  [cc, ⟨"/tmp/g_relay.py", 10, "ag__relay", ""⟩, ⟨nApi, 629, "wrapper", ""⟩], oEntry⟩
example : aLeaf.ok ∧ (∀ a, some a ∈ [none, some aRelay, some aEntry, none] → a.ok) := by
  have h : aLeaf.ok ∧ aRelay.ok ∧ aEntry.ok := by decide +kernel
  refine ⟨h.1, fun a ha => ?_⟩
  simp only [List.mem_cons, Option.some.injEq, reduceCtorEq, false_or, List.not_mem_nil, or_false] at ha
  rcases ha with rfl | rfl
  · exact h.2.1
  · exact h.2.2
example : ((runEvents "KeyError" "'k1'" nApi ([some aLeaf, none, some aRelay, some aEntry, none].map evOf) ⟨none, false⟩).bind (·.md)).map
      (fun md => md.stack.map FrameInfo.loc)
    = some [(nU, some "leaf", 5), (nU, some "relay", 9), (nU, some "entry", 15)] := by decide +kernel
end nested_examples

/-- The whole of `ErrorMetadataBase.create_exception` + `_ErrorMetadata.create_exception`, as a decision table. -/
theorem C12_type (t : ExcType) :
    createException t =
      if t.isMaltError then Created.sameType
      else if inKnown t then Created.sameType
      else if isKeyError t then Created.keyErrorSubclass
      else if t.initIsExceptionInit then Created.sameType
      else Created.staging := by
  unfold createException baseCreate
  cases t.isMaltError <;> cases inKnown t <;> cases isKeyError t <;> cases t.initIsExceptionInit <;> rfl

/- FULL STATEMENT (false of the library, see `C12_type_counterexample`):
   ∀ t, t.wf → (createException t ≠ .staging ↔ expectedSame t)
   "the same type whenever that type takes a plain message and defines no initialiser of its own,
    a StagingError otherwise". -/

/-- `T.__init__ is Exception.__init__` exactly when the last clause of `expectedSame` holds and `T` is outside the
deviation class. -/
private theorem initIsExceptionInit_eq (t : ExcType) (hwf : t.wf = true) (hme : t.isMaltError = false) :
    t.initIsExceptionInit =
      ((!t.userInit && ((t.userDefined && plainBuiltin t.nearestBuiltin) || (!t.userDefined && t.name == "Exception")))
        && !inheritsBuiltinInit t) := by
  simp only [ExcType.wf, hme, Bool.and_eq_true, Bool.or_eq_true, beq_iff_eq, Bool.or_false, Bool.not_false,
    Bool.true_or, and_true] at hwf
  obtain ⟨⟨hie, hnb⟩, hui⟩ := hwf
  rw [hie, inheritsBuiltinInit]
  cases hui' : t.userInit with
  | true => rfl
  | false =>
    cases hud : t.userDefined with
    | false =>
      -- a builtin is its own nearest builtin
      have hn : t.nearestBuiltin = t.name := by simpa [hud] using hnb
      simp [hn]
    | true =>
      -- a user class without initialiser: only `Exception` among the plain builtins hands down `Exception.__init__`
      by_cases he : t.nearestBuiltin = "Exception"
      · simp [he, plainBuiltin]
      · cases plainBuiltin t.nearestBuiltin <;> simp [bne, he]

/-- **C12, type.** `inheritsBuiltinInit` is precisely where the library deviates from the rule of the property. -/
theorem C12_type_exact (t : ExcType) (hwf : t.wf = true) :
    createException t ≠ Created.staging ↔ expectedSame t = true ∧ inheritsBuiltinInit t = false := by
  rw [C12_type, expectedSame]
  -- builtins and malt's own errors are not user-defined, hence outside the deviation class
  have hud : t.userDefined = false → inheritsBuiltinInit t = false := fun h => by simp [inheritsBuiltinInit, h]
  cases hme : t.isMaltError with
  | true =>
    have h4 := hwf
    simp only [ExcType.wf, hme, Bool.and_eq_true, Bool.not_true, Bool.false_or, Bool.not_eq_true'] at h4
    obtain ⟨-, ⟨hnu, -⟩, -⟩ := h4
    simp [hud hnu]
  | false =>
    rw [initIsExceptionInit_eq t hwf hme]
    cases hk : inKnown t with
    | true =>
      simp only [inKnown, Bool.and_eq_true, Bool.not_eq_true'] at hk
      obtain ⟨⟨hnu, -⟩, -⟩ := hk
      simp [hud hnu]
    | false =>
      cases hke : isKeyError t with
      | true =>
        simp only [isKeyError, Bool.and_eq_true, Bool.not_eq_true'] at hke
        obtain ⟨⟨hnu, -⟩, -⟩ := hke
        simp [hud hnu]
      | false => simp [and_assoc]

theorem C12_type_partial (t : ExcType) (hwf : t.wf = true) (hcls : inheritsBuiltinInit t = false) :
    (createException t ≠ Created.staging ↔ expectedSame t = true) ∧
    (createException t = Created.keyErrorSubclass → isKeyError t = true) := by
  refine ⟨by rw [C12_type_exact t hwf, hcls]; simp, ?_⟩
  rw [C12_type]
  cases t.isMaltError <;> cases inKnown t <;> cases isKeyError t <;> cases t.initIsExceptionInit <;> decide

/- FULL STATEMENT (false of the library, see `C12_type_nested_counterexample`):
   ∀ t n, rewriteN t n = typeAfter t (createException t)   — further wrappers never change the type again. -/

/-- Nested wrappers re-create an already re-created exception; the type is stable unless the first rewrite chose
the `KeyError` stand-in. -/
theorem C12_type_nested_partial (t : ExcType) (h : createException t ≠ Created.keyErrorSubclass) (n : Nat) :
    rewriteN t n = typeAfter t (createException t) := by
  have hfix : createException (typeAfter t (createException t)) = Created.sameType := by
    cases hc : createException t with
    | sameType => simpa [typeAfter] using hc
    | keyErrorSubclass => exact absurd hc h
    | staging => simp [typeAfter, createException]
  induction n with
  | zero => rfl
  | succ n ih =>
    show typeAfter (rewriteN t n) (createException (rewriteN t n)) = _
    rw [ih, hfix]
    rfl

section type_examples
/-- `class U(Exception): pass`. -/
private def tU : ExcType := ⟨"U", true, false, true, false, "Exception"⟩
private def tZero : ExcType := ⟨"ZeroDivisionError", false, false, false, false, "ZeroDivisionError"⟩
private def tKey : ExcType := ⟨"KeyError", false, false, false, false, "KeyError"⟩
private def tVal : ExcType := ⟨"ValueError", false, false, false, false, "ValueError"⟩
private def tU2 : ExcType := ⟨"U2", true, false, false, true, "Exception"⟩
private def tW : ExcType := ⟨"W", true, false, false, false, "ValueError"⟩
example : tU.wf = true ∧ inheritsBuiltinInit tU = false ∧ createException tU = .sameType := by decide +kernel
example : tZero.wf = true ∧ inheritsBuiltinInit tZero = false ∧ createException tZero = .staging := by decide +kernel
example : tKey.wf = true ∧ createException tKey = .keyErrorSubclass := by decide +kernel
example : tVal.wf = true ∧ createException tVal = .sameType := by decide +kernel
example : tU2.wf = true ∧ inheritsBuiltinInit tU2 = false ∧ createException tU2 = .staging ∧ expectedSame tU2 = false := by decide +kernel

/-- COUNTEREXAMPLE to the full statement (finding `C12-builtin-derived-type`): `class W(ValueError): pass` takes a
plain message and defines no initialiser of its own, yet it is re-created as `StagingError` (`W.__init__` is
`ValueError.__init__`, not `Exception.__init__`, and `W` itself is not in the list). -/
theorem C12_type_counterexample :
    tW.wf = true ∧ expectedSame tW = true ∧ createException tW = .staging ∧ inheritsBuiltinInit tW = true := by decide +kernel
/-- COUNTEREXAMPLE (finding `C12-nested-keyerror`): a `KeyError` raised below two nested wrappers reaches the
caller as `StagingError`: the second wrapper sees `MultilineMessageKeyError`, which is neither `KeyError` itself
nor a type with a plain initialiser. -/
theorem C12_type_nested_counterexample :
    createException tKey = .keyErrorSubclass ∧ (rewriteN tKey 0).name = "KeyError" ∧
    (rewriteN tKey 1).name = "StagingError" ∧ rewriteN tKey 1 ≠ typeAfter tKey (createException tKey) := by decide +kernel
end type_examples

/-- **C12, message.** Every line of the original `"<Type>: <message>"` appears (indented) in the new message, and
every listed frame is named in it. -/
theorem C12_message_carried (md : Metadata) :
    (∀ l ∈ splitLines md.cause, ("    " ++ l) ∈ getMessageLines md) ∧
    (∀ fi ∈ md.stack, ∀ s ∈ frameLines fi, s ∈ getMessageLines md) := by
  constructor
  · intro l hl
    unfold getMessageLines
    simp only [List.mem_append, List.mem_map]
    exact Or.inl (Or.inr ⟨l, hl, rfl⟩)
  · intro fi hfi s hs
    unfold getMessageLines
    simp only [List.mem_append, List.mem_flatMap, List.mem_reverse]
    exact Or.inl (Or.inl (Or.inl (Or.inr ⟨fi, hfi, hs⟩)))

example : getMessageLines ⟨[FrameInfo.ofOrigin ⟨"/u/p.py", 3, 4, some "f", "  return 10 // x"⟩], "ZeroDivisionError: division by zero"⟩
    = ["in user code:", "", "    File \"/u/p.py\", line 3, in f  *", "        return 10 // x", "",
       "    ZeroDivisionError: division by zero", ""] := by decide +kernel

/-- `Base.visit`: replacement nodes that bring their own origin keep it; the others get the replaced node's, else
the parent's. -/
theorem C12_origin_inherit (no po : Option Origin) (result : List ONode) (o : Origin)
    (h : no.orElse (fun _ => po) = some o) :
    (inheritOrigin no po result).map ONode.origin = result.map (fun n => some (n.origin.getD o)) := by
  unfold inheritOrigin
  rw [h]
  simp only [List.map_map]
  apply List.map_congr_left
  intro n _
  obtain ⟨on, cs⟩ := n
  cases on <;> rfl

/-- `copy_origin`. -/
theorem C12_origin_copy (o : Origin) (to : List ONode) :
    ∀ x ∈ allOriginsList (copyOrigin (some o) to), x = some o :=
  copyOriginList_all o to

example : (inheritOrigin (some (⟨"/u/p.py", 5, 2, some "f", "while c:"⟩ : Origin)) none
            [.mk none [.mk none []], .mk (some ⟨"/u/p.py", 6, 4, some "f", "x = 1"⟩) []]).map ONode.origin
    = [some ⟨"/u/p.py", 5, 2, some "f", "while c:"⟩, some ⟨"/u/p.py", 6, 4, some "f", "x = 1"⟩] := by decide +kernel

end Malt.Errors
