import MaltModel.Rt.Policy
import MaltModel.Proofs.C13
/-!
# C13 — the call wrapper is transparent, obeys the conversion policy, falls back safely

The rule table, the order of the checks of `converted_call`, the `update_cache` flags, the tests of
`is_unsupported`/`is_allowlisted`, the partial merge and the fallback behaviour are the definitions of
`Generated/Policy.lean`, extracted from `/repo` on every run.  A name ending in `_partial` (nothing to do with
`functools.partial`) marks a theorem whose full statement is false of the library; it carries the hypothesis that
excludes the finding's class.
-/
namespace Malt.Policy
open Malt.Gen.Policy

/-! ## The rule table is first-match-wins, for any rule list and any match predicate -/

theorem C13_first_match (m : Rule → Bool) (rules : List Rule) (r : Rule) :
    firstMatch m rules = some r ↔
      ∃ pre post, rules = pre ++ r :: post ∧ m r = true ∧ ∀ x ∈ pre, m x = false := by
  rw [firstMatch_eq_find?, List.find?_eq_some_iff_append]
  simp only [Bool.not_eq_true']
  constructor
  · rintro ⟨hr, pre, post, heq, hpre⟩
    exact ⟨pre, post, heq, hr, hpre⟩
  · rintro ⟨pre, post, heq, hr, hpre⟩
    exact ⟨hr, pre, post, heq, hpre⟩

theorem C13_first_match_none (m : Rule → Bool) (rules : List Rule) :
    firstMatch m rules = none ↔ ∀ r ∈ rules, m r = false := by
  rw [firstMatch_eq_find?, List.find?_eq_none]
  simp only [Bool.not_eq_true]

theorem C13_rule_action (rules : List Rule) (name : List String) (k : RuleKind) :
    ruleActionIn rules name = some k ↔
      ∃ pre r post, rules = pre ++ r :: post ∧ ruleMatches r name = true ∧ r.kind = k ∧
        ∀ x ∈ pre, ruleMatches x name = false := by
  simp only [ruleActionIn, Option.map_eq_some_iff, C13_first_match]
  constructor
  · rintro ⟨r, ⟨pre, post, heq, hr, hpre⟩, hk⟩
    exact ⟨pre, r, post, heq, hr, hk, hpre⟩
  · rintro ⟨pre, r, post, heq, hr, hk, hpre⟩
    exact ⟨r, ⟨pre, post, heq, hr, hpre⟩, hk⟩

theorem C13_later_rules_irrelevant (pre post post' : List Rule) (r : Rule) (name : List String)
    (hr : ruleMatches r name = true) :
    ruleActionIn (pre ++ r :: post) name = ruleActionIn (pre ++ r :: post') name := by
  simp only [ruleActionIn, firstMatch_eq_find?, List.find?_append, List.find?_cons_of_pos (p := fun r => ruleMatches r name) hr]

/-- Every rule of the extracted table has, on its own prefix, the action of its kind. -/
theorem C13_rules_effective : ∀ r ∈ conversionRules, ruleAction r.pfx = some r.kind := by decide +kernel

/-! The `Convert` rule for `tensorflow.python.training.experimental` precedes the later
`DoNotConvert('tensorflow')`; dotted children match, mere string extensions do not. -/
example : ruleAction ["tensorflow", "python", "training", "experimental", "loss_scale"] = some .convert := by decide +kernel
example : ruleAction ["tensorflow", "python", "ops"] = some .doNotConvert := by decide +kernel
example : ruleAction ["malt", "impl", "api"] = some .doNotConvert := by decide +kernel
example : ruleAction ["maltx"] = none := by decide +kernel
example : ruleAction ["absl"] = none := by decide +kernel
example : ruleAction ["absl", "logging", "x"] = some .doNotConvert := by decide +kernel

/-! ## Transparency: the target is invoked exactly once, with the binding of the direct call

`direct c args kw` is the binding CPython itself produces for `c(*args, **kw)` (bound receivers prepended,
`functools.partial` levels merged as `func(*stored, *args, **{**stored_kw, **kw})`); `call` is the wrapper.

Finding C13-foreign-self: `converted_call` prepends `getattr(f, '__self__', None)` for plain functions as well, so
a function object carrying a user-set `__self__` attribute receives an extra first argument once converted.
Hence the hypothesis `c.foreignSelf = false`. -/

/-- Unless the wrapper itself raises (strict-mode re-raise), the target runs exactly once with the positional
and keyword arguments of the direct call — for every chain of partials, every decision at every level, kwargs
`None`, `{}` or non-empty. -/
theorem C13_once_partial {α} (env : Env) (o : Opts) (c : Callable α) (args : List α) (kw : Option (Kw α))
    (hself : c.foreignSelf = false) : Transparent (call env o c args kw).1 c args kw := by
  induction c generalizing args kw with
  | base d self binds =>
    apply level_transparent
    intro _
    cases binds with
    | true => cases d.kind <;> rfl
    | false =>
      have hs : self = none := by simpa [Callable.foreignSelf] using hself
      subst hs
      cases d.kind <;> rfl
  | part d a0 k0 inner ih =>
    by_cases h : d.through env
    · rw [call_part_through _ _ _ _ _ _ _ _ h]
      exact ih _ _ hself
    · obtain ⟨upd, _, e⟩ := call_part_stopped (α := α) env o d h
      rw [e]
      exact unconvertedEff_transparent _ _ _ _ _

/-- C13-foreign-self: a plain function with `__self__ = "FOREIGN"` called with `("v1",)`. -/
example : (call ⟨.unspecified, false, true⟩ ⟨false, true⟩
            (.base ⟨false, true, false, .notBuiltin, false, false, false, false, false, .opaque, .function, true, false, none⟩
              (some "FOREIGN") false) ["v1"] none).1.binding
          ≠ direct (.base ⟨false, true, false, .notBuiltin, false, false, false, false, false, .opaque, .function, true, false, none⟩
              (some "FOREIGN") false) ["v1"] [] := by decide +kernel

theorem C13_nonstrict_never_raises {α} (env : Env) (o : Opts) (c : Callable α) (args : List α) (kw : Option (Kw α))
    (hs : env.strict = false) : (call env o c args kw).1.raised = false := by
  induction c generalizing args kw with
  | base d self binds =>
    exact level_not_raised _ _ _ _ _ _ _ hs (decide_base_ne_unwrap_stuck d env o)
  | part d a0 k0 inner ih =>
    by_cases h : d.through env
    · rw [call_part_through _ _ _ _ _ _ _ _ h]
      exact ih _ _
    · obtain ⟨upd, _, e⟩ := call_part_stopped (α := α) env o d h
      rw [e, unconvertedEff_eq]

theorem C13_once_nonstrict_partial {α} (env : Env) (o : Opts) (c : Callable α) (args : List α) (kw : Option (Kw α))
    (hs : env.strict = false) (hself : c.foreignSelf = false) :
    (call env o c args kw).1.invocations = 1 ∧ (call env o c args kw).1.binding = direct c args (kw.getD []) :=
  C13_once_partial env o c args kw hself (C13_nonstrict_never_raises env o c args kw hs)

/-- Receiver, stored arguments from the innermost partial outwards, then the call-site arguments. -/
theorem C13_positional_binding {α} (c : Callable α) (args : List α) (kw : Kw α) :
    (direct c args kw).pos = storedArgs c ++ args := by
  induction c generalizing args kw with
  | base d self binds => simp [direct, storedArgs]
  | part d a0 k0 inner ih => simp [direct, storedArgs, ih]

theorem C13_callsite_wins {α} (k0 : Kw α) (kw : Option (Kw α)) (k : String) :
    dictGet k (mergeKw k0 kw) = match lastIn k (kw.getD []) with
                                | some v => some v
                                | none => dictGet k k0 := by
  exact dictGet_dictUpdate k0 (kw.getD []) k

/-- For real dicts (distinct keys): the call site wins, then the outermost partial, then the inner ones. -/
theorem C13_keyword_binding {α} (c : Callable α) (args : List α) (kw : Kw α) (k : String)
    (hc : c.kwDistinct) (hk : (keys kw).Nodup) :
    dictGet k (direct c args kw).kw = match dictGet k kw with
                                       | some v => some v
                                       | none => storedKw k c := by
  induction c generalizing args kw with
  | base d self binds =>
    simp only [direct, storedKw]
    cases dictGet k kw <;> rfl
  | part d a0 k0 inner ih =>
    simp only [direct, storedKw]
    rw [ih _ _ hc.2 (nodup_dictUpdate k0 kw hc.1), dictGet_dictUpdate, lastIn_eq_dictGet kw k hk]
    cases dictGet k kw <;> rfl

/-- Effect and remembered state. -/
theorem C13_kwargs_none_is_empty {α} (env : Env) (o : Opts) (c : Callable α) (args : List α) :
    call env o c args none = call env o c args (some []) := by
  cases c with
  | base d self binds => simp only [call, level_none_empty]
  | part d a0 k0 inner =>
    by_cases h : d.through env
    · rw [call_part_through _ _ _ _ _ _ _ _ h, call_part_through _ _ _ _ _ _ _ _ h]
      rfl
    · obtain ⟨upd, _, e⟩ := call_part_stopped (α := α) env o d h
      rw [e, e, unconvertedEff_eq, unconvertedEff_eq]
      rfl

/-! A bound method behind two nested partials with overlapping keywords. -/
example :
    (call ⟨.enabled, false, true⟩ ⟨false, true⟩
      (.part ⟨false, true, false, .notBuiltin, false, false, false, false, false, .opaque, .callableObject, false, false, none⟩
         ["q1"] [("k", "qk"), ("x", "qx")]
        (.part ⟨false, true, false, .notBuiltin, false, false, false, false, false, .opaque, .callableObject, false, false, none⟩
           ["p1"] [("k", "pk"), ("y", "py")]
          (.base ⟨false, true, false, .notBuiltin, false, false, false, false, false, .opaque, .method, true, false, none⟩
             (some "SELF") true)))
      ["v1"] (some [("k", "vk"), ("z", "vz")])).1
    = ⟨1, ⟨["SELF", "p1", "q1", "v1"], [("k", "vk"), ("y", "py"), ("x", "qx"), ("z", "vz")]⟩,
       true, true, false, false, false, false⟩ := by decide +kernel

/-! ## The policy -/

theorem C13_unsupported_iff (d : Desc) :
    isUnsupported d = true ↔ (d.wrapt = true ∨ d.lruCache = true ∨ d.constructor = true ∨
                               d.knownModuleMember = true ∨ d.tfPlugin = true) := by
  simp [isUnsupported, unsupportedHit, unsupportedTests, unsupHolds]

/-- The allow-list: a matching `DoNotConvert` rule allows, a matching `Convert` rule forbids; otherwise generator
functions, objects whose `__call__` is allowed, methods of `TestCase` subclasses or of an allowed defining class,
and namedtuple types (for an owner class: only direct namedtuple types) are allowed. -/
theorem C13_allowlist (f : EntFacts) (call definer : Ent) (cc nt : Bool) :
    allowlistedWith (.mk f call definer) cc nt = true ↔
      (moduleRulesResult f.modName = some true) ∨
      (moduleRulesResult f.modName = none ∧
        (f.genFn = true ∨
         (cc = true ∧ f.isClass = false ∧ f.hasCall = true ∧ f.callTypeDiffers = true ∧ allowlisted call = true) ∨
         (f.isMethod = true ∧ f.ownerKnown = true ∧
            (f.ownerIsTestCase = true ∨ allowlistedWith definer false true = true)) ∨
         (f.isNamedtuple = true ∧ (nt = true → f.ntBaseIsNamedtuple = false)))) := by
  simp only [allowlistedWith, allowTests, runAllowTests_cons, allowStep_moduleRules, allowStep_generator,
    allowStep_callOverride, allowStep_methodOwner, allowStep_namedtuple, getD_allowIf, runAllowTests_nil, Bool.or_false]
  cases moduleRulesResult f.modName with
  | some b => simp
  | none =>
    cases nt <;> simp [allowlisted, callRecCheckCall, callRecNamedtupleSub, ownerRecCheckCall,
      ownerRecNamedtupleSub, allowDefaultCheckCall, allowDefaultNamedtupleSub, and_assoc]

theorem C13_module_rule_decides (name : List String) :
    moduleRulesResult (some name) =
      match ruleAction name with
      | some .convert => some false
      | some .doNotConvert => some true
      | _ => none := by
  simp only [moduleRulesResult, allowOnConvert, allowOnDoNotConvert]
  cases ruleAction name with
  | none => rfl
  | some k => cases k <;> rfl

/-- **The policy**: a (non-partial) callable is converted exactly when none of the documented exclusions holds —
remembered failure, disabled context, artifact / do_not_convert wrapper, builtin,
wrapt/lru_cache/constructor/stdlib-member/plugin, allow-listed (unless the user asked for it), non-recursive mode,
no Python code object, source-less `<string>` code. -/
theorem C13_policy (d : Desc) (env : Env) (o : Opts) :
    decide false d env o = .convert ↔ ¬ Excluded d env o := by
  refine decide_base_cases (P := fun a => a = .convert ↔ ¬ Excluded d env o) d env o ?_ ?_ ?_ ?_ ?_ ?_ ?_ ?_ ?_ ?_
    (fun h => ⟨fun _ => h, fun _ => rfl⟩) <;>
  exact fun h => ⟨nofun, fun hx => absurd
    (by simp only [Excluded, h, ne_eq, not_false_eq_true, and_self, true_or, or_true]) hx⟩

/-- For any chain of checks the decision is to convert exactly when a conversion step is reached with every step
before it negative. -/
theorem C13_chain_convert_iff (steps : List Step) (p : Bool) (d : Desc) (env : Env) (o : Opts) :
    decideIn steps p d env o = .convert ↔
      ∃ pre s post, steps = pre ++ s :: post ∧ s.check = .convert ∧
        ∀ x ∈ pre, fires p d env o x.check = false := by
  unfold decideIn
  constructor
  · intro h
    cases hf : steps.find? (fun s => fires p d env o s.check) with
    | none => rw [hf] at h; cases h
    | some s =>
      rw [hf] at h
      obtain ⟨_, pre, post, heq, hpre⟩ := List.find?_eq_some_iff_append.mp hf
      exact ⟨pre, s, post, heq, (actionOf_convert_iff s).mp h, by simpa using hpre⟩
  · rintro ⟨pre, s, post, heq, hs, hpre⟩
    rw [List.find?_eq_some_iff_append.mpr ⟨by rw [hs]; rfl, pre, post, heq, by simpa using hpre⟩]
    exact (actionOf_convert_iff s).mpr hs

theorem C13_excluded_not_converted (d : Desc) (env : Env) (o : Opts) (h : Excluded d env o) :
    decide false d env o ≠ .convert :=
  fun hc => (C13_policy d env o).mp hc h

/-- Lifts an observation `f` of one level's effect that means "the conversion step was taken and `Q` holds" to a
whole call through partials. -/
theorem call_reaches_convert {α} (f : Effect α → Bool) (Q : Desc → Prop)
    (hlevel : ∀ a env d self c args kw, f (level a env d self c args kw).1 = true ↔ (a = .convert ∧ Q d))
    (hskip : ∀ c args kw, f (unconvertedEff c args kw false false) = false)
    (env : Env) (o : Opts) (c : Callable α) (args : List α) (kw : Option (Kw α)) :
    f (call env o c args kw).1 = true ↔ ((c.passes = true ∧ ¬ Excluded c.baseDesc env o) ∧ Q c.baseDesc) := by
  induction c generalizing args kw with
  | base d self binds => simp only [call, hlevel, C13_policy, Callable.passes, Callable.baseDesc, true_and]
  | part d a0 k0 inner ih =>
    rw [passes_part_iff]
    by_cases h : d.through env
    · rw [call_part_through _ _ _ _ _ _ _ _ h, ih]
      simp only [h, true_and, Callable.baseDesc]
    · obtain ⟨upd, _, e⟩ := call_part_stopped (α := α) env o d h
      rw [e, hskip]
      simp only [h, false_and, Bool.false_eq_true]

/-- The target runs as converted code exactly when every partial level is passed, no exclusion applies to the
base callable, and the conversion does not fail. -/
theorem C13_converted_iff {α} (env : Env) (o : Opts) (c : Callable α) (args : List α) (kw : Option (Kw α)) :
    (call env o c args kw).1.converted = true ↔
      (c.passes = true ∧ ¬ Excluded c.baseDesc env o ∧ c.baseDesc.fail = none) := by
  rw [← and_assoc]
  exact call_reaches_convert (·.converted) (·.fail = none)
    (fun a env d self c args kw => (level_attempted_converted env d self c args kw a).2)
    (fun _ _ _ => by rw [unconvertedEff_eq]) env o c args kw

theorem C13_attempted_iff {α} (env : Env) (o : Opts) (c : Callable α) (args : List α) (kw : Option (Kw α)) :
    (call env o c args kw).1.attempted = true ↔ (c.passes = true ∧ ¬ Excluded c.baseDesc env o) := by
  rw [← and_true (_ ∧ _)]
  exact call_reaches_convert (·.attempted) (fun _ => True)
    (fun a env d self c args kw => by rw [(level_attempted_converted env d self c args kw a).1, and_true])
    (fun _ _ _ => by rw [unconvertedEff_eq]) env o c args kw

section examples
private def plain : Desc :=
  ⟨false, true, false, .notBuiltin, false, false, false, false, false, .opaque, .function, true, false, none⟩
private def env0 : Env := ⟨.unspecified, false, true⟩
private def fnIn (m : List String) : Ent := .mk ⟨some m, false, false, true, true, false, false, false, false, false⟩ .opaque .opaque

example : decide false plain env0 ⟨false, true⟩ = .convert := by decide +kernel
example : decide false { plain with artifact := true } env0 ⟨false, true⟩ = .skip .artifact true := by decide +kernel
example : decide false plain ⟨.disabled, false, true⟩ ⟨false, true⟩ = .skip .ctxDisabled false := by decide +kernel
example : decide false { plain with ent := fnIn ["malt", "impl"] } env0 ⟨false, true⟩ = .skip .allowlisted true := by decide +kernel
example : decide false { plain with ent := fnIn ["malt", "impl"] } env0 ⟨true, true⟩ = .convert := by decide +kernel
example : decide false { plain with ent := fnIn ["tensorflow", "python", "training", "experimental", "x"] } env0 ⟨false, true⟩
            = .convert := by decide +kernel
example : decide false { plain with constructor := true } env0 ⟨true, true⟩ = .skip .unsupported true := by decide +kernel
example : decide false { plain with builtin := .overloaded } env0 ⟨false, true⟩ = .builtin := by decide +kernel
example : decide false plain env0 ⟨false, false⟩ = .skip .notInternal true := by decide +kernel
example : decide false { plain with targetHasCode := false } env0 ⟨false, true⟩ = .skip .noCode true := by decide +kernel
example : decide false { plain with targetStringFile := true } env0 ⟨false, true⟩ = .skip .stringFile true := by decide +kernel
example : decide false { plain with inCache := true, artifact := true } env0 ⟨false, true⟩ = .skip .cacheHit false := by decide +kernel
example : allowlisted (.mk ⟨some ["user"], true, false, true, true, false, false, false, false, false⟩ .opaque .opaque) = true := by
  decide +kernel
end examples

/-! ## Fallback: a failed conversion runs the target unconverted, warns, and is remembered

Finding C13-uncacheable-not-remembered: `cache_allowlisted` swallows the TypeError raised for unhashable /
non-weak-referenceable callables, so for those nothing is remembered; `C13_next_call_skips_partial` assumes
`cacheable`. -/

theorem call_fail {α} (c : Callable α) (env : Env) (o : Opts) (args : List α) (kw : Option (Kw α))
    (st : Stage) (exc : ExcClass)
    (hp : c.passes = true) (hx : ¬ Excluded c.baseDesc env o) (hf : c.baseDesc.fail = some (st, exc)) :
    call env o c args kw =
      if env.strict = true then (Effect.raise true false, c)
      else (⟨1, direct c args (kw.getD []), false, true, fallbackWarns exc env c.baseDesc, false, false, false⟩,
            c.remembered) := by
  induction c generalizing args kw with
  | base d self binds =>
    simp only [Callable.baseDesc] at hx hf
    simp only [call, (C13_policy d env o).mpr hx, level_convert_fail _ _ _ _ _ _ _ hf, handleFailure_eq,
      unconvertedEff_eq, remember_eq, Bool.true_and, Callable.remembered, Callable.baseDesc]
    by_cases hs : env.strict = true
    · rw [if_pos hs, if_pos hs]
    · rw [if_neg hs, if_neg hs]
  | part d a0 k0 inner ih =>
    obtain ⟨ht, hp', hx'⟩ := (passes_part_iff d a0 k0 inner env o).mp ⟨hp, hx⟩
    rw [call_part_through _ _ _ _ _ _ _ _ ht, ih (a0 ++ args) (some (dictUpdate k0 (kw.getD []))) hp' hx' hf]
    by_cases hs : env.strict = true
    · rw [if_pos hs, if_pos hs]
    · rw [if_neg hs, if_neg hs]
      rfl

/-- A failure at any stage with any class of error, outside strict mode: the target runs unconverted exactly
once with the direct binding, the warning is emitted (except for missing-source errors in environments without
source support), and the callable is remembered. -/
theorem C13_fallback {α} (c : Callable α) (env : Env) (o : Opts) (args : List α) (kw : Option (Kw α))
    (st : Stage) (exc : ExcClass)
    (hp : c.passes = true) (hx : ¬ Excluded c.baseDesc env o) (hf : c.baseDesc.fail = some (st, exc))
    (hs : env.strict = false) :
    (call env o c args kw).1.invocations = 1 ∧
    (call env o c args kw).1.converted = false ∧
    (call env o c args kw).1.attempted = true ∧
    (call env o c args kw).1.raised = false ∧
    (call env o c args kw).1.binding = direct c args (kw.getD []) ∧
    (call env o c args kw).1.warning = warnsFor exc env ∧
    (call env o c args kw).2 = c.remembered := by
  rw [call_fail c env o args kw st exc hp hx hf, if_neg (by rw [hs]; nofun)]
  refine ⟨rfl, rfl, rfl, rfl, rfl, ?_, rfl⟩
  -- the warning for an unsupported element is extracted as "if not cached"; a cached callable is excluded
  have hnc : c.baseDesc.inCache = false := Bool.eq_false_iff.mpr fun h => hx (Or.inl h)
  cases exc <;> simp [fallbackWarns, warnCond, warnsFor, fallbackWarnInaccessibleSource,
    fallbackWarnUnsupportedElement, fallbackWarnOther, hnc]

/-- Strict mode: the conversion error is re-raised, the target is not run, nothing is remembered, no warning. -/
theorem C13_strict_reraises {α} (c : Callable α) (env : Env) (o : Opts) (args : List α) (kw : Option (Kw α))
    (st : Stage) (exc : ExcClass)
    (hp : c.passes = true) (hx : ¬ Excluded c.baseDesc env o) (hf : c.baseDesc.fail = some (st, exc))
    (hs : env.strict = true) :
    (call env o c args kw).1.raised = true ∧
    (call env o c args kw).1.invocations = 0 ∧
    (call env o c args kw).1.warning = false ∧
    (call env o c args kw).2 = c := by
  rw [call_fail c env o args kw st exc hp hx hf, if_pos hs]
  exact ⟨rfl, rfl, rfl, rfl⟩

/-- The cache test comes first, so nothing else about the callable, context or mode matters. -/
theorem C13_remembered_skips {α} (d : Desc) (self : Option α) (binds : Bool) (env : Env) (o : Opts)
    (args : List α) (kw : Option (Kw α)) (hc : d.inCache = true) :
    (call env o (.base d self binds) args kw).1.attempted = false ∧
    (call env o (.base d self binds) args kw).1.converted = false ∧
    (call env o (.base d self binds) args kw).1.warning = false ∧
    (call env o (.base d self binds) args kw).1.invocations = 1 ∧
    (call env o (.base d self binds) args kw).1.raised = false ∧
    (call env o (.base d self binds) args kw).1.binding = direct (.base d self binds) args (kw.getD []) ∧
    (call env o (.base d self binds) args kw).2 = .base d self binds := by
  have hdec : decide false d env o = .skip .cacheHit false := by rw [decide_base, if_pos hc]
  simp only [call, hdec, level_skip, unconvertedEff_eq, remember_eq, Bool.false_and, Bool.false_eq_true, if_false]
  exact ⟨trivial, trivial, rfl, trivial, trivial, trivial, trivial⟩

/-- After a remembered failure no later call — any context, mode, arguments, chain of partials — attempts the
conversion again or warns; it still runs the target once with the direct binding. -/
theorem C13_next_call_skips_partial {α} (c : Callable α) (env : Env) (o : Opts) (args : List α) (kw : Option (Kw α))
    (hc : c.baseDesc.cacheable = true) :
    (call env o c.remembered args kw).1.attempted = false ∧
    (call env o c.remembered args kw).1.converted = false ∧
    (call env o c.remembered args kw).1.warning = false ∧
    (call env o c.remembered args kw).1.invocations = 1 ∧
    (call env o c.remembered args kw).1.raised = false ∧
    (call env o c.remembered args kw).1.binding = direct c args (kw.getD []) := by
  induction c generalizing args kw with
  | base d self binds =>
    simp only [Callable.baseDesc] at hc
    simp only [Callable.remembered, if_pos hc]
    obtain ⟨hatt, hconv, hwarn, hinv, hraised, hbind, -⟩ :=
      C13_remembered_skips { d with inCache := true } self binds env o args kw rfl
    exact ⟨hatt, hconv, hwarn, hinv, hraised, hbind⟩
  | part d a0 k0 inner ih =>
    simp only [Callable.remembered]
    by_cases h : d.through env
    · rw [call_part_through _ _ _ _ _ _ _ _ h]
      exact ih (a0 ++ args) (some (dictUpdate k0 (kw.getD []))) hc
    · obtain ⟨upd, _, e⟩ := call_part_stopped (α := α) env o d h
      rw [e, unconvertedEff_eq]
      exact ⟨rfl, rfl, rfl, rfl, rfl, direct_remembered (.part d a0 k0 inner) args (kw.getD [])⟩

theorem C13_fallback_remembered_partial {α} (c : Callable α) (env env' : Env) (o : Opts) (args args' : List α)
    (kw kw' : Option (Kw α)) (st : Stage) (exc : ExcClass)
    (hp : c.passes = true) (hx : ¬ Excluded c.baseDesc env o) (hf : c.baseDesc.fail = some (st, exc))
    (hs : env.strict = false) (hc : c.baseDesc.cacheable = true) :
    (call env' o (call env o c args kw).2 args' kw').1.attempted = false ∧
    (call env' o (call env o c args kw).2 args' kw').1.warning = false ∧
    (call env' o (call env o c args kw).2 args' kw').1.invocations = 1 ∧
    (call env' o (call env o c args kw).2 args' kw').1.binding = direct c args' (kw'.getD []) := by
  rw [call_fail c env o args kw st exc hp hx hf, if_neg (by rw [hs]; nofun)]
  obtain ⟨hatt, -, hwarn, hinv, -, hbind⟩ := C13_next_call_skips_partial c env' o args' kw' hc
  exact ⟨hatt, hwarn, hinv, hbind⟩

/-- C13-uncacheable-not-remembered: an uncacheable callable whose conversion fails is converted again. -/
example : (call ⟨.unspecified, false, true⟩ ⟨false, true⟩
            (call ⟨.unspecified, false, true⟩ ⟨false, true⟩
              (.base ⟨false, false, false, .notBuiltin, false, false, false, false, false, .opaque, .callableObject, true, false,
                      some (.featureCheck, .unsupportedElement)⟩ (some "OBJ") true) ([] : List String) none).2
            [] none).1.attempted = true := by decide +kernel

/-! A failing function behind one partial. -/
example :
    (call ⟨.enabled, false, true⟩ ⟨false, true⟩
      (.part ⟨false, true, false, .notBuiltin, false, false, false, false, false, .opaque, .callableObject, false, false, none⟩
         ["p1"] [("k", "pk")]
        (.base ⟨false, true, false, .notBuiltin, false, false, false, false, false, .opaque, .function, true, false,
                some (.converter, .other)⟩ (none : Option String) false))
      ["v1"] none).1
    = ⟨1, ⟨["p1", "v1"], [("k", "pk")]⟩, false, true, true, false, false, false⟩ := by decide +kernel

/-! ## Histories: the negative cache is only ever written for context-free reasons -/

private theorem decide_base_remember (d : Desc) (env : Env) (o : Opts)
    (h : mayRemember d (decide false d env o) = true) : StableExcluded d o := by
  revert h
  -- the cache-hit, disabled-context and builtin branches do not write; each other branch's test is a disjunct
  refine decide_base_cases (P := fun a => mayRemember d a = true → StableExcluded d o) d env o
    nofun nofun ?_ nofun ?_ ?_ ?_ ?_ ?_ ?_ (fun _ (h : d.fail.isSome = true) => by simp only [StableExcluded, h, or_true]) <;>
  exact fun h _ => by simp only [StableExcluded, h, and_self, true_or, or_true]

/-- A wrapped call leaves the cache facts of the callable unchanged, or remembers it for a reason independent of
the context of the call: a context-free exclusion (artifact, unsupported, allow-listed for these options,
non-recursive options, unknown kind, no code, `<string>` code) or a conversion failure.  In particular the cache-hit and the
DISABLED-context exits never write (they would make a later ENABLED call skip a due conversion). -/
theorem C13_cache_written_only_when_stable {α} (d : Desc) (s : Option α) (b : Bool) (env : Env) (o : Opts)
    (args : List α) (kw : Option (Kw α)) :
    (call env o (.base d s b) args kw).2 = .base d s b ∨
    ((call env o (.base d s b) args kw).2 = .base { d with inCache := true } s b ∧ StableExcluded d o) := by
  simp only [call]
  rcases level_remembers env d s (.base d s b) args kw (decide false d env o) with h1 | ⟨h1, h2⟩
  · exact Or.inl (by rw [h1])
  · exact Or.inr ⟨by rw [h1], decide_base_remember d env o h2⟩

private theorem Benign.refl {α} (o : Opts) (c : Callable α) : Benign o c c := by
  induction c with
  | base d s b => simp [Benign]
  | part d a k i ih => simp [Benign, ih]

private theorem Benign.base_inv {α} {o : Opts} {d : Desc} {s : Option α} {b : Bool} {c' : Callable α}
    (h : Benign o (.base d s b) c') :
    ∃ d', c' = .base d' s b ∧ (d' = d ∨ (d' = { d with inCache := true } ∧ StableExcluded d o)) := by
  cases c' with
  | part _ _ _ _ => exact h.elim
  | base d' s' b' => obtain ⟨rfl, rfl, hd⟩ := h; exact ⟨d', rfl, hd⟩

private theorem Benign.part_inv {α} {o : Opts} {d : Desc} {a : List α} {k : Kw α} {i c' : Callable α}
    (h : Benign o (.part d a k i) c') :
    ∃ d' i', c' = .part d' a k i' ∧ (d' = d ∨ (d' = { d with inCache := true } ∧ d.artifact = true)) ∧ Benign o i i' := by
  cases c' with
  | base _ _ _ => exact h.elim
  | part d' a' k' i' => obtain ⟨rfl, rfl, hd, hi⟩ := h; exact ⟨d', i', rfl, hd, hi⟩

private theorem stable_of_set (d : Desc) (o : Opts) :
    StableExcluded { d with inCache := true } o ↔ StableExcluded d o := by
  simp [StableExcluded, isUnsupported, unsupportedHit, unsupHolds]

private theorem remembered_trans {P : Prop} {d d' d'' : Desc}
    (h : d' = d ∨ (d' = { d with inCache := true } ∧ P))
    (h' : d'' = d' ∨ (d'' = { d' with inCache := true } ∧ P)) :
    d'' = d ∨ (d'' = { d with inCache := true } ∧ P) := by
  rcases h with rfl | ⟨rfl, hp⟩ <;> rcases h' with rfl | ⟨rfl, hp'⟩
  · exact .inl rfl
  · exact .inr ⟨rfl, hp'⟩
  · exact .inr ⟨rfl, hp⟩
  · exact .inr ⟨rfl, hp⟩

private theorem Benign.step {α} (o : Opts) (env : Env) (c c' : Callable α) (args : List α) (kw : Option (Kw α))
    (h : Benign o c c') : Benign o c (call env o c' args kw).2 := by
  induction c generalizing c' args kw with
  | base d s b =>
    obtain ⟨d', rfl, hd⟩ := h.base_inv
    have hst : StableExcluded d' o ↔ StableExcluded d o := by
      rcases hd with rfl | ⟨rfl, _⟩
      · rfl
      · exact stable_of_set d o
    refine ⟨rfl, rfl, remembered_trans hd ?_⟩
    exact (level_remembers env d' s (.base d' s b) args kw _).imp_right
      fun h => ⟨h.1, hst.mp (decide_base_remember d' env o h.2)⟩
  | part d a k i ih =>
    obtain ⟨d', i', rfl, hd, hi⟩ := h.part_inv
    by_cases ht : d'.through env
    · rw [call_part_through _ _ _ _ _ _ _ _ ht]
      exact ⟨rfl, rfl, hd, ih _ _ _ hi⟩
    · obtain ⟨upd, hu, e⟩ := call_part_stopped (α := α) env o d' ht
      have hart : d'.artifact = d.artifact := by
        rcases hd with rfl | ⟨rfl, _⟩ <;> rfl
      rw [e]
      exact ⟨rfl, rfl, remembered_trans hd ((remember_cases d' upd).imp_right fun h => ⟨h.1, hart ▸ hu h.2⟩), hi⟩

private theorem Benign.callSeq {α} (o : Opts) (c c' : Callable α) (hist : List (Env × List α × Option (Kw α)))
    (h : Benign o c c') : Benign o c (callSeq o c' hist) := by
  induction hist generalizing c' with
  | nil => exact h
  | cons x rest ih =>
    obtain ⟨env, args, kw⟩ := x
    exact ih _ (Benign.step o env c c' args kw h)

private theorem Benign.fail_eq {α} (o : Opts) (c c' : Callable α) (h : Benign o c c') : c'.baseDesc.fail = c.baseDesc.fail := by
  induction c generalizing c' with
  | base d s b =>
    obtain ⟨d', rfl, hd⟩ := h.base_inv
    rcases hd with rfl | ⟨rfl, _⟩ <;> rfl
  | part d a k i ih =>
    obtain ⟨d', i', rfl, _, hi⟩ := h.part_inv
    exact ih i' hi

private theorem excluded_of_stable {d : Desc} {o : Opts} (env : Env) (h : StableExcluded d o) (hf : d.fail = none) :
    Excluded d env o := by
  rcases h with h | h | h | h | h | h | h | h | h
  case inr.inr.inr.inr.inr.inr.inr.inr => rw [hf] at h; cases h
  all_goals simp only [Excluded, h, ne_eq, not_false_eq_true, and_self, true_or, or_true]

private theorem Benign.reaches_iff {α} (o : Opts) (env : Env) (c c' : Callable α) (h : Benign o c c')
    (hf : c.baseDesc.fail = none) :
    (c'.passes = true ∧ ¬ Excluded c'.baseDesc env o) ↔ (c.passes = true ∧ ¬ Excluded c.baseDesc env o) := by
  induction c generalizing c' with
  | base d s b =>
    obtain ⟨d', rfl, hd⟩ := h.base_inv
    rcases hd with rfl | ⟨rfl, hsd⟩
    · rfl
    · have hx : Excluded d env o := excluded_of_stable env hsd hf
      have hx' : Excluded { d with inCache := true } env o := .inl rfl
      exact ⟨fun h => absurd hx' h.2, fun h => absurd hx h.2⟩
  | part d a k i ih =>
    obtain ⟨d', i', rfl, hd, hi⟩ := h.part_inv
    have ht : d'.through env ↔ d.through env := by
      rcases hd with rfl | ⟨rfl, hart⟩
      · rfl
      · exact ⟨fun h => Bool.noConfusion h.1, fun h => Bool.noConfusion (hart.symm.trans h.2.2)⟩
    rw [passes_part_iff, passes_part_iff, ih i' hi hf, ht]

private theorem Benign.converted_eq {α} (o : Opts) (env : Env) (c c' : Callable α) (args : List α) (kw : Option (Kw α))
    (h : Benign o c c') : (call env o c' args kw).1.converted = (call env o c args kw).1.converted := by
  rw [Bool.eq_iff_iff, C13_converted_iff, C13_converted_iff, Benign.fail_eq o c c' h, ← and_assoc, ← and_assoc]
  by_cases hf : c.baseDesc.fail = none
  · rw [Benign.reaches_iff o env c c' h hf]
  · simp only [hf, and_false]

/-- After any sequence of earlier wrapped calls on the same callable with equal options — any contexts, any arguments — a
call attempts the conversion exactly when it would on a pristine cache, unless the conversion fails (`hf`): earlier calls
matter only through remembered failures. -/
theorem C13_history_attempted {α} (o : Opts) (c : Callable α) (hist : List (Env × List α × Option (Kw α)))
    (env : Env) (args : List α) (kw : Option (Kw α)) (hf : c.baseDesc.fail = none) :
    (call env o (callSeq o c hist) args kw).1.attempted = (call env o c args kw).1.attempted := by
  have hb := Benign.callSeq o c c hist (Benign.refl o c)
  rw [Bool.eq_iff_iff, C13_attempted_iff, C13_attempted_iff]
  exact Benign.reaches_iff o env c _ hb hf

/-- Two callables sharing one cache entry (bound methods with the same `__func__`): calls on the first do not
change whether the second is converted, provided (`hagree`) the context-free exclusions of the first also hold of
the second.  Finding C13-shared-function-owner-allowlist: the allow-list of a bound method depends on its owner class
(TestCase subclass, allow-listed defining class) but the cache key drops the receiver. -/
theorem C13_history_shared_partial {α} (o : Opts) (d1 d2 : Desc) (s1 s2 : Option α) (b1 b2 : Bool)
    (hist : List (Env × List α × Option (Kw α))) (env : Env) (args : List α) (kw : Option (Kw α))
    (h1 : d1.inCache = false) (h2 : d2.inCache = false)
    (hagree : StableExcluded d1 o → StableExcluded d2 o) :
    (call env o (.base { d2 with inCache := (callSeq o (.base d1 s1 b1) hist).baseDesc.inCache } s2 b2) args kw).1.converted
      = (call env o (.base d2 s2 b2) args kw).1.converted := by
  obtain ⟨d', hc, hd⟩ := (Benign.callSeq o (.base d1 s1 b1) _ hist (Benign.refl o _)).base_inv
  rw [hc, Callable.baseDesc]
  rcases hd with rfl | ⟨rfl, hsd⟩
  · have : { d2 with inCache := d'.inCache } = d2 := by rw [h1, ← h2]
    rw [this]
  · exact Benign.converted_eq o env (.base d2 s2 b2) _ args kw ⟨rfl, rfl, .inr ⟨rfl, hagree hsd⟩⟩

/-- With the cache class extracted from `conversion.py`, two callables share a cache entry exactly when they have
the same bound target (one function object, possibly bound to different receivers) — never merely because they share
a code object (closures of one factory, wrappers of one decorator). -/
theorem C13_cache_key_is_bound_target (i1 i2 : Ident) : cacheKey i1 = cacheKey i2 ↔ i1.func = i2.func := by
  simp [cacheKey, allowlistCacheKind, cacheKeyDropsReceiver]

private theorem contains_cons_ne (st : CacheState) (k k' : CacheKey) (ok ok' : Nat) (h : k ≠ k') :
    ((k, ok) :: st).contains (k', ok') = st.contains (k', ok') := by
  have hne : (k', ok') ≠ (k, ok) := by
    intro e
    exact h (Prod.mk.inj e).1.symm
  simp [hne]

private theorem store_contains {α} (c : Callable α) (ok ok' : Nat) (ids : List Ident) (st : CacheState) (key : CacheKey)
    (h : ∀ i ∈ ids, cacheKey i ≠ key) :
    (c.store ok ids st).contains (key, ok') = st.contains (key, ok') := by
  induction c generalizing ids st with
  | base d s b =>
    cases ids with
    | nil => simp [Callable.store]
    | cons i is =>
      simp only [Callable.store]
      split
      · exact contains_cons_ne st _ _ _ _ (h i (by simp))
      · rfl
  | part d a k0 inner ih =>
    cases ids with
    | nil => simp only [Callable.store]; exact ih [] st (by simp)
    | cons i is =>
      simp only [Callable.store]
      rw [ih is _ (fun j hj => h j (by simp [hj]))]
      split
      · exact contains_cons_ne st _ _ _ _ (h i (by simp))
      · rfl

private theorem load_congr {α} (c : Callable α) (ok : Nat) (ids : List Ident) (st st' : CacheState)
    (h : ∀ i ∈ ids, st'.contains (cacheKey i, ok) = st.contains (cacheKey i, ok)) :
    c.load st' ok ids = c.load st ok ids := by
  induction c generalizing ids with
  | base d s b =>
    cases ids with
    | nil => rfl
    | cons i is => simp only [Callable.load]; rw [h i (by simp)]
  | part d a k0 inner ih =>
    cases ids with
    | nil => simp only [Callable.load]; rw [ih [] (by simp)]
    | cons i is =>
      simp only [Callable.load]
      rw [h i (by simp), ih is (fun j hj => h j (by simp [hj]))]

/-- Whatever a wrapped call on one callable does to the negative cache, the cache facts loaded for a callable
none of whose levels has the same bound target are unchanged. -/
theorem C13_verdict_only_for_same_target {α} (c1 c2 : Callable α) (ids1 ids2 : List Ident) (st : CacheState)
    (env : Env) (o : Opts) (ok ok' : Nat) (args : List α) (kw : Option (Kw α))
    (hdisj : ∀ i ∈ ids1, ∀ j ∈ ids2, i.func ≠ j.func) :
    c2.load ((call env o (c1.load st ok ids1) args kw).2.store ok ids1 st) ok' ids2 = c2.load st ok' ids2 := by
  apply load_congr
  intro j hj
  apply store_contains
  intro i hi e
  exact hdisj i hi j hj ((C13_cache_key_is_bound_target i j).mp e)

/-! Two closures of one factory: same code object, different function objects. -/
example : cacheKey ⟨1, 1, some 7⟩ ≠ cacheKey ⟨2, 2, some 7⟩ := by decide +kernel
example : cacheKey ⟨1, 9, some 7⟩ = cacheKey ⟨2, 9, some 7⟩ := by decide +kernel

/-- C13-shared-function-owner-allowlist: a method whose owner is a TestCase subclass is remembered, and the
same function bound to an ordinary instance is then no longer converted. -/
example :
    let tc : Desc := ⟨false, true, false, .notBuiltin, false, false, false, false, false,
      .mk ⟨some ["user"], false, false, true, true, true, true, true, false, false⟩ .opaque .opaque, .method, true, false, none⟩
    let plainM : Desc := ⟨false, true, false, .notBuiltin, false, false, false, false, false,
      .mk ⟨some ["user"], false, false, true, true, true, true, false, false, false⟩ .opaque .opaque, .method, true, false, none⟩
    (call ⟨.enabled, false, true⟩ ⟨false, true⟩
      (.base { plainM with inCache := (callSeq ⟨false, true⟩ (.base tc (some "A") true) [(⟨.enabled, false, true⟩, ([] : List String), none)]).baseDesc.inCache }
        (some "B") true) [] none).1.converted = false ∧
    (call ⟨.enabled, false, true⟩ ⟨false, true⟩ (.base plainM (some "B") true) ([] : List String) none).1.converted = true := by
  decide +kernel

/-! DISABLED then ENABLED on a convertible function: the second call converts. -/
example :
    (call ⟨.enabled, false, true⟩ ⟨false, true⟩
      (callSeq ⟨false, true⟩
        (.base ⟨false, true, false, .notBuiltin, false, false, false, false, false, .opaque, .function, true, false, none⟩ (none : Option String) false)
        [(⟨.disabled, false, true⟩, [], none), (⟨.disabled, true, true⟩, ["x"], some [])])
      [] none).1.converted = true := by decide +kernel

/-- The storage extracted from `ag_ctx` is a plain `threading.local()` whose stack is created lazily per thread:
a region entered or left by another thread never changes the status a thread reads. -/
theorem C13_policy_reads_own_thread_status (s : Stacks) (t u : Nat) (st : CtxStatus) (h : t ≠ u) :
    currentStatus (s.enter u st) t = currentStatus s t ∧ currentStatus (s.leave u) t = currentStatus s t := by
  simp [currentStatus, Stacks.enter, Stacks.leave, stackOwner, ctxStorage, h]

private theorem currentStatus_apply_of_ne (s : Stacks) (t : Nat) (es : List CtxEvent) (h : ∀ e ∈ es, e.1 ≠ t) :
    currentStatus (s.apply es) t = currentStatus s t := by
  induction es generalizing s with
  | nil => rfl
  | cons e rest ih =>
    obtain ⟨u, ost⟩ := e
    have hu : t ≠ u := fun e' => h (u, ost) (by simp) e'.symm
    have hrest : ∀ e ∈ rest, e.1 ≠ t := fun e he => h e (by simp [he])
    cases ost with
    | none =>
      simp only [Stacks.apply]
      rw [ih _ hrest, (C13_policy_reads_own_thread_status s t u .unspecified hu).2]
    | some st =>
      simp only [Stacks.apply]
      rw [ih _ hrest, (C13_policy_reads_own_thread_status s t u st hu).1]

/-- Effect = decision, binding, warning, remembered state. -/
theorem C13_other_threads_never_change_the_decision {α} (s : Stacks) (t : Nat) (es : List CtxEvent)
    (h : ∀ e ∈ es, e.1 ≠ t) (strict insp : Bool) (o : Opts) (c : Callable α) (args : List α) (kw : Option (Kw α)) :
    call ⟨currentStatus (s.apply es) t, strict, insp⟩ o c args kw = call ⟨currentStatus s t, strict, insp⟩ o c args kw := by
  rw [currentStatus_apply_of_ne s t es h]

theorem C13_fresh_thread_default (s : Stacks) (t : Nat) (h : s t = []) : currentStatus s t = .unspecified := by
  simp [currentStatus, stackOwner, ctxStorage, h, ctxDefaultIsUnspecified]

/-! Thread 1 is inside a DISABLED region, thread 2 still reads the default status. -/
example : currentStatus (Stacks.enter (fun _ => []) 1 .disabled) 2 = .unspecified := by decide +kernel
example : currentStatus (Stacks.enter (fun _ => []) 1 .disabled) 1 = .disabled := by decide +kernel

end Malt.Policy
