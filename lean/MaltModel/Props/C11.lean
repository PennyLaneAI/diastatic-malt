/-
C11 — generated names never capture, shadow or clash with user names.

FULL STATEMENT (false of the library, see the counterexamples below and known_findings.d/C11.json):

  theorem C11_disjoint (f) (reqs) (h : ConvOf f reqs) :
      (∀ x ∈ converterNames f reqs, x ∉ f.userNames) ∧ (∀ x ∈ transpilerNames f reqs, x ∉ f.free ∧ x ∉ f.ns)
      ∧ (∀ x ∈ hardCodedNames, hardClash f x = false)

It fails because (1) callers reserve `scope.referenced` — names READ —, so a user name that is only bound
(`break_ = 1`, never read; `for fscope in l`) or read only inside a nested scope that binds it
(`[h(fscope) for fscope in l]`, `lambda fscope: h(fscope)`) is not reserved and the namer hands out that very name;
(2) the transpiler reserves nothing for `ag__<f>` / `inner_factory`, so a global defined after conversion clashes;
(3) `ag__`, `vars_`, `tuple`, `dict` are hard-coded; (4) `ag__` + a function name `_<digits>` collapses onto `ag__`.
`C11_disjoint_partial` assumes these away (and that every converter-level root is a literal one, which leaves out the
dynamic root of `lists.py`'s pop lowering); `C11_clash_classified` shows that EVERY clash of a converter-level name is in
class (1).
-/
import MaltModel.Rt.Naming
import MaltModel.Rt.NamingConv
import Std.Data.String.ToNat

namespace Malt.Props.C11
open Malt.Naming Malt.NamingConv

private theorem candidate_injective {r : String} {a b : Nat} (h : candidate r a = candidate r b) : a = b := by
  unfold candidate at h
  exact Nat.repr_injective ((String.append_right_inj _).mp h)

/-- Pigeonhole: with more fuel than there are taken names of the form `root_k` (k ≥ start), the search stops at a
free candidate. `T` over-approximates the taken candidates still ahead. -/
private theorem firstFree_not_mem (root : String) (taken : List String) :
    ∀ (fuel start : Nat) (T : List String), T.length < fuel →
      (∀ k, start ≤ k → candidate root k ∈ taken → candidate root k ∈ T) →
      firstFree root taken start fuel ∉ taken := by
  intro fuel
  induction fuel with
  | zero => intro start T h; exact absurd h (Nat.not_lt_zero _)
  | succ fuel ih =>
    intro start T hlen hcov
    unfold firstFree
    split
    next hc =>
      have hT : candidate root start ∈ T := hcov start (Nat.le_refl _) (by simpa using hc)
      apply ih (start + 1) (T.erase (candidate root start))
      · rw [List.length_erase_of_mem hT]
        have : 0 < T.length := List.length_pos_of_mem hT
        omega
      · intro k hk hkm
        have hne : candidate root k ≠ candidate root start := by
          intro he
          have := candidate_injective he
          omega
        exact (List.mem_erase_of_ne hne).mpr (hcov k (by omega) hkm)
    next hc => exact fun hm => hc (by simpa using hm)

private theorem firstFree_is_candidate (root : String) (taken : List String) :
    ∀ (fuel start : Nat), ∃ k, start ≤ k ∧ firstFree root taken start fuel = candidate root k := by
  intro fuel
  induction fuel with
  | zero => intro start; exact ⟨start, Nat.le_refl _, rfl⟩
  | succ fuel ih =>
    intro start
    unfold firstFree
    split
    · obtain ⟨k, hk, he⟩ := ih (start + 1)
      exact ⟨k, by omega, he⟩
    · exact ⟨start, Nat.le_refl _, rfl⟩

private def search (root : String) (n : Nat) (taken : List String) : String :=
  if taken.contains root then firstFree root taken (n + 1) (taken.length + 1) else root

private theorem search_not_mem (root : String) (n : Nat) (taken : List String) : search root n taken ∉ taken := by
  unfold search
  split
  · exact firstFree_not_mem root taken _ _ taken (Nat.lt_succ_self _) (fun _ _ h => h)
  next hc => exact fun hm => hc (by simpa using hm)

private theorem search_variant (root : String) (n : Nat) (taken : List String) :
    search root n taken = root ∨ ∃ k, n < k ∧ search root n taken = candidate root k := by
  unfold search
  split
  · obtain ⟨k, hk, he⟩ := firstFree_is_candidate root taken (taken.length + 1) (n + 1)
    exact Or.inr ⟨k, by omega, he⟩
  · exact Or.inl rfl

private def chosen (nm : Namer) (nameRoot : String) (reserved : List String) : String :=
  search (splitRoot nameRoot).1 (splitRoot nameRoot).2 (nm.globalNs ++ reserved ++ nm.generated)

private theorem newSymbol_eq (nm : Namer) (nameRoot : String) (reserved : List String) :
    newSymbol nm nameRoot reserved =
      (chosen nm nameRoot reserved, { nm with generated := chosen nm nameRoot reserved :: nm.generated }) := rfl

private theorem chosen_fresh (nm : Namer) (nameRoot : String) (reserved : List String) :
    chosen nm nameRoot reserved ∉ nm.globalNs ∧ chosen nm nameRoot reserved ∉ reserved ∧
      chosen nm nameRoot reserved ∉ nm.generated := by
  have h := search_not_mem (splitRoot nameRoot).1 (splitRoot nameRoot).2 (nm.globalNs ++ reserved ++ nm.generated)
  simp only [List.mem_append, not_or] at h
  exact ⟨h.1.1, h.1.2, h.2⟩

/-- `reserved` is the flattened reserved set of `new_symbol(root, reserved)`. -/
theorem namer_fresh (nm nm' : Namer) (root : String) (reserved : List String) (x : String)
    (h : newSymbol nm root reserved = (x, nm')) :
    x ∉ nm.globalNs ∧ x ∉ reserved ∧ x ∉ nm.generated ∧ x ∈ nm'.generated := by
  rw [newSymbol_eq] at h
  obtain ⟨rfl, rfl⟩ := Prod.mk.inj h
  obtain ⟨h1, h2, h3⟩ := chosen_fresh nm root reserved
  exact ⟨h1, h2, h3, List.mem_cons_self⟩

example : newSymbol ⟨["break_", "x"], ["break__1"]⟩ "break_" ["break__2", "y"] =
    ("break__3", ⟨["break_", "x"], ["break__3", "break__1"]⟩) := by decide +kernel

theorem namer_monotone (nm nm' : Namer) (root : String) (reserved : List String) (x : String)
    (h : newSymbol nm root reserved = (x, nm')) :
    nm'.generated = x :: nm.generated ∧ nm'.globalNs = nm.globalNs ∧ ∀ y ∈ nm.generated, y ∈ nm'.generated := by
  rw [newSymbol_eq] at h
  obtain ⟨rfl, rfl⟩ := Prod.mk.inj h
  exact ⟨rfl, rfl, fun y hy => List.mem_cons_of_mem _ hy⟩

example : (newSymbol ⟨[], ["a"]⟩ "b" []).2.generated = ["b", "a"] := by decide +kernel

/-- The numeric suffix of the requested root is split off and only used as the start of the count. -/
theorem namer_result_variant (nm : Namer) (root : String) (reserved : List String) :
    (newSymbol nm root reserved).1 = (splitRoot root).1 ∨
    ∃ k, (splitRoot root).2 < k ∧ (newSymbol nm root reserved).1 = candidate (splitRoot root).1 k := by
  rw [newSymbol_eq]
  exact search_variant _ _ _

example : (newSymbol ⟨["f"], []⟩ "f_7" []).1 = "f_8" ∧ (newSymbol ⟨[], []⟩ "f_7" []).1 = "f" := by decide +kernel

private theorem runCalls_cons (nm : Namer) (c : Call) (cs : List Call) :
    runCalls nm (c :: cs) =
      (chosen nm c.root c.reserved ::
          (runCalls { nm with generated := chosen nm c.root c.reserved :: nm.generated } cs).1,
       (runCalls { nm with generated := chosen nm c.root c.reserved :: nm.generated } cs).2) := by
  simp only [runCalls, newSymbol_eq]

private theorem runCalls_ns (cs : List Call) : ∀ nm, (runCalls nm cs).2.globalNs = nm.globalNs := by
  induction cs with
  | nil => intro nm; rfl
  | cons c cs ih =>
    intro nm
    rw [runCalls_cons]
    exact ih _

private theorem runCalls_length (cs : List Call) : ∀ nm, (runCalls nm cs).1.length = cs.length := by
  induction cs with
  | nil => intro nm; rfl
  | cons c cs ih =>
    intro nm
    rw [runCalls_cons, List.length_cons, List.length_cons, ih]

theorem namer_generated_eq (cs : List Call) : ∀ nm,
    (runCalls nm cs).2.generated = (runCalls nm cs).1.reverse ++ nm.generated := by
  induction cs with
  | nil => intro nm; rfl
  | cons c cs ih =>
    intro nm
    rw [runCalls_cons, ih, List.reverse_cons, List.append_assoc]
    rfl

private theorem runCalls_fresh (cs : List Call) : ∀ nm, ∀ x ∈ (runCalls nm cs).1, x ∉ nm.globalNs ∧ x ∉ nm.generated := by
  induction cs with
  | nil => intro nm x hx; cases hx
  | cons c cs ih =>
    intro nm x hx
    rw [runCalls_cons, List.mem_cons] at hx
    rcases hx with rfl | hx
    · exact ⟨(chosen_fresh nm c.root c.reserved).1, (chosen_fresh nm c.root c.reserved).2.2⟩
    · exact ⟨(ih _ x hx).1, fun hg => (ih _ x hx).2 (List.mem_cons_of_mem _ hg)⟩

/-- Any sequence of `new_symbol` calls: any roots, any reserved sets, any starting state. -/
theorem namer_distinct (nm : Namer) (cs : List Call) :
    (runCalls nm cs).1.Nodup ∧ ∀ x ∈ (runCalls nm cs).1, x ∉ nm.globalNs ∧ x ∉ nm.generated := by
  refine ⟨?_, runCalls_fresh cs nm⟩
  induction cs generalizing nm with
  | nil => exact List.nodup_nil
  | cons c cs ih =>
    rw [runCalls_cons, List.nodup_cons]
    -- a later name avoids everything generated before it, the first name included
    exact ⟨fun hx => (runCalls_fresh cs _ _ hx).2 List.mem_cons_self, ih _⟩

example : (runCalls ⟨["if_body"], []⟩ [⟨"if_body", []⟩, ⟨"if_body", ["if_body_1"]⟩, ⟨"if_body_1", []⟩, ⟨"get_state", []⟩]).1
    = ["if_body_1", "if_body_2", "if_body_3", "get_state"] := by decide +kernel

/-- What every single call establishes between its result and its request, whatever the namer state, holds of every
(result, request) pair of a sequence. -/
private theorem runCalls_zip {P : String → Call → Prop} (h : ∀ nm c, P (chosen nm c.root c.reserved) c)
    (cs : List Call) : ∀ nm, ∀ p ∈ (runCalls nm cs).1.zip cs, P p.1 p.2 := by
  induction cs with
  | nil => intro nm p hp; cases hp
  | cons c cs ih =>
    intro nm p hp
    rw [runCalls_cons, List.zip_cons_cons, List.mem_cons] at hp
    rcases hp with rfl | hp
    · exact h nm c
    · exact ih _ p hp

/-- Of ITS OWN request only: reserved sets differ from call to call. -/
theorem namer_avoids_reserved (cs : List Call) : ∀ nm, ∀ p ∈ (runCalls nm cs).1.zip cs, p.1 ∉ p.2.reserved :=
  runCalls_zip (P := fun x c => x ∉ c.reserved) (fun nm c => (chosen_fresh nm c.root c.reserved).2.1) cs

private theorem runCalls_append (as bs : List Call) : ∀ nm,
    runCalls nm (as ++ bs) = ((runCalls nm as).1 ++ (runCalls (runCalls nm as).2 bs).1, (runCalls (runCalls nm as).2 bs).2) := by
  induction as with
  | nil => intro nm; simp [runCalls]
  | cons a as ih =>
    intro nm
    rw [List.cons_append, runCalls_cons, runCalls_cons, ih]
    simp

private theorem runPipeline_cons (nm : Namer) (step : String) (calls : List Call) (ps : List (String × List Call)) :
    runPipeline nm ((step, calls) :: ps) =
      ((step, (runCalls nm calls).1) :: (runPipeline (runCalls nm calls).2 ps).1, (runPipeline (runCalls nm calls).2 ps).2) := rfl

theorem runPipeline_flat (ps : List (String × List Call)) : ∀ nm,
    (runPipeline nm ps).1.flatMap (·.2) = (runCalls nm (ps.flatMap (·.2))).1 ∧
    (runPipeline nm ps).2 = (runCalls nm (ps.flatMap (·.2))).2 := by
  induction ps with
  | nil => intro nm; simp [runPipeline, runCalls]
  | cons p ps ih =>
    intro nm
    obtain ⟨step, calls⟩ := p
    rw [runPipeline_cons]
    simp only [List.flatMap_cons]
    rw [runCalls_append]
    exact ⟨by simp [(ih _).1], (ih _).2⟩

/-- One pass, whatever happened before it (any namer state). -/
theorem pipeline_pass_fresh (nm : Namer) (calls : List Call) :
    (runCalls nm calls).1.Nodup ∧ (∀ x ∈ (runCalls nm calls).1, x ∉ nm.globalNs ∧ x ∉ nm.generated) ∧
    (∀ p ∈ (runCalls nm calls).1.zip calls, p.1 ∉ p.2.reserved) ∧
    (runCalls nm calls).2.generated = (runCalls nm calls).1.reverse ++ nm.generated :=
  ⟨(namer_distinct nm calls).1, (namer_distinct nm calls).2, namer_avoids_reserved calls nm, namer_generated_eq calls nm⟩

theorem pipeline_names_distinct (nm : Namer) (ps : List (String × List Call)) :
    ((runPipeline nm ps).1.flatMap (·.2)).Nodup := by
  rw [(runPipeline_flat ps nm).1]
  exact (namer_distinct _ _).1

private theorem splitRootChars_append (cs ds : List Char) (hne : ds ≠ []) (hd : ∀ d ∈ ds, d.isDigit = true) :
    splitRootChars (cs ++ '_' :: ds) = some (cs, digitsVal ds) := by
  have hd' : ∀ d ∈ ds.reverse, d.isDigit = true := fun d h => hd d (List.mem_reverse.mp h)
  have hrev : (cs ++ '_' :: ds).reverse = ds.reverse ++ '_' :: cs.reverse := by simp
  -- the `match` of `splitRootChars` needs the reversed digit run as a `cons`
  obtain ⟨d, ds', hds⟩ := List.exists_cons_of_ne_nil (mt List.reverse_eq_nil_iff.mp hne)
  have hr : ds = (d :: ds').reverse := by rw [← hds, List.reverse_reverse]
  unfold splitRootChars
  simp only [hrev, List.takeWhile_append_of_pos hd', List.dropWhile_append_of_pos hd']
  simp [hr]

/-- `'%s_%d'` and `split('_')`/`isdigit`/`int` of `new_symbol` are inverse. -/
theorem splitRoot_candidate (b : String) (k : Nat) : splitRoot (candidate b k) = (b, k) := by
  have ht : (candidate b k).toList = b.toList ++ '_' :: Nat.toDigits 10 k := by
    simp [candidate, String.toList_append]
  unfold splitRoot
  rw [ht, splitRootChars_append _ _ Nat.toDigits_ne_nil
    (fun d hd => Nat.isDigit_of_mem_toDigits (by decide) (by decide) hd)]
  simp [digitsVal]

example : splitRoot (candidate "break_" 12) = ("break_", 12) := by decide +kernel

/-- `isVariant root` over-approximates what `new_symbol(root, …)` can return: it ignores the start of the count. -/
theorem isVariant_iff (root x : String) :
    isVariant root x = true ↔ x = (splitRoot root).1 ∨ ∃ k, x = candidate (splitRoot root).1 k := by
  unfold isVariant
  simp only [Bool.or_eq_true, beq_iff_eq]
  constructor
  · rintro (h | h)
    · exact Or.inl h
    · exact Or.inr ⟨_, h⟩
  · rintro (h | ⟨k, h⟩)
    · exact Or.inl h
    · refine Or.inr ?_
      rw [h, splitRoot_candidate]

private theorem chosen_isVariant (nm : Namer) (c : Call) : isVariant c.root (chosen nm c.root c.reserved) = true :=
  (isVariant_iff _ _).mpr ((search_variant _ _ _).imp id fun ⟨k, _, h⟩ => ⟨k, h⟩)

/-- `converterNames` and `transpilerNames` are its two instances (by unfolding). -/
private abbrev namesAt (f : UserFn) (reqs : List Req) (lv : Level) : List String :=
  ((produced f reqs).filter (fun p => p.2.level == lv)).map (·.1)

private theorem mem_namesAt {f : UserFn} {reqs : List Req} {lv : Level} {x : String} :
    x ∈ namesAt f reqs lv ↔ ∃ p ∈ produced f reqs, p.2.level = lv ∧ p.1 = x := by
  simp only [namesAt, List.mem_map, List.mem_filter, beq_iff_eq, and_assoc]

private theorem names_origin {f : UserFn} {reqs : List Req} {lv : Level} {x : String} (hx : x ∈ namesAt f reqs lv) :
    ∃ r ∈ reqs, r.level = lv ∧ x ∉ f.ns ∧ x ∉ r.call.reserved ∧ isVariant r.call.root x = true := by
  obtain ⟨p, hp, hl, rfl⟩ := mem_namesAt.mp hx
  unfold produced at hp
  have hz : (p.1, p.2.call) ∈ (runCalls ⟨f.ns, []⟩ (reqs.map (·.call))).1.zip (reqs.map (·.call)) := by
    rw [List.zip_map_right]
    exact List.mem_map.mpr ⟨p, hp, rfl⟩
  obtain ⟨hres, hv⟩ := runCalls_zip (P := fun x c => x ∉ c.reserved ∧ isVariant c.root x = true)
    (fun nm c => ⟨(chosen_fresh nm c.root c.reserved).2.1, chosen_isVariant nm c⟩) _ _ _ hz
  have h1 := List.of_mem_zip hp
  exact ⟨p.2, h1.2, hl, (runCalls_fresh _ ⟨f.ns, []⟩ p.1 h1.1).1, hres, hv⟩

/-- What holds of every conversion, whatever the program.  Only the reads of the body scope use `ConvOf`. -/
theorem C11_generated_avoid_reads_and_namespace (f : UserFn) (reqs : List Req) (hc : ConvOf f reqs) :
    (∀ x ∈ converterNames f reqs, x ∉ f.read ∧ x ∉ f.ns) ∧ (∀ x ∈ transpilerNames f reqs, x ∉ f.ns) ∧
    ((produced f reqs).map (·.1)).Nodup := by
  refine ⟨?_, ?_, ?_⟩
  · intro x hx
    obtain ⟨r, hr, hl, hns, hres, _⟩ := names_origin (lv := .converter) hx
    exact ⟨fun hrd => hres ((hc r hr).1 hl x hrd), hns⟩
  · intro x hx
    obtain ⟨_, _, _, hns, _⟩ := names_origin (lv := .transpiler) hx
    exact hns
  · unfold produced
    rw [List.map_fst_zip (by rw [runCalls_length, List.length_map]; exact Nat.le_refl _)]
    exact (namer_distinct _ _).1

/-- "Not read" means: not in a way that reaches the body scope. -/
private theorem converter_clash {f : UserFn} {reqs : List Req} (hc : ConvOf f reqs) {x : String}
    (hx : x ∈ converterNames f reqs) (hu : x ∈ f.userNames) :
    x ∈ f.bound ∧ x ∉ f.read ∧ x ∉ f.ns ∧
      ∃ r ∈ reqs, r.level = .converter ∧ isVariant r.call.root x = true := by
  have hbase := (C11_generated_avoid_reads_and_namespace f reqs hc).1 x hx
  obtain ⟨r, hr, hl, _, _, hv⟩ := names_origin (lv := .converter) hx
  refine ⟨?_, hbase.1, hbase.2, r, hr, hl, hv⟩
  unfold UserFn.userNames at hu
  simp only [List.mem_append] at hu
  rcases hu with (hb | hr) | hn
  · exact hb
  · exact absurd hr hbase.1
  · exact absurd hn hbase.2

theorem literal_roots_never_yield_fixed_names :
    ∀ r ∈ Gen.Naming.converterRoots ++ Gen.Naming.transpilerRoots,
      ∀ y ∈ hardCodedNames, isVariant r y = false := by decide +kernel

/-- **C11.**  `h1`–`h4` exclude the reasons (1)–(4) of the file header, in that order; `h5`: every converter-level
request asks for a literal root (not the dynamic root of `lists.py`'s pop lowering).  Then no converter-level name is a
user name, no transpiler-level name is a free name of the function or a namespace key, and no hard-coded identifier
clashes (`h3` itself) or is ever handed out by the namer. -/
theorem C11_disjoint_partial (f : UserFn) (reqs : List Req) (hc : ConvOf f reqs)
    (h1 : BoundNamesReserved f) (h2 : FreeNamesResolved f) (h3 : FixedNamesUnused f) (h4 : FixedNamesNotVariants f)
    (h5 : ∀ r ∈ reqs, r.level = .converter → r.call.root ∈ Gen.Naming.converterRoots) :
    (∀ x ∈ converterNames f reqs, x ∉ f.userNames) ∧
    (∀ x ∈ transpilerNames f reqs, x ∉ f.free ∧ x ∉ f.ns) ∧
    (∀ x ∈ hardCodedNames,
        hardClash f x = false ∧ x ∉ converterNames f reqs ∧ x ∉ transpilerNames f reqs) := by
  refine ⟨?_, ?_, ?_⟩
  · intro x hx hu
    obtain ⟨hb, hnr, hnn, r, hr, hl, hv⟩ := converter_clash hc hx hu
    rcases h1 x hb (List.any_eq_true.mpr ⟨r.call.root, h5 r hr hl, hv⟩) with h | h
    · exact hnr h
    · exact hnn h
  · intro x hx
    obtain ⟨r, hr, hl, hns, _, hv⟩ := names_origin (lv := .transpiler) hx
    refine ⟨fun hfree => ?_, hns⟩
    rcases h2 x hfree with hn | hnv
    · exact hns hn
    · exact Bool.eq_false_iff.mp (hnv _ ((hc r hr).2 hl)) hv
  · intro x hx
    refine ⟨h3 x hx, ?_, ?_⟩
    · intro hcn
      obtain ⟨r, hr, hl, _, _, hv⟩ := names_origin (lv := .converter) hcn
      exact Bool.eq_false_iff.mp
        (literal_roots_never_yield_fixed_names _ (List.mem_append_left _ (h5 r hr hl)) _ hx) hv
    · intro htn
      obtain ⟨r, hr, hl, _, _, hv⟩ := names_origin (lv := .transpiler) htn
      exact Bool.eq_false_iff.mp (h4 _ ((hc r hr).2 hl) _ hx) hv

/-- The same condition with the look-ups in front of the variant test; the examples below are evaluated in this form. -/
private theorem boundNamesReserved_iff (f : UserFn) : BoundNamesReserved f ↔
    ∀ x ∈ f.bound, (x ∈ f.read ∨ x ∈ f.ns) ∨ ¬ Gen.Naming.converterRoots.any (fun r => isVariant r x) = true :=
  forall₂_congr fun _ _ => Decidable.imp_iff_or_not

def okFn : UserFn :=
  { name := "g", bound := ["n", "s", "i", "break_"], read := ["n", "s", "i", "break_", "range"], readLocal := [],
    free := ["range"], ns := ["g", "malt"] }
def okReqs : List Req :=
  [⟨.transpiler, ⟨"ag__g", []⟩⟩, ⟨.converter, ⟨"fscope", ["break_", "i", "n", "range", "s"]⟩⟩,
   ⟨.converter, ⟨"do_return", ["break_", "i", "n", "range", "s"]⟩⟩, ⟨.converter, ⟨"retval_", ["break_", "i", "n", "range", "s"]⟩⟩,
   ⟨.converter, ⟨"break_", ["break_", "i", "n", "range", "s"]⟩⟩, ⟨.transpiler, ⟨"inner_factory", []⟩⟩,
   ⟨.transpiler, ⟨"outer_factory", []⟩⟩]
/-- The hypotheses are satisfiable: the user's `break_` is also read, and `break__1` is handed out instead. -/
example : ConvOf okFn okReqs ∧ BoundNamesReserved okFn ∧ FreeNamesResolved okFn ∧ FixedNamesUnused okFn ∧
    FixedNamesNotVariants okFn ∧ (∀ r ∈ okReqs, r.level = .converter → r.call.root ∈ Gen.Naming.converterRoots) ∧
    converterNames okFn okReqs = ["fscope", "do_return", "retval_", "break__1"] ∧
    transpilerNames okFn okReqs = ["ag__g", "inner_factory", "outer_factory"] := by
  rw [boundNamesReserved_iff]; decide +kernel

private theorem clsBound_iff {f : UserFn} {roots : List String} {x : String} :
    (clsBoundOnly f roots x = true ∨ clsNestedBound f roots x = true) ↔
      x ∈ f.bound ∧ x ∉ f.read ∧ x ∉ f.ns ∧ ∃ r ∈ roots, isVariant r x = true := by
  unfold clsBoundOnly clsNestedBound
  -- the two classes differ in `readLocal` only and between them exhaust it
  cases f.readLocal.contains x <;> simp [and_assoc]

private theorem clsLateFree_iff {f : UserFn} {x : String} :
    clsLateFree f x = true ↔ x ∈ f.free ∧ x ∉ f.ns ∧ ∃ r ∈ transpilerRootsOf f.name, isVariant r x = true := by
  simp [clsLateFree, and_assoc]

private theorem clsCollapse_iff {f : UserFn} {x : String} :
    clsCollapse f x = true ↔ x ∈ hardCodedNames ∧ ∃ r ∈ transpilerRootsOf f.name, isVariant r x = true := by
  simp [clsCollapse]

theorem hard_clash_classified (f : UserFn) (x : String) :
    hardClash f x = (clsFixed f x || clsBuiltinShadow f x) := by
  unfold hardClash clsFixed clsBuiltinShadow
  cases hardCodedSpec.lookup x with
  | none => rfl
  | some k => cases k <;> simp [isBuiltinKind]

/-- Whatever the program, EVERY clash of a converter-level name with a user name is in finding class
`bound_only_user_name_equals_generated_root` or `nested_scope_bound_name_equals_generated_root`. -/
theorem C11_clash_classified (f : UserFn) (reqs : List Req) (hc : ConvOf f reqs) (x : String)
    (hx : x ∈ converterNames f reqs) (hu : x ∈ f.userNames) :
    clsBoundOnly f (reqs.map (·.call.root)) x = true ∨ clsNestedBound f (reqs.map (·.call.root)) x = true := by
  obtain ⟨hb, hnr, hnn, r, hr, _, hv⟩ := converter_clash hc hx hu
  exact clsBound_iff.mpr ⟨hb, hnr, hnn, r.call.root, List.mem_map.mpr ⟨r, hr, rfl⟩, hv⟩

/-- Finding class `free_name_outside_namespace_equals_transpiler_name`. -/
theorem C11_transpiler_clash_classified (f : UserFn) (reqs : List Req) (hc : ConvOf f reqs) (x : String)
    (hx : x ∈ transpilerNames f reqs) (hu : x ∈ f.free) : clsLateFree f x = true := by
  obtain ⟨r, hr, hl, hns, _, hv⟩ := names_origin (lv := .transpiler) hx
  exact clsLateFree_iff.mpr ⟨hu, hns, r.call.root, (hc r hr).2 hl, hv⟩

/-! Counterexamples to the full statement, on the abstract request sequence (programs: known_findings.d/C11.json and
corpus/C11; harness/run_c11.py replays them on the library). -/

/-- `def g(n): s = 0; for i in range(n): break_ = 1; if i > 2: break; s += i; return s` — `break_` is only assigned. -/
def cexBoundOnly : UserFn :=
  { name := "g", bound := ["n", "s", "i", "break_"], read := ["n", "s", "i", "range"], readLocal := [],
    free := ["range"], ns := ["g", "malt"] }
def cexBoundOnlyReqs : List Req :=
  [⟨.transpiler, ⟨"ag__g", []⟩⟩, ⟨.converter, ⟨"fscope", ["i", "n", "range", "s"]⟩⟩,
   ⟨.converter, ⟨"do_return", ["i", "n", "range", "s"]⟩⟩, ⟨.converter, ⟨"retval_", ["i", "n", "range", "s"]⟩⟩,
   ⟨.converter, ⟨"break_", ["i", "n", "range", "s"]⟩⟩]

theorem C11_disjoint_full_is_false :
    ¬ (∀ (f : UserFn) (reqs : List Req), ConvOf f reqs → ∀ x ∈ converterNames f reqs, x ∉ f.userNames) := by
  have h : ConvOf cexBoundOnly cexBoundOnlyReqs ∧ "break_" ∈ converterNames cexBoundOnly cexBoundOnlyReqs ∧
      "break_" ∈ cexBoundOnly.userNames := by decide +kernel
  exact fun hall => hall _ _ h.1 _ h.2.1 h.2.2

example : ¬ BoundNamesReserved cexBoundOnly ∧ clsBoundOnly cexBoundOnly (cexBoundOnlyReqs.map (·.call.root)) "break_" = true := by
  rw [boundNamesReserved_iff]; decide +kernel

/-- `def f1(l): return [h(fscope) for fscope in l]` — `fscope` is read, but only as the comprehension's own target. -/
def cexNested : UserFn :=
  { name := "f1", bound := ["l", "fscope"], read := ["l", "h"], readLocal := ["fscope"], free := ["h"], ns := ["h", "f1"] }
def cexNestedReqs : List Req := [⟨.transpiler, ⟨"ag__f1", []⟩⟩, ⟨.converter, ⟨"fscope", ["h", "l"]⟩⟩]
example : ConvOf cexNested cexNestedReqs ∧ "fscope" ∈ converterNames cexNested cexNestedReqs ∧
    "fscope" ∈ cexNested.userNames ∧ ¬ BoundNamesReserved cexNested ∧
    clsNestedBound cexNested (cexNestedReqs.map (·.call.root)) "fscope" = true := by
  rw [boundNamesReserved_iff]; decide +kernel

/-- `f = lambda lscope, b, c: tr(1, lscope) + tr(2, b)` converted as an entity: `FunctionTransformer.visit_Lambda`
reserves the scope of the Lambda NODE (its definition context, which receives only `read - bound` of the lambda), so seen
from the reserved set the lambda's own body is a nested scope and its parameters are never reserved. -/
def cexLambda : UserFn :=
  { name := "lam", bound := ["lscope", "b", "c"], read := ["tr"], readLocal := ["lscope", "b"], free := ["tr"], ns := ["tr", "f"] }
def cexLambdaReqs : List Req := [⟨.transpiler, ⟨"ag__lam", []⟩⟩, ⟨.converter, ⟨"lscope", ["tr"]⟩⟩]
example : ConvOf cexLambda cexLambdaReqs ∧ "lscope" ∈ converterNames cexLambda cexLambdaReqs ∧
    "lscope" ∈ cexLambda.userNames ∧ clsNestedBound cexLambda (cexLambdaReqs.map (·.call.root)) "lscope" = true := by decide +kernel

/-- `def p4(a): return inner_factory + a` with the global `inner_factory` defined after conversion. -/
def cexLate : UserFn :=
  { name := "p4", bound := ["a"], read := ["a", "inner_factory"], readLocal := [], free := ["inner_factory"], ns := ["p4"] }
def cexLateReqs : List Req :=
  [⟨.transpiler, ⟨"ag__p4", []⟩⟩, ⟨.converter, ⟨"fscope", ["a", "inner_factory"]⟩⟩, ⟨.transpiler, ⟨"inner_factory", []⟩⟩]
example : ConvOf cexLate cexLateReqs ∧ "inner_factory" ∈ transpilerNames cexLate cexLateReqs ∧
    "inner_factory" ∈ cexLate.free ∧ ¬ FreeNamesResolved cexLate ∧ clsLateFree cexLate "inner_factory" = true := by decide +kernel

/-- `def q1(a): vars_ = 0; if a > 1: vars_ = a; return vars_`. -/
def cexFixed : UserFn :=
  { name := "q1", bound := ["a", "vars_"], read := ["a", "vars_"], readLocal := [], free := [], ns := ["q1"],
    blockVarRoots := ["vars_"] }
example : ¬ FixedNamesUnused cexFixed ∧ clsFixed cexFixed "vars_" = true ∧ BoundNamesReserved cexFixed := by
  rw [boundNamesReserved_iff]; decide +kernel

/-- A `vars_` that is not a block variable of any lowered statement is harmless (corpus: ok-vars-read-only). -/
example : FixedNamesUnused { cexFixed with blockVarRoots := ["x"] } := by decide +kernel

/-- `def f1(tuple, b): return h(b, *tuple)`: call_trees.py lowers the call to `(b,) + tuple(tuple)`; the BUILTIN
`tuple` is referenced by bare name and the user's parameter captures it.  Likewise `dict` at keyword calls. -/
def cexBuiltin : UserFn :=
  { name := "f1", bound := ["tuple", "b"], read := ["tuple", "b", "h"], readLocal := [], free := ["h"], ns := ["h", "f1"],
    starCalls := true }
example : ¬ FixedNamesUnused cexBuiltin ∧ clsBuiltinShadow cexBuiltin "tuple" = true ∧ BoundNamesReserved cexBuiltin ∧
    clsFixed cexBuiltin "tuple" = false := by
  rw [boundNamesReserved_iff]; decide +kernel
example : FixedNamesUnused { cexBuiltin with starCalls := false } := by decide +kernel

/-- `def _5(a): return a + 1`: `'ag__' + '_5'` is split into root `ag__` and counter 5 — the converted function is
called `ag__` and shadows the operator module. -/
def cexCollapse : UserFn := { name := "_5", bound := ["a"], read := ["a"], readLocal := [], free := [], ns := ["_5"] }
def cexCollapseReqs : List Req := [⟨.transpiler, ⟨"ag___5", []⟩⟩]
example : ConvOf cexCollapse cexCollapseReqs ∧ transpilerNames cexCollapse cexCollapseReqs = ["ag__"] ∧
    ¬ FixedNamesNotVariants cexCollapse ∧ clsCollapse cexCollapse "ag__" = true := by decide +kernel

/-! Facts about the tables of tools/extract_naming.py: a changed call site, template or namer makes these fail to
compile. -/

theorem sites_reserve_referenced : ∀ s ∈ Gen.Naming.converterSites, s.reserved = .referenced := by decide +kernel

theorem transpiler_sites_reserve_nothing : ∀ s ∈ Gen.Naming.transpilerSites, s.reserved = .empty := by decide +kernel

/-- `Namer.new_symbol` has the statement structure that `Malt.Naming.newSymbol` models. -/
theorem namer_shape_recognised : ∀ p ∈ Gen.Naming.namerShapes, p.2 = true := by decide +kernel

theorem fixed_names_listed :
    (∀ x ∈ Gen.Naming.templateFixedNames ++ Gen.Naming.extraLocals, x ∈ hardCodedNames) ∧
    Gen.Naming.transpilerRoots = ["inner_factory", "outer_factory"] ∧ Gen.Naming.transformedNamePrefix = "ag__" ∧
    Gen.Naming.lambdaName = "lam" := by decide +kernel

/-- Every identifier written literally at a name-introducing site (template text, parsed literal, `ast.Name('x')`,
string constant handed to a binding placeholder) has its own clash condition (`hardCodedSpec` / `hardClash`).  A new
one in malt/converters, transpiler.py, templates.py, core/converter.py or malt/operators breaks this until classified. -/
theorem hard_coded_sites_classified : ∀ s ∈ Gen.Naming.introSites, s.via = .hard → s.name ∈ hardCodedNames := by decide +kernel

theorem hard_coded_binders_are_setter_params :
    ∀ s ∈ Gen.Naming.introSites, s.via = .hard → s.how = .binds →
      hardCodedSpec.lookup s.name = some .setterParam ∨ hardCodedSpec.lookup s.name = some .inertParam := by decide +kernel

/-- Where `l` and `keys` hold the same string literals, `h` is checked by reduction alone, without comparing a string. -/
private theorem mem_of_rows {α : Type} {l keys : List α} {rows : List Nat} (h : l = rows.filterMap (keys[·]?))
    {x : α} (hx : x ∈ l) : x ∈ keys := by
  obtain ⟨i, -, hi⟩ := List.mem_filterMap.mp (h ▸ hx)
  exact List.mem_of_getElem? hi

/-- For each `other` / `passedIn` row of `introSites`, in table order, the row of `otherSpec` that classifies it. -/
private def otherRow : List Nat :=
  [0, 1, 2, 3, 4, 5, 6, 7, 8, 9, 10, 11, 12, 13, 14, 15, 16, 17, 18, 19, 20, 20, 21, 22, 22, 22, 23, 24, 25]

/-- Sites whose name is neither a namer result nor literal are hand-classified in `otherSpec` (user AST, user variable
names, configuration, pass-through); a computed binder name (e.g. `'retval_' + suffix`) is not, and breaks this. -/
theorem other_sites_classified :
    ∀ s ∈ Gen.Naming.introSites, s.via = .other ∨ s.via = .passedIn → (otherSpec.lookup (s.file, s.func, s.name)).isSome = true := by
  have hkeys : (Gen.Naming.introSites.filter fun s => decide (s.via = .other ∨ s.via = .passedIn)).map
      (fun s => (s.file, s.func, s.name)) = otherRow.filterMap ((otherSpec.map Prod.fst)[·]?) := by rfl
  intro s hs hv
  obtain ⟨p, hp, hpk⟩ := List.mem_map.mp (mem_of_rows hkeys
    (List.mem_map_of_mem (f := fun s : Gen.Naming.Intro => (s.file, s.func, s.name))
      (List.mem_filter.mpr ⟨hs, decide_eq_true hv⟩)))
  exact List.lookup_isSome_iff.mpr ⟨p, hp, beq_iff_eq.mpr hpk.symm⟩

/-- Every name-introducing site is a namer request (`namer_fresh` applies), a hard-coded identifier (`hardClash` is its
clash condition) or a classified non-generated source. -/
theorem intro_sites_all_modelled : ∀ s ∈ Gen.Naming.introSites,
    s.via = .namer ∨ s.via = .namerState ∨ (s.via = .hard ∧ s.name ∈ hardCodedNames) ∨
    (otherSpec.lookup (s.file, s.func, s.name)).isSome = true := by
  intro s hs
  cases hv : s.via with
  | namer => exact Or.inl rfl
  | namerState => exact Or.inr (Or.inl rfl)
  | hard => exact Or.inr (Or.inr (Or.inl ⟨rfl, hard_coded_sites_classified s hs hv⟩))
  | passedIn => exact Or.inr (Or.inr (Or.inr (other_sites_classified s hs (Or.inr hv))))
  | other => exact Or.inr (Or.inr (Or.inr (other_sites_classified s hs (Or.inl hv))))

/-- malt/operators is scanned for the site table as well. -/
theorem operators_introduce_no_names :
    ∀ s ∈ Gen.Naming.introSites, (s.file.toList.take 10 == "operators/".toList) = false := by
  -- no file of the table begins with `o`; the sweep looks at first BYTES, which a literal shows without being decoded
  have h : ∀ s ∈ Gen.Naming.introSites, s.file.toByteArray.data.toList.head? ≠ some 111 := by decide +kernel
  intro s hs
  refine beq_false_of_ne fun he => h s hs ?_
  have hd := congrArg List.head? he
  rw [List.head?_take, if_neg (by decide), show "operators/".toList.head? = some 'o' by decide +kernel] at hd
  obtain ⟨t, ht⟩ := List.head?_eq_some_iff.mp hd
  rw [← String.ofList_toList (s := s.file), ht]
  simp [String.ofList, List.utf8Encode, String.utf8EncodeChar]

/-- For each call site of `converterSites` with a literal root, in table order, the row of `converterRoots` holding it. -/
private def rootRow : List Nat := [0, 0, 1, 2, 3, 4, 5, 2, 3, 6, 7, 2, 3, 8, 9, 6, 10, 11, 12, 13]

private theorem literal_site_roots_listed :
    ∀ s ∈ Gen.Naming.converterSites, (s.rootKind != .dynamic) = true → s.root ∈ Gen.Naming.converterRoots := by
  have hroots : (Gen.Naming.converterSites.filter fun s => s.rootKind != .dynamic).map (·.root) =
      rootRow.filterMap (Gen.Naming.converterRoots[·]?) := by rfl
  exact fun _ hs hk => mem_of_rows hroots (List.mem_map_of_mem (f := (·.root)) (List.mem_filter.mpr ⟨hs, hk⟩))

private theorem rootsOfStep_sub {step r : String} (h : r ∈ rootsOfStep step) : r ∈ Gen.Naming.converterRoots := by
  unfold rootsOfStep at h
  obtain ⟨s, hs, rfl⟩ := List.mem_map.mp h
  obtain ⟨hs1, hs2⟩ := List.mem_filter.mp hs
  simp only [Bool.and_eq_true] at hs2
  exact literal_site_roots_listed s hs1 hs2.2

private theorem mem_reqs {c : Conversion} {r : Req} (h : r ∈ c.reqs) :
    (r.level = .transpiler ∧ r.call ∈ c.pre ++ c.post) ∨ (r.level = .converter ∧ ∃ p ∈ c.passes, r.call ∈ p.2) := by
  unfold Conversion.reqs at h
  simp only [List.mem_append, List.mem_map, List.mem_flatMap] at h
  rcases h with (⟨a, ha, rfl⟩ | ⟨p, hp, a, ha, rfl⟩) | ⟨a, ha, rfl⟩
  · exact Or.inl ⟨rfl, List.mem_append_left _ ha⟩
  · exact Or.inr ⟨rfl, p, hp, ha⟩
  · exact Or.inl ⟨rfl, List.mem_append_right _ ha⟩

theorem wellFormed_convOf (f : UserFn) (c : Conversion) (h : wellFormed f c = true) :
    ConvOf f c.reqs ∧ (∀ r ∈ c.reqs, r.level = .converter → r.call.root ∈ Gen.Naming.converterRoots) := by
  unfold wellFormed at h
  simp only [Bool.and_eq_true, List.all_eq_true, List.contains_iff_mem] at h
  obtain ⟨⟨-, hpass⟩, htr⟩ := h
  refine ⟨?_, ?_⟩
  · intro r hr
    rcases mem_reqs hr with ⟨hl, hm⟩ | ⟨hl, p, hp, hm⟩
    · exact ⟨fun hc => Level.noConfusion (hl.symm.trans hc), fun _ => htr _ hm⟩
    · exact ⟨fun _ => (hpass p hp r.call hm).2, fun ht => Level.noConfusion (hl.symm.trans ht)⟩
  · intro r hr hl
    rcases mem_reqs hr with ⟨hl', _⟩ | ⟨_, p, hp, hm⟩
    · exact Level.noConfusion (hl'.symm.trans hl)
    · exact rootsOfStep_sub (hpass p hp r.call hm).1

theorem noClashClass_hyps (f : UserFn) (h : NoClashClass f) :
    BoundNamesReserved f ∧ FreeNamesResolved f ∧ FixedNamesUnused f ∧ FixedNamesNotVariants f := by
  refine ⟨?_, ?_, ?_, ?_⟩
  · intro x hb hv
    obtain ⟨r, hr, hv⟩ := List.any_eq_true.mp hv
    obtain ⟨hBoundOnly, hNested, -⟩ := h x
    have hno : ¬ (clsBoundOnly f Gen.Naming.converterRoots x = true ∨ clsNestedBound f Gen.Naming.converterRoots x = true) := by
      simp [hBoundOnly, hNested]
    exact Decidable.or_iff_not_imp_left.mpr fun hrd =>
      Decidable.byContradiction fun hns => hno (clsBound_iff.mpr ⟨hb, hrd, hns, r, hr, hv⟩)
  · intro x hfree
    obtain ⟨-, -, hLate, -⟩ := h x
    refine Decidable.or_iff_not_imp_left.mpr fun hns r hr => Bool.eq_false_iff.mpr fun hv => ?_
    exact Bool.eq_false_iff.mp hLate (clsLateFree_iff.mpr ⟨hfree, hns, r, hr, hv⟩)
  · intro x _
    obtain ⟨-, -, -, hFixed, hBuiltin, -⟩ := h x
    rw [hard_clash_classified, hFixed, hBuiltin]
    rfl
  · intro r hr x hx
    obtain ⟨-, -, -, -, -, hCollapse⟩ := h x
    exact Bool.eq_false_iff.mpr fun hv => Bool.eq_false_iff.mp hCollapse (clsCollapse_iff.mpr ⟨hx, r, hr, hv⟩)

/-! Each class can only hold of a name of its own carrier list (`bound`, `free`, `hardCodedNames`), so the Boolean
`noClashClass` the driver evaluates only sweeps those. -/

private theorem clsBound_outside {f : UserFn} {x : String} (roots : List String) (h : x ∉ f.bound) :
    clsBoundOnly f roots x = false ∧ clsNestedBound f roots x = false :=
  ⟨Bool.eq_false_iff.mpr fun h' => h (clsBound_iff.mp (Or.inl h')).1,
   Bool.eq_false_iff.mpr fun h' => h (clsBound_iff.mp (Or.inr h')).1⟩

private theorem clsLateFree_outside {f : UserFn} {x : String} (h : x ∉ f.free) : clsLateFree f x = false :=
  Bool.eq_false_iff.mpr fun h' => h (clsLateFree_iff.mp h').1

private theorem hardCodedSpec_lookup_none {x : String} (h : x ∉ hardCodedNames) : hardCodedSpec.lookup x = none :=
  List.lookup_eq_none_iff.mpr fun _ hp => bne_iff_ne.mpr fun he => h (he ▸ List.mem_map_of_mem hp)

private theorem clsHard_outside {f : UserFn} {x : String} (h : x ∉ hardCodedNames) :
    clsFixed f x = false ∧ clsBuiltinShadow f x = false ∧ clsCollapse f x = false := by
  refine ⟨?_, ?_, Bool.eq_false_iff.mpr fun h' => h (clsCollapse_iff.mp h').1⟩
  · unfold clsFixed; rw [hardCodedSpec_lookup_none h]
  · unfold clsBuiltinShadow; rw [hardCodedSpec_lookup_none h]

private theorem noClashClass_of_carriers {f : UserFn}
    (hb : ∀ x ∈ f.bound, clsBoundOnly f Gen.Naming.converterRoots x = false ∧
      clsNestedBound f Gen.Naming.converterRoots x = false)
    (hf : ∀ x ∈ f.free, clsLateFree f x = false)
    (hh : ∀ x ∈ hardCodedNames, clsFixed f x = false ∧ clsBuiltinShadow f x = false ∧ clsCollapse f x = false) :
    NoClashClass f := fun x =>
  have h1 := if h : x ∈ f.bound then hb x h else clsBound_outside _ h
  have h2 := if h : x ∈ f.free then hf x h else clsLateFree_outside h
  have h3 := if h : x ∈ hardCodedNames then hh x h else clsHard_outside h
  ⟨h1.1, h1.2, h2, h3⟩

theorem noClashClass_sound (f : UserFn) (h : noClashClass f = true) : NoClashClass f := by
  have hall : ∀ x ∈ f.bound ++ f.free ++ hardCodedNames, _ := fun x hx => by
    simpa [and_assoc] using List.all_eq_true.mp h x hx
  refine noClashClass_of_carriers (fun x hx => ?_) (fun x hx => ?_) (fun x hx => ?_)
  · exact ⟨(hall x (by simp [hx])).1, (hall x (by simp [hx])).2.1⟩
  · exact (hall x (by simp [hx])).2.2.1
  · exact (hall x (by simp [hx])).2.2.2

/-
FULL end-to-end statement (false of the library: every finding class has a witness above):

  theorem C11_conversion_end_to_end (f) (c) (hwf : wellFormed f c = true) :
      (allIntroduced f c).Nodup ∧ (∀ x ∈ converterNames f c.reqs, x ∉ f.userNames) ∧
      (∀ x ∈ transpilerNames f c.reqs, x ∉ f.free ∧ x ∉ f.ns) ∧ (∀ x ∈ hardCodedNames, hardClash f x = false)
-/

/-- **C11, end to end.**  `wellFormed`: the transformed-name request, then the requests of the converter passes (each asking
for literal roots of its own call sites and reserving the body reads; their order is not used), then the factory-name requests.  Outside every finding class, ALL names put into the generated code (`allIntroduced`: namer results of all
passes and the hard-coded identifiers) are pairwise distinct and none clashes with a user name. -/
theorem C11_conversion_end_to_end_partial (f : UserFn) (c : Conversion) (hwf : wellFormed f c = true)
    (hnc : NoClashClass f) :
    (allIntroduced f c).Nodup ∧ (∀ x ∈ converterNames f c.reqs, x ∉ f.userNames) ∧
    (∀ x ∈ transpilerNames f c.reqs, x ∉ f.free ∧ x ∉ f.ns) ∧ (∀ x ∈ hardCodedNames, hardClash f x = false) := by
  obtain ⟨hconv, hroots⟩ := wellFormed_convOf f c hwf
  obtain ⟨h1, h2, h3, h4⟩ := noClashClass_hyps f hnc
  obtain ⟨p1, p2, p3⟩ := C11_disjoint_partial f c.reqs hconv h1 h2 h3 h4 hroots
  have hnodup := (C11_generated_avoid_reads_and_namespace f c.reqs hconv).2.2
  refine ⟨?_, p1, p2, fun x hx => (p3 x hx).1⟩
  unfold allIntroduced
  refine List.nodup_append.mpr ⟨hnodup, by decide, ?_⟩
  intro x hx y hy hxy
  subst hxy
  obtain ⟨p, hp, rfl⟩ := List.mem_map.mp hx
  have hp3 := p3 p.1 hy
  cases hl : p.2.level with
  | converter => exact hp3.2.1 (mem_namesAt.mpr ⟨p, hp, hl, rfl⟩)
  | transpiler => exact hp3.2.2 (mem_namesAt.mpr ⟨p, hp, hl, rfl⟩)

/-- A conversion of `okFn`: the requests of every pass, in pipeline order. -/
def okConversion : Conversion :=
  { pre := [⟨"ag__g", []⟩],
    passes := [("functions", [⟨"fscope", ["break_", "i", "n", "range", "s"]⟩]),
               ("break_statements", [⟨"break_", ["break_", "fscope", "i", "n", "range", "s"]⟩]),
               ("continue_statements", [⟨"continue_", ["break_", "fscope", "i", "n", "range", "s"]⟩]),
               ("return_statements", [⟨"do_return", ["break_", "i", "n", "range", "s"]⟩, ⟨"retval_", ["break_", "i", "n", "range", "s"]⟩]),
               ("control_flow", [⟨"get_state", ["break_", "break__1", "i", "n", "range", "s"]⟩,
                                 ⟨"set_state", ["break_", "break__1", "i", "n", "range", "s"]⟩,
                                 ⟨"if_body", ["break_", "i", "n", "range", "s"]⟩, ⟨"else_body", ["break_", "i", "n", "range", "s"]⟩,
                                 ⟨"get_state", ["break_", "i", "n", "range", "s"]⟩, ⟨"set_state", ["break_", "i", "n", "range", "s"]⟩,
                                 ⟨"extra_test", ["break_", "i", "n", "range", "s"]⟩, ⟨"itr", ["break_", "i", "n", "range", "s"]⟩,
                                 ⟨"loop_body", ["break_", "i", "n", "range", "s"]⟩])],
    post := [⟨"inner_factory", []⟩, ⟨"outer_factory", []⟩] }
example : wellFormed okFn okConversion = true ∧ noClashClass okFn = true ∧
    (runPipeline ⟨okFn.ns, ["ag__g"]⟩ okConversion.passes).1 =
      [("functions", ["fscope"]), ("break_statements", ["break__1"]), ("continue_statements", ["continue_"]),
       ("return_statements", ["do_return", "retval_"]),
       ("control_flow", ["get_state", "set_state", "if_body", "else_body", "get_state_1", "set_state_1", "extra_test", "itr", "loop_body"])] := by
  decide +kernel

/-- A pass out of pipeline order, or asking for a root of another pass's sites, is not well-formed. -/
example : wellFormed okFn { okConversion with passes := [("control_flow", []), ("functions", [])] } = false ∧
    wellFormed okFn { okConversion with passes := [("functions", [⟨"break_", ["break_", "i", "n", "range", "s"]⟩])] } = false := by
  decide +kernel

/-- `whyOutside` is what the driver answers to `c11.why` (harness/run_c11.py). -/
theorem whyOutside_nil_hyps (f : UserFn) (reqs : List Req) (h : whyOutside f reqs = []) :
    ConvOf f reqs ∧ BoundNamesReserved f ∧ FreeNamesResolved f ∧ FixedNamesUnused f ∧ FixedNamesNotVariants f ∧
    (∀ r ∈ reqs, r.level = .converter → r.call.root ∈ Gen.Naming.converterRoots) := by
  unfold whyOutside at h
  simp only [List.append_eq_nil_iff, List.map_eq_nil_iff, List.filter_eq_nil_iff] at h
  obtain ⟨⟨⟨⟨⟨⟨⟨⟨wBoundOnly, wNested⟩, wLate⟩, wFixed⟩, wBuiltin⟩, wCollapse⟩, wRoots⟩, wReserved⟩, wTranspiler⟩ := h
  have hnc : NoClashClass f := noClashClass_of_carriers
    (fun x hx => ⟨Bool.eq_false_iff.mpr (wBoundOnly x hx), Bool.eq_false_iff.mpr (wNested x hx)⟩)
    (fun x hx => Bool.eq_false_iff.mpr (wLate x hx))
    (fun x hx => ⟨Bool.eq_false_iff.mpr (wFixed x hx), Bool.eq_false_iff.mpr (wBuiltin x hx),
      Bool.eq_false_iff.mpr (wCollapse x hx)⟩)
  obtain ⟨h1, h2, h3, h4⟩ := noClashClass_hyps f hnc
  refine ⟨fun r hr => ⟨fun hl => ?_, fun hl => ?_⟩, h1, h2, h3, h4, fun r hr hl => ?_⟩
  · simpa [hl] using wReserved r hr
  · simpa [hl] using wTranspiler r hr
  · simpa [hl] using wRoots r hr

example : whyOutside okFn okReqs = [] ∧
    whyOutside cexBoundOnly cexBoundOnlyReqs = [("bound_only_name_is_root_variant", "break_")] ∧
    whyOutside cexBuiltin [] = [("builtin_referenced_by_generated_code_shadowed", "tuple")] := by decide +kernel

end Malt.Props.C11
