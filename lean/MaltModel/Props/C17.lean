import MaltModel.Conv.TemplateHyp
import MaltModel.Proofs.C17Roundtrip
import MaltModel.Proofs.C17Arity
import MaltModel.Proofs.C17Inst
import MaltModel.Proofs.C17Mix
import MaltModel.Proofs.C17PImage
import MaltModel.Generated.Templates
/-
C17 — generated code is a well-formed tree that loads as what `to_code` shows.

For all templates, bindings and trees: the checkers the harness runs on the real tree returned by `transform_ast` decide
their structural properties; `templates.replace` (model: `instantiate`) preserves the node-local part of `parserImage`
and, each under a hypothesis that a counterexample on the pinned code shows necessary, contexts and copy discipline.
`C17_gen_*` instantiate this at every template extracted from the converters (`Gen.allTemplates`, regenerated from /repo
on every run).  Node identity of real Python objects, `ast.unparse`/`ast.parse`, `compile` and the import system are
runtime facts: CHECKED on the real objects by harness/run_c17.py, not proved.
-/
set_option linter.unusedVariables false
namespace Malt.Props.C17
open Malt.Py Malt.Conv Malt.Conv.Template

/-- Soundness of the checker that is run on the real transformed tree. -/
theorem C17_ctx_checker_sound (t : List Stmt) : ctxOk t = true → CtxWellFormed t :=
  (okSs_iff t).1

/-- ... and it rejects nothing that is well-formed (so a rejection is a real defect of the tree). -/
theorem C17_ctx_checker_complete (t : List Stmt) : CtxWellFormed t → ctxOk t = true :=
  (okSs_iff t).2

/-- The checker run on the real tree also decides the arity invariants of nodes with parallel lists
(`len(kw_defaults) = len(kwonlyargs)`, `len(defaults) ≤ len(posonlyargs) + len(args)`, `len(ops) = len(comparators)`). -/
theorem C17_tree_checker_sound (t : List Stmt) :
    (ctxOk t && arityOk t) = true → CtxWellFormed t ∧ ArityWellFormed t := by
  intro h
  simp only [Bool.and_eq_true] at h
  exact ⟨(okSs_iff t).1 h.1, (arSs_iff t).1 h.2⟩

theorem C17_tree_checker_complete (t : List Stmt) :
    CtxWellFormed t → ArityWellFormed t → (ctxOk t && arityOk t) = true := by
  intro h1 h2
  simp only [Bool.and_eq_true]
  exact ⟨(okSs_iff t).2 h1, (arSs_iff t).2 h2⟩

/-- `def f(x, *, scale, offset=0)`: two keyword-only parameters, `kw_defaults = [None, 0]` is accepted; the list with the
`None` entry dropped is rejected (contexts are fine in both). -/
example :
    arityOk [.functionDef 1 "f" (.arguments 2 [] [.arg 3 "x" []] [] [.arg 4 "scale" [], .arg 5 "offset" []]
        [.noneMarker, .const 6 "int" "0"] [] []) [.pass 7] [] [] false] = true ∧
    arityOk [.functionDef 1 "f" (.arguments 2 [] [.arg 3 "x" []] [] [.arg 4 "scale" [], .arg 5 "offset" []]
        [.const 6 "int" "0"] [] []) [.pass 7] [] [] false] = false ∧
    ctxOk [.functionDef 1 "f" (.arguments 2 [] [.arg 3 "x" []] [] [.arg 4 "scale" [], .arg 5 "offset" []]
        [.const 6 "int" "0"] [] []) [.pass 7] [] [] false] = true := by decide +kernel

/-- `x, *y = z` / `del a.b, c[0]` / `for (i, j) in w: pass` / `[(q := 1) for k in r]` are accepted … -/
example : ctxOk [
    .assign 1 [.seq 2 .tuple [.name 3 "x" .store, .starred 4 (.name 5 "y" .store) .store] .store] (.name 6 "z" .load),
    .delete 7 [.attr 8 (.name 9 "a" .load) "b" .del, .subscript 10 (.name 11 "c" .load) (.const 12 "int" "0") .del],
    .for_ 13 (.seq 14 .tuple [.name 15 "i" .store, .name 16 "j" .store] .store) (.name 17 "w" .load) [.pass 18] [] [] false,
    .expr 19 (.comp 20 .listComp [.namedexpr 21 (.name 22 "q" .store) (.const 23 "int" "1")]
      [.comprehension 24 (.name 25 "k" .store) (.name 26 "r" .load) [] false])] = true := by decide +kernel

/-- … a `Load` name as assignment target, a `Store` starred inside a `Load` tuple, a `Load` walrus target are rejected. -/
example : ctxOk [.assign 1 [.name 2 "x" .load] (.name 3 "z" .load)] = false := by decide +kernel
example : ctxOk [.expr 1 (.seq 2 .tuple [.starred 3 (.name 4 "y" .load) .store] .load)] = false := by decide +kernel
example : ctxOk [.expr 1 (.namedexpr 2 (.name 3 "y" .load) (.const 4 "int" "1"))] = false := by decide +kernel

private theorem okAny_sound {e : Expr} (h : okAny e = true) : ∃ c, WfE c e := by
  simp only [okAny, Bool.or_eq_true] at h
  rcases h with (h | h) | h
  · exact ⟨.load, (okE_iff e _).1 h⟩
  · exact ⟨.store, (okE_iff e _).1 h⟩
  · exact ⟨.del, (okE_iff e _).1 h⟩

/-- `bindingsWfB` is what the driver evaluates on real bindings. -/
theorem C17_bindings_checker_sound (b : Bindings) (h : bindingsWfB b = true) : BindingsWf b := by
  intro p hp
  have hp' := List.all_eq_true.1 h p hp
  obtain ⟨k, bd⟩ := p
  cases bd with
  | node e => exact okAny_sound hp'
  | nodes es => exact fun e he => okAny_sound (List.all_eq_true.1 hp' e he)
  | stmt s => exact (okS_iff s).1 hp'
  | stmts ss => exact (okSs_iff ss).1 hp'

/-- `templates.replace` yields a context-well-formed tree from a context-well-formed template and bindings that were
well-formed where they came from, PROVIDED `usesOkSs`: the `ContextAdjuster` never reaches a `NamedExpr`, a `Starred` of
another ctx or a non-assignable node in a `Store`/`Del` position with its override on.  The FULL statement (no `hu`) is
false of the pinned code: `C17_template_ctx_counterexample`. -/
theorem C17_template_ctx_partial (t : List Stmt) (b : Bindings) (r : List Stmt)
    (ht : CtxWellFormed t) (hb : BindingsWf b) (hu : usesOkSs b t = true)
    (h : instantiate t b = .ok r) : CtxWellFormed r := by
  obtain ⟨n', hi⟩ := InstSs.of_instantiate h
  exact hi.wf hb ht hu

/-- The same for `templates.replace_as_expression`: the expression handed back is well-formed in a `Load` position. -/
theorem C17_template_ctx_expr_partial (t : List Stmt) (b : Bindings) (e : Expr)
    (ht : CtxWellFormed t) (hb : BindingsWf b) (hu : usesOkSs b t = true)
    (h : instantiateExpr t b = .ok e) : WfE .load e := by
  rcases InstSs.of_instantiateExpr h with ⟨i, n', hi⟩ | hbare
  · exact WfSs_single.1 (hi.wf hb ht hu)
  · exact hbare.wf hb ht hu

/-- The same for a bare placeholder handed to plain `templates.replace` (`anf.py`: `replace('temp_name', …)[0]`). -/
theorem C17_template_ctx_bare_partial (t : List Stmt) (b : Bindings) (e : Expr)
    (ht : CtxWellFormed t) (hb : BindingsWf b) (hu : usesOkSs b t = true)
    (h : instantiateBare t b = .ok e) : WfE .load e := by
  exact (BarePlaceholder.of_instantiateBare h).wf hb ht hu

/-- The hypotheses are satisfiable: `iterates = iterate_arg_name` with `iterates ↦ (i, *rest)` (Store form, as a `for`
target is) and `iterate_arg_name ↦ itr_1`: the name gets `Load`, the tuple keeps `Store`. -/
example :
    let t : List Stmt := [.assign 0 [.name 0 "iterates" .store] (.name 0 "iterate_arg_name" .load)]
    let b : Bindings := [("iterates", .node (.seq 1 .tuple [.name 2 "i" .store, .starred 3 (.name 4 "rest" .store) .store] .store)),
                         ("iterate_arg_name", .node (.name 5 "itr_1" .load))]
    ctxOk t = true ∧ usesOkSs b t = true ∧
      instantiate t b = .ok [.assign 6 [.seq 7 .tuple [.name 8 "i" .store, .starred 9 (.name 10 "rest" .store) .store] .store]
                                       (.name 11 "itr_1" .load)] := ⟨by decide +kernel, by decide +kernel, by rfl⟩

/-- Finding C17-walrus-ctx, on the template of `return_statements.visit_Return` (`retval_var_name = retval` — here with
the `try` wrapper dropped): `return (y := a), y` binds `retval` to a `Load` tuple that contains a walrus; the adjuster
(override `Load`, started because a `Tuple` has a ctx field) overwrites the walrus target's `Store`.  On the real code
the next pass wraps the now-`Load` name into `ag__.ld(y)` and the generated module does not compile.  Finding
C17-setitem-nonassignable violates `usesOkSs` too (a `Store` placeholder bound to a call). -/
theorem C17_template_ctx_counterexample :
    ∃ (t : List Stmt) (b : Bindings) (r : List Stmt),
      CtxWellFormed t ∧ BindingsWf b ∧ instantiate t b = .ok r ∧ ¬ CtxWellFormed r := by
  refine ⟨[.assign 0 [.name 0 "retval_var_name" .store] (.name 0 "retval" .load)],
          [("retval_var_name", .node (.name 1 "retval_" .load)),
           ("retval", .node (.seq 2 .tuple [.namedexpr 3 (.name 4 "y" .store) (.name 5 "a" .load), .name 6 "y" .load] .load))],
          [.assign 7 [.name 8 "retval_" .store]
             (.seq 9 .tuple [.namedexpr 10 (.name 11 "y" .load) (.name 12 "a" .load), .name 13 "y" .load] .load)],
          by decide +kernel, ?_, by rfl, by decide +kernel⟩
  intro p hp
  simp only [List.mem_cons, List.not_mem_nil, or_false] at hp
  rcases hp with rfl | rfl
  · exact ⟨.load, by decide +kernel⟩
  · exact ⟨.load, by decide +kernel⟩

/-- Node identity: no label occurs twice in the instantiated tree, even when one binding is used at several placeholder
occurrences, and the only labels shared with the inputs are those of the nodes `visit_arg` inserts uncopied — PROVIDED
every such node is inserted at most once (`sharedOk`).  Needed: `C17_template_fresh_counterexample`. -/
theorem C17_template_identity (t : List Stmt) (b : Bindings) (r : List Stmt)
    (hs : sharedOk b t = true) (h : instantiate t b = .ok r) :
    (labelsSs r).Nodup ∧ (∀ l ∈ labelsSs r, l ∈ bindingLabels b → l ∈ sharedSs b t) := by
  obtain ⟨n', hm⟩ := instantiate_mix h
  exact ⟨hm.nodup (of_decide_eq_true hs), fun l hl hmem => hm.low_mem l hl (lt_startLabel b l hmem)⟩

/-- The special case with nothing inserted uncopied: under `argsOkSs` (parameter-name placeholders are bound to `Name`
nodes only; `visit_arg` inserts any other bound node without copying it) no label of the result is a label of the
bindings.  The FULL statement (no `ha`) is false of the pinned code. -/
theorem C17_template_fresh_partial (t : List Stmt) (b : Bindings) (r : List Stmt)
    (ha : argsOkSs b t = true) (h : instantiate t b = .ok r) :
    (labelsSs r).Nodup ∧ (∀ l ∈ labelsSs r, l ∉ bindingLabels b) := by
  have hnil : sharedSs b t = [] := sharedSs_eq_nil b t ha
  have hid := C17_template_identity t b r (by simp [sharedOk, hnil]) h
  rw [hnil] at hid
  exact ⟨hid.1, fun l hl hmem => List.not_mem_nil (hid.2 l hl hmem)⟩

/-- The one converter call site that violates `argsOkSs`, the factory wrapper: `factory_args` is bound to `arg` nodes
built for that call and occurs once, so the two parameter nodes are shared with the input (labels 1, 2) and nothing
occurs twice. -/
example :
    let t : List Stmt := [.functionDef 0 "inner" (.arguments 0 [] [.arg 0 "factory_args" []] [] [] [] [] []) [.ret 0 [.name 0 "e" .load]] [] [] false]
    let b : Bindings := [("factory_args", .nodes [.arg 1 "ag__" [], .arg 2 "x" []])]
    sharedOk b t = true ∧ argsOkSs b t = false ∧ sharedSs b t = [1, 2] := by decide +kernel

/-- one binding at three placeholder occurrences (one store, two loads): three distinct copies -/
example :
    let t : List Stmt := [.assign 0 [.name 0 "v" .store] (.boolop 0 true [.name 0 "v" .load, .unary 0 "Not" (.name 0 "v" .load)])]
    let b : Bindings := [("v", .node (.attr 1 (.name 2 "self" .load) "flag" .load))]
    argsOkSs b t = true ∧
    instantiate t b = .ok [.assign 3 [.attr 4 (.name 5 "self" .load) "flag" .store]
        (.boolop 6 true [.attr 7 (.name 8 "self" .load) "flag" .load, .unary 9 "Not" (.attr 10 (.name 11 "self" .load) "flag" .load)])] :=
  ⟨by decide +kernel, by rfl⟩

/-- `visit_arg` inserts a bound `arg` node itself; used at two parameter placeholders the same node (label 1) occurs
twice in the result, and it is shared with the input. -/
theorem C17_template_fresh_counterexample :
    ∃ (t : List Stmt) (b : Bindings) (r : List Stmt),
      instantiate t b = .ok r ∧ ¬ (labelsSs r).Nodup ∧ (∃ l ∈ labelsSs r, l ∈ bindingLabels b) := by
  refine ⟨[.functionDef 0 "f" (.arguments 0 [] [.arg 0 "a" []] [] [] [] [] []) [.pass 0] [] [] false,
           .functionDef 0 "g" (.arguments 0 [] [.arg 0 "a" []] [] [] [] [] []) [.pass 0] [] [] false],
          [("a", .nodes [.arg 1 "x" []])],
          [.functionDef 2 "f" (.arguments 3 [] [.arg 1 "x" []] [] [] [] [] []) [.pass 4] [] [] false,
           .functionDef 5 "g" (.arguments 6 [] [.arg 1 "x" []] [] [] [] [] []) [.pass 7] [] [] false],
          by rfl, by decide +kernel, ⟨1, by decide +kernel, by decide +kernel⟩⟩

/-- The call sites whose template string is built dynamically are exactly the two of `slices.py`; they are outside the
proved core: their template texts are captured at run time by the harness and checked like any real tree. -/
theorem C17_gen_unresolved_sites :
    Malt.Gen.unresolvedSites = ["slices_process_single_assignment_0", "slices_process_single_update_0"] := by rfl

/-- The extracted occurrence table `Gen.allOcc` equals the counts `nameOcc`/`argOcc` recomputed on the extracted templates. -/
theorem C17_gen_occurrences_agree :
    Malt.Gen.allOcc.map (fun p => p.2) =
      Malt.Gen.allTemplates.map (fun p => p.2.2.map fun k => (k, nameOcc k p.2.1, argOcc k p.2.1)) := by decide +kernel

/-- No converter template uses a placeholder name at more than one parameter position (the one position where bound nodes are
inserted without a copy); with a template that did, this theorem would fail to check. -/
theorem C17_gen_arg_placeholders_at_most_once :
    ∀ p ∈ Malt.Gen.allTemplates, ∀ k ∈ p.2.2, argOcc k p.2.1 ≤ 1 := by
  intro p hp k hk
  -- the counts are those of the extracted table, where the bound is read off the numerals
  have hrow := List.mem_map_of_mem (f := fun p => p.2.2.map fun k => (k, nameOcc k p.2.1, argOcc k p.2.1)) hp
  rw [← C17_gen_occurrences_agree] at hrow
  obtain ⟨q, hq, hqp⟩ := List.mem_map.1 hrow
  have hcell := List.mem_map_of_mem (f := fun k => (k, nameOcc k p.2.1, argOcc k p.2.1)) hk
  rw [← hqp] at hcell
  have htable : ∀ q ∈ Malt.Gen.allOcc, ∀ c ∈ q.2, c.2.2 ≤ 1 := by decide +kernel
  exact htable q hq _ hcell

theorem C17_gen_templates_ctx_ok : ∀ p ∈ Malt.Gen.allTemplates, ctxOk p.2.1 = true := by decide +kernel

theorem C17_gen_template_ctx_partial (p : String × List Stmt × List String) (hp : p ∈ Malt.Gen.allTemplates)
    (b : Bindings) (r : List Stmt) (hb : BindingsWf b) (hu : usesOkSs b p.2.1 = true)
    (h : instantiate p.2.1 b = .ok r) : CtxWellFormed r :=
  C17_template_ctx_partial p.2.1 b r (C17_ctx_checker_sound _ (C17_gen_templates_ctx_ok p hp)) hb hu h

theorem C17_gen_template_fresh_partial (p : String × List Stmt × List String) (hp : p ∈ Malt.Gen.allTemplates)
    (b : Bindings) (r : List Stmt) (ha : argsOkSs b p.2.1 = true) (h : instantiate p.2.1 b = .ok r) :
    (labelsSs r).Nodup ∧ (∀ l ∈ labelsSs r, l ∉ bindingLabels b) :=
  C17_template_fresh_partial p.2.1 b r ha h

/-! Two `Feature.LISTS` converter steps use a template where it does not fit (findings C17-lists-store-list-display,
C17-lists-append-in-expression).  The class predicates (`Conv/SrcClass.lean`) are evaluated by the driver on the source
function of a failing case. -/

/-- lists.py `visit_List` replaces a list display `e` by `replace_as_expression('ag__.new_list(elements)', elements=e)`.
The replacement is well-formed where `e` stood PROVIDED that position is a `Load` position; the FULL statement (every
`c`) is false of the pinned code.  Finding class `lists_list_display_in_store_position` = ¬ `hc`
(`SrcClass.hasStoreListDisplay`). -/
theorem C17_lists_new_list_partial (e r : Expr) (c : Ctx) (hc : c = .load) (hw : WfE c e) (hx : useOk .load e = true)
    (h : instantiateExpr Malt.Gen.tmpl_lists_visit_List_0 [("elements", .node e)] = .ok r) : WfE c r := by
  subst hc
  refine C17_template_ctx_expr_partial _ [("elements", .node e)] r (by decide +kernel) ?_ ?_ h
  · intro p hp
    simp only [List.mem_cons, List.not_mem_nil, or_false] at hp
    subst hp
    exact ⟨.load, hw⟩
  · simp [Malt.Gen.tmpl_lists_visit_List_0, usesOkSs, usesOkS, usesOkE, usesOkEs, List.lookup, Binding.exprs, hx]

/-- `[x, y] = v`: the display stands in a `Store` position, the replacement is a call. -/
theorem C17_lists_new_list_counterexample :
    ∃ (e r : Expr), WfE .store e ∧ useOk .load e = true ∧
      instantiateExpr Malt.Gen.tmpl_lists_visit_List_0 [("elements", .node e)] = .ok r ∧ ¬ WfE .store r :=
  ⟨.seq 1 .list [.name 2 "x" .store, .name 3 "y" .store] .store,
   .call 5 (.attr 6 (.name 7 "ag__" .load) "new_list" .load) [.seq 8 .list [.name 9 "x" .load, .name 10 "y" .load] .load] [],
   by decide +kernel, by decide +kernel, by rfl, by decide +kernel⟩

/-- lists.py `_replace_append_call` replaces the call `X.append(e)` by `templates.replace('target = ag__.list_append(target,
element)', …)`: whatever is bound, the result is one assignment statement — it can only stand where the call was the
value of an expression statement.  Finding class `lists_append_call_in_expression_position`
(`SrcClass.appendInExprPosition`): the call is an operand of a larger expression. -/
theorem C17_lists_append_replacement_is_statement (b : Bindings) (r : List Stmt)
    (h : instantiate Malt.Gen.tmpl_lists_replace_append_call_0 b = .ok r) : ∃ i ts v, r = [.assign i ts v] := by
  obtain ⟨n', hi⟩ := InstSs.of_instantiate h
  -- an `Assign` node is always rebuilt as one `Assign` node
  cases hi with
  | cons h0 h1 =>
      cases h1
      cases h0
      exact ⟨_, _, _, rfl⟩

example : Malt.Conv.SrcClass.appendInExprPosition
    (.expr 1 (.call 2 (.name 3 "tr" .load) [.call 4 (.attr 5 (.name 6 "l" .load) "append" .load) [.name 7 "a" .load] []] [])) = true ∧
  Malt.Conv.SrcClass.appendInExprPosition
    (.expr 1 (.call 4 (.attr 5 (.name 6 "l" .load) "append" .load) [.name 7 "a" .load] [])) = false ∧
  Malt.Conv.SrcClass.hasStoreListDisplay
    (.assign 1 [.seq 2 .list [.name 3 "x" .store] .store] (.seq 4 .list [.name 5 "a" .load] .load)) = true := by decide +kernel

/-! `parserImage` (Conv/ParserImage.lean) is run on every real tree next to `ctxOk` and `arityOk`.  Only its node-local
part `piSs` is compositional.  The FULL statement (`ctxOk ∧ arityOk ∧ parserImage` of template and arguments implies
the same of the result) is false: arity (a list spliced into `kwonlyargs`), non-empty blocks (`def f(): body` with
`body ↦ []`) and non-empty set displays (`{elts}` with `elts ↦ []`) are not preserved by `templates.replace`; these stay
per-tree checks. -/

/-- `piSs`: no negative / composite numeric `Constant`, no tuple/frozenset `Constant`, no keyword used as a `Name`. -/
theorem C17_parser_image_local_preserved (t : List Stmt) (b : Bindings) (r : List Stmt)
    (ht : piSs t = true) (hb : bindingsPi b = true) (h : instantiate t b = .ok r) : piSs r = true := by
  obtain ⟨n', hi⟩ := InstSs.of_instantiate h
  exact hi.pi hb ht

theorem C17_template_wellformed_partial (t : List Stmt) (b : Bindings) (r : List Stmt)
    (ht : CtxWellFormed t) (hp : piSs t = true) (hb : BindingsWf b) (hbp : bindingsPi b = true)
    (hu : usesOkSs b t = true) (h : instantiate t b = .ok r) : CtxWellFormed r ∧ piSs r = true :=
  ⟨C17_template_ctx_partial t b r ht hb hu h, C17_parser_image_local_preserved t b r hp hbp h⟩

theorem C17_gen_templates_parser_image : ∀ p ∈ Malt.Gen.allTemplates, parserImage p.2.1 = true := by decide +kernel

/-- `a[Constant(-1)] = 5` and `return Name('None')` are rejected; their parsed forms are accepted -/
example :
    parserImage [.assign 1 [.subscript 2 (.name 3 "a" .load) (.const 4 "int" "-1") .store] (.const 5 "int" "5")] = false ∧
    parserImage [.assign 1 [.subscript 2 (.name 3 "a" .load) (.unary 4 "USub" (.const 5 "int" "1")) .store] (.const 6 "int" "5")] = true ∧
    parserImage [.ret 1 [.name 2 "None" .load]] = false ∧
    parserImage [.ret 1 [.const 2 "NoneType" "None"]] = true := by decide +kernel

/-- a statement placeholder bound to the empty list empties a block -/
example :
    let t : List Stmt := [.functionDef 0 "f" (.arguments 0 [] [] [] [] [] [] []) [.expr 0 (.name 0 "body" .load)] [] [] false]
    parserImage t = true ∧ bindingsPi [("body", .stmts [])] = true ∧
    (instantiate t [("body", .stmts [])]).toOption.map parserImage = some false := ⟨by decide +kernel, by decide +kernel, by rfl⟩

/-- The reader/printer pair the C17 driver runs (`Conv/SexpTotal.lean`, same wire format as the shared, `partial`
`Py/SexpAst.lean`) round-trips every tree it can represent faithfully (`printableS`: a `Set` display carries `.load`, an
unnamed keyword the empty string).  Tree level only: the S-expression text layer (tokeniser, escaping) and the Python
side (harness/pyast.py) are covered by harness/selftest_ast.py and by the `c17.echo` comparison the check makes on
every real tree. -/
theorem C17_roundtrip_model (t : Stmt) (h : Malt.Conv.SexpTotal.printableS t = true) :
    Malt.Conv.SexpTotal.readS (Malt.Conv.SexpTotal.printS t) = some t :=
  Malt.Conv.SexpTotal.readS_printS t h

theorem C17_roundtrip_model_list (t : List Stmt) (h : Malt.Conv.SexpTotal.printableSs t = true) :
    Malt.Conv.SexpTotal.readSs (Malt.Conv.SexpTotal.printSs t) = some t :=
  Malt.Conv.SexpTotal.readSs_printSs t h

example : Malt.Conv.SexpTotal.printableS
    (.assign 1 [.seq 2 .tuple [.name 3 "x" .store, .starred 4 (.name 5 "y" .store) .store] .store]
      (.call 6 (.name 7 "f" .load) [.seq 8 .set [.const 9 "int" "1"] .load] [.keyword 10 "" false (.name 11 "kw" .load)])) = true := by decide +kernel

end Malt.Props.C17
