import MaltModel.Proofs.JumpsBreak
import MaltModel.Proofs.JumpsContinue
import MaltModel.Proofs.JumpsReturn
import MaltModel.Proofs.JumpsSyntax
import MaltModel.Proofs.JumpsFresh
import MaltModel.Proofs.JumpsRewrite
/-
C01, jump lowering: the break / continue / return lowerings preserve the semantics of the core language `Malt.Sem`
(Sem/Core.lean).  The lowerings on `Sem.Block` (Conv/JumpsSem.lean) are the semantic counterparts of the syntactic
models Conv/Break.lean, Conv/Continue.lean, Conv/Return.lean; the driver checks that translating (`toSemFn`, Conv/JumpToSem.lean) the output of the syntactic model gives the lowering
of the translated input
(up to the spelling of generated names) on every generated program.

The `…_partial` theorems carry the decidable hypothesis `inS1 body` (= `finOKB`): no break/continue/return leaves a
`finally` block (`escFreeB`: no `return` anywhere inside it, `break`/`continue` only inside loops of the block itself
— the documented exemption of C01, PEP 765), and a `finally` block that contains a `raise` belongs to a `try` whose
body and handlers contain no break/continue/return.  Without `inS1` the statements are FALSE of the library, exactly
where the second clause fails (`return_lowering_full_false`, `cexCont`, `cexBrk`): a raise in `finally` replaces a
pending jump whose flag has already been set; if the exception is then caught in the same function, the statements
after the handler are skipped.

`Agree G σ σ'`: equal effect logs and equal values of every non-generated variable.

Left out: `Malt.Sem`'s `try` has no `else` clause (nor has its `for`/`while`).  The passes wrap `Try.orelse` in
`if not <flag>:` when the protected block contains an own `continue` / `return` (`_has_own_continue`,
`_has_own_return`); this is mirrored by the syntactic models (`hasOwnContinueB`, `hasOwnReturnB`) and covered by the
per-pass correspondence and the three-pass oracle on `tryelse_programs` (harness/c01_jumps.py), not by a theorem.
-/
namespace Malt.Props.C01Jumps
open Malt.Sem Malt.Sem.Jumps

def GenNamesFresh (gen : Gen) (body : Block) : Prop := CleanB (Hid gen) body
def GenNamesFreshR (dr rv : Name) (body : Block) : Prop := CleanB (HidR dr rv) body
def Injective (gen : Gen) : Prop := ∀ p q : List Nat, gen p = gen q → p = q

def inS1 (body : Block) : Prop := finOKB body = true
/-- No `try`, no `with`. -/
def inS0 (body : Block) : Prop := inS0B body = true

instance (body : Block) : Decidable (inS1 body) := by unfold inS1; infer_instance
instance (body : Block) : Decidable (inS0 body) := by unfold inS0; infer_instance

private theorem inS0_finOK :
    (∀ s : Stmt, inS0S s = true → finOKS s = true) ∧ (∀ b : List Stmt, inS0B b = true → finOKB b = true) ∧
    (∀ _ : List (Nat × List Stmt), True) := by
  apply stmt_induct
  case ifS =>
    intro c t e ht he h
    simp only [inS0S, Bool.and_eq_true] at h
    simp [finOKS, ht h.1, he h.2]
  case whileS => intro c b hb h; simp [finOKS, hb h]
  case forS => intro x it ex b hb h; simp [finOKS, hb h]
  case tryS | withS => intros; contradiction
  case cons =>
    intro s r hs hr h
    simp only [inS0B, Bool.and_eq_true] at h
    simp [finOKB, hs h.1, hr h.2]
  all_goals intros; first | rfl | trivial

private theorem inS0S_finOK : ∀ (s : Stmt), inS0S s = true → finOKS s = true := inS0_finOK.1
private theorem inS0B_finOK : ∀ (b : List Stmt), inS0B b = true → finOKB b = true := inS0_finOK.2.1

theorem inS0_inS1 (body : Block) (h : inS0 body) : inS1 body := inS0B_finOK body h

/-- `brkOut o = o` unless `o = break`, which only a `break` outside a loop can produce. -/
theorem break_lowering_correct_partial (X : Ext) (gen : Gen) (inj : Injective gen) (body : Block)
    (fresh : GenNamesFresh gen body) (frag : inS1 body) (noextra : noExtraB body = true)
    (n : Nat) (σ : St) (o : Out) (σ₁ : St) (h : execB X n body σ = some (o, σ₁)) :
    ∃ m σ₁', execB X m (lowerBreak gen body) σ = some (brkOut o, σ₁') ∧ Agree (Hid gen) σ₁ σ₁' :=
  lowerBreak_correct gen X inj body fresh frag noextra n σ o σ₁ h

/-- `wf`: no `continue` outside a loop. -/
theorem continue_lowering_correct_partial (X : Ext) (gen : Gen) (inj : Injective gen) (body : Block)
    (fresh : GenNamesFresh gen body) (frag : inS1 body) (wf : topContB body = false)
    (n : Nat) (σ : St) (o : Out) (σ₁ : St) (h : execB X n body σ = some (o, σ₁)) :
    ∃ m σ₁', execB X m (lowerContinue gen body) σ = some (o, σ₁') ∧ Agree (Hid gen) σ₁ σ₁' :=
  lowerContinue_correct gen X inj body fresh frag wf n σ o σ₁ h

/-- `fnResult`: falling off the end = `return None`. -/
theorem return_lowering_correct_partial (X : Ext) (dr rv : Name) (hne : dr ≠ rv) (body : Block)
    (fresh : GenNamesFreshR dr rv body) (frag : inS1 body)
    (n : Nat) (σ : St) (o : Out) (σ₁ : St) (h : execB X n body σ = some (o, σ₁)) :
    ∃ m σ₁' o', execB X m (lowerReturn dr rv body) σ = some (o', σ₁') ∧ fnResult o' = fnResult o ∧
      Agree (HidR dr rv) σ₁ σ₁' :=
  lowerReturn_correct dr rv X hne body fresh frag n σ o σ₁ h

theorem break_lowering_correct_S0 (X : Ext) (gen : Gen) (inj : Injective gen) (body : Block)
    (fresh : GenNamesFresh gen body) (frag : inS0 body) (noextra : noExtraB body = true)
    (n : Nat) (σ : St) (o : Out) (σ₁ : St) (h : execB X n body σ = some (o, σ₁)) :
    ∃ m σ₁', execB X m (lowerBreak gen body) σ = some (brkOut o, σ₁') ∧ Agree (Hid gen) σ₁ σ₁' :=
  break_lowering_correct_partial X gen inj body fresh (inS0_inS1 body frag) noextra n σ o σ₁ h

theorem continue_lowering_correct_S0 (X : Ext) (gen : Gen) (inj : Injective gen) (body : Block)
    (fresh : GenNamesFresh gen body) (frag : inS0 body) (wf : topContB body = false)
    (n : Nat) (σ : St) (o : Out) (σ₁ : St) (h : execB X n body σ = some (o, σ₁)) :
    ∃ m σ₁', execB X m (lowerContinue gen body) σ = some (o, σ₁') ∧ Agree (Hid gen) σ₁ σ₁' :=
  continue_lowering_correct_partial X gen inj body fresh (inS0_inS1 body frag) wf n σ o σ₁ h

theorem return_lowering_correct_S0 (X : Ext) (dr rv : Name) (hne : dr ≠ rv) (body : Block)
    (fresh : GenNamesFreshR dr rv body) (frag : inS0 body)
    (n : Nat) (σ : St) (o : Out) (σ₁ : St) (h : execB X n body σ = some (o, σ₁)) :
    ∃ m σ₁' o', execB X m (lowerReturn dr rv body) σ = some (o', σ₁') ∧ fnResult o' = fnResult o ∧
      Agree (HidR dr rv) σ₁ σ₁' :=
  return_lowering_correct_partial X dr rv hne body fresh (inS0_inS1 body frag) n σ o σ₁ h

/-- `ConditionalReturnRewriter`, the first half of the return pass: every terminating run is reproduced with the same
outcome, log and whole final store, for every program of the core language. -/
theorem conditional_return_rewrite_correct (X : Ext) (body : Block)
    (n : Nat) (σ : St) (r : Out × St) (h : execB X n body σ = some r) :
    ∃ m, execB X m (rewriteReturns body) σ = some r :=
  rewriteReturns_correct X body n σ r h

theorem break_lowering_no_break (gen : Gen) (body : Block) : hasBrkB (lowerBreak gen body) = false :=
  lowerBreak_noBrk gen body

theorem continue_lowering_no_continue (gen : Gen) (body : Block) : hasContB (lowerContinue gen body) = false :=
  lowerContinue_noCont gen body

theorem return_lowering_single_return (dr rv : Name) (body : Block) :
    (∃ init, lowerReturn dr rv body = init ++ [.ret (some (.var rv))] ∧ hasRetB init = false) ∨
    hasRetB (lowerReturn dr rv body) = false :=
  lowerReturn_onlyLastRet dr rv body

theorem stdGen_injective (tag : Char) : Injective (stdGen tag) := stdGen_inj tag

/-- A program without `$`-names (every program translated from Python) is fresh for the standard generators. -/
theorem userNames_fresh (tag : Char) (body : Block) (h : userNamesB body = true) :
    GenNamesFresh (stdGen tag) body :=
  userNamesB_clean (Hid (stdGen tag)) (by rintro x ⟨q, rfl⟩; exact stdGen_not_user tag q) body h

theorem userNames_freshR (body : Block) (h : userNamesB body = true) : GenNamesFreshR stdDr stdRv body :=
  userNamesB_clean (HidR stdDr stdRv)
    (by rintro x (rfl | rfl) <;> decide) body h

/-! Counterexamples to the statements without `inS1`; the harness replays them on the library
(corpus/C01J/raise-in-finally-*.json, finding `C01J-raise-in-finally-over-jump`). -/

/-- `tr(k)`: the tracer returns its first argument. -/
def X0 : Ext := ⟨fun _ args _ => args.headD .none⟩
def σ0 : St := ⟨fun _ => none, []⟩
def tr (k : Int) : Expr := .call "tr" [.const (.int k)]
def trv (k : Int) (x : Name) : Expr := .call "tr" [.const (.int k), .var x]
def dcall : Expr := .call "d" []

/-- ```
try:
    try: return tr(7)
    finally: raise E1
except E1: tr(2)
tr(5)
return tr(0)
``` -/
def cexRet : Block :=
  [.tryS [.tryS [.ret (some (tr 7))] [] [.raise 1]] [(1, [.expr (tr 2)])] [],
   .expr (tr 5),
   .ret (some (tr 0))]

example : ¬ inS1 cexRet := by decide +kernel

/-- On `cexRet` the original logs `tr 7, tr 2, tr 5, tr 0` and returns 0; the lowered function logs `tr 7, tr 2`
and returns 7. -/
theorem return_lowering_full_false :
    ¬ (∀ (X : Ext) (dr rv : Name), dr ≠ rv → ∀ body : Block, GenNamesFreshR dr rv body →
        ∀ (n : Nat) (σ : St) (o : Out) (σ₁ : St), execB X n body σ = some (o, σ₁) →
        ∃ m σ₁' o', execB X m (lowerReturn dr rv body) σ = some (o', σ₁') ∧ fnResult o' = fnResult o ∧
          Agree (HidR dr rv) σ₁ σ₁') := by
  intro H
  have h1 : (execB X0 30 cexRet σ0).map observe =
      some ⟨.ret (.int 0), [.call "tr" [.int 7], .call "tr" [.int 2], .call "tr" [.int 5], .call "tr" [.int 0]]⟩ := by
    decide +kernel
  have h2 : (execB X0 30 (lowerReturn stdDr stdRv cexRet) σ0).map observe =
      some ⟨.ret (.int 7), [.call "tr" [.int 7], .call "tr" [.int 2]]⟩ := by
    decide +kernel
  cases hr1 : execB X0 30 cexRet σ0 with
  | none => rw [hr1] at h1; cases h1
  | some r1 =>
    obtain ⟨o, σ₁⟩ := r1
    rw [hr1] at h1
    cases hr2 : execB X0 30 (lowerReturn stdDr stdRv cexRet) σ0 with
    | none => rw [hr2] at h2; cases h2
    | some r2 =>
      rw [hr2] at h2
      obtain ⟨m, σ₁', o', hx, _, hag⟩ :=
        H X0 stdDr stdRv (by decide +kernel) cexRet (userNames_freshR cexRet (by decide +kernel)) 30 σ0 o σ₁ hr1
      have e1 := execB_mono X0 hx (Nat.le_max_left m 30)
      have e2 := execB_mono X0 hr2 (Nat.le_max_right m 30)
      rw [e1] at e2
      simp only [Option.map_some, observe, Option.some.injEq, Obs.mk.injEq] at h1 h2
      have hl : σ₁.log = σ₁'.log := hag.1
      have : r2 = (o', σ₁') := by simpa using e2.symm
      subst this
      rw [h1.2] at hl
      rw [← hl] at h2
      exact absurd h2.2 (by decide +kernel)

/-- ```
while d():
    try:
        try: continue
        finally: raise E1
    except E1: tr(2)
    tr(5)
``` with decisions 1, 0: the original logs `d, tr 2, tr 5, d`; after the continue lowering `tr 5` is skipped. -/
def cexCont : Block :=
  [.whileS dcall
    [.tryS [.tryS [.cont] [] [.raise 1]] [(1, [.expr (tr 2)])] [],
     .expr (tr 5)]]

/-- `d()` answers 1 the first time, 0 afterwards. -/
def X1 : Ext := ⟨fun f args log => if f = "d" then (if log.length = 0 then .int 1 else .int 0) else args.headD .none⟩

example : ¬ inS1 cexCont := by decide +kernel

example : (execB X1 30 cexCont σ0).map observe =
    some ⟨.normal, [.call "d" [], .call "tr" [.int 2], .call "tr" [.int 5], .call "d" []]⟩ := by decide +kernel
example : (execB X1 30 (lowerContinue (stdGen 'c') cexCont) σ0).map observe =
    some ⟨.normal, [.call "d" [], .call "tr" [.int 2], .call "d" []]⟩ := by decide +kernel

/-- Same with `break`: the original goes on (`tr 5`, second test); after the break lowering the loop ends. -/
def cexBrk : Block :=
  [.whileS dcall
    [.tryS [.tryS [.brk] [] [.raise 1]] [(1, [.expr (tr 2)])] [],
     .expr (tr 5)]]

example : ¬ inS1 cexBrk := by decide +kernel
example : (execB X1 30 cexBrk σ0).map observe =
    some ⟨.normal, [.call "d" [], .call "tr" [.int 2], .call "tr" [.int 5], .call "d" []]⟩ := by decide +kernel
example : (execB X1 30 (lowerBreak (stdGen 'b') cexBrk) σ0).map observe =
    some ⟨.normal, [.call "d" [], .call "tr" [.int 2], .call "tr" [.int 5]]⟩ := by decide +kernel

/-! The hypotheses are satisfiable. -/

/-- ```
for i in n():
    while d():
        if d(): break
        x = tr(1, x)
    try:
        if d(): break
    finally: tr(2)
return tr(0, x)
``` -/
def exBreak : Block :=
  [.forS "i" (.call "n" []) none
    [.whileS dcall [.ifS dcall [.brk] [], .assign "x" (trv 1 "x")],
     .tryS [.ifS dcall [.brk] []] [] [.expr (tr 2)]],
   .ret (some (trv 0 "x"))]

example : Injective (stdGen 'b') ∧ GenNamesFresh (stdGen 'b') exBreak ∧ inS1 exBreak ∧ noExtraB exBreak = true :=
  ⟨stdGen_injective 'b', userNames_fresh 'b' exBreak (by decide +kernel), by decide +kernel, by decide +kernel⟩

/-- ```
while d():
    try:
        if d(): continue
        tr(1)
    finally: tr(2)
    if d(): continue
    tr(3)
``` -/
def exCont : Block :=
  [.whileS dcall
    [.tryS [.ifS dcall [.cont] [], .expr (tr 1)] [] [.expr (tr 2)],
     .ifS dcall [.cont] [],
     .expr (tr 3)]]

/-- A loop with its own `break` inside a `finally` block is in S1:
```
while d():
    try:
        if d(): continue
    finally:
        while d():
            if d(): break
            tr(1)
    tr(2)
``` -/
def exFin : Block :=
  [.whileS dcall
    [.tryS [.ifS dcall [.cont] []] [] [.whileS dcall [.ifS dcall [.brk] [], .expr (tr 1)]],
     .expr (tr 2)]]

example : inS1 exFin ∧ GenNamesFresh (stdGen 'c') exFin ∧ topContB exFin = false :=
  ⟨by decide +kernel, userNames_fresh 'c' exFin (by decide +kernel), by decide +kernel⟩

example : Injective (stdGen 'c') ∧ GenNamesFresh (stdGen 'c') exCont ∧ inS1 exCont ∧ topContB exCont = false :=
  ⟨stdGen_injective 'c', userNames_fresh 'c' exCont (by decide +kernel), by decide +kernel, by decide +kernel⟩

/-- ```
for i in n():
    while d():
        with cm(4):
            if d(): return tr(1, i)
    tr(2)
try: raise E1
except E1: return tr(3)
tr(5)
``` -/
def exRet : Block :=
  [.forS "i" (.call "n" []) none
    [.whileS dcall [.withS 4 [.ifS dcall [.ret (some (trv 1 "i"))] []]],
     .expr (tr 2)],
   .tryS [.raise 1] [(1, [.ret (some (tr 3))])] [],
   .expr (tr 5)]

example : stdDr ≠ stdRv ∧ GenNamesFreshR stdDr stdRv exRet ∧ inS1 exRet :=
  ⟨by decide +kernel, userNames_freshR exRet (by decide +kernel), by decide +kernel⟩

/-- The rewriting moves `tr(5)` and the final return into the else branch:
```
if d(): return tr(1)
else: tr(2)
tr(5)
return tr(0)
``` -/
def exRw : Block :=
  [.ifS dcall [.ret (some (tr 1))] [.expr (tr 2)], .expr (tr 5), .ret (some (tr 0))]

example : rewriteReturns exRw =
    [.ifS dcall [.ret (some (tr 1))] [.expr (tr 2), .expr (tr 5), .ret (some (tr 0))]] := by rfl

def exRet0 : Block :=
  [.forS "i" (.call "n" []) none
    [.whileS dcall [.ifS dcall [.ret (some (trv 1 "i"))] []],
     .expr (tr 2)],
   .expr (tr 5)]

example : inS0 exRet0 ∧ GenNamesFreshR stdDr stdRv exRet0 := ⟨by decide +kernel, userNames_freshR exRet0 (by decide +kernel)⟩

end Malt.Props.C01Jumps
