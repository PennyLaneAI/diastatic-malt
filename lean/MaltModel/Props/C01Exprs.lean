import MaltModel.Proofs.C01Exprs
import MaltModel.Proofs.C01ExprsStmt
import MaltModel.Proofs.C01ExprsTarget
import MaltModel.Sem.Operators
/-
C01, expression part — the expression wrappers are transparent under the default operators and a non-converting
call policy: `evalW X (wrap eqOn e) σ = evalW X e σ` (same value or exception, effect log and environment).

The hypothesis `chainsOk` (middle operands of comparison chains are call-free) is needed because
`logical_expressions.visit_Compare` re-uses the comparator node as the next left operand: the full statement is
false (`expr_wrappers_counterexample`), C01 finding `chained_comparison_effectful_middle_operand`.
-/
namespace Malt.C01Exprs
open Malt.Sem (Name Val BinOp Exc Event St Ext truthy ofBool evalBin)
open Malt.SemW

/-- Evaluating the tuple expression `(a, b) + tuple(c) + (d,)` built by `_ArgTemplateBuilder` is evaluating
`a, b, *c, d` left to right. -/
theorem call_args_packing_correct (X : Ext) (args : List Expr) (σ : St) :
    evalPack X (packOf args) σ = evalArgs X args σ := packOf_sem X args σ

/-- C01, expression part, over `Malt.SemW` (with comparison chains and starred arguments); `_partial`: `chainsOk`. -/
theorem expr_wrappers_correct_partial (X : Ext) (eqOn : Bool) (e : Expr) (h : chainsOk e = true) (σ : St) :
    evalW X (wrap eqOn e) σ = evalW X e σ := wrap_sem X eqOn e h σ

def cexX : Ext := ⟨fun _ _ _ => .int 1⟩
/-- `0 < f() < 5` -/
def cexE : Expr := .chain (.const (.int 0)) [.lt, .lt] [.call "f" [], .const (.int 5)]
def σ0 : St := ⟨fun _ => none, []⟩

/-- `visit_Compare` duplicates the middle operand: `f` is called twice. -/
theorem expr_wrappers_counterexample :
    ¬ (∀ (X : Ext) (eqOn : Bool) (e : Expr) (σ : St), (evalW X (wrap eqOn e) σ).2.log = (evalW X e σ).2.log) := by
  intro h
  have := h cexX false cexE σ0
  revert this
  decide

example : chainsOk cexE = false := by decide +kernel
example : (evalW cexX cexE σ0).2.log = [.call "f" []] := by decide +kernel
example : (evalW cexX (wrap false cexE) σ0).2.log = [.call "f" [], .call "f" []] := by decide +kernel

/-- `x < y <= g(*l, 2)  and  (h(1) if not x else 0)` -/
def okE : Expr :=
  .and (.chain (.var "x") [.lt, .le] [.var "y", .call "g" [.star (.var "l"), .const (.int 2)]])
       (.ite (.not (.var "x")) (.call "h" [.const (.int 1)]) (.const (.int 0)))
example : chainsOk okE = true := by decide +kernel

/-- Laziness: after a falsy left operand the call on the right is not made, before and after conversion. -/
example : (evalW cexX (wrap false (.and (.const (.int 0)) (.call "f" []))) σ0).2.log = [] := by decide +kernel
example : (evalW cexX (.and (.const (.int 0)) (.call "f" [])) σ0).2.log = [] := by decide +kernel

/-- For ALL expressions of `Malt.Sem` (which has no comparison chains) the converted expression — `ld` around every
read, `and_`/`or_`/`if_exp` with thunks, `not_`, `eq`/`not_eq` when the feature is on, `converted_call` with the
argument tuple — evaluates exactly like the source expression under Python semantics. -/
theorem expr_wrappers_correct (X : Ext) (eqOn : Bool) (e : Malt.Sem.Expr) (σ : St) :
    evalW X (wrap eqOn (ofSem e)) σ = Malt.Sem.evalE X e σ := by
  rw [wrap_sem X eqOn (ofSem e) (chainsOk_ofSem e) σ, ofSem_eval]

/-- Programs: a `Malt.Sem` statement with all its expressions converted (`wrapS`, Sem/WrappersStmt.lean) runs exactly
like the source, with the same fuel. -/
theorem wrap_stmt_correct (X : Ext) (eqOn : Bool) (n : Nat) (s : Malt.Sem.Stmt) (σ : St) :
    execW X n (wrapS eqOn s) σ = Malt.Sem.exec X n s σ :=
  (gexec_map_toG X _ (evalW X) (expr_wrappers_correct X eqOn) n).1 s σ

theorem wrap_block_correct (X : Ext) (eqOn : Bool) (n : Nat) (p : Malt.Sem.Block) (σ : St) :
    execWB X n (wrapB eqOn p) σ = Malt.Sem.execB X n p σ :=
  (gexec_map_toG X _ (evalW X) (expr_wrappers_correct X eqOn) n).2 p σ

theorem wrap_block_observe (X : Ext) (eqOn : Bool) (n : Nat) (p : Malt.Sem.Block) (σ : St) :
    (execWB X n (wrapB eqOn p) σ).map Malt.Sem.observe = (Malt.Sem.execB X n p σ).map Malt.Sem.observe := by
  rw [wrap_block_correct]

/-- The same for programs over `SemW.Expr`, every expression of which must be `chainsOk`. -/
theorem wrap_wblock_correct_partial (X : Ext) (eqOn : Bool) (n : Nat) (p : WBlock) (h : gallB chainsOk p = true) (σ : St) :
    execWB X n (wrapWB eqOn p) σ = execWB X n p σ := by
  unfold execWB wrapWB
  exact (gexec_map_congr_all (wrap eqOn) (evalW X) (evalW X) chainsOk
        (fun e he σ => expr_wrappers_correct_partial X eqOn e he σ) n).2.1 p σ h

/-- `evalTW` reads `Undefined` placeholders as unbound, as `ld` does. -/
theorem evalTW_wrap (X : Ext) (eqOn : Bool) (e : Malt.Sem.Expr) (σ : Malt.Func.TSt) :
    evalTW X (wrap eqOn (ofSem e)) σ = Malt.Func.evalT X e σ := by
  unfold evalTW Malt.Func.evalT
  rw [expr_wrappers_correct]

/-- Functionalised programs (the output of the control-flow pass): converting all expressions leaves the native run
(`_py_if_stmt`/`_py_while_stmt`/`_py_for_stmt` fallbacks, body functions with Python's local scoping) unchanged.
The last link of `C01_pipeline_partial` (Props/C01Compose.lean). -/
theorem wrap_target_correct (X : Ext) (eqOn : Bool) (n : Nat) (p : Malt.Func.TBlock) (σ : Malt.Func.TSt) :
    execNBW X n (wrapTB eqOn p) σ = Malt.Func.execNB X n p σ :=
  (gexecN_map_toGT X _ (evalTW X) .const (evalTW_wrap X eqOn) (fun _ => rfl) n).2 p σ

theorem wrap_target_stmt_correct (X : Ext) (eqOn : Bool) (n : Nat) (s : Malt.Func.TStmt) (σ : Malt.Func.TSt) :
    execNW X n (wrapT eqOn s) σ = Malt.Func.execN X n s σ :=
  (gexecN_map_toGT X _ (evalTW X) .const (evalTW_wrap X eqOn) (fun _ => rfl) n).1 s σ

/-- `x = 0; while x < 2: x = x + f(x)` then `return g(x) if x else 0` -/
def demoProg : Malt.Sem.Block :=
  [.assign "x" (.const (.int 0)),
   .whileS (.bin .lt (.var "x") (.const (.int 2))) [.assign "x" (.bin .add (.var "x") (.call "f" [.var "x"]))],
   .ret (some (.ite (.var "x") (.call "g" [.var "x"]) (.const (.int 0))))]

example : (execWB cexX 40 (wrapB false demoProg) σ0).map Malt.Sem.observe
    = some ⟨.ret (.int 1), [.call "f" [.int 0], .call "f" [.int 1], .call "g" [.int 2]]⟩ := by decide +kernel

/-! Each default operator implementation is the native construct.  The statements are equalities of computations,
so they cover raising and effectful operands.  `Ops.*` (Sem/Operators.lean) transcribes `malt/operators/*.py`. -/
section operators
open Malt.SemW.Ops
variable (X : Ext)

theorem op_and_native (a b : Malt.Sem.Expr) :
    Ops.and_ (Malt.Sem.evalE X a) (Malt.Sem.evalE X b) = Malt.Sem.evalE X (.and a b) := by
  funext σ
  simp only [Ops.and_, Malt.Sem.evalE]
  rfl

theorem op_or_native (a b : Malt.Sem.Expr) :
    Ops.or_ (Malt.Sem.evalE X a) (Malt.Sem.evalE X b) = Malt.Sem.evalE X (.or a b) := by
  funext σ
  simp only [Ops.or_, Malt.Sem.evalE]
  rfl

/-- `ag__.not_(e)`: the operand is evaluated by the caller. -/
theorem op_not_native (e : Malt.Sem.Expr) :
    bind1 (Malt.Sem.evalE X e) (fun v => Ops.pure (Ops.not_ v)) = Malt.Sem.evalE X (.not e) := by
  funext σ
  simp only [bind1, Ops.pure, Ops.not_, Malt.Sem.evalE]
  rfl

/-- `ag__.if_exp(c, lambda: t, lambda: e, repr)`: the condition is a value, the branches are thunks. -/
theorem op_if_exp_native (c t e : Malt.Sem.Expr) :
    bind1 (Malt.Sem.evalE X c) (fun v => Ops.if_exp v (Malt.Sem.evalE X t) (Malt.Sem.evalE X e))
      = Malt.Sem.evalE X (.ite c t e) := by
  funext σ
  simp only [bind1, Ops.if_exp, Malt.Sem.evalE]
  rfl

theorem op_eq_native (a b : Malt.Sem.Expr) :
    bind2 (Malt.Sem.evalE X a) (Malt.Sem.evalE X b) (fun v w => .ok (Ops.eq v w)) = Malt.Sem.evalE X (.bin .eq a b) := by
  funext σ
  simp only [bind2, Ops.eq, Malt.Sem.evalE, evalBin_eq]
  rfl

theorem op_not_eq_native (a b : Malt.Sem.Expr) :
    bind2 (Malt.Sem.evalE X a) (Malt.Sem.evalE X b) (fun v w => .ok (Ops.not_eq v w)) = Malt.Sem.evalE X (.bin .ne a b) := by
  funext σ
  simp only [bind2, Ops.not_eq, Ops.not_, Ops.eq, Malt.Sem.evalE, evalBin_ne]
  rfl

theorem op_ld_native (x : Name) : Ops.ld x = Malt.Sem.evalE X (.var x) := by
  funext σ
  simp only [Ops.ld, Malt.Sem.evalE]
  rfl

/-- `ag__.converted_call(f, (args…), None, scope)` for an unconverted callee. -/
theorem op_converted_call_native (f : Name) (args : List Malt.Sem.Expr) :
    bindL (Malt.Sem.evalArgs X args) (Ops.converted_call X f) = Malt.Sem.evalE X (.call f args) := by
  funext σ
  simp only [bindL, Ops.converted_call, Malt.Sem.evalE]
  rfl

theorem op_and_or_propagate (a : Malt.Sem.Expr) (k : Comp) (σ σ' : St) (ex : Exc)
    (h : Malt.Sem.evalE X a σ = (.error ex, σ')) :
    Ops.and_ (Malt.Sem.evalE X a) k σ = (.error ex, σ') ∧ Ops.or_ (Malt.Sem.evalE X a) k σ = (.error ex, σ') := by
  simp [Ops.and_, Ops.or_, h]

theorem op_and_or_lazy (a : Malt.Sem.Expr) (k : Comp) (σ σ' : St) (v : Val) (h : Malt.Sem.evalE X a σ = (.ok v, σ')) :
    (truthy v = false → Ops.and_ (Malt.Sem.evalE X a) k σ = (.ok v, σ')) ∧
    (truthy v = true → Ops.or_ (Malt.Sem.evalE X a) k σ = (.ok v, σ')) := by
  constructor <;> intro hv <;> simp [Ops.and_, Ops.or_, h, hv]

theorem evalW_is_operator_application (a b c : Expr) (x : Name) :
    evalW X (.and_ a b) = Ops.and_ (evalW X a) (evalW X b) ∧
    evalW X (.or_ a b) = Ops.or_ (evalW X a) (evalW X b) ∧
    evalW X (.not_ a) = bind1 (evalW X a) (fun v => Ops.pure (Ops.not_ v)) ∧
    evalW X (.ifExp c a b) = bind1 (evalW X c) (fun v => Ops.if_exp v (evalW X a) (evalW X b)) ∧
    evalW X (.eq_ a b) = bind2 (evalW X a) (evalW X b) (fun v w => .ok (Ops.eq v w)) ∧
    evalW X (.notEq_ a b) = bind2 (evalW X a) (evalW X b) (fun v w => .ok (Ops.not_eq v w)) ∧
    evalW X (.ld x) = Ops.ld x := by
  refine ⟨?_, ?_, ?_, ?_, ?_, ?_, ?_⟩ <;> funext σ
  · simp only [evalW, Ops.and_]; rfl
  · simp only [evalW, Ops.or_]; rfl
  · simp only [evalW, bind1, Ops.pure, Ops.not_]; rfl
  · simp only [evalW, bind1, Ops.if_exp]; rfl
  · simp only [evalW, bind2, Ops.eq]; rfl
  · simp only [evalW, bind2, Ops.not_eq, Ops.not_, Ops.eq]; rfl
  · simp only [evalW, Ops.ld]; rfl

/-- LISTS, for a list held in a local or parameter (no alias): `l = ag__.list_append(l, x)` computes what
`l.append(x)` leaves in `l`. -/
theorem op_list_append_native (xs : List Int) (x : Int) :
    Ops.list_append (.list xs) (.int x) = evalBin .add (.list xs) (.list [x]) := rfl

theorem op_list_pop_native (xs : List Int) (x : Int) :
    Ops.list_pop (.list (xs ++ [x])) = some (.list xs, .int x) := by
  simp [Ops.list_pop]

theorem op_list_pop_after_append (xs : List Int) (x : Int) :
    (Ops.list_append (.list xs) (.int x)).toOption.bind Ops.list_pop = some (.list xs, .int x) := by
  simp [Ops.list_append, Except.toOption, Ops.list_pop]

end operators

end Malt.C01Exprs
