import MaltModel.Proofs.FuncSim
import MaltModel.Proofs.FuncCheck
import MaltModel.Proofs.FuncWrapper
/-!
# C01 (semantic core): functionalisation preserves semantics under the default operators

Fragment (`AStmt`): assign, expression statement, pass, raise, `if`, `while`, `for` with the optional extra loop
test, `return` at the top level of the body, and `with` / `try`-`except E<tag>`-`finally` as pass-through statements
(`Sem.withS` / `Sem.tryS`).  The target runs under the **native** operators (`execN`: the Python fallbacks and
Python's function-local scoping of the generated bodies).  Reads of an `Undefined` placeholder and of an unbound
variable are the same `nameError`.  What carries the proof: a name assigned in a body and not in `declared` is
frame-local **and dead** (`locals_dead`).
-/
namespace Malt.Func
open Malt.Sem

/-- **C01, control flow.**  For every liveness annotation that is `LiveConsistent`, every `declared`/`undefined`
with the inclusions `_get_block_vars` guarantees (`DeclB`, `DefB`), every oracle and fuel, and initial states that
agree on the variables live at entry: a terminating source run is matched by a native run of the functionalised
program with the same outcome, the same effect log, and final states agreeing on the variables live at exit. -/
theorem control_flow_correct (X : Ext) (p : ABlock) (D O : List Name) (hyp : FuncHyp D p O)
    (σ : St) (σ' : TSt) (hag : Agree (blockIn p O) σ σ') (hb : BoundSub σ D)
    (n : Nat) (o : Out) (σ₁ : St) (h : execB X n (eraseB p) σ = some (o, σ₁)) :
    ∃ m σ₁', execNB X m (funcB p) σ' = some (o, σ₁') ∧ σ₁'.log = σ₁.log ∧ (o = .normal → Agree O σ₁ σ₁') := by
  obtain ⟨σ₁', ⟨m, hx⟩, hout⟩ :=
    (sim_all X n).2.1 p ExcCtx.top D O σ σ' hyp.live hyp.decl hyp.defd hyp.jump hag hb o σ₁ h
  exact ⟨m, σ₁', hx, hout.out⟩

/-- For a plain `Malt.Sem` program and a position-indexed annotation: if the program is in the fragment (`annotB`
succeeds), `func ann p` is defined and simulates `p`. -/
theorem control_flow_correct_sem (X : Ext) (ann : Ann) (p : Block) (q : ABlock) (hq : annotB ann 0 p = some q)
    (D O : List Name) (hyp : FuncHyp D q O)
    (σ : St) (σ' : TSt) (hag : Agree (blockIn q O) σ σ') (hb : BoundSub σ D)
    (n : Nat) (o : Out) (σ₁ : St) (h : execB X n p σ = some (o, σ₁)) :
    ∃ t, func ann p = some t ∧
      ∃ m σ₁', execNB X m t σ' = some (o, σ₁') ∧ σ₁'.log = σ₁.log ∧ (o = .normal → Agree O σ₁ σ₁') := by
  refine ⟨funcB q, by simp [func, hq], ?_⟩
  have he : eraseB q = p := annotB_erase p ann 0 q hq
  exact control_flow_correct X q D O hyp σ σ' hag hb n o σ₁ (by rw [he]; exact h)

/-- Called on the same arguments (`D`: the parameters), the converted body has the same outcome and effect log. -/
theorem control_flow_correct_observe (X : Ext) (p : ABlock) (D : List Name) (hyp : FuncHyp D p [])
    (σ : St) (hb : BoundSub σ D) (n : Nat) (r : Out × St) (h : execB X n (eraseB p) σ = some r) :
    ∃ m r', execNB X m (funcB p) (TSt.ofSt σ) = some r' ∧ (r'.1, r'.2.log) = (r.1, r.2.log) := by
  obtain ⟨o, σ₁⟩ := r
  obtain ⟨m, σ₁', hx, hl, _⟩ := control_flow_correct X p D [] hyp σ (TSt.ofSt σ) (agree_ofSt _ σ) hb n o σ₁ h
  exact ⟨m, (o, σ₁'), hx, by simp [hl]⟩

/-- Inside an exception context `K` (the block is the body of an enclosing `try`): after an exception `e` the states
also agree on what the handler / `finally` of `e` needs (`K.get e`). -/
theorem control_flow_correct_ctx (X : Ext) (K : ExcCtx) (p : ABlock) (D O : List Name)
    (hl : LiveB K p O) (hd : DeclB p) (hf : DefB D p) (hj : retTopB p = true)
    (σ : St) (σ' : TSt) (hag : Agree (blockIn p O) σ σ') (hb : BoundSub σ D)
    (n : Nat) (o : Out) (σ₁ : St) (h : execB X n (eraseB p) σ = some (o, σ₁)) :
    ∃ m σ₁', execNB X m (funcB p) σ' = some (o, σ₁') ∧ σ₁'.log = σ₁.log ∧ (o = .normal → Agree O σ₁ σ₁') ∧
      (∀ e, o = .exc e → Agree (K.get e) σ₁ σ₁') := by
  obtain ⟨σ₁', ⟨m, hx⟩, hout⟩ := (sim_all X n).2.1 p K D O σ σ' hl hd hf hj hag hb o σ₁ h
  exact ⟨m, σ₁', hx, hout.2, fun ho => by subst ho; exact hout, fun e he => by subst he; exact hout⟩

theorem annotB_total_of_noJump (p : Block) (ann : Ann) (h : noJumpB p = true) : ∃ q, annotB ann 0 p = some q :=
  annotB_total p ann 0 h

/-- The harness runs `funcHyp` on the annotations of the real library. -/
theorem funcHyp_checker_sound (D : List Name) (p : ABlock) (O : List Name) (h : funcHyp D p O = true) :
    FuncHyp D p O := funcHyp_sound D p O h

theorem liveConsistent_checker_sound (p : ABlock) (O : List Name) (h : liveConsistent p O = true) :
    LiveConsistent p O := liveConsistent_sound p O h

theorem not_matched (X : Ext) {p : ABlock} {σ : St} {σ' : TSt} {n k : Nat} {o o' : Out}
    (hs : (execB X n (eraseB p) σ).map (·.1) = some o) (ht : (execNB X k (funcB p) σ').map (·.1) = some o')
    (hne : o ≠ o') :
    ¬ ∀ (o : Out) (σ₁ : St), execB X n (eraseB p) σ = some (o, σ₁) → ∃ m σ₁', execNB X m (funcB p) σ' = some (o, σ₁') := by
  intro H
  obtain ⟨⟨o₁, σ₁⟩, hsrc, rfl⟩ := Option.map_eq_some_iff.mp hs
  obtain ⟨⟨o₂, τ⟩, htgt, rfl⟩ := Option.map_eq_some_iff.mp ht
  obtain ⟨m, σ₁', hm⟩ := H o₁ σ₁ hsrc
  exact hne (congrArg Prod.fst (execNB_det X hm htgt))

/-! ## The function wrapper and the return-value protocol

`Func/Wrapper.lean` models what `converters/functions.py` and the return pass generate around a converted body:
```
def f(params):
    with ag__.FunctionScope('f', 'fscope', <options>) as fscope:
        [do_return = False; retval_ = ag__.UndefinedReturnValue()]      # only when the source has a `return`
        <functionalised body>
        [return fscope.ret(retval_, do_return)]
```
`__enter__` pushes the status context iff `user_requested`; `__exit__` pops on every outcome and never swallows an
exception (assumed: `exitSwallows = false`, tied to the real class by the harness obligation
`correspondence:function-scope-protocol`); `fscope.ret` turns the `UndefinedReturnValue` placeholder into `None`.
The source side is the lowered body (`Lowered.prog`, the output shape of the return pass) seen through `fnOutcome`
(`normal ↦ return None`). -/

/-- **The function wrapper is correct**, for both shapes of a lowered body: `plain q` (no `return` in the source)
and `rets …` (`do_return = False; retval_ = None; mid; return retval_`).  `wf`: no `return` inside, nothing inside
reads `retval_`.  The converted function (any name, any `user_requested`) yields the same result (`None` when the
source falls off the end or `retval_` still holds the placeholder), the same effect log, and restores the
conversion-status stack. -/
theorem function_wrapper_correct (X : Ext) (l : Lowered) (hwf : l.wf = true) (name : String) (userRequested : Bool)
    (D : List Name) (hyp : FuncHyp D l.prog [])
    (σ : St) (σ' : TSt) (hag : Agree (blockIn l.prog []) σ σ') (hb : BoundSub σ D) (stk : CtxStack)
    (n : Nat) (o : Out) (σ₁ : St) (h : execB X n (eraseB l.prog) σ = some (o, σ₁)) :
    ∃ m τ, callConverted X m l name userRequested σ' stk = some (fnOutcome o, τ, stk) ∧ τ.log = σ₁.log :=
  wrapper_both X l hwf name userRequested D hyp σ σ' hag hb stk n o σ₁ h

theorem function_wrapper_falls_off_end (X : Ext) (l : Lowered) (hwf : l.wf = true) (name : String) (ur : Bool)
    (D : List Name) (hyp : FuncHyp D l.prog [])
    (σ : St) (σ' : TSt) (hag : Agree (blockIn l.prog []) σ σ') (hb : BoundSub σ D) (stk : CtxStack)
    (n : Nat) (σ₁ : St) (h : execB X n (eraseB l.prog) σ = some (.normal, σ₁)) :
    ∃ m τ, callConverted X m l name ur σ' stk = some (.ret .none, τ, stk) ∧ τ.log = σ₁.log :=
  wrapper_both X l hwf name ur D hyp σ σ' hag hb stk n .normal σ₁ h

theorem function_wrapper_exception_propagates (X : Ext) (l : Lowered) (hwf : l.wf = true) (name : String) (ur : Bool)
    (D : List Name) (hyp : FuncHyp D l.prog [])
    (σ : St) (σ' : TSt) (hag : Agree (blockIn l.prog []) σ σ') (hb : BoundSub σ D) (stk : CtxStack)
    (n : Nat) (e : Exc) (σ₁ : St) (h : execB X n (eraseB l.prog) σ = some (.exc e, σ₁)) :
    ∃ m τ, callConverted X m l name ur σ' stk = some (.exc e, τ, stk) ∧ τ.log = σ₁.log :=
  wrapper_both X l hwf name ur D hyp σ σ' hag hb stk n (.exc e) σ₁ h

/-- Why `exitSwallows = false` is needed: an `__exit__` returning a true value turns every exception into
`return None`. -/
theorem exit_must_not_swallow (e : Exc) : (if true then Out.ret .none else Out.exc e) ≠ fnOutcome (.exc e) := by
  simp [fnOutcome]

/-- **Whole converted function** (wrapper ∘ functionalised body), from a plain `Malt.Sem` lowered body (`SrcLowered`:
the two output shapes of the jump-lowering model's `lowerReturn`) and a position-indexed annotation: the source
function (`callS`) and the converted function return the same result with the same effect log. -/
theorem converted_function_correct (X : Ext) (ann : Ann) (s : SrcLowered) (l : Lowered) (hl : annotL ann s = some l)
    (hwf : l.wf = true) (name : String) (userRequested : Bool) (D : List Name) (hyp : FuncHyp D l.prog [])
    (σ : St) (hb : BoundSub σ D) (stk : CtxStack)
    (n : Nat) (r : Out) (σ₁ : St) (h : callS X n s.prog σ = some (r, σ₁)) :
    ∃ m τ, callConverted X m l name userRequested (TSt.ofSt σ) stk = some (r, τ, stk) ∧ τ.log = σ₁.log := by
  simp only [callS, Option.map_eq_some_iff, Prod.mk.injEq] at h
  obtain ⟨⟨o, σ₁'⟩, hx, rfl, rfl⟩ := h
  have he := annotL_erase ann s l hl
  exact wrapper_both X l hwf name userRequested D hyp σ (TSt.ofSt σ) (agree_ofSt _ σ) hb stk n o σ₁'
    (by rw [he]; exact hx)

/-- The hypothesis `hl` of `converted_function_correct` holds whenever `annotB` accepts the lowered program. -/
theorem annotL_of_annotB (ann : Ann) (s : SrcLowered) (q : ABlock) (hq : annotB ann 0 s.prog = some q) :
    ∃ l, annotL ann s = some l ∧ l.prog = q := by
  cases s with
  | plain p => exact ⟨.plain q, by simp [annotL, SrcLowered.prog] at hq ⊢; simp [hq], rfl⟩
  | rets dr rv r =>
    simp only [SrcLowered.prog, annotB, annotS] at hq
    rw [annotB_append] at hq
    cases hm : annotB ann 2 r with
    | none => simp [hm] at hq
    | some mid =>
      simp only [hm, annotB, annotS, Option.some.injEq] at hq
      exact ⟨.rets dr rv (ann [0]) (ann [1]) (ann [2 + r.length]) mid, by simp [annotL, hm], by
        simp only [Lowered.prog, retShape]; exact hq⟩

theorem boundSub_find (bs : List (Name × Val)) (log : List Event) :
    BoundSub ⟨fun x => (bs.find? (fun b => b.1 == x)).map (·.2), log⟩ (bs.map (·.1)) := by
  intro y hy
  cases hf : bs.find? (fun b => b.1 == y) with
  | none => simp [hf] at hy
  | some b =>
    have : b.1 = y := by simpa using List.find?_some hf
    exact List.mem_map.mpr ⟨b, List.mem_of_find?_eq_some hf, this⟩

/-- **Nested converted functions**, as far as `Malt.Sem` can say it (`_partial`): there is no `def` and no closure, so
a nested call is a call in a fresh frame `argState params args log` that binds the parameters only and continues the
caller's log; capture of enclosing variables is outside the model.  A nested `def` is converted with
`call_options()` (`user_requested = False`) and entered while the enclosing scope is open (`outer.enter stk`): it
hands that stack back unchanged, so the enclosing `__exit__` restores `stk`. -/
theorem nested_function_call_correct_partial (X : Ext) (outer : Wrapper) (l : Lowered) (hwf : l.wf = true)
    (name : String) (params : List Name) (args : List Val) (log : List Event) (hyp : FuncHyp params l.prog [])
    (stk : CtxStack)
    (n : Nat) (o : Out) (σ₁ : St) (h : execB X n (eraseB l.prog) (argState params args log) = some (o, σ₁)) :
    ∃ m τ, callConverted X m l name false (TSt.ofSt (argState params args log)) (outer.enter stk) =
        some (fnOutcome o, τ, outer.enter stk) ∧ τ.log = σ₁.log ∧ outer.exit (outer.enter stk) = stk := by
  have hb : BoundSub (argState params args log) params := fun y hy => by
    obtain ⟨b, hm, rfl⟩ := List.mem_map.mp (boundSub_find (params.zip args) log y hy)
    exact (List.of_mem_zip hm).1
  obtain ⟨m, τ, hc, hlog⟩ := wrapper_both X l hwf name false params hyp _ (TSt.ofSt _) (agree_ofSt _ _) hb
    (outer.enter stk) n o σ₁ h
  exact ⟨m, τ, hc, hlog, Wrapper.exit_enter outer stk⟩

/-! ## The hypotheses are satisfiable -/
namespace Examples

def X0 : Ext := ⟨fun _ _ _ => .none⟩
def st (bs : List (Name × Val)) : St := ⟨fun x => (bs.find? (fun b => b.1 == x)).map (·.2), []⟩

theorem boundSub_st (bs : List (Name × Val)) : BoundSub (st bs) (bs.map (·.1)) :=
  boundSub_find bs []

/-- Carried variables `s`, `i`; the loop-local temporary `t` is not declared:
```
s = 0; i = 0
while i < n:
    t = i * 2          # frame-local in loop_body, dead outside
    s = s + t
    i = i + 1
return s
``` -/
def loopProg : ABlock :=
  [ .assign {liveIn := ["n"], liveOut := ["n", "s"]} "s" (.const (.int 0)),
    .assign {liveIn := ["n", "s"], liveOut := ["n", "s", "i"]} "i" (.const (.int 0)),
    .whileS {liveIn := ["n", "s", "i"], liveOut := ["s"], definedIn := ["n", "s", "i"],
             declared := ["i", "s"], undefined := ["t"]}
      (.bin .lt (.var "i") (.var "n"))
      [ .assign {liveIn := ["n", "s", "i"], liveOut := ["n", "s", "i", "t"]} "t" (.bin .mul (.var "i") (.const (.int 2))),
        .assign {liveIn := ["n", "s", "i", "t"], liveOut := ["n", "s", "i"]} "s" (.bin .add (.var "s") (.var "t")),
        .assign {liveIn := ["n", "s", "i"], liveOut := ["n", "s", "i"]} "i" (.bin .add (.var "i") (.const (.int 1))) ],
    .ret {liveIn := ["s"], liveOut := []} (some (.var "s")) ]

theorem loopProg_hyp : funcHyp ["n"] loopProg [] = true := by decide +kernel
example : funcHyp ["n"] loopProg [] = true := loopProg_hyp
example : (execB X0 12 (eraseB loopProg) (st [("n", .int 3)])).map (·.1) = some (.ret (.int 6)) := by decide +kernel
example : (execNB X0 14 (funcB loopProg) (TSt.ofSt (st [("n", .int 3)]))).map (·.1) = some (.ret (.int 6)) := by decide +kernel
example : localsOf (funcB [ .assign {} "t" (.const (.int 0)), .assign {} "s" (.var "t") ]) ["i", "s"] = ["t"] := by decide +kernel

/-- An undeclared branch-local temporary and a variable possibly undefined before the `if`:
```
if c:
    t = c + 1         # local to if_body
    y = t * 2
# y possibly undefined here: `y = ag__.Undefined('y')` is emitted, y is declared
return y
``` -/
def branchProg : ABlock :=
  [ .ifS {liveIn := ["c", "y"], liveOut := ["y"], definedIn := ["c"], declared := ["y"], undefined := ["t", "y"], nouts := 1}
      (.var "c")
      [ .assign {liveIn := ["c"], liveOut := ["t"]} "t" (.bin .add (.var "c") (.const (.int 1))),
        .assign {liveIn := ["t"], liveOut := ["y"]} "y" (.bin .mul (.var "t") (.const (.int 2))) ]
      [ .pass {liveIn := ["y"], liveOut := ["y"]} ],
    .ret {liveIn := ["y"], liveOut := []} (some (.var "y")) ]

example : funcHyp ["c"] branchProg [] = true := by decide +kernel
example : (execB X0 6 (eraseB branchProg) (st [("c", .int 4)])).map (·.1) = some (.ret (.int 10)) := by decide +kernel
example : (execNB X0 9 (funcB branchProg) (TSt.ofSt (st [("c", .int 4)]))).map (·.1) = some (.ret (.int 10)) := by decide +kernel
/-- `c = 0`: the source reads the unbound `y`, the converted code the `Undefined` placeholder. -/
example : (execB X0 6 (eraseB branchProg) (st [("c", .int 0)])).map (·.1) = some (.exc (.nameError "y")) := by decide +kernel
example : (execNB X0 9 (funcB branchProg) (TSt.ofSt (st [("c", .int 0)]))).map (·.1) = some (.exc (.nameError "y")) := by decide +kernel

/-- The shape `break` lowering produces:
```
acc = 0; brk = 0
for x in xs  [extra test: not brk]:
    if x < 0: brk = 1
    else: acc = acc + x
return acc
``` -/
def forProg : ABlock :=
  [ .assign {liveIn := ["xs"], liveOut := ["xs", "acc"]} "acc" (.const (.int 0)),
    .assign {liveIn := ["xs", "acc"], liveOut := ["xs", "acc", "brk"]} "brk" (.const (.int 0)),
    .forS {liveIn := ["xs", "acc", "brk"], liveOut := ["acc"], definedIn := ["xs", "acc", "brk"],
           declared := ["acc", "brk"], undefined := ["x"]}
      "x" (.var "xs") (some (.not (.var "brk")))
      [ .ifS {liveIn := ["xs", "acc", "brk", "x"], liveOut := ["xs", "acc", "brk"], definedIn := ["xs", "acc", "brk", "x"],
              declared := ["acc", "brk"], undefined := [], nouts := 2}
          (.bin .lt (.var "x") (.const (.int 0)))
          [ .assign {liveIn := ["xs", "acc"], liveOut := ["xs", "acc", "brk"]} "brk" (.const (.int 1)) ]
          [ .assign {liveIn := ["xs", "acc", "brk", "x"], liveOut := ["xs", "acc", "brk"]} "acc" (.bin .add (.var "acc") (.var "x")) ] ],
    .ret {liveIn := ["acc"], liveOut := []} (some (.var "acc")) ]

example : funcHyp ["xs"] forProg [] = true := by decide +kernel
example : (execB X0 12 (eraseB forProg) (st [("xs", .list [1, 2, -1, 5])])).map (·.1) = some (.ret (.int 3)) := by decide +kernel
example : (execNB X0 16 (funcB forProg) (TSt.ofSt (st [("xs", .list [1, 2, -1, 5])]))).map (·.1) = some (.ret (.int 3)) := by decide +kernel

/-- A `raise` inside a generated `if_body` reaches the handler, which reads a variable assigned before the raise (so
that variable is in the conditional's state tuple, not frame-local):
```
r = 0
with cm(7):
    try:
        if c:
            r = c + 1
            raise E1
        r = 5
    except E1:
        if r < 3: r = r * 10
    finally:
        pass
return r
``` -/
def tryProg : ABlock :=
  [ .assign {liveIn := ["c"], liveOut := ["c", "r"]} "r" (.const (.int 0)),
    .withS {liveIn := ["c", "r"], liveOut := ["r"]} 7
      [ .tryS {liveIn := ["c", "r"], liveOut := ["r"]}
          [ .ifS {liveIn := ["c", "r"], liveOut := ["r"], definedIn := ["c", "r"], declared := ["r"], undefined := [], nouts := 1}
              (.var "c")
              [ .assign {liveIn := ["c"], liveOut := ["r"]} "r" (.bin .add (.var "c") (.const (.int 1))),
                .raise {liveIn := ["r"], liveOut := ["r"]} 1 ]
              [ .pass {liveIn := ["r"], liveOut := ["r"]} ],
            .assign {liveIn := [], liveOut := ["r"]} "r" (.const (.int 5)) ]
          [ (1, [ .ifS {liveIn := ["r"], liveOut := ["r"], definedIn := ["c", "r"], declared := ["r"], undefined := [], nouts := 1}
                    (.bin .lt (.var "r") (.const (.int 3)))
                    [ .assign {liveIn := ["r"], liveOut := ["r"]} "r" (.bin .mul (.var "r") (.const (.int 10))) ]
                    [ .pass {liveIn := ["r"], liveOut := ["r"]} ] ]) ]
          [ .pass {liveIn := ["r"], liveOut := ["r"]} ] ],
    .ret {liveIn := ["r"], liveOut := []} (some (.var "r")) ]

example : funcHyp ["c"] tryProg [] = true := by decide +kernel
/-- c = 1: the body raises after `r = 2`, the handler makes it 20; c = 0: no raise, 5. -/
example : (execB X0 10 (eraseB tryProg) (st [("c", .int 1)])).map (fun r => (r.1, r.2.log)) =
    some (.ret (.int 20), [.enter 7, .exit 7]) := by decide +kernel
example : (execNB X0 14 (funcB tryProg) (TSt.ofSt (st [("c", .int 1)]))).map (fun r => (r.1, r.2.log)) =
    some (.ret (.int 20), [.enter 7, .exit 7]) := by decide +kernel
example : (execNB X0 14 (funcB tryProg) (TSt.ofSt (st [("c", .int 0)]))).map (·.1) = some (.ret (.int 5)) := by decide +kernel

example (n : Int) (k : Nat) (r : Out × St) (h : execB X0 k (eraseB loopProg) (st [("n", .int n)]) = some r) :
    ∃ m r', execNB X0 m (funcB loopProg) (TSt.ofSt (st [("n", .int n)])) = some r' ∧ (r'.1, r'.2.log) = (r.1, r.2.log) :=
  control_flow_correct_observe X0 loopProg ["n"] (funcHyp_sound _ _ _ loopProg_hyp) _
    (boundSub_st _) k r h

/-- `def f(a): tr(a)` -/
def fallOff : Lowered := .plain [ .expr {liveIn := ["a"], liveOut := []} (.call "tr" [.var "a"]) ]

example : fallOff.wf = true ∧ funcHyp ["a"] fallOff.prog [] = true := by decide +kernel
example : (callConverted X0 5 fallOff "f" true (TSt.ofSt (st [("a", .int 4)])) []).map (fun r => (r.1, r.2.1.log, r.2.2)) =
    some (.ret .none, [.call "tr" [.int 4]], []) := by decide +kernel

/-- `def f(c): if c: return 7`, lowered:
```
do_return = False; retval_ = None
if c:
    do_return = True; retval_ = 7
return retval_
``` -/
def condRet : Lowered :=
  .rets "do_return" "retval_"
    {liveIn := ["c"], liveOut := ["c", "do_return"]}
    {liveIn := ["c", "do_return"], liveOut := ["c", "do_return", "retval_"]}
    {liveIn := ["do_return", "retval_"], liveOut := []}
    [ .ifS {liveIn := ["c", "do_return", "retval_"], liveOut := ["do_return", "retval_"],
            definedIn := ["c", "do_return", "retval_"], declared := ["do_return", "retval_"], undefined := [], nouts := 2}
        (.var "c")
        [ .assign {liveIn := [], liveOut := ["do_return"]} "do_return" (.const (.int 1)),
          .assign {liveIn := ["do_return"], liveOut := ["do_return", "retval_"]} "retval_" (.const (.int 7)) ]
        [ .pass {liveIn := ["do_return", "retval_"], liveOut := ["do_return", "retval_"]} ] ]

theorem condRet_hyp : condRet.wf = true ∧ funcHyp ["c"] condRet.prog [] = true := by decide +kernel
example : condRet.wf = true ∧ funcHyp ["c"] condRet.prog [] = true := condRet_hyp
example : (execB X0 8 (eraseB condRet.prog) (st [("c", .int 1)])).map (·.1) = some (.ret (.int 7)) := by decide +kernel
example : (callConverted X0 9 condRet "f" true (TSt.ofSt (st [("c", .int 1)])) [.disabled]).map (fun r => (r.1, r.2.2)) =
    some (.ret (.int 7), [.disabled]) := by decide +kernel
/-- c = 0: the source returns `retval_ = None`; the converted code hands the placeholder to `fscope.ret`. -/
example : (execB X0 8 (eraseB condRet.prog) (st [("c", .int 0)])).map (·.1) = some (.ret .none) := by decide +kernel
example : (callConverted X0 9 condRet "f" true (TSt.ofSt (st [("c", .int 0)])) []).map (fun r => (r.1, r.2.1.env "retval_")) =
    some (.ret .none, .undef) := by decide +kernel

/-- `def f(c): with cm(7): (if c: raise E3); return 1` -/
def excThrough : Lowered :=
  .rets "do_return" "retval_"
    {liveIn := ["c"], liveOut := ["c", "do_return"]}
    {liveIn := ["c", "do_return"], liveOut := ["c", "do_return", "retval_"]}
    {liveIn := ["do_return", "retval_"], liveOut := []}
    [ .withS {liveIn := ["c"], liveOut := []} 7
        [ .ifS {liveIn := ["c"], liveOut := [], definedIn := ["c", "do_return", "retval_"], declared := [], undefined := [], nouts := 0}
            (.var "c")
            [ .raise {liveIn := [], liveOut := []} 3 ]
            [ .pass {liveIn := [], liveOut := []} ] ],
      .assign {liveIn := [], liveOut := ["do_return"]} "do_return" (.const (.int 1)),
      .assign {liveIn := ["do_return"], liveOut := ["do_return", "retval_"]} "retval_" (.const (.int 1)) ]

example : excThrough.wf = true ∧ funcHyp ["c"] excThrough.prog [] = true := by decide +kernel
example : (execB X0 9 (eraseB excThrough.prog) (st [("c", .int 1)])).map (fun r => (r.1, r.2.log)) =
    some (.exc (.user 3), [.enter 7, .exit 7]) := by decide +kernel
example : (callConverted X0 10 excThrough "f" true (TSt.ofSt (st [("c", .int 1)])) [.unspecified]).map
      (fun r => (r.1, r.2.1.log, r.2.2)) = some (.exc (.user 3), [.enter 7, .exit 7], [.unspecified]) := by decide +kernel
example : (callConverted X0 10 excThrough "f" true (TSt.ofSt (st [("c", .int 0)])) []).map (·.1) = some (.ret (.int 1)) := by decide +kernel

example (c : Int) (stk : CtxStack) (k : Nat) (o : Out) (σ₁ : St)
    (h : execB X0 k (eraseB condRet.prog) (st [("c", .int c)]) = some (o, σ₁)) :
    ∃ m τ, callConverted X0 m condRet "f" true (TSt.ofSt (st [("c", .int c)])) stk = some (fnOutcome o, τ, stk) ∧
      τ.log = σ₁.log :=
  function_wrapper_correct X0 condRet condRet_hyp.1 "f" true ["c"] (funcHyp_sound _ _ _ condRet_hyp.2) _ _
    (agree_ofSt _ _)
    (boundSub_st _) stk k o σ₁ h

/-- `condRet` is in the image of `annotL`. -/
example : ∃ ann, annotL ann (.rets "do_return" "retval_" (eraseB condRet.inner)) = some condRet :=
  ⟨fun p => match p with
    | [0] => {liveIn := ["c"], liveOut := ["c", "do_return"]}
    | [1] => {liveIn := ["c", "do_return"], liveOut := ["c", "do_return", "retval_"]}
    | [3] => {liveIn := ["do_return", "retval_"], liveOut := []}
    | [2] => {liveIn := ["c", "do_return", "retval_"], liveOut := ["do_return", "retval_"],
              definedIn := ["c", "do_return", "retval_"], declared := ["do_return", "retval_"], undefined := [], nouts := 2}
    | [2, 0, 0] => {liveIn := [], liveOut := ["do_return"]}
    | [2, 0, 1] => {liveIn := ["do_return"], liveOut := ["do_return", "retval_"]}
    | [2, 1, 0] => {liveIn := ["do_return", "retval_"], liveOut := ["do_return", "retval_"]}
    | _ => {}, rfl⟩

end Examples

/-! ## The hypotheses are needed -/
namespace Counter
open Examples

/-- (a) A `for` target live across a zero-trip loop, with the annotations /repo computes (`liveness.py` kills the
target in the loop header also on the exit edge, so `i ∉ liveIn(for) = liveOut(if)`; DESIGN §8):
```
if c: i = 5
else: i = 6
for i in xs: pass
return i
``` -/
def zeroTrip : ABlock :=
  [ .ifS {liveIn := ["c", "xs"], liveOut := ["xs"], definedIn := ["c", "xs"], declared := [], undefined := ["i"], nouts := 0}
      (.var "c")
      [ .assign {liveIn := ["xs"], liveOut := ["xs"]} "i" (.const (.int 5)) ]
      [ .assign {liveIn := ["xs"], liveOut := ["xs"]} "i" (.const (.int 6)) ],
    .forS {liveIn := ["xs"], liveOut := ["i"], definedIn := ["c", "xs", "i"], declared := ["i"], undefined := []}
      "i" (.var "xs") none
      [ .pass {liveIn := ["xs"], liveOut := ["xs"]} ],
    .ret {liveIn := ["i"], liveOut := []} (some (.var "i")) ]

def zeroTripIn : St := st [("c", .int 1), ("xs", .list [])]

/-- `declared`/`undefined` are what `_get_block_vars` makes of that liveness; only `LiveConsistent` fails, at
`liveIn(for) ⊇ liveOut(for)`. -/
theorem zeroTrip_hyp : declB zeroTrip = true ∧ defB ["c", "xs"] zeroTrip = true ∧ retTopB zeroTrip = true ∧
    liveConsistent zeroTrip [] = false := by decide +kernel
example : declB zeroTrip = true ∧ defB ["c", "xs"] zeroTrip = true ∧ retTopB zeroTrip = true ∧
    liveConsistent zeroTrip [] = false := zeroTrip_hyp

theorem zeroTrip_source : (execB X0 6 (eraseB zeroTrip) zeroTripIn).map (·.1) = some (.ret (.int 5)) := by decide +kernel
theorem zeroTrip_target : (execNB X0 8 (funcB zeroTrip) (TSt.ofSt zeroTripIn)).map (·.1) = some (.exc (.nameError "i")) := by
  decide +kernel

theorem live_consistent_needed :
    ¬ (∀ (X : Ext) (p : ABlock) (D O : List Name), DeclB p → DefB D p → retTopB p = true →
        ∀ (σ : St) (σ' : TSt), Agree (blockIn p O) σ σ' → BoundSub σ D →
        ∀ (n : Nat) (o : Out) (σ₁ : St), execB X n (eraseB p) σ = some (o, σ₁) →
        ∃ m σ₁', execNB X m (funcB p) σ' = some (o, σ₁')) :=
  fun H => not_matched X0 zeroTrip_source zeroTrip_target (by decide) fun o σ₁ hsrc =>
    H X0 zeroTrip ["c", "xs"] [] (declB_sound _ zeroTrip_hyp.1) (defB_sound _ _ zeroTrip_hyp.2.1) zeroTrip_hyp.2.2.1
      zeroTripIn (TSt.ofSt zeroTripIn) (agree_ofSt _ _) (boundSub_st _) 6 o σ₁ hsrc

/-- (b) A read the liveness annotation does not see.  Before /repo commit ccf3d44 `liveness.py` computed this for a
closure `g` declaring `nonlocal x` (`x = x + 1; return x`) called after the conditional: `fn_scope.read -
fn_scope.bound` dropped `x`, so `x = 10` was a dead store and `x` was left out of the `nonlocal` list of `if_body`.
Here the closure call is written inline and annotated as not reading `x`: `DeclB`/`DefB` hold, `LiveConsistent`
fails, the results differ (11 / 1).
```
x = 0
if c: x = 10
y = g()            # inline: x = x + 1; y = x      — annotated as not reading x
return y
``` -/
def closureRead : ABlock :=
  [ .assign {liveIn := ["c"], liveOut := ["c"]} "x" (.const (.int 0)),
    .ifS {liveIn := ["c"], liveOut := [], definedIn := ["c", "x"], declared := [], undefined := [], nouts := 0}
      (.var "c")
      [ .assign {liveIn := [], liveOut := []} "x" (.const (.int 10)) ]
      [ .pass {liveIn := [], liveOut := []} ],
    .assign {liveIn := [], liveOut := []} "x" (.bin .add (.var "x") (.const (.int 1))),
    .assign {liveIn := [], liveOut := ["y"]} "y" (.var "x"),
    .ret {liveIn := ["y"], liveOut := []} (some (.var "y")) ]

example : declB closureRead = true ∧ defB ["c"] closureRead = true ∧ retTopB closureRead = true ∧
    liveConsistent closureRead [] = false := by decide +kernel
theorem closureRead_source : (execB X0 7 (eraseB closureRead) (st [("c", .int 1)])).map (·.1) = some (.ret (.int 11)) := by decide +kernel
theorem closureRead_target : (execNB X0 9 (funcB closureRead) (TSt.ofSt (st [("c", .int 1)]))).map (·.1) = some (.ret (.int 1)) := by
  decide +kernel

/-- (c) With a consistent liveness, leaving a live-out variable out of `declared` changes the result:
```
x = 1
if c: x = 2        # declared = []  (should be [x])
return x
``` -/
def missingDecl : ABlock :=
  [ .assign {liveIn := ["c"], liveOut := ["c", "x"]} "x" (.const (.int 1)),
    .ifS {liveIn := ["c", "x"], liveOut := ["x"], definedIn := ["c", "x"], declared := [], undefined := [], nouts := 0}
      (.var "c")
      [ .assign {liveIn := [], liveOut := ["x"]} "x" (.const (.int 2)) ]
      [ .pass {liveIn := ["x"], liveOut := ["x"]} ],
    .ret {liveIn := ["x"], liveOut := []} (some (.var "x")) ]

theorem missingDecl_hyp : liveConsistent missingDecl [] = true ∧ defB ["c"] missingDecl = true ∧ retTopB missingDecl = true ∧
    declB missingDecl = false := by decide +kernel
example : liveConsistent missingDecl [] = true ∧ defB ["c"] missingDecl = true ∧ retTopB missingDecl = true ∧
    declB missingDecl = false := missingDecl_hyp
theorem missingDecl_source : (execB X0 6 (eraseB missingDecl) (st [("c", .int 1)])).map (·.1) = some (.ret (.int 2)) := by decide +kernel
theorem missingDecl_target : (execNB X0 8 (funcB missingDecl) (TSt.ofSt (st [("c", .int 1)]))).map (·.1) = some (.ret (.int 1)) := by
  decide +kernel

theorem declared_needed :
    ¬ (∀ (X : Ext) (p : ABlock) (D O : List Name), LiveConsistent p O → DefB D p → retTopB p = true →
        ∀ (σ : St) (σ' : TSt), Agree (blockIn p O) σ σ' → BoundSub σ D →
        ∀ (n : Nat) (o : Out) (σ₁ : St), execB X n (eraseB p) σ = some (o, σ₁) →
        ∃ m σ₁', execNB X m (funcB p) σ' = some (o, σ₁')) :=
  fun H => not_matched X0 missingDecl_source missingDecl_target (by decide) fun o σ₁ hsrc =>
    H X0 missingDecl ["c"] [] (liveConsistent_sound _ _ missingDecl_hyp.1) (defB_sound _ _ missingDecl_hyp.2.1) missingDecl_hyp.2.2.1
      (st [("c", .int 1)]) (TSt.ofSt (st [("c", .int 1)])) (agree_ofSt _ _) (boundSub_st _) 6 o σ₁ hsrc

/-- (d) A `finally` block reading a variable the `try` body assigns inside a conditional: an implicit exception
before the assignment (the unbound `u` in the test) runs `finally` in a state the liveness annotation does not
describe (the CFG does not wire raise to `finally`).  `LiveConsistent` rejects it (`K.other ⊆ liveIn` fails at the
`if`); the property text exempts such programs. -/
def finallyReads : ABlock :=
  [ .assign {liveIn := [], liveOut := ["u"]} "y" (.const (.int 1)),
    .tryS {liveIn := ["u"], liveOut := []}
      [ .ifS {liveIn := ["u"], liveOut := ["y"], definedIn := ["y"], declared := ["y"], undefined := [], nouts := 1}
          (.var "u")
          [ .assign {liveIn := [], liveOut := ["y"]} "y" (.const (.int 2)) ]
          [ .assign {liveIn := [], liveOut := ["y"]} "y" (.const (.int 3)) ] ]
      []
      [ .expr {liveIn := ["y"], liveOut := []} (.var "y") ] ]

example : liveConsistent finallyReads [] = false := by decide +kernel

end Counter
end Malt.Func
