import MaltModel.Proofs.C18Rejects
import MaltModel.Proofs.C18Sem6
import MaltModel.Proofs.C18Examples
/-
C18 — the A-normal-form transformation (`malt/pyct/common_transformers/anf.py`) yields ANF and preserves evaluation order.
`visitE`/`visitS`/`anf` mirror `AnfTransformer`; a configuration is its list of edge patterns.
-/
namespace Malt.Props.C18
open Malt.Py Malt.Anf Malt.SemAnf Malt.Anf.Ex

/-- **C18_is_anf** — if the transformer accepts `p`, every statement of the result is in A-normal form for the
configuration (`AnfS`): each expression position the transformer inspects (`okChild`) holds a variable (or
`...`) or is not selected by the configuration, recursively; and each generated `tmp_N = …` assigns the copy
of such an expression. -/
theorem C18_is_anf (cfg : Config) (p : Stmt) (q : List Stmt) (h : anf cfg p = .ok q) : AnfSs cfg q := by
  obtain ⟨n', pend', hv⟩ := anf_ok h
  exact ((visitS_inv hv).anf (fun t ht => by simp at ht)).1

/-- Expression level: what a visit leaves in place is `quiet` (the transformer would not touch it again), and
the pending statements are `tmp_(1001+n) = …`, …, `tmp_(1000+n') = …` in order, each assigning a `quiet`
expression. -/
theorem C18_is_anf_expr (cfg : Config) (e : Expr) (n : Nat) (e' : Expr) (D : List Stmt) (n' : Nat)
    (h : visitE cfg e n = .ok (e', D, n')) : quiet cfg e' = true ∧ HoistsOk cfg n D n' :=
  ⟨(visitE_inv h).quiet, (visitE_inv h).hoists⟩

/-- `quiet` = returned as it is, nothing pending; so with `C18_is_anf_expr` the transformation is idempotent. -/
theorem C18_quiet_fixed (cfg : Config) (e : Expr) (n : Nat) :
    quiet cfg e = true ↔ visitE cfg e n = .ok (e, [], n) :=
  ⟨visitE_quiet cfg e n, fun h => (quiet_iff_visit_nil cfg e n).mpr ⟨e, n, h⟩⟩

/-- **C18_temps**, expression level (the names are those of `DummyGensym`). -/
theorem C18_temps_generated (cfg : Config) (e : Expr) (n : Nat) (e' : Expr) (D : List Stmt) (n' : Nat)
    (h : visitE cfg e n = .ok (e', D, n')) : tmpTargetsSs D = temps n n' ∧ (tmpTargetsSs D).Nodup := by
  have ht := (visitE_inv h).hoists.tmpTargets
  exact ⟨ht, ht ▸ temps_nodup n n'⟩

/-- **C18_temps** — if no identifier of `p` has the form `tmp_N` (`N ≥ 1001`), the assignments `tmp_N = …` of the
output are `tmp_1001, tmp_1002, …` in program order without gaps or repetitions (only a prefix: pending
statements left over at the very end are dropped), and distinct from every identifier of `p`. -/
theorem C18_temps (cfg : Config) (p : Stmt) (q : List Stmt) (hn : NoTempNames p) (h : anf cfg p = .ok q) :
    (∃ m, tmpTargetsSs q <+: temps 0 m) ∧ (tmpTargetsSs q).Nodup ∧ ∀ t ∈ tmpTargetsSs q, t ∉ namesS p := by
  obtain ⟨n', pend', hv⟩ := anf_ok h
  have ht := (visitS_inv hv).temps hn
  simp only [tmpTargetsSs, List.nil_append] at ht
  have hpre : tmpTargetsSs q <+: temps 0 n' := ⟨_, ht⟩
  refine ⟨⟨n', hpre⟩, hpre.sublist.nodup (temps_nodup 0 n'), fun t ht' hmem => ?_⟩
  have : t ∈ temps 0 n' := hpre.subset ht'
  simp only [temps, List.mem_map] at this
  obtain ⟨k, -, rfl⟩ := this
  exact ne_tmpName (hn _ hmem) k rfl

/-- **C18_rejects** — the visit succeeds iff `acceptsE`: no comprehension / generator expression, no chained
comparison, no `@` whose operator edge is selected, no node kind outside the model, and every lazy construct
(`and`/`or`, conditional expression, `lambda`, `await`, `yield from`, f-string parts) is `quiet`: nothing would have to be
hoisted out of it. -/
theorem C18_rejects (cfg : Config) (e : Expr) (n : Nat) :
    (∃ r, visitE cfg e n = .ok r) ↔ acceptsE cfg e = true :=
  acceptsE_iff cfg e n

/-- An accepted lazy construct is returned unchanged, so its operands are still evaluated lazily. -/
theorem C18_lazy_untouched (cfg : Config) (i : Nat) (isAnd : Bool) (vs : List Expr) (n : Nat) (r : Expr × List Stmt × Nat)
    (h : visitE cfg (.boolop i isAnd vs) n = .ok r) : r = (.boolop i isAnd vs, [], n) :=
  visitE_lazy rfl h

/-- A `while` test must not be precomputed: the loop is accepted only if its test needs no statement at all. -/
theorem C18_rejects_while (cfg : Config) (i : Nat) (t : Expr) (b e : List Stmt) (n : Nat) (pend : List Stmt)
    (r : List Stmt × Nat × List Stmt) (h : visitS cfg (.while_ i t b e) n pend = .ok r) :
    quiet cfg t = true ∧ okChild cfg "While" "test" t = true :=
  visitS_while_sat i t b e n pend r h

/-- An accepted `assert` has nothing to hoist in test and message. -/
theorem C18_rejects_assert (cfg : Config) (i : Nat) (t : Expr) (m : List Expr) (n : Nat) (pend : List Stmt)
    (r : List Stmt × Nat × List Stmt) (h : visitS cfg (.assert_ i t m) n pend = .ok r) :
    quiet cfg t = true ∧ quiets cfg m = true :=
  let ⟨_, _, ha⟩ := visitS_assert_sat i t m n pend r h
  ⟨ha.1, ha.2.1⟩

/-! Preservation of results, effects and their order. The full statement is FALSE of the library
(`C18_sem_full_is_false`):

    theorem C18_sem : anf cfg p = .ok [q] → observe (runFn O genv q args) = observe (runFn O genv p args)

`observe` = (returned value or raised exception, ordered log of calls / stores / enter-exit events).
The transformer hoists, for a node with operands `c₁ … cₙ`, first everything nested in *all* operands, then
the operands themselves — so an operand is overtaken by what is nested in later operands.  `hazards`
(`Conv.AnfSpec`) classifies the overtakings the semantics can observe; each class is reproduced on the real
code and listed in `known_findings.d/C18.json`. -/

/-- **C18_sem_partial** — for every oracle (behaviour of the called functions, pure interpretation of the
operators): if `p` is a function of the fragment `fragFn cfg p` and no identifier of `p` looks like a temporary,
the transformed function returns / raises the same value and produces the same effect log in the same order.

The fragment (`Conv.AnfSpec`: `fragFn`, `fragS`, `fragE`, `okT`) is, construct by construct, the *negation of the
finding classes*:
* statements: `v = e`, `o.a = e`, `o[i] = e`, `(a, b) = e`, chained targets — the targets need no statement
  (¬ `store_target_evaluated_before_value` / `later_target_operand_hoisted_before_earlier_store`);
  `x op= e` with `e` not rebinding `x`; expression statements; `return`; `raise e`; `assert`; `del`;
  `if`; `for` with a variable as target; `try`/`except`/`else`/`finally`; nested `def`; `global`/`nonlocal`;
  `pass`/`break`/`continue`;
* expressions: variables, constants, calls with positional arguments, attribute / item loads, unary / binary
  operators, single comparisons, tuple / list / set displays, `:=` (not below a node carrying an expression
  context: ¬ `walrus_target_context_clobbered_by_hoisted_copy`);
* for every node and every operand `c` (`okT`): the later operands create no statement and are hoisted only if
  `c` is — or what is left of `c` in place is pure (variables, constants, loads, operators, displays: no call, no
  `:=`) and the later operands do not rebind a variable it mentions
  (¬ `operand_effect_reordered_after_later_operand`, ¬ `name_read_reordered_after_rebinding_operand`).

Not covered (modelled and tested against CPython and the real transformer, not proved), among others: keyword / `*` / `**`
arguments, dict displays, slices, `with`, `while`, classes, augmented assignment to attributes / items, `raise … from`,
an effectful operand overtaken by a *pure* later operand (the classifier tolerates it, `okT` does not), lazy
constructs (only accepted when untouched, `C18_lazy_untouched`). -/
theorem C18_sem_partial (O : Oracle) (cfg : Config) (p q : Stmt) (genv : Env) (args : List Val)
    (hfrag : fragFn cfg p = true) (hnt : NoTempNames p) (h : anf cfg p = .ok [q]) :
    observe (runFn O genv q args) = observe (runFn O genv p args) := by
  cases p with
  | functionDef i nm as b ds rs isAsync =>
    simp only [fragFn, Bool.and_eq_true] at hfrag
    obtain ⟨⟨⟨hq, hqd⟩, hqr⟩, hfb⟩ := hfrag
    obtain ⟨n', pend', hv⟩ := anf_ok h
    obtain ⟨b1, ⟨-, hsb⟩, e⟩ :=
      Sat.functionDef hq hqd hqr (simSs O cfg b hfb (fun y hy => hnt y (by simp [namesS, hy])) 0) _ hv
    obtain rfl := List.head_eq_of_cons_eq e
    simp only [runFn, observe]
    generalize (⟨bindParams (paramNames _) args genv, []⟩ : St) = σ0
    obtain ⟨o, σ1, σ1', hx, hy, hag⟩ := Sim2.cases hsb (Agree.refl σ0)
    simp only [hx, hy]
    cases o <;> simp [hag.1]
  | _ => simp [fragFn] at hfrag

/-- Expression level: running the pending statements and then evaluating what is left in place gives the same
value or exception, the same effect log and the same values of all non-temporaries (`SimE`). -/
theorem C18_sem_expr (O : Oracle) (cfg : Config) (e : Expr) (hf : fragE e = true) (hok : okT cfg e = true)
    (hnt : ∀ y ∈ namesE e, isTempName y = false) (n : Nat) (e' : Expr) (D : List Stmt) (n' : Nat)
    (h : visitE cfg e n = .ok (e', D, n')) : SimE O e e' D :=
  simE O cfg e hf hok hnt n e' D n' h

/-- `hlen`: the transformer accepts `p` and returns one function. -/
theorem sigAnf_frag {cfg : Config} {p : Stmt} {k : Nat} (hf : fragFn cfg p = true)
    (hn : (namesS p).all (fun x => !isTempName x) = true)
    (hlen : (match anf cfg p with | .ok [.functionDef _ _ _ b _ _ _] => b.length | _ => 0) = k + 1) (a b : Int) :
    sigAnf cfg p a b = sig (run p a b) := by
  unfold sigAnf runAnf
  split at hlen
  · next hq =>
    rw [hq]
    show sig (run _ a b) = _
    unfold run
    rw [C18_sem_partial stdOracle cfg p _ stdGlobals _ hf (fun x hx => by simpa using List.all_eq_true.mp hn x hx) hq]
  · cases hlen

/-! The hypotheses are satisfiable. `pGood`: `x = tr(1, a + b*2); for v in (tr(2), x): if v < tr(3, v): x = tr(4, x, v)`; `return tr(5, x)`. -/
theorem pGood_frag : fragFn defaultConfig pGood = true := by decide +kernel
theorem pGood_names : (namesS pGood).all (fun x => !isTempName x) = true := by decide +kernel
/-- 5 pending assignments are flushed at the top level alone. -/
theorem pGood_len : (match anf defaultConfig pGood with
    | .ok [.functionDef _ _ _ b _ _ _] => b.length | _ => 0) = 3 + 5 := by
  decide +kernel

example : fragFn defaultConfig pGood = true := pGood_frag
example : (namesS pGood).all (fun x => !isTempName x) = true := pGood_names
example : hazS defaultConfig pGood = [] := by decide +kernel
example : (match anf defaultConfig pGood with
    | .ok [.functionDef _ _ _ b _ _ _] => b.length | _ => 0) = 3 + 5 := pGood_len
example : sigAnf defaultConfig pGood 2 5 = sig (run pGood 2 5) := sigAnf_frag pGood_frag pGood_names pGood_len 2 5

/-! `pGood2`: `global`, nested `def`, a pure operand `O.yy` overtaken by the nested call of a later operand,
attribute / item / unpacking stores, `+=`, `assert`, `del`, `raise`; one returning and one raising input. -/
theorem pGood2_frag : fragFn defaultConfig pGood2 = true := by decide +kernel
theorem pGood2_names : (namesS pGood2).all (fun x => !isTempName x) = true := by decide +kernel
theorem pGood2_len : (match anf defaultConfig pGood2 with
    | .ok [.functionDef _ _ _ b _ _ _] => b.length | _ => 0) = 18 := by decide +kernel

example : fragFn defaultConfig pGood2 = true := pGood2_frag
example : (namesS pGood2).all (fun x => !isTempName x) = true := pGood2_names
example : hazS defaultConfig pGood2 = [] := by decide +kernel
example : (match anf defaultConfig pGood2 with
    | .ok [.functionDef _ _ _ b _ _ _] => b.length | _ => 0) = 18 := pGood2_len
example : sigAnf defaultConfig pGood2 0 1 = sig (run pGood2 0 1)
    ∧ sig (run pGood2 0 1) = [3, 2, 1, 4, -2, -3, 5, 6, -2, 7, 12] :=
  ⟨sigAnf_frag pGood2_frag pGood2_names pGood2_len 0 1, by decide +kernel⟩
example : sigAnf defaultConfig pGood2 2 5 = sig (run pGood2 2 5)
    ∧ sig (run pGood2 2 5) = [3, 2, 1, 4, -2, -3, 5, 6, -2, 7, 8, -99] :=
  ⟨sigAnf_frag pGood2_frag pGood2_names pGood2_len 2 5, by decide +kernel⟩

/-! Counterexamples to the full statement, for five of the eleven defect classes reproduced on the library.
`sig` = tags of the `tr(k, …)` calls in order (stores / deletes as `-arity`), then the returned integer
(`-99` = raised); inputs `a = 0, b = 1`. -/

theorem pWalrus_sig : sig (run pWalrus 0 1) = [5] ∧ sigAnf defaultConfig pWalrus 0 1 = [10]
    ∧ hazS defaultConfig pWalrus = [H_READ] := by decide +kernel

/-- `x = a; return x + (x := 5)` — class `name_read_reordered_after_rebinding_operand`: 5 before, 10 after. -/
example : sig (run pWalrus 0 1) = [5] ∧ sigAnf defaultConfig pWalrus 0 1 = [10]
    ∧ hazS defaultConfig pWalrus = [H_READ] := pWalrus_sig

/-- `O[tr(1)] = tr(2)` — class `store_target_evaluated_before_value`: calls 2,1 before and 1,2 after. -/
example : sig (run pStore 0 1) = [2, 1, -3, 0] ∧ sigAnf defaultConfig pStore 0 1 = [1, 2, -3, 0]
    ∧ hazS defaultConfig pStore = [H_STORE] := by decide +kernel

/-- `tr(1, tr(2), tr(3, tr(4)))` — class `operand_effect_reordered_after_later_operand`. -/
example : sig (run pSibling 0 1) = [2, 4, 3, 1, 10] ∧ sigAnf defaultConfig pSibling 0 1 = [4, 2, 3, 1, 10]
    ∧ hazS defaultConfig pSibling = [H_OPERAND] := by decide +kernel

/-- `{tr(2): tr(3), tr(4): tr(5)}` — class `dict_value_reordered_after_later_key`. -/
example : sig (run pDict 0 1) = [2, 3, 4, 5, 1, 6] ∧ sigAnf defaultConfig pDict 0 1 = [2, 4, 3, 5, 1, 6]
    ∧ hazS defaultConfig pDict = [H_DICT] := by decide +kernel

/-- `tmp_1001 = a + 7; return tr(1, tr(2, b), tmp_1001)` — class `user_name_has_temporary_form`: the user's
variable is overwritten by the first temporary (so `C18_sem_partial` and `C18_temps` need `NoTempNames`). -/
example : sig (run pTempName 0 1) = [2, 1, 6] ∧ sigAnf defaultConfig pTempName 0 1 = [2, 1, 1]
    ∧ hazS defaultConfig pTempName = [] ∧ "tmp_1001" ∈ namesS pTempName ∧ isTempName "tmp_1001" = true := by
  refine ⟨by decide +kernel, by decide +kernel, by decide +kernel, by decide +kernel, ?_⟩
  have h : tmpName 0 = "tmp_1001" := by decide +kernel
  rw [← h]; exact isTempName_tmpName 0

theorem C18_sem_full_is_false :
    ¬ ∀ (p q : Stmt) (args : List Val), anf defaultConfig p = .ok [q] →
        observe (runFn stdOracle stdGlobals q args) = observe (runFn stdOracle stdGlobals p args) := by
  intro hall
  have h2 := pWalrus_sig.2.1
  have h3 := pWalrus_sig.1
  unfold sigAnf runAnf at h2
  split at h2
  · next o ho =>
    split at ho
    · next q hq =>
      simp only [Option.some.injEq] at ho
      subst ho
      simp only [run] at h2 h3
      rw [hall pWalrus q _ hq, h3] at h2
      exact absurd h2 (by decide)
    · exact absurd ho (by simp)
  · exact absurd h2 (by decide)

end Malt.Props.C18
