import MaltModel.Cfg.AstToCfg
import MaltModel.Cfg.Check
import MaltModel.Proofs.C05Check
import MaltModel.Proofs.C05Paths3C
import MaltModel.Proofs.C05Wf
import MaltModel.Proofs.C05Owners
import MaltModel.Proofs.C05NoFinally
/-!
# C05 — the control-flow graph contains every control path that can execute

`Cfg/Builder.lean` mirrors `GraphBuilder`, `Cfg/AstToCfg.lean` mirrors `AstToCfg`; `walkFn` (`Py/Trace.lean`) is the
control-skeleton semantics: an oracle decides every test, loop continuation and handler choice.
-/
namespace Malt.Cfg
open Malt.Py

/-- Both are read off the one edge list: `_connect_nodes` is the only writer of `next`, `prev` and `forward_edges`.  That the
REAL `Node` objects mirror each other is checked by the harness on every graph. -/
def Graph.succ (g : Graph) (a : NodeId) : List NodeId := (g.edges.filter (fun e => e.1 == a)).map (·.2)
def Graph.pred (g : Graph) (b : NodeId) : List NodeId := (g.edges.filter (fun e => e.2 == b)).map (·.1)

theorem C05_mirror (g : Graph) (a b : NodeId) : b ∈ g.succ a ↔ a ∈ g.pred b := by
  simp [Graph.succ, Graph.pred, List.mem_map, List.mem_filter]

/-- The checker run on the implementation's real graphs.  The roots are the entry and the starts of dead-code regions (nodes
created while the leaf set was empty). -/
theorem C05_wellformed_checker (g : Graph) (h : wellFormed g = true) : WellFormed g :=
  wellFormed_sound g h

/-- C05 on the implementation's real graph, for every program: a graph accepted by `pathCheck fn g` contains every walk of
`fn` as a path (starts at the entry, consecutive executed nodes are edges, a completed walk ends in an exit or error node). -/
theorem C05_paths_checker (i : Nat) (name : String) (args : Expr) (body : List Stmt) (decs rets : List Expr)
    (isAsync : Bool) (g : Graph)
    (h : pathCheck (.functionDef i name args body decs rets isAsync) g = true) (fuel : Nat) (ω : Oracle) :
    IsPath g (walkFn fuel (.functionDef i name args body decs rets isAsync) ω) :=
  pathCheck_sound i name args body decs rets isAsync g h fuel ω

/-- No statement kind of the modelled language silently falls back to `generic_visit`: `modelVisitors` is compared on every
run with the `visit_*` methods the real `AstToCfg` class has. -/
theorem C05_visitors_cover_statements (s : Stmt) (inLoop : Bool) (h : s.supported inLoop = true) :
    stmtKindName s ∈ modelVisitors ∨ (∃ i ty nm b, s = .handler i ty nm b) := by
  -- `modelVisitors` lists the kinds in the order of the constructors of `Stmt`
  suffices hk : modelVisitors[s.ctorIdx]? = some (stmtKindName s) from Or.inl (List.mem_of_getElem? hk)
  cases s with
  | functionDef _ _ _ _ _ _ isAsync => cases isAsync; rfl; cases h
  | for_ _ _ _ _ _ _ isAsync => cases isAsync; rfl; cases h
  | with_ _ _ _ isAsync => cases isAsync; rfl; cases h
  | other => cases h
  | _ => rfl

/-- For ANY `Stmt` tree (async constructs, duplicate ids, … included): if the builder does not raise, every graph it returns
— the root's and those of nested functions and lambdas — is well-formed. -/
theorem C05_wellformed (fn : Stmt) (herr : (build fn).err = none) (id : Nat) (g : Graph)
    (hg : (id, g) ∈ (build fn).cfgs) : WellFormed g :=
  build_wellFormed fn herr (id, g) hg

private theorem mem_stmtNextOf (ow : List (NodeId × List Nat)) (edges : List (NodeId × NodeId)) (s : Nat) (n : NodeId) :
    n ∈ stmtNextOf ow edges s ↔ ∃ a, (a, n) ∈ edges ∧ s ∈ ownersOf ow a ∧ s ∉ ownersOf ow n := by
  simp only [stmtNextOf, List.mem_map, List.mem_filter, Bool.and_eq_true, List.contains_eq_mem, decide_eq_true_eq,
    Bool.not_eq_true', decide_eq_false_iff_not]
  constructor
  · rintro ⟨⟨a, c⟩, ⟨he, h1, h2⟩, rfl⟩; exact ⟨a, he, h1, h2⟩
  · rintro ⟨a, he, h1, h2⟩; exact ⟨(a, n), ⟨he, h1, h2⟩, rfl⟩

private theorem mem_stmtPrevOf (ow : List (NodeId × List Nat)) (edges : List (NodeId × NodeId)) (s : Nat) (n : NodeId) :
    n ∈ stmtPrevOf ow edges s ↔ ∃ c, (n, c) ∈ edges ∧ s ∈ ownersOf ow c ∧ s ∉ ownersOf ow n := by
  simp only [stmtPrevOf, List.mem_map, List.mem_filter, Bool.and_eq_true, List.contains_eq_mem, decide_eq_true_eq,
    Bool.not_eq_true', decide_eq_false_iff_not]
  constructor
  · rintro ⟨⟨a, c⟩, ⟨he, h1, h2⟩, rfl⟩; exact ⟨c, he, h1, h2⟩
  · rintro ⟨c, he, h1, h2⟩; exact ⟨(n, c), ⟨he, h1, h2⟩, rfl⟩

/-- `stmt_next[s]` is exactly the set of targets of edges that leave the extent of `s` (source owned by `s`, target not);
`stmt_prev[s]` dually. -/
theorem C05_stmt_edges (b : B) (s : Nat) (l : List NodeId) :
    ((s, l) ∈ b.build.stmtNext → ∀ n, n ∈ l ↔ ∃ a, (a, n) ∈ b.build.edges ∧ s ∈ ownersOf b.build.owners a ∧ s ∉ ownersOf b.build.owners n) ∧
    ((s, l) ∈ b.build.stmtPrev → ∀ n, n ∈ l ↔ ∃ c, (n, c) ∈ b.build.edges ∧ s ∈ ownersOf b.build.owners c ∧ s ∉ ownersOf b.build.owners n) := by
  constructor
  · intro h n
    simp only [B.build, List.mem_map] at h
    obtain ⟨k, _, hk⟩ := h
    cases hk
    exact mem_stmtNextOf _ _ _ _
  · intro h n
    simp only [B.build, List.mem_map] at h
    obtain ⟨k, _, hk⟩ := h
    cases hk
    exact mem_stmtPrevOf _ _ _ _

private theorem rootGraph_eq {fn : Stmt} {g : Graph} (hg : rootGraph fn = some g) : g = (rootBuilder fn).1.build := by
  simp only [rootGraph] at hg
  split at hg
  · cases hg
  · exact (Option.some.inj hg).symm

/-- The builder's `owners` (what `stmt_prev`/`stmt_next` are computed from) is lexical containment: `fnOwnSpec fn` pairs each
node, in creation order, with the if/while/for/try/except statements enclosing it in the AST.  With `C05_stmt_edges`:
`stmt_next[s]` = targets of edges leaving the lexical extent of `s`. -/
theorem C05_owners_lexical (i : Nat) (name : String) (args : Expr) (body : List Stmt) (decs rets : List Expr) (g : Graph)
    (hs : fnSupported (.functionDef i name args body decs rets false) = true)
    (hd : fnDistinctOwnerIds (.functionDef i name args body decs rets false) = true)
    (hg : rootGraph (.functionDef i name args body decs rets false) = some g) :
    g.owners = fnOwnSpec (.functionDef i name args body decs rets false) := by
  cases rootGraph_eq hg
  exact owners_root i name args body decs rets hs hd

/-! ## Every walk is a path of the model's graph

The hypotheses of `C05_paths` are decidable and evaluated by the driver for every program of every run:

* `fnSupported`: no `async def/for/with`, no `except … as name`, no statement outside the modelled syntax, `break`/`continue`
  only inside a loop of the same function.
* `fnParsedShape`: what holds of every parsed Python program — no extra loop test on a `for`, every `with` has an item, every
  `try` body and `finally` block starts with a node-creating statement.
* `fnNoJumpInHandlerOfTryWithFinally`: no handler of a `try` with a `finally` block contains a `return`, or a
  `break`/`continue` whose loop is outside the handler — the class of the known finding (end of this file); the statement is
  FALSE of the library without it.  The three together give `fnFrag3` (`fnFrag3_of`).
* `fnDistinctKeys3`: the dictionaries of `GraphBuilder` are keyed by AST node objects and the node index by CFG nodes; the
  model keys them by the serialiser's preorder ids, which must be pairwise distinct within one family (section keys,
  conditional-section keys, CFG nodes).  They are for every serialised program, being ids of distinct AST nodes.
* `rootGraph fn = some g`: the model's `cfg.build` does not raise.

`C05_paths_checker` on the implementation's real graph (equal to the model's) covers every program, inside or outside these
hypotheses. -/

theorem C05_paths_partial (i : Nat) (name : String) (args : Expr) (body : List Stmt) (decs rets : List Expr) (g : Graph)
    (hfrag : fnFrag3 (.functionDef i name args body decs rets false) = true)
    (hkeys : fnDistinctKeys3 (.functionDef i name args body decs rets false) = true)
    (hg : rootGraph (.functionDef i name args body decs rets false) = some g) (fuel : Nat) (ω : Oracle) :
    IsPath g (walkFn fuel (.functionDef i name args body decs rets false) ω) := by
  cases rootGraph_eq hg
  exact pathCheck_sound i name args body decs rets false _ (pathCheck_build3 i name args body decs rets hfrag hkeys) fuel ω

/-- C05: every walk (all fuels, all oracles) of a function of the modelled language, outside the class of the known finding,
is a path of the model's graph. -/
theorem C05_paths (i : Nat) (name : String) (args : Expr) (body : List Stmt) (decs rets : List Expr) (g : Graph)
    (hsup : fnSupported (.functionDef i name args body decs rets false) = true)
    (hshape : fnParsedShape (.functionDef i name args body decs rets false) = true)
    (hkeys : fnDistinctKeys3 (.functionDef i name args body decs rets false) = true)
    (hclass : fnNoJumpInHandlerOfTryWithFinally (.functionDef i name args body decs rets false) = true)
    (hg : rootGraph (.functionDef i name args body decs rets false) = some g) (fuel : Nat) (ω : Oracle) :
    IsPath g (walkFn fuel (.functionDef i name args body decs rets false) ω) :=
  C05_paths_partial i name args body decs rets g (fnFrag3_of i name args body decs rets false hsup hshape hclass) hkeys hg fuel ω

/-- `def f(a): while a: (if a: break; else: continue); x = a   else: return a` then `y = lambda: a` — nested jumps,
loop-else, dead code, a lambda. -/
def exFn : Stmt :=
  .functionDef 1 "f" (.arguments 2 [] [.arg 3 "a" []] [] [] [] [] [])
    [.while_ 4 (.name 5 "a" .load)
      [.if_ 6 (.name 7 "a" .load) [.break_ 8] [.continue_ 9],
       .assign 10 [.name 11 "x" .store] (.name 12 "a" .load)]
      [.ret 13 [.name 14 "a" .load]],
     .assign 15 [.name 16 "y" .store] (.lambda 17 (.arguments 18 [] [] [] [] [] [] []) (.name 19 "a" .load))]
    [] [] false

example : fnFrag3 exFn = true ∧ fnDistinctKeys3 exFn = true ∧ (rootGraph exFn).isSome = true := by decide +kernel
example : (build exFn).err = none ∧ (build exFn).cfgs.length = 2 := by decide +kernel
example : walkFn 20 exFn [1, 0, 1, 1] = ([2, 5, 7, 9, 5, 7, 8, 17, 15], .normal, []) := by decide +kernel

/-- `def f(a): for x in a: try: (if a: raise E); continue  except E0: break  except E1: y = a  else: return a` -/
def exFn2 : Stmt :=
  .functionDef 1 "f" (.arguments 2 [] [.arg 3 "a" []] [] [] [] [] [])
    [.for_ 4 (.name 5 "x" .store) (.name 6 "a" .load)
      [.try_ 7
        [.if_ 8 (.name 9 "a" .load) [.raise 10 [.name 11 "E" .load] []] [], .continue_ 12]
        [.handler 13 [.name 14 "E0" .load] [] [.break_ 15],
         .handler 16 [.name 17 "E1" .load] [] [.assign 18 [.name 19 "y" .store] (.name 20 "a" .load)]]
        [.ret 21 [.name 22 "a" .load]]
        []]
      [] [] false]
    [] [] false

example : fnFrag3 exFn2 = true ∧ fnDistinctKeys3 exFn2 = true ∧ (rootGraph exFn2).isSome = true := by decide +kernel
/-- `C05_owners_lexical` applies to it: the `break` (#15) lies in the for (#4), the try (#7) and the first handler (#13). -/
example : fnSupported exFn2 = true ∧ fnDistinctOwnerIds exFn2 = true ∧ (fnOwnSpec exFn2).lookup 15 = some [4, 7, 13] := by decide +kernel
/-- first iteration: the raise is caught by the second handler, falls through; second iteration: caught by the first, `break` -/
example : walkFn 30 exFn2 [1, 1, 1, 1, 1, 0] = ([2, 6, 9, 10, 18, 6, 9, 10, 15], .normal, []) := by decide +kernel

/-- A loop with `continue` inside try/finally inside try/finally, a `break` that passes one `finally` block and a `return`
that passes two, with a handler and an `else` block:

    def f(a):
        while a:
            try:
                try:
                    if a: continue
                    if a: break
                    if a: return a
                    x = a
                except E: w = a
                else: v = a
                finally: y = a
            finally: z = a
        return a
-/
def exFn3 : Stmt :=
  .functionDef 1 "f" (.arguments 2 [] [.arg 3 "a" []] [] [] [] [] [])
    [.while_ 4 (.name 5 "a" .load)
      [.try_ 6
        [.try_ 7
          [.if_ 8 (.name 9 "a" .load) [.continue_ 10] [],
           .if_ 11 (.name 12 "a" .load) [.break_ 13] [],
           .if_ 14 (.name 15 "a" .load) [.ret 16 [.name 17 "a" .load]] [],
           .assign 18 [.name 19 "x" .store] (.name 20 "a" .load)]
          [.handler 21 [.name 22 "E" .load] [] [.assign 23 [.name 24 "w" .store] (.name 25 "a" .load)]]
          [.assign 26 [.name 27 "v" .store] (.name 28 "a" .load)]
          [.assign 29 [.name 30 "y" .store] (.name 31 "a" .load)]]
        [] []
        [.assign 32 [.name 33 "z" .store] (.name 34 "a" .load)]]
      [],
     .ret 35 [.name 36 "a" .load]]
    [] [] false

/-- `C05_paths` is not vacuous on nested `finally`. -/
example : fnSupported exFn3 = true ∧ fnParsedShape exFn3 = true ∧ fnNoJumpInHandlerOfTryWithFinally exFn3 = true ∧
    fnFrag3 exFn3 = true := by decide +kernel
set_option maxRecDepth 8000 in
example : fnDistinctKeys3 exFn3 = true := by decide +kernel
set_option maxRecDepth 8000 in
example : (rootGraph exFn3).isSome = true := by decide +kernel
/-- `continue` through both `finally` blocks back to the loop test, then the loop ends -/
example : walkFn 40 exFn3 [1, 1, 0] = ([2, 5, 9, 10, 29, 32, 5, 35], .ret, []) := by decide +kernel
example : walkFn 40 exFn3 [1, 0, 1] = ([2, 5, 9, 12, 13, 29, 32, 35], .ret, []) := by decide +kernel
example : walkFn 40 exFn3 [1, 0, 0, 1] = ([2, 5, 9, 12, 15, 16, 29, 32], .ret, []) := by decide +kernel

/-- A `try` whose `else` block starts with an `if` (the block's conditional section is keyed by the `Try` node; keyed by `orelse[0]`,
`visit_If` would enter it a second time):
`def f(a): try: x = a  except E: y = a  else: (if a: return a); z = a  finally: w = a`. -/
def exFn4 : Stmt :=
  .functionDef 1 "f" (.arguments 2 [] [.arg 3 "a" []] [] [] [] [] [])
    [.try_ 4
      [.assign 5 [.name 6 "x" .store] (.name 7 "a" .load)]
      [.handler 8 [.name 9 "E" .load] [] [.assign 10 [.name 11 "y" .store] (.name 12 "a" .load)]]
      [.if_ 13 (.name 14 "a" .load) [.ret 15 [.name 16 "a" .load]] [],
       .assign 17 [.name 18 "z" .store] (.name 19 "a" .load)]
      [.assign 20 [.name 21 "w" .store] (.name 22 "a" .load)]]
    [] [] false

example : fnSupported exFn4 = true ∧ fnParsedShape exFn4 = true ∧ fnNoJumpInHandlerOfTryWithFinally exFn4 = true ∧
    fnFrag3 exFn4 = true := by decide +kernel
set_option maxRecDepth 8000 in
example : fnDistinctKeys3 exFn4 = true ∧ (rootGraph exFn4).isSome = true := by decide +kernel
/-- the else block runs after the body, its `return` passes the `finally` block -/
example : walkFn 20 exFn4 [1] = ([2, 5, 14, 15, 20], .ret, []) := by decide +kernel

/-! ## The known violation

`visit_Try` leaves the try's lexical scope before it visits the handlers, so a `return`/`break`/`continue` in a handler of
a try that has a `finally` block is not routed through the `finally` body.  The counterexample is the program of
`known_findings.d/C05.json` (ids as assigned by the serialiser). -/

/-- `def f(a): try: raise E  except E0: return a  finally: x = a` -/
def cexFn : Stmt :=
  .functionDef 1 "f" (.arguments 2 [] [.arg 3 "a" []] [] [] [] [] [])
    [.try_ 4
      [.raise 5 [.name 6 "E" .load] []]
      [.handler 7 [.name 8 "E0" .load] [] [.ret 9 [.name 10 "a" .load]]]
      []
      [.assign 11 [.name 12 "x" .store] (.name 13 "a" .load)]]
    [] [] false

example : fnSupported cexFn = true ∧ fnNoJumpInHandlerOfTryWithFinally cexFn = false := by decide +kernel
/-- Only the class predicate fails. -/
example : fnFrag3 cexFn = false ∧ fnParsedShape cexFn = true ∧ fnDistinctKeys3 cexFn = true := by decide +kernel

/-- With the oracle `[0]` (the first handler catches) the walk is `args, raise, return, x = a`. -/
example : walkFn 10 cexFn [0] = ([2, 5, 9, 11], .ret, []) := by decide +kernel

def cexGraph : Graph := (rootGraph cexFn).getD default

example : rootGraph cexFn = some cexGraph := by decide +kernel

/-- That walk is not a path of the model's graph: `return a → x = a` is not an edge (the harness observes the same on the
real `cfg.build`). -/
theorem C05_counterexample (g : Graph) (hg : rootGraph cexFn = some g) : ¬ IsPath g (walkFn 10 cexFn [0]) := by
  have : cexGraph = g := by rw [cexGraph, hg]; rfl
  subst this
  have hw : walkFn 10 cexFn [0] = ([2, 5, 9, 11], .ret, []) := by decide +kernel
  rw [hw]
  intro h
  have h911 : (9, 11) ∈ cexGraph.edges := h.2.1.2.2.1
  revert h911
  decide +kernel

end Malt.Cfg
