import MaltModel.Proofs.C08FreesTop
/-
C08 — the scope (activity) analysis matches Python's own binding rules.

`Analysis.Activity` mirrors activity.py (tied to the code by correspondence on every run), `Spec.Symtable` is
Python's binding rules (tied to CPython's `symtable`), `Spec.Dynamic` is what executing one statement-level node
reads / rebinds / deletes (tied to opcode traces of real executions).  All theorems hold for every program of the
stated fragment.  `FragS` excludes comprehensions, parameter annotations, async constructs and `EXTRA_LOOP_TEST`;
`FragSC`/`FragSD` admit comprehensions.  What lies outside is covered by the correspondence and the oracles only.
-/
namespace Malt.Props.C08
open Malt.Py Malt.Analysis Malt.Spec

/-- **Compositionality.**  Analysing a statement adds exactly the syntactically defined effect `effS [] t` to the
    root scope and leaves the rest of the analyzer state as it was: the stack of mutable scopes, `finalize` exporting
    to the parent and `_process_parallel_blocks` checkpointing with `copy_from`/`merge_from` amount to a bottom-up
    attribute computation. -/
theorem C08_compositional (t : Stmt) (hf : FragS t = true) : Adds St.init (analyze t) (effS [] t) :=
  visitS_adds t St.init [] init_plainS hf

theorem C08_compositional_state (s : Stmt) (st : St) (fns : List FnCtx) (p : PlainS st fns) (hf : FragS s = true) :
    Adds st (visitS s st) (effS fns s) :=
  visitS_adds s st fns p hf

/-- **Compositionality, comprehensions included** (`FragSC`: all four kinds, nested, with lambdas inside).  `effC`
    threads the comprehension-target bookkeeping of `_track_symbol` (`self.state[_Comprehension]`) through the
    expression. -/
theorem C08_compositional_comp (t : Stmt) (hf : FragSC t = true) : Adds St.init (analyze t) (effSC [] t) :=
  visitS_addsC t St.init [] init_plainS hf

theorem C08_compositional_comp_expr (e : Expr) (st : St) (h : PlainC st) (hf : FragC e = true) (fns : List FnCtx)
    (aug anno : Bool) (hc : InCtx st fns aug anno) :
    AddsC st.comps (effC fns aug anno st.comps e).2 st (visitE e st) (effC fns aug anno st.comps e).1 :=
  visitE_addsC_all.1 e hf ⟨h, hc, rfl⟩

/- The full statement, `∀ u ∈ Spec.unitsS t, ∃ c, (analyze t).anno? u.id (keyOf u.key) = some c ∧ Good u c`, is false
   of the library for a named expression inside a comprehension (class `walrusInComp`, `walrus_counterexample`) and
   for parameter annotations of a def (class `argAnnotations`, `annotation_counterexample`).
   Left out: lambda-body units. -/

/-- **Dynamic soundness of the statement scopes** (the `hgen` premise of C06/C07).  Every statement-level node
    (simple statement, `if`/`while` test, `for` iterable, `for` target assignment, `with` item, `def`/`class`
    statement, at any depth) carries a SCOPE / ITERATE_SCOPE annotation whose `read` contains what the node actually
    reads and whose `modified ∪ deleted` contains what it actually rebinds or deletes. -/
theorem C08_dynamic_partial (t : Stmt) (hf : FragS t = true) :
    ∀ u ∈ stmtUnits t, ∃ c, (u.id, keyOf u.key, c) ∈ (analyze t).annos ∧
      (∀ x ∈ u.reads, QN.sym x ∈ c.read) ∧ (∀ x ∈ u.writes, QN.sym x ∈ c.modified ∨ QN.sym x ∈ c.deleted) :=
  visitS_units t St.init [] init_plainS hf

/-- **Dynamic soundness, comprehensions included.**  `FragSD` is `FragSC` without named expressions inside a
    comprehension (class `walrusInComp`); the iteration variables of a node's comprehensions are not among its reads. -/
theorem C08_dynamic_comp (t : Stmt) (hf : FragSD t = true) :
    ∀ u ∈ stmtUnits t, ∃ c, (u.id, keyOf u.key, c) ∈ (analyze t).annos ∧
      (∀ x ∈ u.reads, QN.sym x ∈ c.read) ∧ (∀ x ∈ u.writes, QN.sym x ∈ c.modified ∨ QN.sym x ∈ c.deleted) :=
  visitS_unitsD t St.init [] init_plainS hf

/-- The form C06/C07 consume: the annotation looked up by node id.  `uniqueAnnos` holds whenever the serial ids are
    distinct and no lambda sits in a class header or a `for` target, which the analysis visits twice. -/
theorem C08_dynamic_lookup (t : Stmt) (hf : FragS t = true) (hu' : uniqueAnnos (analyze t).annos = true) :
    ∀ u ∈ stmtUnits t, ∃ c, (analyze t).anno? u.id (keyOf u.key) = some c ∧
      (∀ x ∈ u.reads, QN.sym x ∈ c.read) ∧ (∀ x ∈ u.writes, QN.sym x ∈ c.modified ∨ QN.sym x ∈ c.deleted) :=
  fun u huu => Recorded.lookup hu' (C08_dynamic_partial t hf u huu)

theorem C08_dynamic_comp_lookup (t : Stmt) (hf : FragSD t = true) (hu' : uniqueAnnos (analyze t).annos = true) :
    ∀ u ∈ stmtUnits t, ∃ c, (analyze t).anno? u.id (keyOf u.key) = some c ∧
      (∀ x ∈ u.reads, QN.sym x ∈ c.read) ∧ (∀ x ∈ u.writes, QN.sym x ∈ c.modified ∨ QN.sym x ∈ c.deleted) :=
  fun u huu => Recorded.lookup hu' (C08_dynamic_comp t hf u huu)

/- The full statement — for every function of every tree, the classification `classify` reads off the analysis is
   the one `Spec.table t` assigns to its block — is false of the library in the situations named in
   `Analysis.ActivityHyp` (each reproduced on the real code by the harness, known_findings.d/C08.json):
   `harmfulLeaks` (`leak_counterexample`), `walrusInComp`, `classShadow`, `argAnnotations`, `globalBelow`.
   Left out: lambdas, comprehensions, annotated parameters. -/

/-- **Classification of the root function**: parameters, bound locals, declared globals and nonlocals reported by the
    analysis = those of Python's symbol table.  `harmfulLeaks t = []`: the parameters of nested functions are names `t`
    binds anyway.  Last clause, no comparison: with an empty chain `classify` reports no free variable of any state; the
    specification's are the `nonlocal` declarations, of which a valid root function has none (not assumed). -/
theorem C08_classes_partial (i : Nat) (name : String) (ai : Nat) (po ar va ko kd kw df : List Expr) (body : List Stmt)
    (decos returns : List Expr) (t : Stmt)
    (ht : t = .functionDef i name (.arguments ai po ar va ko kd kw df) body decos returns false)
    (hf : FragS t = true) (hs : SpecOkS t = true) (hu' : uniqueAnnos (analyze t).annos = true)
    (hleak : harmfulLeaks t = []) (hd : declsDisjoint t = true) :
    ∃ cls info rest, classify t (analyze t) i [] = some cls ∧ Spec.table t = info :: rest ∧ info.id = i ∧
      (∀ x, x ∈ cls.params ↔ x ∈ info.params) ∧
      (∀ x, x ∈ cls.locals ↔ x ∈ info.locals) ∧
      (∀ x, x ∈ cls.globals ↔ x ∈ info.declaredGlobals) ∧
      (∀ x, x ∈ cls.nonlocals ↔ x ∈ info.declaredNonlocals) ∧
      (cls.frees = [] ∧ ∀ x, x ∈ info.frees ↔ x ∈ info.declaredNonlocals) := by
  subst ht
  obtain ⟨_, _, _, _, _, _, _, _, e, h⟩ :=
    def_located rfl hf hs hu' (List.mem_cons_self : _ ∈ defsS (.functionDef i name _ body decos returns false))
  cases e
  obtain ⟨cI, ca, _, _, L⟩ := h
  obtain ⟨info, irest, htab, hfacts, hifr⟩ := analyzeBlock_head _ L.walrus
  obtain ⟨hid, hps, hls, hgs, hns⟩ := def_matches L.frag L.spec L.scopes rfl hfacts (leaks_of_harmfulLeaks L.root hleak)
    (disj_of_declsDisjoint L.root hd)
  refine ⟨_, info, irest, classify_of_annos (chain := []) L.node (a := ca)
      (by rw [argsIdS_self]; exact L.args),
    table_of_blockOf L.root ▸ htab, hid, hps, fun x => ?_, hgs, hns, by simp [resolveAct], hifr⟩
  rw [← hls]
  simp [List.mem_filter]

def DefMatches (st : St) (tab : List BlockInfo) : Stmt → Prop
  | .functionDef i _ (.arguments ai _ _ _ _ _ _ _) _ _ _ _ =>
      ∃ cI ca info, st.anno? i .argsAndBodyScope = some cI ∧ st.anno? ai .scope = some ca ∧ info ∈ tab ∧ info.id = i ∧
        (∀ x, x ∈ ca.paramNames.names ↔ x ∈ info.params) ∧
        (∀ x, (x ∈ cI.bound.names ∧ x ∉ cI.globals.names ∧ x ∉ cI.nonlocals.names) ↔ x ∈ info.locals) ∧
        (∀ x, x ∈ cI.globals.names ↔ x ∈ info.declaredGlobals) ∧
        (∀ x, x ∈ cI.nonlocals.names ↔ x ∈ info.declaredNonlocals)
  | _ => True

/-- **Classification of every function definition** nested in statement position anywhere in the tree (branches,
    loops, `with`/`try` blocks, class bodies, other functions): the first four categories agree with Python's symbol
    table.  Not covered: lambdas; the free variables are `C08_frees_nested`. -/
theorem C08_classes_nested (i : Nat) (name : String) (ai : Nat) (po ar va ko kd kw df : List Expr) (body : List Stmt)
    (decos returns : List Expr) (t : Stmt)
    (ht : t = .functionDef i name (.arguments ai po ar va ko kd kw df) body decos returns false)
    (hf : FragS t = true) (hs : SpecOkS t = true) (hu' : uniqueAnnos (analyze t).annos = true)
    (hleak : harmfulLeaks t = []) (hd : allDeclsDisjoint t = true) :
    ∀ d ∈ defsS t, DefMatches (analyze t) (Spec.table t) d := by
  intro d hdd
  cases d with
  | functionDef i' name' args' body' decos' returns' isAsync' =>
    obtain ⟨ai', po', ar', va', ko', kd', kw', df', rfl, cI, ca, info, B, L⟩ := def_located ht hf hs hu' hdd
    exact ⟨cI, ca, info, L.node, L.args, L.entry, def_matches L.frag L.spec L.scopes rfl L.facts
      (leakFree_all _ (leaks_of_harmfulLeaks L.root hleak) _ L.mem rfl)
      (disj_all _ (disjB_of_allDeclsDisjoint L.root hd) _ L.mem)⟩
  | _ => trivial

/-- `B`: the names CPython makes visible to `d` from the enclosing function-like blocks (class bodies skipped, names
    declared `global` on the way cut off).  First clause: what `Scope.finalize` passes on from `d`'s scope
    (`Scope.passedOn`, `read − (bound − nonlocals − globals)`) minus its declared globals is `outerB`, the names
    CPython resolves outside `d`.  Second clause: `co_freevars` of `d` (including names only threaded through for
    nested blocks) is the part of `outerB` in `B`; the rest are implicit globals. -/
def FreesMatch (st : St) (root : Block) (tab : List BlockInfo) : Stmt → Prop
  | .functionDef i name (.arguments ai po ar va ko kd kw df) body decos returns isAsync =>
      ∃ cI info B, st.anno? i .argsAndBodyScope = some cI ∧ info ∈ tab ∧ info.id = i ∧
        (mkDefBlock (.functionDef i name (.arguments ai po ar va ko kd kw df) body decos returns isAsync), B) ∈ ctxBlocks [] root ∧
        (∀ x, (x ∈ cI.passedOn.names ∧ x ∉ cI.globals.names) ↔
              x ∈ outerB (mkDefBlock (.functionDef i name (.arguments ai po ar va ko kd kw df) body decos returns isAsync))) ∧
        (∀ x, x ∈ info.frees ↔
              x ∈ outerB (mkDefBlock (.functionDef i name (.arguments ai po ar va ko kd kw df) body decos returns isAsync)) ∧ x ∈ B)
  | _ => True

/-- **Free variables of every function definition, at every nesting depth** (through functions, lambdas and class
    bodies), up to the link from `B` to `classify`'s `frees` (not proved, see below).  Hypotheses: the decidable predicates of the deviation classes are empty — no parameter of a nested
    function leaking where it matters (`harmfulLeaks`), no class body shadowing what its methods need (`classShadow`),
    no `global` declaration below a function that does not declare the name itself (`globalBelow`; `nonlocal` below
    needs none, `finalize` passes names declared nonlocal on) — and all `nonlocal` declarations resolve
    (`nonlocalsResolve`; otherwise CPython rejects the program). -/
theorem C08_frees_nested (i : Nat) (name : String) (ai : Nat) (po ar va ko kd kw df : List Expr) (body : List Stmt)
    (decos returns : List Expr) (t : Stmt)
    (ht : t = .functionDef i name (.arguments ai po ar va ko kd kw df) body decos returns false)
    (hf : FragS t = true) (hs : SpecOkS t = true) (hu' : uniqueAnnos (analyze t).annos = true)
    (hleak : harmfulLeaks t = []) (hshadow : classShadow t = []) (hgb : globalBelow t = [])
    (hnl : nonlocalsResolve t = true) :
    ∀ d ∈ defsS t, FreesMatch (analyze t) (mkDefBlock t) (Spec.table t) d := by
  intro d hdd
  cases d with
  | functionDef i' name' args' body' decos' returns' isAsync' =>
    obtain ⟨ai', po', ar', va', ko', kd', kw', df', rfl, cI, ca, info, B, L⟩ := def_located ht hf hs hu' hdd
    exact ⟨cI, info, B, L.node, L.entry, L.facts.id, L.ctx, def_outer L.frag L.spec L.scopes rfl
      (declBelow_all true _ (declBelow_of_globalBelow L.root hgb) _ L.mem rfl)
      (leakFree_all _ (leaks_of_harmfulLeaks L.root hleak) _ L.mem rfl)
      (shadow_all _ (shadow_of_classShadow L.root hshadow) _ L.mem), L.frees hnl⟩
  | _ => trivial

theorem FreesMatch.frees_iff {st : St} {root : Block} {tab : List BlockInfo}
    {i : Nat} {name : String} {ai : Nat} {po ar va ko kd kw df : List Expr} {body : List Stmt} {decos returns : List Expr} {isAsync : Bool}
    (h : FreesMatch st root tab (.functionDef i name (.arguments ai po ar va ko kd kw df) body decos returns isAsync)) :
    ∃ cI info B, st.anno? i .argsAndBodyScope = some cI ∧ info ∈ tab ∧ info.id = i ∧
      (mkDefBlock (.functionDef i name (.arguments ai po ar va ko kd kw df) body decos returns isAsync), B) ∈ ctxBlocks [] root ∧
      ∀ x, x ∈ info.frees ↔ (x ∈ cI.passedOn.names ∧ x ∉ cI.globals.names) ∧ x ∈ B := by
  obtain ⟨cI, info, B, h1, h2, h3, h4, h5, h6⟩ := h
  exact ⟨cI, info, B, h1, h2, h3, h4, fun x => by rw [h6 x, h5 x]⟩

/-- Specification only: what `analyzeBlock` returns as needed from the enclosing blocks is `outerB` cut down to the
    visible names, for any block at any depth. -/
theorem C08_spec_free (b : Block) (parent : Nat) (B eg : List String)
    (hw : ∀ b' ∈ allBlocks b, b'.walrus = []) (hv : nlOkB B b = true) :
    ∀ x, x ∈ (analyzeBlock b parent B eg).2 ↔ x ∈ outerB b ∧ x ∈ B :=
  analyzeBlock_free b parent B B eg hw (fun _ => Iff.rfl) hv

/-- The statement-level fact behind `C08_frees_nested`.  Outside `Dom` (the names the current block declares) the
    names a statement adds to `read` of the current scope are those the specification collects as used in the current
    block or as needed (`outerB`) by the blocks nested in the statement.  `Hyp`: the deviation-class predicates are
    empty on the blocks collected so far. -/
theorem C08_reads_resolve (s : Stmt) (hf : FragS s = true) (hs : SpecOkS s = true) (fns : List FnCtx)
    (Dom Denc Lenc : List String) (a : Acc) (H : Hyp Dom Denc Lenc (collectS s a)) :
    ∀ x, x ∉ Dom → ((QN.sym x ∈ (effS fns s).read ∨ accNeeds a x) ↔ accNeeds (collectS s a) x) :=
  (collectsS s hf hs fns).reads_step a H

theorem C08_classes_all (i : Nat) (name : String) (ai : Nat) (po ar va ko kd kw df : List Expr) (body : List Stmt)
    (decos returns : List Expr) (t : Stmt)
    (ht : t = .functionDef i name (.arguments ai po ar va ko kd kw df) body decos returns false)
    (hf : FragS t = true) (hs : SpecOkS t = true) (hu' : uniqueAnnos (analyze t).annos = true)
    (hleak : harmfulLeaks t = []) (hd : allDeclsDisjoint t = true)
    (hshadow : classShadow t = []) (hgb : globalBelow t = [])
    (hnl : nonlocalsResolve t = true) :
    ∀ d ∈ defsS t, DefMatches (analyze t) (Spec.table t) d ∧ FreesMatch (analyze t) (mkDefBlock t) (Spec.table t) d :=
  fun d hd' => ⟨C08_classes_nested i name ai po ar va ko kd kw df body decos returns t ht hf hs hu' hleak hd d hd',
    C08_frees_nested i name ai po ar va ko kd kw df body decos returns t ht hf hs hu' hleak hshadow hgb hnl d hd'⟩

/- Each of the three class predicates is necessary: `leak_counterexample`, `shadow_counterexample` below; for
   `globalBelow` see `known_findings.d/C08.json` (C08-global-propagates).
   Not proved: that `B` (`ctxBlocks`) is what `ActivityFn.resolveAct` computes from the recorded scopes of the
   enclosing functions, the last step to `classify`'s `frees` field.  The harness checks that step on the real code
   for every def on which the hypotheses hold (`consistency:C08_frees_nested-on-real-code`). -/

/-- `def f(a): x = a; x += 1; (with a as y: del y); (def g(): return x); if x: return g`. -/
def sampleTree : Stmt :=
  .functionDef 1 "f" (.arguments 2 [] [.arg 3 "a" []] [] [] [] [] [])
    [ .assign 4 [.name 5 "x" .store] (.name 6 "a" .load),
      .augAssign 7 (.name 8 "x" .store) "Add" (.const 9 "int" "1"),
      .with_ 10 [.withitem 11 (.name 12 "a" .load) [.name 13 "y" .store]] [.delete 14 [.name 15 "y" .del]] false,
      .functionDef 16 "g" (.arguments 17 [] [] [] [] [] [] []) [.ret 18 [.name 19 "x" .load]] [] [] false,
      .if_ 20 (.name 21 "x" .load) [.ret 22 [.name 23 "g" .load]] [] ] [] [] false

example : FragS sampleTree = true := by decide +kernel
example : (stmtUnits sampleTree).length = 9 := by decide +kernel
/-- the `x += 1` node -/
example : ((analyze sampleTree).anno? 7 .scope).map (fun c => (c.read.contains (.sym "x"), c.modified.contains (.sym "x")))
    = some (true, true) := by decide +kernel

example : SpecOkS sampleTree = true ∧ uniqueAnnos (analyze sampleTree).annos = true ∧ harmfulLeaks sampleTree = [] ∧
    declsDisjoint sampleTree = true := by decide +kernel
example : ((classify sampleTree (analyze sampleTree) 1 []).map fun c => (c.params, c.locals.length)) = some (["a"], 4) := by decide +kernel
example : kind (table sampleTree) 1 "x" = .local ∧ kind (table sampleTree) 1 "a" = .param ∧
    kind (table sampleTree) 16 "x" = .free := by decide +kernel

example : (defsS sampleTree).length = 2 ∧ allDeclsDisjoint sampleTree = true := by decide +kernel
example : ∀ d ∈ defsS sampleTree, DefMatches (analyze sampleTree) (table sampleTree) d :=
  C08_classes_nested _ _ _ _ _ _ _ _ _ _ _ _ _ sampleTree rfl (by decide +kernel) (by decide +kernel) (by decide +kernel) (by decide +kernel) (by decide +kernel)

/-- Three levels, through a class body:
    `def f(a): x = a; (class K: w = x; def m(): (def h(): return x + G); return h); return K`. -/
def deepTree : Stmt :=
  .functionDef 1 "f" (.arguments 2 [] [.arg 3 "a" []] [] [] [] [] [])
    [ .assign 4 [.name 5 "x" .store] (.name 6 "a" .load),
      .classDef 7 "K" [] []
        [ .assign 8 [.name 9 "w" .store] (.name 10 "x" .load),
          .functionDef 11 "m" (.arguments 12 [] [] [] [] [] [] [])
            [ .functionDef 14 "h" (.arguments 15 [] [] [] [] [] [] [])
                [.ret 16 [.binop 17 "Add" (.name 18 "x" .load) (.name 19 "G" .load)]] [] [] false,
              .ret 20 [.name 21 "h" .load] ] [] [] false ] [],
      .ret 22 [.name 23 "K" .load] ] [] [] false

theorem deepTree_hyps : FragS deepTree = true ∧ SpecOkS deepTree = true ∧ uniqueAnnos (analyze deepTree).annos = true ∧
    harmfulLeaks deepTree = [] ∧ classShadow deepTree = [] ∧ globalBelow deepTree = [] ∧
    nonlocalsResolve deepTree = true ∧ (defsS deepTree).length = 3 := by decide +kernel
example : FragS deepTree = true ∧ SpecOkS deepTree = true ∧ uniqueAnnos (analyze deepTree).annos = true ∧
    harmfulLeaks deepTree = [] ∧ classShadow deepTree = [] ∧ globalBelow deepTree = [] ∧
    nonlocalsResolve deepTree = true ∧ (defsS deepTree).length = 3 := deepTree_hyps
example : ∀ d ∈ defsS deepTree, FreesMatch (analyze deepTree) (mkDefBlock deepTree) (table deepTree) d := by
  obtain ⟨hf, hs, hu, hl, hc, hg, hn, -⟩ := deepTree_hyps
  exact C08_frees_nested _ _ _ _ _ _ _ _ _ _ _ _ _ deepTree rfl hf hs hu hl hc hg hn
/-- Not vacuous: `h` passes `x` and `G` outwards, CPython makes `x` its free variable and `G` a global; `m` only
    threads `x` through. -/
example : ((classify deepTree (analyze deepTree) 14 [11, 1]).map fun c => (c.freeVars, c.frees)) = some (["G", "x"], ["x"]) := by decide +kernel
example : outerB (mkDefBlock deepTree) = ["G"] := by decide +kernel
example : ((table deepTree).filter (fun b => b.id == 14 || b.id == 11 || b.id == 1)).map (fun b => (b.id, b.frees))
    = [(1, []), (11, ["x"]), (14, ["x"])] := by decide +kernel
example : kind (table deepTree) 14 "G" = .globalImplicit ∧ kind (table deepTree) 11 "x" = .free := by decide +kernel

/-- The two-level `nonlocal`:
    `def f(c): (if c: x = 10); (def g(c): (def gi(): nonlocal x; x = x + c; return x); return gi()); return g(1)`
    (the inner parameter is called `c` like the outer one, so that the separate deviation `harmfulLeaks` stays out).
    `gi` binds `x` (it assigns it) and declares it nonlocal; `Scope.passedOn` still hands the read of `x` on to `g`. -/
def twoLevelTree : Stmt :=
  .functionDef 1 "f" (.arguments 2 [] [.arg 3 "c" []] [] [] [] [] [])
    [ .if_ 4 (.name 5 "c" .load) [.assign 6 [.name 7 "x" .store] (.const 8 "int" "10")] [],
      .functionDef 9 "g" (.arguments 10 [] [.arg 11 "c" []] [] [] [] [] [])
        [ .functionDef 12 "gi" (.arguments 13 [] [] [] [] [] [] [])
            [ .nonlocal 14 ["x"],
              .assign 15 [.name 16 "x" .store] (.binop 17 "Add" (.name 18 "x" .load) (.name 19 "c" .load)),
              .ret 20 [.name 21 "x" .load] ] [] [] false,
          .ret 22 [.call 23 (.name 24 "gi" .load) [] []] ] [] [] false,
      .ret 25 [.call 26 (.name 27 "g" .load) [.const 28 "int" "1"] []] ] [] [] false

theorem twoLevelTree_hyps : FragS twoLevelTree = true ∧ SpecOkS twoLevelTree = true ∧
    uniqueAnnos (analyze twoLevelTree).annos = true ∧
    harmfulLeaks twoLevelTree = [] ∧ classShadow twoLevelTree = [] ∧ globalBelow twoLevelTree = [] ∧
    nonlocalsResolve twoLevelTree = true ∧ nonlocalBelow twoLevelTree = ["x"] := by decide +kernel
/-- `nonlocalBelow` is not empty here, the hypotheses of `C08_frees_nested` hold. -/
example : FragS twoLevelTree = true ∧ SpecOkS twoLevelTree = true ∧ uniqueAnnos (analyze twoLevelTree).annos = true ∧
    harmfulLeaks twoLevelTree = [] ∧ classShadow twoLevelTree = [] ∧ globalBelow twoLevelTree = [] ∧
    nonlocalsResolve twoLevelTree = true ∧ nonlocalBelow twoLevelTree = ["x"] := twoLevelTree_hyps
example : ∀ d ∈ defsS twoLevelTree, FreesMatch (analyze twoLevelTree) (mkDefBlock twoLevelTree) (table twoLevelTree) d := by
  obtain ⟨hf, hs, hu, hl, hc, hg, hn, -⟩ := twoLevelTree_hyps
  exact C08_frees_nested _ _ _ _ _ _ _ _ _ _ _ _ _ twoLevelTree rfl hf hs hu hl hc hg hn
example : ((analyze twoLevelTree).anno? 9 .argsAndBodyScope).map (fun c => (c.read.contains (.sym "x"), c.passedOn.names))
    = some (true, ["x"]) := by decide +kernel
example : ((classify twoLevelTree (analyze twoLevelTree) 9 [1]).map fun c => c.frees) = some ["x"] ∧
    ((classify twoLevelTree (analyze twoLevelTree) 12 [9, 1]).map fun c => c.frees) = some ["c", "x"] := by decide +kernel
example : ((table twoLevelTree).filter (fun b => b.id == 9 || b.id == 12)).map (fun b => (b.id, b.frees))
    = [(9, ["x"]), (12, ["x", "c"])] := by decide +kernel

/-- `def f(): x = 1; (def g(): (class K: x = 2; def m(): return x); return K); return g` — the class body binds
    `x`, so the analysis drops `m`'s read of `x` at the class; Python threads `x` from `f` through `g` to `m`. -/
def shadowTree : Stmt :=
  .functionDef 1 "f" (.arguments 2 [] [] [] [] [] [] [])
    [ .assign 3 [.name 4 "x" .store] (.const 5 "int" "1"),
      .functionDef 6 "g" (.arguments 7 [] [] [] [] [] [] [])
        [ .classDef 8 "K" [] []
            [ .assign 9 [.name 10 "x" .store] (.const 11 "int" "2"),
              .functionDef 12 "m" (.arguments 13 [] [] [] [] [] [] [])
                [.ret 14 [.name 15 "x" .load]] [] [] false ] [],
          .ret 16 [.name 17 "K" .load] ] [] [] false,
      .ret 18 [.name 19 "g" .load] ] [] [] false

theorem shadow_counterexample :
    ((classify shadowTree (analyze shadowTree) 6 [1]).map fun c => c.frees) = some [] ∧
    ((table shadowTree).filter (fun b => b.id == 6)).map (fun b => b.frees) = [["x"]] := by decide +kernel
example : classShadow shadowTree = ["x"] ∧ harmfulLeaks shadowTree = [] ∧ globalBelow shadowTree = [] ∧
    nonlocalBelow shadowTree = [] ∧ nonlocalsResolve shadowTree = true ∧ FragS shadowTree = true ∧ SpecOkS shadowTree = true := by decide +kernel

/-- `def f(c): k = (lambda N: N)(1); return k + N` — the parameter `N` of the lambda leaks into `f`'s bound
    locals, although `N` is a global name in `f`. -/
def leakTree : Stmt :=
  .functionDef 1 "f" (.arguments 2 [] [.arg 3 "c" []] [] [] [] [] [])
    [ .assign 4 [.name 5 "k" .store]
        (.call 6 (.lambda 7 (.arguments 8 [] [.arg 9 "N" []] [] [] [] [] []) (.name 10 "N" .load)) [.const 11 "int" "1"] []),
      .ret 12 [.binop 13 "Add" (.name 14 "k" .load) (.name 15 "N" .load)] ] [] [] false

theorem leak_counterexample :
    ((classify leakTree (analyze leakTree) 1 []).map fun c => c.locals.contains "N") = some true ∧
    kind (table leakTree) 1 "N" = .globalImplicit := by decide +kernel
example : harmfulLeaks leakTree = ["N"] := by decide +kernel
example : FragS leakTree = true ∧ SpecOkS leakTree = true := by decide +kernel

/-- `def f(b): r = [t + q for t in b if t]; s = {k: (lambda: k)() for k in r}; return list(u for u in s)` -/
def compTree : Stmt :=
  .functionDef 1 "f" (.arguments 2 [] [.arg 3 "b" []] [] [] [] [] [])
    [ .assign 4 [.name 5 "r" .store]
        (.comp 6 .listComp [.binop 7 "Add" (.name 8 "t" .load) (.name 9 "q" .load)]
          [.comprehension 10 (.name 11 "t" .store) (.name 12 "b" .load) [.name 13 "t" .load] false]),
      .assign 14 [.name 15 "s" .store]
        (.comp 16 .dictComp [.name 17 "k" .load, .call 18 (.lambda 19 (.arguments 20 [] [] [] [] [] [] []) (.name 21 "k" .load)) [] []]
          [.comprehension 22 (.name 23 "k" .store) (.name 24 "r" .load) [] false]),
      .ret 25 [.call 26 (.name 27 "list" .load)
        [.comp 28 .genExp [.name 29 "u" .load] [.comprehension 30 (.name 31 "u" .store) (.name 32 "s" .load) [] false]] []] ]
    [] [] false

example : FragSD compTree = true ∧ FragSC compTree = true ∧ FragS compTree = false ∧
    uniqueAnnos (analyze compTree).annos = true := by decide +kernel
example : ((stmtUnits compTree)[1]?.map fun u => (u.id, u.reads, u.writes)) = some (4, ["b", "q"], ["r"]) := by decide +kernel
example : ((analyze compTree).anno? 4 .scope).map (fun c =>
    (c.read.contains (.sym "b"), c.read.contains (.sym "q"), c.read.contains (.sym "t"), c.modified.contains (.sym "r")))
    = some (true, true, false, true) := by decide +kernel

/-- `r = [(y := t) for t in b]` rebinds `y`; the statement's scope has neither `y ∈ modified` nor `y ∈ deleted`. -/
def walrusStmt : Stmt :=
  .assign 1 [.name 2 "r" .store]
    (.comp 3 .listComp [.namedexpr 4 (.name 5 "y" .store) (.name 6 "t" .load)]
      [.comprehension 7 (.name 8 "t" .store) (.name 9 "b" .load) [] false])

example : "y" ∈ ((stmtUnits walrusStmt).map (·.writes)).flatten := by decide +kernel
theorem walrus_counterexample :
    ((analyze walrusStmt).anno? 1 .scope).map (fun c => c.modified.contains (.sym "y") || c.deleted.contains (.sym "y"))
      = some false := by decide +kernel
example : walrusInComp walrusStmt = ["y"] := by decide +kernel

/-- `def g(a: T): pass` reads `T` when the def executes; the def statement's scope does not have `T ∈ read`. -/
def annotatedDef : Stmt :=
  .functionDef 1 "g" (.arguments 2 [] [.arg 3 "a" [.name 4 "T" .load]] [] [] [] [] []) [.pass 5] [] [] false

example : "T" ∈ ((stmtUnits annotatedDef).map (·.reads)).flatten := by decide +kernel
theorem annotation_counterexample :
    ((analyze annotatedDef).anno? 1 .scope).map (fun c => c.read.contains (.sym "T")) = some false := by decide +kernel

end Malt.Props.C08
