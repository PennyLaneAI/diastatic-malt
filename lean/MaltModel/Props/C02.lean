import MaltModel.Props.C01Func
import MaltModel.Proofs.FuncFSim
import MaltModel.Proofs.FuncWrapperF
import MaltModel.Proofs.FuncBlockVars
/-!
# C02: functional (tracing) operator backends see complete state

`execF` (`Func/Target.lean`) is the functional semantics of the generated code: the operators touch the enclosing
function's variables only through `get_state`/`set_state`; a conditional runs **both** branches from the same
snapshot and keeps the first `nouts` entries of the selected one; a loop traces its body once out of band (also for
zero iterations) and re-injects the carried state before every iteration.  This formalises the documented tracing
model (control_flow.md, the docstring of operators/control_flow.py); it is a modelling choice, validated by the
harness against a real backend of this shape.

The functional theorems are about **pure** programs (`pureB`): no external call, no `with` (enter/exit are logged
events), no `try` (a handler could catch an exception raised by an out-of-band run, which the source never sees).
"Total" appears as: the original terminates (`hsrc`) and the tracing run terminates (`hrun`); "definitely assigned"
as: the tracing run does not raise (`hne`).  Hence `_partial`: no static criterion is proved under which the tracing
run cannot raise (it would need a type discipline for `evalBin`, and it is false of /repo for a state variable that
is frame-local to an enclosing generated function through a *later* assignment: `laterLocal`, `run_c02.py`).
-/
namespace Malt.Func
open Malt.Sem

/-- `HypFB`: three facts about the state tuple that `_get_block_vars` guarantees: no duplicates, `declared ⊆
modified`, entries after the first `nouts` are not live after the conditional. -/
structure FuncHypF (p : ABlock) : Prop where
  hypf : HypFB p
  pure : pureB p = true

def funcHypF (p : ABlock) : Bool := hypFB p && pureB p

theorem funcHypF_checker_sound (p : ABlock) (h : funcHypF p = true) : FuncHypF p := by
  simp only [funcHypF, Bool.and_eq_true] at h
  exact ⟨hypFB_sound p h.1, h.2⟩

/-- **Source vs tracing backend**: a tracing run that ends without an exception ends like the original. -/
theorem functional_correct (X : Ext) (p : ABlock) (D O : List Name) (hyp : FuncHyp D p O) (hF : FuncHypF p)
    (σ : St) (σ' : TSt) (hag : Agree (blockIn p O) σ σ') (hb : BoundSub σ D)
    (n : Nat) (o : Out) (σ₁ : St) (hsrc : execB X n (eraseB p) σ = some (o, σ₁))
    (m : Nat) (oF : Out) (σF : TSt) (hrun : execFB X m (funcB p) σ' = some (oF, σF)) :
    IsExc oF ∨ (oF = o ∧ σF.log = σ₁.log ∧ (o = .normal → Agree O σ₁ σF)) :=
  traced_like_source X p ExcCtx.top D O hyp.live hyp.decl hyp.defd hyp.jump hF.hypf hF.pure σ σ' hag hb n o σ₁ hsrc
    m oF σF hrun

/-- **C02, `resultF = resultN`**: the native run of the same converted code gives the outcome of the tracing run, and
the two final states read the same on every variable live at the end. -/
theorem C02_functional_eq_native_partial (X : Ext) (p : ABlock) (D O : List Name) (hyp : FuncHyp D p O) (hF : FuncHypF p)
    (σ : St) (σ' : TSt) (hag : Agree (blockIn p O) σ σ') (hb : BoundSub σ D)
    (n : Nat) (o : Out) (σ₁ : St) (hsrc : execB X n (eraseB p) σ = some (o, σ₁))
    (m : Nat) (oF : Out) (σF : TSt) (hrun : execFB X m (funcB p) σ' = some (oF, σF)) (hne : ¬ IsExc oF) :
    ∃ k σN, execNB X k (funcB p) σ' = some (oF, σN) ∧ oF = o ∧ σN.log = σF.log ∧
      (oF = .normal → ∀ x ∈ O, (σN.env x).toOpt = (σF.env x).toOpt) := by
  obtain ⟨k, σN, hN, hlN, hagN⟩ := control_flow_correct X p D O hyp σ σ' hag hb n o σ₁ hsrc
  rcases functional_correct X p D O hyp hF σ σ' hag hb n o σ₁ hsrc m oF σF hrun with h | ⟨rfl, hlF, hagF⟩
  · exact absurd h hne
  · refine ⟨k, σN, hN, rfl, by rw [hlN, hlF], fun ho x hx => ?_⟩
    rw [(hagN ho).1 x hx, (hagF ho).1 x hx]

/-- Both backends started on the same arguments. -/
theorem C02_result_eq_partial (X : Ext) (p : ABlock) (D : List Name) (hyp : FuncHyp D p []) (hF : FuncHypF p)
    (σ : St) (hb : BoundSub σ D)
    (n : Nat) (r : Out × St) (hsrc : execB X n (eraseB p) σ = some r)
    (m : Nat) (rF : Out × TSt) (hrun : execFB X m (funcB p) (TSt.ofSt σ) = some rF) (hne : ¬ IsExc rF.1) :
    ∃ k rN, execNB X k (funcB p) (TSt.ofSt σ) = some rN ∧ rN.1 = rF.1 ∧ rF.1 = r.1 := by
  obtain ⟨o, σ₁⟩ := r
  obtain ⟨oF, σF⟩ := rF
  obtain ⟨k, σN, hN, ho, _, _⟩ := C02_functional_eq_native_partial X p D [] hyp hF σ (TSt.ofSt σ) (agree_ofSt _ σ) hb
    n o σ₁ hsrc m oF σF hrun hne
  exact ⟨k, (oF, σN), hN, rfl, ho⟩

/-! ## State completeness over the mirror of `_get_block_vars` -/

/-- Variables read at the start of a later iteration, before the iteration writes them. -/
def laterIterationReads : AStmt → List Name
  | .whileS i c b => vars c ++ blockIn b i.liveIn
  | .forS i x _ extra b => varsO extra ++ (blockIn b i.liveIn).filter (fun y => y != x)
  | _ => []

/-- **C02, state completeness** (the "equivalently" of the property), for state tuples computed by the mirror of
`_get_block_vars` (`UsesBlockVars`, simple names): at every control statement, at any depth, every variable a
branch / the loop body may change that is live after it, at its entry or read on a later iteration is in the state
tuple, and what is live after it is among the first `nouts` entries. -/
theorem C02_state_complete (p : ABlock) (O : List Name) (hl : LiveConsistent p O) (hu : UsesBlockVars p) :
    ∀ s ∈ allB p, s.isCompound = true → ∀ v ∈ s.modified,
      ((v ∈ s.info.liveOut ∨ v ∈ s.info.liveIn ∨ v ∈ laterIterationReads s) → v ∈ s.info.declared) ∧
      (v ∈ s.info.liveOut → v ∈ s.info.declared.take s.info.nouts) := by
  intro s hs hc v hv
  have hf := bv1_facts hc (hu s hs)
  obtain ⟨K', hlive⟩ := liveB_of_mem ExcCtx.top p O hl s hs
  have hin : v ∈ s.info.liveOut ∨ v ∈ s.info.liveIn → v ∈ s.info.declared := by
    intro h
    apply hf.live_declared
    refine List.mem_filter.mpr ⟨hv, mem_liveEither.mpr ?_⟩
    rcases h with h | h
    · exact Or.inr h
    · exact Or.inl h
  refine ⟨?_, hf.outputs_first v hv⟩
  rintro (h | h | h)
  · exact hin (Or.inl h)
  · exact hin (Or.inr h)
  · -- read on a later iteration ⇒ live at loop entry
    apply hin; right
    cases s with
    | whileS i c b =>
      simp only [LiveS] at hlive
      simp only [laterIterationReads, List.mem_append] at h
      rcases h with h | h
      · exact hlive.1 h
      · exact hlive.2.1 h
    | forS i x it extra b =>
      simp only [LiveS] at hlive
      simp only [laterIterationReads, List.mem_append] at h
      rcases h with h | h
      · exact hlive.2.1 h
      · exact hlive.2.2.2.1 h
    | _ => simp [laterIterationReads] at h

/-- `bv` (used by `UsesBlockVars`) is the mirror `Malt.Conv.BlockVars.blockVars` of `_get_block_vars` on simple names
without `global`/`nonlocal` declarations. -/
theorem C02_blockVars_mirror (modified liveIn liveOut definedIn : List String)
    (hs : ∀ v ∈ modified, Malt.Conv.BlockVars.isComposite v = false) :
    Malt.Conv.BlockVars.blockVars modified liveIn liveOut definedIn [] [] = bv modified liveIn liveOut definedIn :=
  bv_eq_blockVars modified liveIn liveOut definedIn hs

theorem C02_blockVars_hyps (p : ABlock) (hu : UsesBlockVars p) : DeclB p ∧ HypFB p := bv_declB p hu

/-- Every state variable possibly unbound before the statement gets its `Undefined` placeholder (so `get_state()` has
something to read), and nothing else does. -/
theorem C02_undefined_exact (p : ABlock) (hu : UsesBlockVars p) :
    ∀ s ∈ allB p, s.isCompound = true → ∀ v, v ∈ s.info.undefined ↔ (v ∈ s.modified ∧ v ∉ s.info.definedIn) := by
  intro s hs hc v
  have hf := bv1_facts hc (hu s hs)
  exact ⟨fun h => ⟨hf.undefined_modified h, hf.undefined_exact v h⟩, fun h => hf.undefined_complete v h.1 h.2⟩

/-- **The function wrapper around a tracing-backend body** (`callConvertedF`; the wrapper is described in `C01Func`):
the conversion-status stack is restored in every case; a call that does not raise returns what the caller of the
lowered source body sees, with the same effect log. -/
theorem C02_function_wrapper_partial (X : Ext) (l : Lowered) (hwf : l.wf = true) (name : String) (userRequested : Bool)
    (D : List Name) (hyp : FuncHyp D l.prog []) (hF : FuncHypF l.inner)
    (σ : St) (σ' : TSt) (hag : Agree (blockIn l.prog []) σ σ') (hb : BoundSub σ D) (stk : CtxStack)
    (n : Nat) (o : Out) (σ₁ : St) (hsrc : execB X n (eraseB l.prog) σ = some (o, σ₁))
    (m : Nat) (r : Out) (τ : TSt) (stk' : CtxStack)
    (hrun : callConvertedF X m l name userRequested σ' stk = some (r, τ, stk')) :
    stk' = stk ∧ (IsExc r ∨ (r = fnOutcome o ∧ τ.log = σ₁.log)) :=
  wrapper_both_F X l hwf name userRequested D hyp hF.hypf hF.pure σ σ' hag hb stk n o σ₁ hsrc m r τ stk' hrun

namespace ExamplesF
open Examples

example : funcHypF loopProg = true ∧ funcHypF branchProg = true ∧ funcHypF forProg = true := by decide +kernel

example : (execFB X0 16 (funcB loopProg) (TSt.ofSt (st [("n", .int 3)]))).map (·.1) = some (.ret (.int 6)) := by decide +kernel
example : (execFB X0 10 (funcB branchProg) (TSt.ofSt (st [("c", .int 4)]))).map (·.1) = some (.ret (.int 10)) := by decide +kernel
example : (execFB X0 18 (funcB forProg) (TSt.ofSt (st [("xs", .list [1, 2, -1, 5])]))).map (·.1) = some (.ret (.int 3)) := by decide +kernel
/-- Zero iterations: the body is still traced once, out of band. -/
example : (execFB X0 16 (funcB loopProg) (TSt.ofSt (st [("n", .int 0)]))).map (·.1) = some (.ret (.int 0)) := by decide +kernel

/-- `if c: y = x + 1; x = 0 else: y = 2` with `x, y` live before and only `y` live after: tuple `(y, x)`, `nouts = 1`
(`x` is input-only, sorted last). -/
example : (bv ["y", "x"] ["c", "x", "y"] ["y"] ["c", "x", "y"]).scopeVars = ["y", "x"] ∧
    (bv ["y", "x"] ["c", "x", "y"] ["y"] ["c", "x", "y"]).nouts = 1 := by decide +kernel

def condProg : ABlock :=
  [ .ifS {liveIn := ["c", "x", "y"], liveOut := ["y"], definedIn := ["c", "x", "y"], declared := ["y", "x"], undefined := [], nouts := 1}
      (.var "c")
      [ .assign {liveIn := ["x"], liveOut := ["y"]} "y" (.bin .add (.var "x") (.const (.int 1))),
        .assign {liveIn := ["y"], liveOut := ["y"]} "x" (.const (.int 0)) ]
      [ .assign {liveIn := [], liveOut := ["y"]} "y" (.const (.int 2)) ],
    .ret {liveIn := ["y"], liveOut := []} (some (.var "y")) ]

example : funcHyp ["c", "x", "y"] condProg [] = true ∧ funcHypF condProg = true := by decide +kernel
example : (execFB X0 10 (funcB condProg) (TSt.ofSt (st [("c", .int 1), ("x", .int 4), ("y", .int 9)]))).map (·.1)
    = some (.ret (.int 5)) := by decide +kernel

example : UsesBlockVars condProg := by
  intro s hs
  simp only [condProg, allB, allS, List.append_nil, List.nil_append, List.cons_append, List.mem_cons, List.not_mem_nil, or_false] at hs
  rcases hs with rfl | rfl | rfl | rfl | rfl
  · intro _; refine ⟨by decide +kernel, by decide +kernel, by decide +kernel⟩
  all_goals (intro h; cases h)

/-- `fallOff` logs a call, so it is not pure. -/
example : funcHypF condRet.inner = true := by decide +kernel
example : (callConvertedF X0 10 condRet "f" true (TSt.ofSt (st [("c", .int 1)])) [.disabled]).map (fun r => (r.1, r.2.2)) =
    some (.ret (.int 7), [.disabled]) := by decide +kernel
example : (callConvertedF X0 10 condRet "f" true (TSt.ofSt (st [("c", .int 0)])) []).map (fun r => (r.1, r.2.2)) =
    some (.ret .none, []) := by decide +kernel

end ExamplesF

/-! ## State completeness is needed: a wrong state tuple changes what a tracing backend computes while the native run
is unaffected (so tests that run converted code natively do not see C02). -/
namespace CounterF
open Examples

/-- `if c: x = x + 1; return x` with `nouts = 0`: `x` is declared input-only although it is read afterwards. -/
def inputOnlyWrong : ABlock :=
  [ .ifS {liveIn := ["c", "x"], liveOut := ["x"], definedIn := ["c", "x"], declared := ["x"], undefined := [], nouts := 0}
      (.var "c")
      [ .assign {liveIn := ["x"], liveOut := ["x"]} "x" (.bin .add (.var "x") (.const (.int 1))) ]
      [ .pass {liveIn := ["x"], liveOut := ["x"]} ],
    .ret {liveIn := ["x"], liveOut := []} (some (.var "x")) ]

/-- Natively the result is right: -/
example : funcHyp ["c", "x"] inputOnlyWrong [] = true := by decide +kernel
example : (execNB X0 8 (funcB inputOnlyWrong) (TSt.ofSt (st [("c", .int 1), ("x", .int 4)]))).map (·.1) = some (.ret (.int 5)) := by decide +kernel
/-- `HypFB` fails, and the tracing backend restores `x`: 4 instead of 5. -/
example : funcHypF inputOnlyWrong = false := by decide +kernel
theorem inputOnlyWrong_functional :
    (execFB X0 10 (funcB inputOnlyWrong) (TSt.ofSt (st [("c", .int 1), ("x", .int 4)]))).map (·.1) = some (.ret (.int 4)) := by decide +kernel

/-- **A defect of /repo that only a tracing backend sees** (class `state_var_unbound_local_of_enclosing_body`;
reproduced on the real code by `run_c02.py`):
```
t = 0
if a:
    if c: t = 1
    else: t = 2
    b = b + t
    t = 7            # dead store: makes `t` a local of the generated `if_body`
return b
```
`t` is defined before the outer `if`, so the inner `if` gets no `Undefined` placeholder; `t` is not live into or out
of the outer `if`, so `if_body` does not declare it and `t = 7` makes it a local of `if_body`; the inner statement
carries `t` in its state tuple, and its `get_state()` reads the unbound local. -/
def laterLocal : ABlock :=
  [ .assign {liveIn := ["a", "b", "c"], liveOut := ["a", "b", "c"]} "t" (.const (.int 0)),
    .ifS {liveIn := ["a", "b", "c"], liveOut := ["b"], definedIn := ["a", "b", "c", "t"], declared := ["b"], undefined := [], nouts := 1}
      (.var "a")
      [ .ifS {liveIn := ["b", "c"], liveOut := ["b", "t"], definedIn := ["a", "b", "c", "t"], declared := ["t"], undefined := [], nouts := 1}
          (.var "c")
          [ .assign {liveIn := ["b"], liveOut := ["b", "t"]} "t" (.const (.int 1)) ]
          [ .assign {liveIn := ["b"], liveOut := ["b", "t"]} "t" (.const (.int 2)) ],
        .assign {liveIn := ["b", "t"], liveOut := ["b"]} "b" (.bin .add (.var "b") (.var "t")),
        .assign {liveIn := ["b"], liveOut := ["b"]} "t" (.const (.int 7)) ]
      [ .pass {liveIn := ["b"], liveOut := ["b"]} ],
    .ret {liveIn := ["b"], liveOut := []} (some (.var "b")) ]

/-- Every static hypothesis of both theorems holds, -/
example : funcHyp ["a", "b", "c"] laterLocal [] = true ∧ funcHypF laterLocal = true := by decide +kernel
/-- natively the converted function is right, -/
example : (execNB X0 10 (funcB laterLocal) (TSt.ofSt (st [("a", .int 1), ("b", .int 2), ("c", .int 3)]))).map (·.1)
    = some (.ret (.int 3)) := by decide +kernel
/-- but the tracing run raises in `get_state`, also when the outer branch is not taken. -/
theorem laterLocal_functional :
    (execFB X0 12 (funcB laterLocal) (TSt.ofSt (st [("a", .int 1), ("b", .int 2), ("c", .int 3)]))).map (·.1)
      = some (.exc (.nameError "t")) ∧
    (execFB X0 12 (funcB laterLocal) (TSt.ofSt (st [("a", .int 0), ("b", .int 2), ("c", .int 3)]))).map (·.1)
      = some (.exc (.nameError "t")) := by decide +kernel
/-- The class predicate (what `hne` assumes away) holds of it and of none of the other examples. -/
example : stateUnboundRisk (funcB laterLocal) = true := by decide +kernel
example : stateUnboundRisk (funcB loopProg) = false ∧ stateUnboundRisk (funcB forProg) = false ∧
    stateUnboundRisk (funcB branchProg) = false := by decide +kernel

end CounterF
end Malt.Func
