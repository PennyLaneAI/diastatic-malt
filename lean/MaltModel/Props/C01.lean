import MaltModel.Conv.Pipeline
/-!
# C01 — conversion preserves Python semantics under the default operators

The obligations on the *extracted* pass pipeline.  The semantic-preservation theorems of this property are in
`Props/C01Jumps.lean` (jump lowering), `Props/C01Func.lean` (functionalisation), `Props/C01Exprs.lean` (expression
wrappers) and `Props/C01Compose.lean` (their composition, `C01_pipeline_partial`); `harness/run_c01.py` audits all of
them as part of this property.
-/
namespace Malt.Conv.Pipeline

/-- The pipeline extracted from `PyToPy.transform_ast` runs every mandatory pass exactly once,
unconditionally, in an order satisfying every precedence the per-pass theorems rely on. -/
theorem C01_pipeline_order : orderOk = true := by decide +kernel

/-- Feature-guarded passes are guarded by exactly their feature; no other pass is guarded. -/
theorem C01_pipeline_guards : guardsOk = true := by decide +kernel

/-- control_flow's transform builds the CFG and runs activity → reaching definitions → reaching
function definitions → liveness before functionalising (the annotations `control_flow_correct` assumes). -/
theorem C01_cf_analyses : cfAnalysesOk = true := by decide +kernel

/-- Passes that draw fresh names re-run the activity analysis on the tree they receive. -/
theorem C01_activity_fresh : activityFreshOk = true := by decide +kernel

end Malt.Conv.Pipeline
