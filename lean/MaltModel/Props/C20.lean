import MaltModel.Rt.Options
/-!
# C20 — conversion options survive embedding in generated code and key the caches

`Feature`, the constructor defaults, `STANDARD_OPTIONS` and the keyword sources of `call_options` come from
`Generated/Options.lean`, extracted from `/repo/malt/core/converter.py` on every run.
-/
namespace Malt.Options
open Malt.Gen

private theorem featList_mem (o : Opts) (f : Feature) : f ∈ featList o ↔ o.features f = true := by
  simp [featList, List.mem_filter, Feature.all_complete]

private theorem featSet_many_congr {fs gs : List Feature} (h : ∀ f, f ∈ fs ↔ f ∈ gs) :
    featSet (.many fs) = featSet (.many gs) :=
  funext fun g => by simp only [featSet, List.contains_eq_mem, h g]

private theorem featSet_featList (o : Opts) : featSet (.many (featList o)) = o.features :=
  funext fun g => Bool.eq_iff_iff.mpr (by simp only [featSet, List.contains_eq_mem, decide_eq_true_eq, featList_mem])

private theorem featSet_single_eq (f : Feature) : featSet (.single f) = featSet (.many [f]) := by
  funext g
  by_cases hfg : f = g
  · subst hfg; simp [featSet]
  · simp [featSet, hfg, Ne.symm hfg]

/-- `__eq__` holds exactly when the four fields are equal. -/
theorem C20_eq_iff_fields (a b : Opts) :
    eq a b = true ↔ (a.recursive = b.recursive ∧ a.userRequested = b.userRequested ∧
                     a.internal = b.internal ∧ a.features = b.features) := by
  constructor
  · intro h
    simp only [eq, asTuple, beq_iff_eq, Prod.mk.injEq] at h
    obtain ⟨hrec, huser, hint, hfeat⟩ := h
    exact ⟨hrec, huser, hint, by rw [← featSet_featList a, hfeat, featSet_featList b]⟩
  · rintro ⟨h1, h2, h3, h4⟩
    simp [eq, asTuple, featList, h1, h2, h3, h4]

theorem C20_eq_iff (a b : Opts) : eq a b = true ↔ a = b := by
  rw [C20_eq_iff_fields]
  constructor
  · rintro ⟨h1, h2, h3, h4⟩; cases a; cases b; simp_all
  · rintro rfl; simp

/-- Equal options hash equally, for any tuple hash. -/
theorem C20_eq_hash {α} (h : Bool × Bool × Bool × List Feature → α) (a b : Opts)
    (hab : eq a b = true) : hash h a = hash h b := by
  simp only [eq, beq_iff_eq] at hab
  simp [hash, hab]

/-- Unequal values compare unequal. -/
theorem C20_ne (a b : Opts) (h : a ≠ b) : eq a b = false := by
  cases hh : eq a b with
  | false => rfl
  | true => exact absurd ((C20_eq_iff a b).mp hh) h

/-- The cache sub-key distinguishes every two unequal option values. -/
theorem C20_cache_key_injective (a b : Opts) (h : eq (cacheKey a) (cacheKey b) = true) : eq a b = true := by
  simpa [cacheKey, cachingKeyIsOptions] using h

/-- The constructor normalises: every spelling of the same set gives the same value. -/
theorem C20_ctor_spelling (r u i : Bool) (fs gs : List Feature) (h : ∀ f, f ∈ fs ↔ f ∈ gs) :
    ctor r u i (.many fs) = ctor r u i (.many gs) := by
  rw [ctor, ctor, featSet_many_congr h]

theorem C20_ctor_single (r u i : Bool) (f : Feature) :
    ctor r u i (.single f) = ctor r u i (.many [f]) := by
  have : featSet (.single f) = featSet (.many [f]) := featSet_single_eq f
  simp [ctor, this]

theorem C20_ctor_none (r u i : Bool) : ctor r u i .none = ctor r u i (.many []) := by
  have : featSet .none = featSet (.many []) := by funext g; simp [featSet]
  simp [ctor, this]

/-- Round trip: for every iteration order of the feature set, the embedded expression evaluates back to an equal
options value. -/
theorem C20_roundtrip (o : Opts) (order : List Feature) (hperm : order.Perm (featList o)) :
    evalAst (toAst o order) = o := by
  unfold toAst
  split
  · rename_i h
    exact ((C20_eq_iff _ _).mp h).symm
  · have hf : featSet (evalFeatExpr (featExprOf order)) = o.features := by
      rw [← featSet_featList o, ← featSet_many_congr fun _ => hperm.mem_iff]
      match order with
      | [] => rfl
      | [f] => exact (featSet_single_eq f)
      | _ :: _ :: _ => rfl
    cases o
    simp_all [evalAst, ctor]

/-- `call_options` keeps the recursion flag and the feature set, drops `user_requested`, and allows
converting user code exactly when recursion is on. -/
theorem C20_callopts (o : Opts) :
    (callOptions o).recursive = o.recursive ∧ (callOptions o).userRequested = false ∧
    (callOptions o).internal = o.recursive ∧ (callOptions o).features = o.features := by
  -- the three `rfl`s evaluate the extracted keyword sources `callOptsRecursive/UserRequested/Internal`
  refine ⟨rfl, rfl, rfl, ?_⟩
  exact featSet_featList o

/-- The options a generated function scope hands to its callees are `call_options()` of its own options. -/
theorem C20_scope_callopts (o : Opts) :
    (scopeCallopts o).recursive = o.recursive ∧ (scopeCallopts o).userRequested = false ∧
    (scopeCallopts o).internal = o.recursive ∧ (scopeCallopts o).features = o.features := by
  have h : scopeCallopts o = callOptions o := by simp [scopeCallopts, scopeCalloptsFromCallOptions]
  rw [h]; exact C20_callopts o

theorem C20_uses (o : Opts) (f : Feature) :
    uses o f = true ↔ (o.features f = true ∨ o.features .ALL = true) := by
  simp [uses, Bool.or_eq_true, or_comm]

example : evalAst (toAst (ctor true true false (.many [.LISTS, .BUILTIN_FUNCTIONS]))
            [.LISTS, .BUILTIN_FUNCTIONS]) = ctor true true false (.many [.BUILTIN_FUNCTIONS, .LISTS]) := by
  rw [C20_roundtrip]
  · exact C20_ctor_spelling _ _ _ _ _ (by intro f; cases f <;> simp)
  · decide
example : toAst std [] = .std := by decide +kernel
example : toAst (ctor true true false (.single .LISTS)) [.LISTS] = .call true true (.bare .LISTS) false := by
  decide +kernel
example : uses (ctor false false false (.single .ALL)) .LISTS = true := by decide +kernel
example : eq (ctor true false true .none) (ctor true false true (.single .LISTS)) = false := by decide +kernel

end Malt.Options
