import MaltModel.Rt.Dedent
import MaltModel.Rt.Lambda
import MaltModel.Proofs.C15Dedent
import MaltModel.Proofs.C15Lex
/-!
# C15 — source recovery returns exactly the code of the function being converted

Models: `MaltModel/Rt/Lambda.lean` (`_parse_lambda`, `_node_matches_argspec`) and `MaltModel/Rt/Dedent.lean`
(`_unfold_continuations`, `dedent_block`, with CPython's tokenizer as an input oracle; in the last part
`MaltModel/Rt/Lex.lean`, a lexer in Lean, stands for the oracle).
-/

namespace Malt.Lambda

private theorem select_cases (cands : List Cand) (d : Nat) (spec : ArgSpec) {C : Sel → Prop}
    (hnil : cands.filter (spans d) = [] → C .noMatch)
    (hone : ∀ c, cands.filter (spans d) = [c] → C (.ok c))
    (hsel : ∀ c, (cands.filter (spans d)).filter (fun c => nodeMatches c.sig spec) = [c] → C (.ok c))
    (hamb : 2 ≤ (cands.filter (spans d)).length →
      (∀ c, (cands.filter (spans d)).filter (fun c => nodeMatches c.sig spec) ≠ [c]) → C .ambiguous) :
    C (select cands d spec) := by
  unfold select
  generalize cands.filter (spans d) = S at *
  match S with
  | [] => exact hnil rfl
  | [c] => exact hone c rfl
  | c1 :: c2 :: t =>
    have hamb := hamb (Nat.le_add_left 2 t.length)
    show C (match (c1 :: c2 :: t).filter (fun c => nodeMatches c.sig spec) with | [c] => .ok c | _ => .ambiguous)
    generalize (c1 :: c2 :: t).filter (fun c => nodeMatches c.sig spec) = M at *
    match M with
    | [c] => exact hsel c rfl
    | [] => exact hamb (fun _ => nofun)
    | x :: y :: z => exact hamb (fun _ => nofun)

/-- The contract `_parse_lambda` implements when it answers a node. -/
theorem C15_lambda_select_sound (cands : List Cand) (d : Nat) (spec : ArgSpec) (n : Cand)
    (h : select cands d spec = .ok n) :
    n ∈ cands ∧ spans d n = true ∧
    (cands.filter (spans d) = [n] ∨
      (nodeMatches n.sig spec = true ∧
        ∀ m ∈ cands, spans d m = true → nodeMatches m.sig spec = true → m = n)) := by
  revert h
  refine select_cases cands d spec (C := fun r => r = .ok n → _) (fun _ => nofun) (fun c hcs h => ?_)
    (fun c hc h => ?_) (fun _ _ => nofun) <;> cases h
  · have hm := List.mem_filter.mp (hcs ▸ List.mem_singleton_self n : n ∈ cands.filter (spans d))
    exact ⟨hm.1, hm.2, Or.inl hcs⟩
  · have hm1 := List.mem_filter.mp (hc ▸ List.mem_singleton_self n :
      n ∈ (cands.filter (spans d)).filter (fun c => nodeMatches c.sig spec))
    have hm3 := List.mem_filter.mp hm1.1
    refine ⟨hm3.1, hm3.2, Or.inr ⟨hm1.2, fun m hmc hsp hmt => ?_⟩⟩
    have : m ∈ (cands.filter (spans d)).filter (fun c => nodeMatches c.sig spec) :=
      List.mem_filter.mpr ⟨List.mem_filter.mpr ⟨hmc, hsp⟩, hmt⟩
    rw [hc] at this
    exact List.mem_singleton.mp this

theorem C15_lambda_errors (cands : List Cand) (d : Nat) (spec : ArgSpec) :
    (select cands d spec = .noMatch ↔ cands.filter (spans d) = []) ∧
    (select cands d spec = .ambiguous →
      2 ≤ (cands.filter (spans d)).length ∧
      ((cands.filter (spans d)).filter (fun c => nodeMatches c.sig spec)).length ≠ 1) := by
  refine select_cases cands d spec (C := fun r => (r = .noMatch ↔ _) ∧ (r = .ambiguous → _))
    (fun hcs => ⟨⟨fun _ => hcs, fun _ => rfl⟩, nofun⟩)
    (fun c hcs => ⟨⟨nofun, fun h => ?_⟩, nofun⟩) (fun c hc => ⟨⟨nofun, fun h => ?_⟩, nofun⟩)
    (fun h2 hne => ⟨⟨nofun, fun h => ?_⟩, fun _ => ⟨h2, fun hl => ?_⟩⟩)
  · rw [hcs] at h; cases h
  · rw [h] at hc; cases hc
  · rw [h] at h2; cases h2
  · obtain ⟨c, hc⟩ := List.length_eq_one_iff.mp hl
    exact hne c hc

private theorem nodeMatches_iff (m t : Sig) : nodeMatches m (specOf t) = true ↔ specOf m = specOf t := by
  simp only [nodeMatches, specOf, Bool.and_eq_true, beq_iff_eq, ArgSpec.mk.injEq]
  constructor
  · rintro ⟨⟨⟨h1, h2⟩, h3⟩, h4⟩; exact ⟨h1, h2.symm, h3.symm, h4⟩
  · rintro ⟨h1, h2, h3, h4⟩; exact ⟨⟨⟨h1, h2.symm⟩, h3.symm⟩, h4⟩

/-- `_node_matches_argspec` (as of /repo e1be7e7, which compares positional-only parameters too) accepts the very
lambda it is called for. -/
theorem C15_nodeMatches_self (s : Sig) : nodeMatches s (specOf s) = true :=
  (nodeMatches_iff s s).mpr rfl

/-- **The lambda returned is the one that created the function object.**  `hmem`, `hspan` and the use of
`specOf tgt.sig` are the CPython facts (the creating node is in the searched module tree, spans
`co_firstlineno`, and `getfullargspec` reports its parameters); the harness checks them on every case. -/
theorem C15_lambda (cands : List Cand) (d : Nat) (tgt n : Cand)
    (hmem : tgt ∈ cands) (hspan : spans d tgt = true)
    (h : select cands d (specOf tgt.sig) = .ok n) : n = tgt := by
  have hin : tgt ∈ cands.filter (spans d) := List.mem_filter.mpr ⟨hmem, hspan⟩
  rcases C15_lambda_select_sound cands d _ n h with ⟨_, _, hsole | ⟨_, huniq⟩⟩
  · rw [hsole] at hin
    have : tgt = n := by simpa using hin
    exact this.symm
  · exact (huniq tgt hmem hspan (C15_nodeMatches_self _)).symm

theorem C15_lambda_total (cands : List Cand) (d : Nat) (tgt : Cand)
    (hmem : tgt ∈ cands) (hspan : spans d tgt = true) :
    select cands d (specOf tgt.sig) = .ok tgt ∨ select cands d (specOf tgt.sig) = .ambiguous := by
  cases hs : select cands d (specOf tgt.sig) with
  | ok n => left; rw [C15_lambda cands d tgt n hmem hspan hs]
  | ambiguous => right; rfl
  | noMatch =>
    have := ((C15_lambda_errors cands d (specOf tgt.sig)).1.mp hs)
    have hin : tgt ∈ cands.filter (spans d) := List.mem_filter.mpr ⟨hmem, hspan⟩
    rw [this] at hin
    simp at hin

private theorem filter_eq_singleton {α} {p : α → Bool} {a : α} {l : List α} (hnd : l.Nodup) (hmem : a ∈ l)
    (hpa : p a = true) (huniq : ∀ b ∈ l, p b = true → b = a) : l.filter p = [a] := by
  have hall : ∀ b ∈ l.filter p, b = a :=
    fun b hb => huniq b (List.mem_filter.mp hb).1 (List.mem_filter.mp hb).2
  have hin : a ∈ l.filter p := List.mem_filter.mpr ⟨hmem, hpa⟩
  have hnd' := hnd.filter p
  generalize l.filter p = m at hall hin hnd'
  match m, hin, hall, hnd' with
  | [x], _, hall, _ => rw [hall x List.mem_cons_self]
  | x :: y :: t, _, hall, hnd' =>
    rw [hall x List.mem_cons_self, hall y (List.mem_cons_of_mem _ List.mem_cons_self)] at hnd'
    exact absurd List.mem_cons_self (List.nodup_cons.mp hnd').1

/-- **Any number of lambdas per line**: if no other candidate spanning the definition line has the target's
signature as `_node_matches_argspec` sees it, the target is returned.  `cands.Nodup`: candidates are distinct AST
nodes. -/
theorem C15_lambda_distinct (cands : List Cand) (d : Nat) (tgt : Cand) (hnd : cands.Nodup)
    (hmem : tgt ∈ cands) (hspan : spans d tgt = true) (hdist : distinguishable cands d tgt = true) :
    select cands d (specOf tgt.sig) = .ok tgt := by
  have hin : tgt ∈ cands.filter (spans d) := List.mem_filter.mpr ⟨hmem, hspan⟩
  have hndf : (cands.filter (spans d)).Nodup := hnd.filter _
  have hsing : (cands.filter (spans d)).filter (fun c => nodeMatches c.sig (specOf tgt.sig)) = [tgt] := by
    apply filter_eq_singleton hndf hin (C15_nodeMatches_self _)
    intro b hb hpb
    simp only [distinguishable, List.all_eq_true, Bool.or_eq_true, beq_iff_eq, bne_iff_ne, ne_eq] at hdist
    rcases hdist b hb with h | h
    · exact h
    · exact absurd ((nodeMatches_iff _ _).mp hpb) h
  rcases C15_lambda_total cands d tgt hmem hspan with h | h
  · exact h
  · exact absurd (by rw [hsing]; rfl) ((C15_lambda_errors cands d _).2 h).2

/-- **Ambiguity is reported, never resolved silently.** -/
theorem C15_lambda_ambiguity_reported (cands : List Cand) (d : Nat) (tgt : Cand)
    (hmem : tgt ∈ cands) (hspan : spans d tgt = true) (hdist : distinguishable cands d tgt = false) :
    select cands d (specOf tgt.sig) = .ambiguous := by
  obtain ⟨m, hm, hne, hmm⟩ : ∃ m ∈ cands.filter (spans d), m ≠ tgt ∧ nodeMatches m.sig (specOf tgt.sig) = true := by
    unfold distinguishable at hdist
    rw [List.all_eq_false] at hdist
    obtain ⟨m, hm, hne⟩ := hdist
    simp only [Bool.or_eq_true, beq_iff_eq, bne_iff_ne, ne_eq, not_or, Decidable.not_not] at hne
    exact ⟨m, hm, hne.1, (nodeMatches_iff _ _).mpr hne.2⟩
  rcases C15_lambda_total cands d tgt hmem hspan with hs | hs
  · exfalso
    rcases C15_lambda_select_sound cands d _ tgt hs with ⟨_, _, hsole | ⟨_, huniq⟩⟩
    · rw [hsole] at hm
      exact hne (List.mem_singleton.mp hm)
    · have hm' := List.mem_filter.mp hm
      exact hne (huniq m hm'.1 hm'.2 hmm)
  · exact hs

/-- **Partition**: the right node or the explicit ambiguity error; a wrong lambda is impossible. -/
theorem C15_lambda_partition (cands : List Cand) (d : Nat) (tgt : Cand) (hnd : cands.Nodup)
    (hmem : tgt ∈ cands) (hspan : spans d tgt = true) :
    (distinguishable cands d tgt = true ∧ select cands d (specOf tgt.sig) = .ok tgt) ∨
    (distinguishable cands d tgt = false ∧ select cands d (specOf tgt.sig) = .ambiguous) := by
  cases h : distinguishable cands d tgt with
  | true => exact Or.inl ⟨rfl, C15_lambda_distinct cands d tgt hnd hmem hspan h⟩
  | false => exact Or.inr ⟨rfl, C15_lambda_ambiguity_reported cands d tgt hmem hspan h⟩

/-- A lambda of a statement that starts at or before `def_line`, like all statements before it (CPython's
non-decreasing line numbers of top-level statements), is among the nodes searched. -/
theorem C15_lambda_search (pre post : List Top) (t : Top) (d : Nat) (c : Cand)
    (hpre : ∀ u ∈ pre, u.lineno ≤ d) (ht : t.lineno ≤ d) (hc : c ∈ t.lams) :
    c ∈ lambdaNodes d (pre ++ t :: post) := by
  unfold lambdaNodes
  induction pre with
  | nil =>
    simp only [List.nil_append, searchNodes, ht, if_true, List.flatMap_cons, List.mem_append]
    exact Or.inl hc
  | cons u us ih =>
    have hu : u.lineno ≤ d := hpre u (by simp)
    simp only [List.cons_append, searchNodes, hu, if_true, List.flatMap_cons, List.mem_append]
    exact Or.inr (ih (fun v hv => hpre v (by simp [hv])))

/-! Non-vacuity.  For DESIGN §8's `(lambda x, /, y: x-y, lambda x, y: x+y)[0]` both nodes match the argspec `(x, y)`
and the answer is the explicit ambiguity error. -/

private def lamPos : Cand := ⟨0, 1, 1, ⟨["x"], ["y"], none, [], none⟩⟩     -- lambda x, /, y: x - y
private def lamPlain : Cand := ⟨1, 1, 1, ⟨[], ["x", "y"], none, [], none⟩⟩  -- lambda x, y: x + y
private def lamOther : Cand := ⟨2, 1, 2, ⟨[], ["z"], some "a", ["k"], none⟩⟩ -- lambda z, *a, k: …
private def lamPos2 : Cand := ⟨3, 1, 1, ⟨["u"], ["v"], none, [], none⟩⟩    -- lambda u, /, v: …

example : select [lamPos, lamPlain] 1 (specOf lamPos.sig) = .ambiguous ∧
    select [lamPos, lamPlain] 1 (specOf lamPlain.sig) = .ambiguous := by decide +kernel
example : select [lamPos, lamOther, lamPos2] 1 (specOf lamPos.sig) = .ok lamPos ∧
    select [lamPos, lamOther, lamPos2] 1 (specOf lamPos2.sig) = .ok lamPos2 := by decide +kernel
example : nodeMatches lamPos.sig (specOf lamPos.sig) = true := by decide +kernel
example : lamPlain ∈ [lamPlain, lamOther] ∧ spans 1 lamPlain = true ∧
    select [lamPlain, lamOther] 1 (specOf lamPlain.sig) = .ok lamPlain := by decide +kernel
/-- five lambdas on one line, three of them with the same parameter names -/
example :
    let l := [lamPos, lamOther, lamPos2, lamPlain, { lamPlain with id := 9 }]
    l.Nodup ∧ distinguishable l 1 lamPos2 = true ∧ select l 1 (specOf lamPos2.sig) = .ok lamPos2 ∧
    select l 1 (specOf lamOther.sig) = .ok lamOther ∧
    distinguishable l 1 lamPlain = false ∧ select l 1 (specOf lamPlain.sig) = .ambiguous ∧
    distinguishable l 1 lamPos = false ∧ select l 1 (specOf lamPos.sig) = .ambiguous := by decide +kernel
example : select [lamPlain, { lamPlain with id := 7 }] 1 (specOf lamPlain.sig) = .ambiguous := by decide +kernel
example : select [lamOther] 3 (specOf lamOther.sig) = .noMatch := by decide +kernel

end Malt.Lambda

namespace Malt.Dedent

/-
Full statement: for every source text, unfolding preserves the token sequence.  False of the pinned code:
`code_string.replace('\\\n', '')` also rewrites the inside of string literals and comments (counterexamples
below).  Proved: the `_partial` form under `unfoldSafe` — every backslash-newline lies in a gap between tokens;
the class `backslash_newline_inside_string_or_comment` (`contInsideToken`) is one way to fail it (the other: a gap
that is not blanks and continuations).  That re-tokenising
the unfolded text yields the same tokens needs `contJoinsTokens` and `contInIndentation` false as well; it is a
property of CPython's tokenizer, checked on every generated case by the harness, not proved.
-/

theorem C15_unfold_partial (as : List ATok) (h : unfoldSafe as = true) :
    unfold (renderA as) = renderA (unfoldGaps as) ∧
    (unfoldGaps as).map (·.tok) = as.map (·.tok) :=
  ⟨unfold_renderA as h, by simp [unfoldGaps, List.map_map, Function.comp_def]⟩

theorem C15_unfold_noop (s : Str) (h : hasCont s = false) : unfold s = s := unfold_of_not_hasCont s h

private theorem unfold_bs_ne (d : Char) (r : Str) (h : d ≠ '\n') :
    unfold ('\\' :: d :: r) = '\\' :: unfold (d :: r) :=
  unfold_nopair '\\' d r fun hh => h hh.2

private def tk (k : Kind) (s : String) : Tok := ⟨k, s.toList, 0, 0, 0, 0⟩

/-- non-vacuity: `x = 1 + \⏎    2` -/
example : unfoldSafe [⟨[], tk .NAME "x"⟩, ⟨[' '], tk .OP "="⟩, ⟨[' '], tk .NUMBER "1"⟩, ⟨[' '], tk .OP "+"⟩,
    ⟨" \\\n    ".toList, tk .NUMBER "2"⟩, ⟨[], tk .NEWLINE "\n"⟩] = true := by decide +kernel

/-- counterexample 1 (raw string, DESIGN §8): the STRING token `r"""ab\⏎cd"""` becomes `r"""abcd"""` -/
example : unfold (renderA [⟨[], tk .NAME "s"⟩, ⟨[' '], tk .OP "="⟩, ⟨[' '], tk .STRING "r\"\"\"ab\\\ncd\"\"\""⟩]) =
    renderA [⟨[], tk .NAME "s"⟩, ⟨[' '], tk .OP "="⟩, ⟨[' '], tk .STRING "r\"\"\"abcd\"\"\""⟩] := by decide +kernel

/-- counterexample 2 (comment ending in a backslash): the NL token and the next statement `y = 2` end up
inside the comment -/
example : unfold (renderA [⟨[], tk .NAME "x"⟩, ⟨[' '], tk .COMMENT "# c \\"⟩, ⟨[], tk .NL "\n"⟩,
      ⟨[], tk .NAME "y"⟩, ⟨[' '], tk .OP "="⟩, ⟨[' '], tk .NUMBER "2"⟩]) =
    renderA [⟨[], tk .NAME "x"⟩, ⟨[' '], tk .COMMENT "# c y = 2"⟩] := by decide +kernel

/-- so the unhypothesised statement is false -/
example : ¬ (∀ as : List ATok, unfold (renderA as) = renderA (unfoldGaps as)) := by
  intro h
  have := h [⟨[], tk .STRING "r'a\\\nb'"⟩]
  exact absurd this (by decide)

example : contInsideToken [⟨[], tk .STRING "r'a\\\nb'"⟩] = true := by decide +kernel
example : contInsideToken [⟨[], tk .NAME "x"⟩, ⟨[' '], tk .COMMENT "# c \\"⟩, ⟨[], tk .NL "\n"⟩] = true := by decide +kernel
/-- `x = a\⏎if b else c` : the continuation is the only separator of `a` and `if` -/
example : contJoinsTokens [⟨[], tk .NAME "a"⟩, ⟨"\\\n".toList, tk .NAME "if"⟩] = true := by decide +kernel
example : contInIndentation [⟨[], tk .NEWLINE "\n"⟩, ⟨"    \\\n    ".toList, tk .NAME "y"⟩] = true := by decide +kernel

/-- **Text-level dedent theorem.**  `as` is an annotated token stream that renders to `unfold code` (`hcode`): the
oracle's in the harness, the Lean lexer's in `C15_recover_partial`.
If it is well formed (`wf`; among other things: it starts with the INDENT announcing the non-empty block indentation `p`; gaps are
blanks; tokens other than string literals and the literal parts of f-strings are single-line; no gap follows an
f-string literal part; no DEDENT without its INDENT; an ENDMARKER only last and at depth 0) and obeys the tokenizer's indentation discipline
(`startsOk`), `dedent_block` succeeds with the same tokens and other gaps (`dedentSpec`): the gap before the
first token of a logical line loses exactly `p`, the gap before the first token of any other physical line (blank,
comment, bracket continuation) only loses leading blanks, all other gaps are unchanged.  The driver evaluates
both hypotheses on the real token stream of every case; the harness compares `renderA (adjust p as)` with the
real output. -/
theorem C15_dedent_text (p : Str) (as : List ATok) (code : Str)
    (hwf : wf p as = true) (hstarts : startsOk p as = true) (hcode : unfold code = renderA as) :
    dedentBlock code (as.map (·.tok)) = .ok (renderA (adjust p as)) ∧
    dedentSpec p as (adjust p as) = true := by
  constructor
  · unfold dedentBlock
    rw [hcode]
    exact dedentCore_wf p as hwf
  · have := adjustGo_spec p as true false true [] (wfGo_of_wf p as hwf) hstarts (by simp)
    simpa [dedentSpec, adjust] using this

theorem C15_dedent_unindented (code : Str) (toks : List Tok)
    (h : blockIndent toks = none ∨ blockIndent toks = some []) : dedentBlock code toks = .ok (unfold code) := by
  unfold dedentBlock dedentCore
  rcases h with h | h <;> rw [h] <;> simp

/-- streams related by `dedentSpecGo` have the same tokens ("string-interior lines untouched") -/
theorem C15_dedent_tokens_untouched (p : Str) : ∀ (lg sl : Bool) (as bs : List ATok),
    dedentSpecGo p lg sl as bs = true → bs.map (·.tok) = as.map (·.tok) :=
  fun _ _ _ _ => dedentSpecGo_toks

/-- what the final loop of `dedent_block` does with a line `p ++ ind ++ rest` against the untokenized
`ind ++ rest'` at a logical-line start -/
theorem C15_fixLine_logical_start (p ind rest rest' : Str) (hp : p.all isSpace = true)
    (hi : ind.all isSpace = true) (hr : headNonSpace rest = true) (hr' : headNonSpace rest' = true) :
    fixLine (p ++ ind ++ rest) (ind ++ rest') = ind ++ rest := by
  have hpi : (p ++ ind).all isSpace = true := by simp [List.all_append, hp, hi]
  rw [fixLine_fresh hpi hi hr hr', trimTo_append_right]

/-- a physical line inside a multi-line string: both sides carry the same text -/
theorem C15_fixLine_string_interior (l : Str) : fixLine l l = l := fixLine_self l

private def tk' (k : Kind) (s : String) : Tok := ⟨k, s.toList, 0, 0, 0, 0⟩

/-- non-vacuity: an indented method with a nested block, a bracket continuation that is under-indented, a
triple-quoted string with an under-indented interior line, a comment line and a blank line:
```
    def f():
        x = [1,
  2]
        s = """a
 b"""
    # c

        return x
```
-/
private def exAtoks : List ATok := [
  ⟨[], tk' .INDENT "    "⟩, ⟨"    ".toList, tk' .NAME "def"⟩, ⟨[' '], tk' .NAME "f"⟩, ⟨[], tk' .OP "("⟩, ⟨[], tk' .OP ")"⟩,
  ⟨[], tk' .OP ":"⟩, ⟨[], tk' .NEWLINE "\n"⟩,
  ⟨[], tk' .INDENT "        "⟩, ⟨"        ".toList, tk' .NAME "x"⟩, ⟨[' '], tk' .OP "="⟩, ⟨[' '], tk' .OP "["⟩,
  ⟨[], tk' .NUMBER "1"⟩, ⟨[], tk' .OP ","⟩, ⟨[], tk' .NL "\n"⟩,
  ⟨"  ".toList, tk' .NUMBER "2"⟩, ⟨[], tk' .OP "]"⟩, ⟨[], tk' .NEWLINE "\n"⟩,
  ⟨"        ".toList, tk' .NAME "s"⟩, ⟨[' '], tk' .OP "="⟩, ⟨[' '], tk' .STRING "\"\"\"a\n b\"\"\""⟩, ⟨[], tk' .NEWLINE "\n"⟩,
  ⟨"    ".toList, tk' .COMMENT "# c"⟩, ⟨[], tk' .NL "\n"⟩,
  ⟨[], tk' .NL "\n"⟩,
  ⟨"        ".toList, tk' .NAME "return"⟩, ⟨[' '], tk' .NAME "x"⟩, ⟨[], tk' .NEWLINE "\n"⟩,
  ⟨[], tk' .DEDENT ""⟩, ⟨[], tk' .DEDENT ""⟩, ⟨[], tk' .ENDMARKER ""⟩]

example : wf "    ".toList exAtoks = true ∧ startsOk "    ".toList exAtoks = true := by decide +kernel
-- The kernel turns a literal into `String.ofList […]` at once, but evaluating `toList` or `=` on it walks its
-- UTF-8 bytes with quadratic cost: compare character lists, and rewrite `"…".toList` with `String.toList_ofList`.
example : String.ofList (renderA exAtoks) =
    "    def f():\n        x = [1,\n  2]\n        s = \"\"\"a\n b\"\"\"\n    # c\n\n        return x\n" :=
  congrArg String.ofList (by decide +kernel)
example : String.ofList (renderA (adjust "    ".toList exAtoks)) =
    "def f():\n    x = [1,\n  2]\n    s = \"\"\"a\n b\"\"\"\n    # c\n\n    return x\n" :=
  congrArg String.ofList (by rw [String.toList_ofList]; decide +kernel)

/-- non-vacuity with an f-string (3.12 token stream): a triple-quoted f-string with an escaped brace, an
under-indented replacement field and a whitespace-only last line:
```
    def f(a):
        s = f"""x{{
  {a}
 """
        return s
```
-/
private def exFstr : List ATok := [
  ⟨[], tk' .INDENT "    "⟩, ⟨"    ".toList, tk' .NAME "def"⟩, ⟨[' '], tk' .NAME "f"⟩, ⟨[], tk' .OP "("⟩, ⟨[], tk' .NAME "a"⟩,
  ⟨[], tk' .OP ")"⟩, ⟨[], tk' .OP ":"⟩, ⟨[], tk' .NEWLINE "\n"⟩,
  ⟨[], tk' .INDENT "        "⟩, ⟨"        ".toList, tk' .NAME "s"⟩, ⟨[' '], tk' .OP "="⟩,
  ⟨[' '], tk' .FSTRING_START "f\"\"\""⟩, ⟨[], tk' .FSTRING_MIDDLE "x{"⟩, ⟨[], tk' .FSTRING_MIDDLE "\n  "⟩,
  ⟨[], tk' .OP "{"⟩, ⟨[], tk' .NAME "a"⟩, ⟨[], tk' .OP "}"⟩, ⟨[], tk' .FSTRING_MIDDLE "\n "⟩,
  ⟨[], tk' .FSTRING_END "\"\"\""⟩, ⟨[], tk' .NEWLINE "\n"⟩,
  ⟨"        ".toList, tk' .NAME "return"⟩, ⟨[' '], tk' .NAME "s"⟩, ⟨[], tk' .NEWLINE "\n"⟩,
  ⟨[], tk' .DEDENT ""⟩, ⟨[], tk' .DEDENT ""⟩, ⟨[], tk' .ENDMARKER ""⟩]

example : wf "    ".toList exFstr = true ∧ startsOk "    ".toList exFstr = true := by decide +kernel
example : String.ofList (renderA exFstr) =
    "    def f(a):\n        s = f\"\"\"x{{\n  {a}\n \"\"\"\n        return s\n" :=
  congrArg String.ofList (by decide +kernel)
example : String.ofList (renderA (adjust "    ".toList exFstr)) =
    "def f(a):\n    s = f\"\"\"x{{\n  {a}\n \"\"\"\n    return s\n" :=
  congrArg String.ofList (by rw [String.toList_ofList]; decide +kernel)

end Malt.Dedent

/-! ## Without the tokenizer oracle: the Lean lexer (MaltModel/Rt/Lex.lean)

`Lex.step` is a look-ahead-free automaton for Python's string literals, comments and explicit continuations.
`contsInCode` ("every backslash-newline is read in plain code") excludes the finding class
`backslash_newline_inside_string_or_comment` (and, conservatively, a continuation directly after an empty string
literal, which is read in mode `cq2`). -/
namespace Malt.Lex
open Malt.Dedent

/-- **Unfolding on the fragment**: on `_unfold_continuations(s)` the automaton reads every remaining character in
the same mode as before, and `unfold` is the token-aware unfolding `specUnfold`. -/
theorem C15_unfold_lex (s : Str) (h : contsInCode .c0 s = true) :
    trace .c0 (unfold s) = dropConts (trace .c0 s) ∧ final .c0 (unfold s) = final .c0 s ∧
    unfold s = specUnfold .c0 s :=
  unfold_lex s .c0 h

/-- **Exactly when**: outside the fragment `_unfold_continuations` is not the token-aware unfolding. -/
theorem C15_unfold_lex_exact (s : Str) : unfold s = specUnfold .c0 s ↔ contsInCode .c0 s = true :=
  unfold_eq_spec_iff s .c0

/-- non-vacuity: continuations between tokens, a string containing `#` and an escaped quote, a comment -/
example : contsInCode .c0 "x = 1 + \\\n    f('a#\\'b')  # c \\ d\ny = \"\"\"t\n\"\"\" \\\n".toList = true := by
  rw [String.toList_ofList]; decide +kernel
/-- the raw-string finding: outside the fragment, and `unfold` differs from the token-aware unfolding -/
example : contsInCode .c0 "s = r'a\\\nb'".toList = false ∧
    unfold "s = r'a\\\nb'".toList ≠ specUnfold .c0 "s = r'a\\\nb'".toList := by
  rw [String.toList_ofList]; decide +kernel
/-- the comment finding -/
example : contsInCode .c0 "x = 1  # c \\\ny = 2\n".toList = false := by
  rw [String.toList_ofList]; decide +kernel
/-- an escaped backslash followed by the newline inside a non-raw string -/
example : contsInCode .c0 "s = \"\"\"a\\\\\nb\"\"\"".toList = false := by
  rw [String.toList_ofList]; decide +kernel

/-
Full statement: for every `s`, the token sequence of `dedent_block(s)` is that of `s`, gaps modulo the common
indentation.  False of the pinned code outside the fragment (`C15_unfold_lex_exact`; known_findings.d/C15.json).
Proved: the `_partial` form on
  (F1) `contsInCode .c0 s`;
  (F2) `wf p as ∧ startsOk p as ∧ renderA as = unfold s` for `as = lexA (unfold s)`: the Lean lexer's stream of
       the unfolded text is well formed (not mixing tabs/spaces, no DEDENT without its INDENT, …).
Both are decidable; the driver op `c15.why` evaluates them and names the reason when one fails (it also excludes
multi-line f-strings, `multilineFString`, on which `tokenize` and `lexA` differ).  Sampled, not
proved: that `tokenize` agrees with `lexA` (every generated and /repo source), and that re-lexing the unfolded text
gives the chunks of the original (needs the classes backslash_newline_joins_adjacent_tokens /
backslash_newline_in_indentation excluded).
The tokens of `lexA` carry no positions (all 0); `dedentBlock` does not read them here, because `wf` puts the INDENT
first and `untokFull` then hands the whole stream to `compat`.
-/

/-- **`dedent_block ∘ unfold_continuations` on the fragment, over the Lean lexer** (F1 is needed for the first
conjunct only). -/
theorem C15_recover_partial (s p : Str)
    (hF1 : contsInCode .c0 s = true)
    (hr : renderA (lexA (unfold s)) = unfold s)
    (hwf : wf p (lexA (unfold s)) = true) (hst : startsOk p (lexA (unfold s)) = true) :
    unfold s = specUnfold .c0 s ∧
    dedentBlock s ((lexA (unfold s)).map (·.tok)) = .ok (renderA (adjust p (lexA (unfold s)))) ∧
    dedentSpec p (lexA (unfold s)) (adjust p (lexA (unfold s))) = true ∧
    (adjust p (lexA (unfold s))).map (·.tok) = (lexA (unfold s)).map (·.tok) := by
  have h := C15_dedent_text p (lexA (unfold s)) s hwf hst hr.symm
  exact ⟨unfold_eq_spec s .c0 hF1, h.1, h.2, dedentSpecGo_toks h.2⟩

private def exSrc : Str :=
  "    def f(a):\n        x = [1,\n  2]  # c\n        s = r\"\"\"a\n b\"\"\" + \\\n            'q#'\n\n        return x\n".toList

example : contsInCode .c0 exSrc = true ∧ renderA (lexA (unfold exSrc)) = unfold exSrc ∧
    wf "    ".toList (lexA (unfold exSrc)) = true ∧ startsOk "    ".toList (lexA (unfold exSrc)) = true := by
  unfold exSrc; rw [String.toList_ofList]; decide +kernel
example : String.ofList (renderA (adjust "    ".toList (lexA (unfold exSrc)))) =
    "def f(a):\n    x = [1,\n  2]  # c\n    s = r\"\"\"a\n b\"\"\" +             'q#'\n\n    return x\n" :=
  congrArg String.ofList (by unfold exSrc; rw [String.toList_ofList, String.toList_ofList]; decide +kernel)

end Malt.Lex
