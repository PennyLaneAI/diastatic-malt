import MaltModel.Rt.Ctx
import MaltModel.Proofs.C16
/-!
# C16 — conversion-status context is restored on every exit and isolated per thread

`runNode t p m s` is the call of the (wrapped) function at the root of call tree `t`, at position `p` of the whole
tree, written in a body that runs in mode `m` (native, or converted by malt), from a thread whose context list and
object counter are `s`.  The result has the thread state afterwards (`.st`), the exception that comes out (`.out`)
and the observations of `control_status_ctx()` the harness made on the way (`.log`).  A tree fixes for every node
the wrapper (`Kind`), the children, whether and where the body raises, and whether it catches: quantifying over
trees is "whatever raises, wherever it is caught".
-/
namespace Malt.Ctx

/-! ## The model's constants are the code's (`Gen.*` is extracted from the source on every run) -/

/-- The thread's default context, `do_not_convert`, `call_with_unspecified_conversion_status`, `FunctionScope`, and
the status under which `converted_call` converts nothing. -/
theorem C16_code_constants :
    Stack.init = [⟨.dflt, Gen.defaultStatus⟩] ∧
    (∀ m b, wrap .doNotConvert m b = withFresh Gen.doNotConvertStatus (b .native)) ∧
    (∀ m b, wrap .unspecified m b = withFresh Gen.unspecifiedWrapperStatus (b .native)) ∧
    (∀ b, functionScope true b = withFresh Gen.functionScopeStatus b) ∧
    (∀ ur rec feat b s e, s.stack.head? = some e →
      convertedCall ur rec feat b s = if e.status = Gen.convertedCallSkipsWhen then b .native s
                                      else fsWith ur feat (b (.converted rec)) s) ∧
    (∀ rec e, calleeMode rec e = if e.status = Gen.convertedCallSkipsWhen then .native
                                 else if rec then .converted rec else .native) :=
  ⟨rfl, fun _ _ => rfl, fun _ _ => rfl, fun _ => rfl,
   fun ur rec feat b s e h => by simp only [convertedCall, h]; rfl,
   fun _ _ => rfl⟩

theorem C16_code_internal_convert_table (e : Entry) (cbd ur : Bool) :
    resolveInternal e cbd ur =
      match Gen.internalChoice e.status cbd with
      | .convertWithCtx => .convert ur true false (some (.obj e))
      | .doNotConvert => .doNotConvert
      | .unspecifiedWrapper => .unspecified
      | .convertNullCtx => .convert ur true false none     -- not what the model describes: the captured context would
      | .unresolved => .plain                              --   not be re-established (the theorem then fails to compile)
      := by
  cases hs : e.status <;> cases cbd <;> simp [resolveInternal, hs, Gen.internalChoice]

/-- `stacks` is a `threading.local`; the list is created per thread on first use; `__enter__` appends `self`;
`__exit__` is the identity-checked pop; `FunctionScope` creates, enters and exits its context under the same guard
`options.user_requested`; the wrappers call inside a `with` block. -/
theorem C16_code_shapes_recognised : Gen.shapes.all (·.2) = true := by decide +kernel

/-- The refusing assertions of `FunctionScope` are in `__init__`, `__enter__` is just the conditional push: safe
in the sense of `C16_safe_scope_restores`. -/
theorem C16_code_function_scope_steps :
    Gen.fsInitSteps.contains .check = true ∧ Gen.fsEnterSteps = [.pushIfUr] ∧
    scopeSafe Gen.fsInitSteps Gen.fsEnterSteps = true := by decide +kernel

/-- Refused options: the assertion is raised before anything is entered. -/
theorem C16_code_function_scope (ur feat : Bool) (body : Comp) (s : TState) :
    fsWith ur feat body s = if feat then ⟨s, some .rejected, []⟩ else functionScope ur body s :=
  fsWith_eq ur feat body s

/-- **Balance.** After the call — returned or raised, at any depth, caught anywhere or nowhere — the thread's
context list is what it was, entry for entry, identities included.  No assumption on the starting list. -/
theorem C16_balanced (t : Tree) (p : Path) (m : Mode) (s : TState) : (runNode t p m s).st.stack = s.stack :=
  runNode_bal t p m s

theorem C16_top_restored (t : Tree) (p : Path) (m : Mode) (s : TState) :
    (runNode t p m s).st.stack.head? = s.stack.head? := by
  rw [C16_balanced]

/-- The identity check in `ControlStatusCtx.__exit__` never fails and `control_status_ctx()` never finds an empty
list: from a non-empty list, only the user code's exception and a function scope's refusal of unsupported
conversion options can come out of a call. -/
theorem C16_only_user_exception_escapes (t : Tree) (p : Path) (m : Mode) (s : TState) (hs : s.stack ≠ [])
    (e : Exn) (he : (runNode t p m s).out = some e) : e = .rejected ∨ ∃ q, e = .boom q := by
  have := runNode_safe t p m s hs e he
  cases e with
  | boom q => exact Or.inr ⟨q, rfl⟩
  | rejected => exact Or.inl rfl
  | assertion => exact this.elim
  | index => exact this.elim

/-- The observation after the root call is made even when an exception escapes the root. -/
theorem C16_thread_restored (t : Tree) (s : TState) :
    (runThread t s).st.stack = s.stack ∧
    ∃ l, (runThread t s).log = obsAt [] .start .native s :: (l ++ [obsAt [] .fin .native s]) := by
  refine ⟨runNode_bal t [0] .native s, (runNode t [0] .native s).log, ?_⟩
  simp [runThread, obsAt, runNode_bal t [0] .native s]

/-- **One context per activation.**  All observations made by the body of a node itself — on entry, before and
after each child call, in its `except` clause, on exit — report the top of the list the wrapper left for the body
(`inside k m s`), and agree on whether that body is converted code.  In particular every child call, however it
ended, restored the current context. -/
theorem C16_body_sees_one_context (k : Kind) (cs : List Tree) (ra : Option Nat) (ca : Bool) (p : Path) (m : Mode)
    (s s' : TState) (m' : Mode) (hi : inside k m s = some (s', m')) :
    ∀ o ∈ (runNode (.node k cs ra ca) p m s).log, o.owner = p →
      o.top = s'.stack.head? ∧ o.conv = m'.isConverted := by
  intro o ho hp
  obtain ⟨s'', m'', hi', ho'⟩ := Around.log (runNode_around k cs ra ca p m s) o ho
  rw [hi] at hi'
  cases hi'
  exact bodyOf_sees cs ra ca p m' s' o ho' hp

/-- Without mentioning `inside`. -/
theorem C16_body_observations_agree (t : Tree) (p : Path) (m : Mode) (s : TState) :
    ∀ o₁ ∈ (runNode t p m s).log, ∀ o₂ ∈ (runNode t p m s).log, o₁.owner = p → o₂.owner = p →
      o₁.top = o₂.top ∧ o₁.conv = o₂.conv := by
  cases t with
  | node k cs ra ca =>
    intro o₁ h₁ o₂ h₂ hp₁ hp₂
    obtain ⟨s', m', hi, _⟩ := Around.log (runNode_around k cs ra ca p m s) o₁ h₁
    have a := C16_body_sees_one_context k cs ra ca p m s s' m' hi o₁ h₁ hp₁
    have b := C16_body_sees_one_context k cs ra ca p m s s' m' hi o₂ h₂ hp₂
    exact ⟨by rw [a.1, b.1], by rw [a.2, b.2]⟩

/-- Inside a `do_not_convert` region the status is DISABLED at every observation point of the wrapped body — also
after calls into converted code, `convert` wrappers, nested regions, caught exceptions — and the function runs as
written. -/
theorem C16_status_do_not_convert (cs : List Tree) (ra : Option Nat) (ca : Bool) (p : Path) (m : Mode) (s : TState) :
    ∀ o ∈ (runNode (.node .doNotConvert cs ra ca) p m s).log, o.owner = p →
      o.top = some ⟨.fresh s.next, .disabled⟩ ∧ o.conv = false :=
  C16_body_sees_one_context .doNotConvert cs ra ca p m s _ _ rfl

/-- The body of a function converted by `to_graph` (always user-requested) sees ENABLED on a context object of
its own, whatever the caller's status — also inside a `do_not_convert` region. -/
theorem C16_status_to_graph (rec : Bool) (cs : List Tree) (ra : Option Nat) (ca : Bool) (p : Path) (m : Mode) (s : TState) :
    ∀ o ∈ (runNode (.node (.toGraph rec false false) cs ra ca) p m s).log, o.owner = p →
      o.top = some ⟨.fresh s.next, .enabled⟩ ∧ o.conv = true :=
  C16_body_sees_one_context (.toGraph rec false false) cs ra ca p m s _ _ rfl

/-- A hand-entered `FunctionScope` / `with_function_scope` with user-requested options. -/
theorem C16_status_user_requested_scope (cs : List Tree) (ra : Option Nat) (ca : Bool) (p : Path) (m : Mode) (s : TState) :
    ∀ o ∈ (runNode (.node (.functionScope true false) cs ra ca) p m s).log, o.owner = p →
      o.top = some ⟨.fresh s.next, .enabled⟩ :=
  fun o ho hp => (C16_body_sees_one_context (.functionScope true false) cs ra ca p m s _ _ rfl o ho hp).1

theorem C16_status_recursive_scope (cs : List Tree) (ra : Option Nat) (ca : Bool) (p : Path) (m : Mode) (s : TState) :
    ∀ o ∈ (runNode (.node (.functionScope false false) cs ra ca) p m s).log, o.owner = p →
      o.top = s.stack.head? :=
  fun o ho hp => (C16_body_sees_one_context (.functionScope false false) cs ra ca p m s _ _ rfl o ho hp).1

/-- A plain user function called from converted code is converted exactly when the status is not DISABLED and
the caller's conversion is recursive; either way it sees its caller's context object. -/
theorem C16_status_callee_of_converted_code (rec : Bool) (cs : List Tree) (ra : Option Nat) (ca : Bool) (p : Path)
    (s : TState) (e : Entry) (he : s.stack.head? = some e) :
    ∀ o ∈ (runNode (.node .plain cs ra ca) p (.converted rec) s).log, o.owner = p →
      o.top = some e ∧ (o.conv = true ↔ (e.status ≠ .disabled ∧ rec = true)) := by
  intro o ho hp
  have hi : inside .plain (.converted rec) s = some (s, calleeMode rec e) := by simp [inside, insidePlainCall, he]
  have := C16_body_sees_one_context .plain cs ra ca p (.converted rec) s s _ hi o ho hp
  refine ⟨by rw [this.1, he], ?_⟩
  rw [this.2]
  by_cases hd : e.status = .disabled
  · simp [calleeMode, hd, Mode.isConverted]
  · cases rec <;> simp [calleeMode, hd, Mode.isConverted]

/-- `convert(user_requested=True)(f)` where conversion is not disabled (`e` is the context in effect for
`converted_call`: the given `conversion_ctx`, else the caller's current one): `f` is converted and sees ENABLED on
a fresh object. -/
theorem C16_status_user_requested_convert (rec : Bool) (c : Option CtxRef) (cs : List Tree) (ra : Option Nat) (ca : Bool)
    (p : Path) (m : Mode) (s : TState) (e : Entry)
    (he : effective c s = some e) (hd : e.status ≠ .disabled) :
    ∀ o ∈ (runNode (.node (.convert true rec false c) cs ra ca) p m s).log, o.owner = p →
      o.top = some ⟨.fresh s.next, .enabled⟩ ∧ o.conv = true := by
  obtain ⟨s0, h0, hn, heq⟩ := insideConvert_eq true rec false c s e he
  have hi : inside (.convert true rec false c) m s = some (pushFresh .enabled s0, .converted rec) :=
    heq.trans (insideConvertedCall_of_not_disabled h0 hd)
  intro o ho hp
  have := C16_body_sees_one_context _ cs ra ca p m s _ _ hi o ho hp
  refine ⟨?_, by rw [this.2]; rfl⟩
  rw [this.1]
  simp [pushFresh, push, hn]

/-- `convert(...)(f)` where conversion is disabled: `f` runs unconverted and keeps seeing the same DISABLED
object `e` — also when its options name an unsupported feature: no function scope is built. -/
theorem C16_status_convert_when_disabled (ur rec feat : Bool) (c : Option CtxRef) (cs : List Tree) (ra : Option Nat)
    (ca : Bool) (p : Path) (m : Mode) (s : TState) (e : Entry)
    (he : effective c s = some e) (hd : e.status = .disabled) :
    ∀ o ∈ (runNode (.node (.convert ur rec feat c) cs ra ca) p m s).log, o.owner = p →
      o.top = some e ∧ o.conv = false := by
  obtain ⟨s0, h0, _, heq⟩ := insideConvert_eq ur rec feat c s e he
  have hi : inside (.convert ur rec feat c) m s = some (s0, .native) :=
    heq.trans (insideConvertedCall_of_disabled h0 hd)
  intro o ho hp
  have := C16_body_sees_one_context _ cs ra ca p m s _ _ hi o ho hp
  exact ⟨by rw [this.1, h0], by rw [this.2]; rfl⟩

/-- `internal_convert(f, ctx, …)` with a DISABLED `ctx` behaves as `do_not_convert`; with an ENABLED `ctx` and
`user_requested` it runs `f` converted under ENABLED. -/
theorem C16_status_internal_convert (r : CtxRef) (cbd ur : Bool) (cs : List Tree) (ra : Option Nat) (ca : Bool)
    (p : Path) (m : Mode) (s : TState) (e : Entry) (he : r.get s.stack = some e) :
    ∀ o ∈ (runNode (.node (.internalConvert r cbd ur) cs ra ca) p m s).log, o.owner = p →
      (e.status = .disabled → o.top = some ⟨.fresh s.next, .disabled⟩ ∧ o.conv = false) ∧
      (e.status = .enabled → ur = true → o.top = some ⟨.fresh s.next, .enabled⟩ ∧ o.conv = true) := by
  intro o ho hp
  constructor
  · intro hd
    have hi : inside (.internalConvert r cbd ur) m s = some (pushFresh .disabled s, .native) := by simp [inside, he, hd]
    exact C16_body_sees_one_context _ cs ra ca p m s _ _ hi o ho hp
  · intro hen hur
    subst hur
    have hi : inside (.internalConvert r cbd true) m s = some (pushFresh .enabled (push e s), .converted true) := by
      have h1 : inside (.internalConvert r cbd true) m s = insideConvert true true false (some (.obj e)) s := by
        simp [inside, he, hen]
      rw [h1]
      simp [insideConvert, insideConvertedCall, CtxRef.get, push, hen, insideScope]
    have := C16_body_sees_one_context _ cs ra ca p m s _ _ hi o ho hp
    exact ⟨by rw [this.1]; rfl, by rw [this.2]; rfl⟩

/-- **A call that fails on entry restores the context too.**  Options naming a feature the function scope does
not support (NAME_SCOPES, AUTO_CONTROL_DEPS, ALL) make `to_graph(f)(…)`, a hand-entered `FunctionScope` and
`convert(…)(f)(…)` (conversion not disabled) raise the scope's AssertionError.  Nothing was observed and the thread
state is exactly as before: the `conversion_ctx` the `convert` wrapper had entered is gone again, and even the object
counter is unchanged. -/
theorem C16_refused_entry_restores (k : Kind) (cs : List Tree) (ra : Option Nat) (ca : Bool) (p : Path) (m : Mode)
    (s : TState)
    (hk : (∃ ur, k = .functionScope ur true) ∨ (∃ rec lam, k = .toGraph rec lam true) ∨
          (∃ ur rec c e, k = .convert ur rec true c ∧ effective c s = some e ∧ e.status ≠ .disabled)) :
    runNode (.node k cs ra ca) p m s = ⟨s, some .rejected, []⟩ := by
  have key : ∀ s0, s0.next = s.next → inside k m s = some (s0, .refused) →
      runNode (.node k cs ra ca) p m s = ⟨s, some .rejected, []⟩ := by
    intro s0 hn hi
    rw [runNode_eq k cs ra ca p m hi, bodyOf_refuses cs ra ca p s0, hn]
  rcases hk with ⟨ur, rfl⟩ | ⟨rec, lam, rfl⟩ | ⟨ur, rec, c, e, rfl, he, hd⟩
  · exact key s rfl rfl
  · exact key s rfl rfl
  · obtain ⟨s0, h0, hn, heq⟩ := insideConvert_eq ur rec true c s e he
    exact key s0 hn (heq.trans (insideConvertedCall_of_not_disabled h0 hd))

/-- The simplest catching caller: a plain body whose only child is refused. -/
theorem C16_refused_entry_seen_by_catching_caller (k : Kind) (cs : List Tree) (ra : Option Nat) (ca : Bool) (p : Path)
    (s : TState)
    (hk : (∃ ur, k = .functionScope ur true) ∨ (∃ rec lam, k = .toGraph rec lam true)) :
    (runNode (.node .plain [.node k cs ra ca] none true) p .native s).log.map (fun o => (o.pt, o.top))
      = [(.inn, s.stack.head?), (.pre 0, s.stack.head?), (.caught, s.stack.head?), (.out, s.stack.head?)] ∧
    (runNode (.node .plain [.node k cs ra ca] none true) p .native s).out = none := by
  have h := C16_refused_entry_restores k cs ra ca (0 :: p) .native s
    (hk.elim Or.inl (fun h => Or.inr (Or.inl h)))
  simp [runNode, wrap, plainCall, bodyC, bodyCore, runKids, obsAt] at h ⊢
  simp [h]

/-- A function scope whose `__init__` / `__enter__` perform any step lists restores the list on every path —
normal exit, exception from the body, refusal — provided no refusing check can fire after the push (`scopeSafe`). -/
theorem C16_safe_scope_restores (init enter : List Gen.FsStep) (ur feat : Bool) (body : Comp)
    (hb : ∀ s, (body s).st.stack = s.stack) (hsafe : scopeSafe init enter = true) (s : TState) :
    (scopeWith init enter ur feat body s).st.stack = s.stack := by
  by_cases hrej : (feat && init.contains .check) = true
  · simp only [scopeWith, if_pos hrej]
  · rw [show scopeWith init enter ur feat body s = scopeWith [] enter ur feat body s by
      simp only [scopeWith, if_neg hrej, List.contains_nil, Bool.and_false, Bool.false_eq_true, if_false]]
    simp only [scopeSafe, Bool.or_eq_true, Bool.and_eq_true] at hsafe
    have hone : enterOnePush enter = true := hsafe.elim enterOnePush_of_ordered And.right
    have hord : feat = true → enterOrdered enter = true := by
      intro hf
      rcases hsafe with h | h
      · exact h
      · exfalso; apply hrej; rw [hf, h.1]; rfl
    exact scopeWith_enter_bal enter ur feat body hb s hone hord

/-- **Generator-function callees.**  Calling a wrapped generator function runs none of its body: the wrapper's
contexts surround only the creation of the generator.  The body then runs, resumption by resumption, at the
consumer's level; the harness presents it to the model as a natively called body and checks on the real code that
the creating call and every resumption leave the consumer's context alone. -/
theorem C16_generator_creation_restores (k : Kind) (m : Mode) (s : TState) :
    (wrap k m (fun m' s' => if m' = .refused then ⟨s', some .rejected, []⟩ else ⟨s', none, []⟩) s).st.stack = s.stack ∧
    (wrap k m (fun m' s' => if m' = .refused then ⟨s', some .rejected, []⟩ else ⟨s', none, []⟩) s).log = [] := by
  have hA := wrap_around k m (fun m' s' => if m' = .refused then (⟨s', some .rejected, []⟩ : Res) else ⟨s', none, []⟩)
    (fun m' s' => by by_cases h : m' = .refused <;> simp [h]) (fun s' => by simp) s
  refine ⟨Around.bal hA, List.eq_nil_iff_forall_not_mem.mpr fun o ho => ?_⟩
  obtain ⟨s', m', _, ho'⟩ := Around.log hA o ho
  by_cases h : m' = Mode.refused <;> simp [h] at ho'

/-- **Converted code never runs under DISABLED**, at any observation at any depth of a thread's run:
`converted_call` leaves callees unconverted under DISABLED, and an explicitly converted function enters its own
ENABLED context. -/
theorem C16_converted_code_never_under_disabled (t : Tree) (s : TState) (hs : s.stack ≠ []) :
    ∀ o ∈ (runThread t s).log, o.conv = true → ∃ e, o.top = some e ∧ e.status ≠ .disabled := by
  intro o ho
  simp only [runThread, List.mem_cons, List.mem_append, List.not_mem_nil, or_false] at ho
  rcases ho with rfl | ho | rfl
  · intro h; simp [obsAt, Mode.isConverted] at h
  · exact runNode_convOK t [0] .native s hs o ho
  · intro h; simp [obsAt, Mode.isConverted] at h

/-! ## The machine and interleavings -/

theorem C16_machine_agrees (t : Tree) (s : TState) :
    ∃ n, iter n (Cfg.init t s) = ⟨[], (runThread t s).out, (runThread t s).st, (runThread t s).log⟩ :=
  runThread_reach t s

/-- **Isolation.**  Under any schedule, what thread `t` has done is what it would have done alone in the same
number of its own steps. -/
theorem C16_isolated (g : Global) (σ : List Tid) (t : Tid) :
    runSched g σ t = iter (σ.count t) (g t) := by
  induction σ generalizing g with
  | nil => rfl
  | cons u σ ih =>
    simp only [runSched]
    rw [ih (stepG g u)]
    by_cases h : u = t
    · subst h; simp [stepG, iter]
    · have h' : ¬ t = u := fun e => h e.symm
      simp [stepG, h, h']

theorem C16_isolated_log (g : Global) (σ : List Tid) (t : Tid) (tree : Tree) (s : TState)
    (h0 : g t = Cfg.init tree s) (hdone : (runSched g σ t).ctrl = []) :
    (runSched g σ t).log = (runThread tree s).log ∧
    (runSched g σ t).st.stack = s.stack ∧
    (runSched g σ t).mode = (runThread tree s).out := by
  rw [C16_isolated, h0] at hdone ⊢
  have := reach_done_unique (runThread_reach tree s) rfl _ hdone
  rw [this]
  exact ⟨rfl, (C16_thread_restored tree s).1, rfl⟩

theorem C16_isolated_prefix (g : Global) (σ : List Tid) (t : Tid) (tree : Tree) (s : TState)
    (h0 : g t = Cfg.init tree s) :
    (runSched g σ t).log <+: (runThread tree s).log := by
  rw [C16_isolated, h0]
  obtain ⟨n, hn⟩ := runThread_reach tree s
  rcases Nat.le_total (σ.count t) n with h | h
  · obtain ⟨d, hd⟩ := Nat.exists_eq_add_of_le h
    have := iter_log_prefix d (iter (σ.count t) (Cfg.init tree s))
    rw [← iter_add, ← hd, hn] at this
    exact this
  · rw [reach_done_stable hn rfl _ h]
    exact List.prefix_refl _

/-- The number of steps needed does not depend on the other threads. -/
theorem C16_isolated_finishes (g : Global) (t : Tid) (tree : Tree) (s : TState) (h0 : g t = Cfg.init tree s) :
    ∃ N, ∀ σ : List Tid, N ≤ σ.count t → (runSched g σ t).ctrl = [] := by
  obtain ⟨n, hn⟩ := runThread_reach tree s
  refine ⟨n, fun σ h => ?_⟩
  rw [C16_isolated, h0, reach_done_stable hn rfl _ h]

theorem C16_noninterference (g g' : Global) (σ σ' : List Tid) (t : Tid)
    (h : g t = g' t) (hc : σ.count t = σ'.count t) : runSched g σ t = runSched g' σ' t := by
  rw [C16_isolated, C16_isolated, h, hc]

/-! ## The log checker -/

/-- `checkThread` is the executable form of the property; the harness evaluates it on the logs of the real
code. -/
theorem C16_model_logs_pass_checker (t : Tree) (s : TState) (hs : s.stack ≠ []) :
    checkThread t (runThread t s).log = true := by
  have hown := runNode_owned t [0] .native s
  have hbal := runNode_bal t [0] .native s
  have hstart : (obsAt [] .start .native s).owner = [] := rfl
  have hfin : (obsAt [] .fin .native (runNode t [0] .native s).st).owner = [] := rfl
  have hbl : bodyLevel [] (runThread t s).log = [obsAt [] .start .native s, obsAt [] .fin .native (runNode t [0] .native s).st] := by
    simp only [runThread, bodyLevel, List.filter_cons, hstart, decide_true, if_true, List.filter_append, hfin,
      List.filter_nil]
    rw [List.filter_eq_nil_iff.mpr fun o ho => by simpa using not_owner_of_child (hown o ho)]
    simp
  simp only [checkThread, hbl, List.all_cons, List.all_nil, Bool.and_true, Bool.and_eq_true, decide_eq_true_eq]
  constructor
  · simp [obsAt, hbal]
  · have hc := runNode_check t [0] .native s hs
    rw [checkNode_congr t [0] _ _ (runNode t [0] .native s).log (by
      simp only [runThread]
      rw [filter_under_cons_own 0 hstart, List.filter_append, filter_under_cons_own 0 hfin]
      simp)]
    exact hc

/-- What acceptance of an arbitrary log `l` (e.g. a real one) means at a node: all observations of that body
report one entry and agree on being converted code or not; it has the status the property requires; converted code
is not under DISABLED; and the children are accepted with that entry as their caller's context, so the statement
applies again below. -/
theorem C16_checker_meaning (k : Kind) (cs : List Tree) (ra : Option Nat) (ca : Bool) (p : Path)
    (x : Option Entry) (l : List Obs) (h : checkNode (.node k cs ra ca) p x l = true) :
    (∀ o₁ ∈ bodyLevel p l, ∀ o₂ ∈ bodyLevel p l, o₁.top = o₂.top ∧ o₁.conv = o₂.conv) ∧
    (∀ st, requiredStatus k x = some st → ∀ o ∈ bodyLevel p l, o.top.map (·.status) = some st) ∧
    (∀ o ∈ bodyLevel p l, o.conv = true → o.top.map (·.status) ≠ some .disabled) ∧
    (∀ o ∈ bodyLevel p l, ∀ (j : Nat) (c : Tree), cs[j]? = some c → checkNode c (j :: p) o.top l = true) := by
  simp only [checkNode] at h
  cases hb : bodyLevel p l with
  | nil => simp
  | cons o rest =>
    rw [hb] at h
    simp only [Bool.and_eq_true, List.all_eq_true, decide_eq_true_eq, Bool.not_eq_true', Bool.and_eq_false_iff,
      decide_eq_false_iff_not] at h
    obtain ⟨⟨⟨hall, hreq⟩, hnd⟩, hkids⟩ := h
    have htop : ∀ o' ∈ o :: rest, o'.top = o.top ∧ o'.conv = o.conv := by
      intro o' ho'
      rcases List.mem_cons.mp ho' with rfl | ho'
      · exact ⟨rfl, rfl⟩
      · exact hall o' ho'
    refine ⟨fun o₁ h₁ o₂ h₂ => by rw [(htop o₁ h₁).1, (htop o₂ h₂).1, (htop o₁ h₁).2, (htop o₂ h₂).2]; exact ⟨rfl, rfl⟩, ?_, ?_, ?_⟩
    · intro st hst o' ho'
      rw [hst] at hreq
      rw [(htop o' ho').1]
      simpa using hreq
    · intro o' ho' hc
      rw [(htop o' ho').1]
      rw [(htop o' ho').2] at hc
      rcases hnd with hnd | hnd
      · rw [hc] at hnd; simp at hnd
      · exact hnd
    · intro o' ho' j c hc
      rw [(htop o' ho').1]
      have := checkKids_get cs p 0 o.top l hkids j c hc
      simpa using this

theorem C16_checker_meaning_thread (t : Tree) (l : List Obs) (h : checkThread t l = true) :
    ∃ o ∈ bodyLevel [] l, (∀ o' ∈ bodyLevel [] l, o'.top = o.top) ∧ checkNode t [0] o.top l = true := by
  simp only [checkThread] at h
  cases hb : bodyLevel [] l with
  | nil => rw [hb] at h; simp at h
  | cons o rest =>
    rw [hb] at h
    simp only [Bool.and_eq_true, List.all_eq_true, decide_eq_true_eq] at h
    refine ⟨o, List.mem_cons_self .., ?_, h.2⟩
    intro o' ho'
    rcases List.mem_cons.mp ho' with rfl | ho'
    · rfl
    · exact h.1 o' ho'

/-! ## Non-vacuity -/

section Examples

/-- `convert(user_requested=True, conversion_ctx=<shared UNSPECIFIED object>)` around a body that calls a
`do_not_convert` function whose callee raises (caught there), then a plain function, then raises itself. -/
private def ex1 : Tree :=
  .node (.convert true true false (some (.obj ⟨.shared 1, .unspecified⟩)))
    [.node .doNotConvert [.node .plain [] (some 0) false] none true,
     .node .plain [] none false]
    (some 2) false

example : (runThread ex1 TState.init).out = some (.boom [0]) := by decide +kernel
example : (runThread ex1 TState.init).st.stack = Stack.init := by decide +kernel
example : (runThread ex1 TState.init).log.length = 14 := by decide +kernel
-- the root body is converted code and sees the fresh ENABLED object at all its observation points
example : ((runThread ex1 TState.init).log.filter (fun o => o.owner = [0])).map (fun o => (o.conv, o.top))
    = [(true, some ⟨.fresh 0, .enabled⟩), (true, some ⟨.fresh 0, .enabled⟩), (true, some ⟨.fresh 0, .enabled⟩),
       (true, some ⟨.fresh 0, .enabled⟩), (true, some ⟨.fresh 0, .enabled⟩)] := by decide +kernel
-- the plain callee of the converted root is converted too (recursive), its sibling inside do_not_convert is not
example : ((runThread ex1 TState.init).log.filter (fun o => o.pt = .inn)).map (fun o => (o.owner, o.conv))
    = [([0], true), ([0, 0], false), ([0, 0, 0], false), ([1, 0], true)] := by decide +kernel
example : effective (some (.obj ⟨.shared 1, .unspecified⟩)) TState.init = some ⟨.shared 1, .unspecified⟩ := rfl
example : inside (.convert true true false (some (.obj ⟨.shared 1, .unspecified⟩))) .native TState.init
    = some (⟨[⟨.fresh 0, .enabled⟩, ⟨.shared 1, .unspecified⟩, ⟨.dflt, .unspecified⟩], 1⟩, .converted true) := by decide +kernel
example : inside (.internalConvert .current true true) .native ⟨[⟨.fresh 0, .enabled⟩, ⟨.dflt, .unspecified⟩], 1⟩
    = some (⟨[⟨.fresh 1, .enabled⟩, ⟨.fresh 0, .enabled⟩, ⟨.fresh 0, .enabled⟩, ⟨.dflt, .unspecified⟩], 2⟩, .converted true) := by decide +kernel
-- a `with ControlStatusCtx(DISABLED)` block in user code that got converted: its callee runs unconverted
example : inside (.withCtx .disabled true) (.converted true) ⟨[⟨.fresh 0, .enabled⟩, ⟨.dflt, .unspecified⟩], 1⟩
    = some (⟨[⟨.fresh 1, .disabled⟩, ⟨.fresh 0, .enabled⟩, ⟨.dflt, .unspecified⟩], 2⟩, .native) := by decide +kernel
-- the same object entered twice: the identity-checked pop still succeeds, twice
example : (runNode (.node (.convert false true false (some .current)) [.node (.convert false true false (some .current)) [] (some 0) false] none true)
    [0] .native TState.init).st.stack = Stack.init := by decide +kernel
-- two threads, an interleaving: thread 1's log is its sequential log
private def exG : Global := fun t => if t = 0 then Cfg.init ex1 TState.init else Cfg.init (.node .doNotConvert [] (some 0) false) TState.init
example : (runSched exG [0, 1, 0, 0, 1, 1, 0, 1, 1, 1, 0, 1, 1, 0, 1] 1).ctrl = [] := by decide +kernel
example : (runSched exG [0, 1, 0, 0, 1, 1, 0, 1, 1, 1, 0, 1, 1, 0, 1] 1).log
    = (runThread (.node .doNotConvert [] (some 0) false) TState.init).log := by decide +kernel
-- the checker accepts a model log, and rejects a log in which a body sees a different object after a call
example : checkThread ex1 (runThread ex1 TState.init).log = true := by decide +kernel
example : checkThread (.node .doNotConvert [.node .plain [] none false] none false)
    [⟨[], .start, false, some ⟨.dflt, .unspecified⟩⟩, ⟨[0], .inn, false, some ⟨.fresh 0, .disabled⟩⟩,
     ⟨[0], .pre 0, false, some ⟨.fresh 0, .disabled⟩⟩, ⟨[0, 0], .inn, false, some ⟨.fresh 0, .disabled⟩⟩,
     ⟨[0], .post 0, false, some ⟨.dflt, .unspecified⟩⟩, ⟨[], .fin, false, some ⟨.dflt, .unspecified⟩⟩] = false := by decide +kernel
-- …and a log in which converted code runs under DISABLED
example : checkThread (.node .doNotConvert [] none false)
    [⟨[], .start, false, some ⟨.dflt, .unspecified⟩⟩, ⟨[0], .inn, true, some ⟨.fresh 0, .disabled⟩⟩,
     ⟨[0], .out, true, some ⟨.fresh 0, .disabled⟩⟩, ⟨[], .fin, false, some ⟨.dflt, .unspecified⟩⟩] = false := by decide +kernel

-- hypothesis `s.stack ≠ []` holds of every thread's initial state
example : TState.init.stack ≠ [] := by decide +kernel
-- hypothesis of `C16_status_callee_of_converted_code`
example : (⟨[⟨.fresh 0, .enabled⟩, ⟨.dflt, .unspecified⟩], 1⟩ : TState).stack.head? = some ⟨.fresh 0, .enabled⟩ := rfl
-- hypotheses of `C16_noninterference`: different worlds around the same thread 1
private def exG' : Global := fun t => if t = 1 then Cfg.init (.node .doNotConvert [] (some 0) false) TState.init else Cfg.init ex1 ⟨[], 7⟩
example : exG 1 = exG' 1 := rfl
example : ([0, 1, 0, 1, 1] : List Tid).count 1 = ([1, 5, 1, 9, 9, 1, 3] : List Tid).count 1 := by decide +kernel
example : runSched exG [0, 1, 0, 1, 1] 1 = runSched exG' [1, 5, 1, 9, 9, 1, 3] 1 :=
  C16_noninterference exG exG' _ _ 1 rfl (by decide)

-- failing entry: `convert(user_requested=True, optional_features=NAME_SCOPES, conversion_ctx=<shared>)`, called from a
-- body that catches the refusal: nothing leaks, the caller sees its own context again
private def ex2 : Tree :=
  .node .plain [.node (.convert true true true (some (.obj ⟨.shared 1, .unspecified⟩))) [.node .plain [] none false] none false]
    none true
example : (runThread ex2 TState.init).out = none := by decide +kernel
example : (runThread ex2 TState.init).st = TState.init := by decide +kernel
example : (runThread ex2 TState.init).log.map (fun o => (o.pt, o.top.map (·.id)))
    = [(.start, some .dflt), (.inn, some .dflt), (.pre 0, some .dflt), (.caught, some .dflt), (.out, some .dflt),
       (.fin, some .dflt)] := by decide +kernel
example : effective (some (.obj ⟨.shared 1, .unspecified⟩)) TState.init = some ⟨.shared 1, .unspecified⟩ ∧
    (⟨.shared 1, .unspecified⟩ : Entry).status ≠ .disabled := by decide +kernel
-- the arrangement of the code under test is safe; the one with the checks moved behind the push is not, and the
-- model then shows the leak: the refused call leaves the ENABLED context on the list
example : scopeSafe [.check, .check] [.pushIfUr] = true := by decide +kernel
example : scopeSafe [] [.pushIfUr, .check, .check] = false := by decide +kernel
example : (scopeWith [] [.pushIfUr, .check, .check] true true (fun s => ⟨s, none, []⟩) TState.init).st.stack
    = [⟨.fresh 0, .enabled⟩, ⟨.dflt, .unspecified⟩] := by decide +kernel
example : (scopeWith [.check, .check] [.pushIfUr] true true (fun s => ⟨s, none, []⟩) TState.init).st.stack = Stack.init := by decide +kernel

end Examples

end Malt.Ctx
