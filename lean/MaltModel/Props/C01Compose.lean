import MaltModel.Proofs.ComposePreserve
import MaltModel.Proofs.ComposeJumps
import MaltModel.Proofs.ComposePipeline
import MaltModel.Props.C01Jumps
import MaltModel.Props.C01Exprs
import MaltModel.Props.C01Func
import MaltModel.Conv.JumpToSem
/-
C01 — the three jump-lowering passes composed in pipeline order, then chained into functionalisation and the
expression wrappers.  The theorems are `_partial`: outside S1 (a raise in `finally` over a pending jump) the
passes are wrong (finding `C01J-raise-in-finally-over-jump`).

Modelling assumption: the `try: … except: <flag reset>; raise` wrapper that the real return lowering puts around
`do_return = True; retval_ = e` is outside `Malt.Sem` (no catch-all handler) — `lowerReturn` emits the two
assignments only, `toSemS` (Conv/JumpToSem.lean) maps the real wrapper to its body, and `./check C01J` (obligation
`correspondence:pass-return`) checks the real shape.
-/
namespace Malt.Props.C01Compose
open Malt.Sem Malt.Sem.Jumps

theorem stdJumpGens : JumpGens (stdGen 'b') (stdGen 'c') stdDr stdRv where
  injB := stdGen_inj 'b'
  injC := stdGen_inj 'c'
  ne := by decide
  disjBC p q := stdGen_ne (c := 'c') (by decide) p (by rw [stdGen, String.toList_ofList]; rfl)
  drB p := stdGen_ne (c := 'd') (by decide) p (by decide)
  rvB p := stdGen_ne (c := 'r') (by decide) p (by decide)
  drC p := stdGen_ne (c := 'd') (by decide) p (by decide)
  rvC p := stdGen_ne (c := 'r') (by decide) p (by decide)
  nonuser := by
    rintro x (⟨q, rfl⟩ | ⟨q, rfl⟩ | rfl | rfl)
    · exact stdGen_not_user 'b' q
    · exact stdGen_not_user 'c' q
    · decide
    · decide

/-- Break, continue and return lowering in pipeline order preserve the function result, the effect log and every
non-generated variable, for every source satisfying `JumpHyp` (no `$`-names, S1, no EXTRA_LOOP_TEST, no
`break`/`continue` outside a loop).  Only the break theorem needs `noExtraB`, of the source: the continue and
return theorems allow the clean extra tests that break lowering introduces. -/
theorem jump_passes_correct_partial (X : Ext) {genB genC : Gen} {dr rv : Name}
    (gens : JumpGens genB genC dr rv) (body : Block) (hyp : JumpHyp body = true)
    (n : Nat) (σ : St) (o : Out) (σ₁ : St) (h : execB X n body σ = some (o, σ₁)) :
    ∃ m σ₁' o', execB X m (lowerReturn dr rv (lowerContinue genC (lowerBreak genB body))) σ = some (o', σ₁') ∧
      fnResult o' = fnResult o ∧ Agree (GenAll genB genC dr rv) σ₁ σ₁' := by
  simp only [JumpHyp, Bool.and_eq_true, Bool.not_eq_true'] at hyp
  obtain ⟨⟨⟨⟨hun, hfin⟩, hnx⟩, htc⟩, hmb⟩ := hyp
  have hcB : CleanB (Hid genB) body :=
    userNamesB_clean (Hid genB) (fun x hx => gens.nonuser x (Or.inl hx)) body hun
  have hcC : CleanB (Hid genC) body :=
    userNamesB_clean (Hid genC) (fun x hx => gens.nonuser x (Or.inr (Or.inl hx))) body hun
  have hcR : CleanB (HidR dr rv) body :=
    userNamesB_clean (HidR dr rv) (fun x hx => gens.nonuser x (Or.inr (Or.inr hx))) body hun
  obtain ⟨m1, σa, hx1, hag1⟩ := lowerBreak_correct genB X gens.injB body hcB hfin hnx n σ o σ₁ h
  -- the outcome of a well-formed body is no `break`
  rw [brkOut_of_ne (execB_ne_brk X h hmb)] at hx1
  have hB_C : ∀ q, ¬ Hid genC (genB q) := by rintro q ⟨q', he⟩; exact gens.disjBC q q' he
  have hcC1 : CleanB (Hid genC) (lowerBreak genB body) := lowerBreak_clean hB_C hcC
  have hfin1 : finOKB (lowerBreak genB body) = true := lowerBreak_finOK genB hfin
  -- break lowering turns a `break` into a `continue`: this is why `JumpHyp` asks for `!mayBrkB` as well
  have htc1 : topContB (lowerBreak genB body) = false := by rw [lowerBreak_topCont, htc, hmb]; rfl
  obtain ⟨m2, σb, hx2, hag2⟩ :=
    lowerContinue_correct genC X gens.injC (lowerBreak genB body) hcC1 hfin1 htc1 m1 σ o σa hx1
  have hB_R : ∀ q, ¬ HidR dr rv (genB q) := by
    rintro q (he | he)
    · exact gens.drB q he
    · exact gens.rvB q he
  have hC_R : ∀ q, ¬ HidR dr rv (genC q) := by
    rintro q (he | he)
    · exact gens.drC q he
    · exact gens.rvC q he
  have hcR2 : CleanB (HidR dr rv) (lowerContinue genC (lowerBreak genB body)) :=
    lowerContinue_clean hC_R (lowerBreak_clean hB_R hcR)
  have hfin2 : finOKB (lowerContinue genC (lowerBreak genB body)) = true := lowerContinue_finOK genC hfin1
  obtain ⟨m3, σc, o', hx3, hres, hag3⟩ :=
    lowerReturn_correct dr rv X gens.ne _ hcR2 hfin2 m2 σ o σb hx2
  refine ⟨m3, σc, o', hx3, hres, ?_⟩
  exact Agree.trans (Agree.trans (Agree.weaken hag1 (fun x hx => Or.inl hx))
    (Agree.weaken hag2 (fun x hx => Or.inr (Or.inl hx)))) (Agree.weaken hag3 (fun x hx => Or.inr (Or.inr hx)))

theorem noJump_of_no_break_continue (b : Block) (hb : hasBrkB b = false) (hc : hasContB b = false) :
    Func.noJumpB b = true :=
  noJump_of_has.2.1 b hb hc

/-- For EVERY source the composed output has no `break`, no `continue`, `return` only as its last top-level
statement, and lies in the domain of the functionalisation under every annotation. -/
theorem jump_passes_output_jumpfree (genB genC : Gen) (dr rv : Name) (body : Block) :
    hasBrkB (jumpPasses genB genC dr rv body) = false ∧
    hasContB (jumpPasses genB genC dr rv body) = false ∧
    ((∃ init, jumpPasses genB genC dr rv body = init ++ [.ret (some (.var rv))] ∧ hasRetB init = false) ∨
      hasRetB (jumpPasses genB genC dr rv body) = false) ∧
    Func.noJumpB (jumpPasses genB genC dr rv body) = true ∧
    (∀ ann : Func.Ann, ∃ q, Func.annotB ann 0 (jumpPasses genB genC dr rv body) = some q) :=
  ⟨jumpPasses_noBrk body, jumpPasses_noCont body, lowerReturn_onlyLastRet dr rv _,
    noJump_of_no_break_continue _ (jumpPasses_noBrk body) (jumpPasses_noCont body),
    fun ann => Func.annotB_total_of_noJump _ ann
      (noJump_of_no_break_continue _ (jumpPasses_noBrk body) (jumpPasses_noCont body))⟩

theorem C01_lowered_program_annotatable (genB genC : Gen) (dr rv : Name) (body : Block) (ann : Func.Ann) :
    ∃ q, Func.annotB ann 0 (jumpPasses genB genC dr rv body) = some q :=
  Func.annotB_total_of_noJump _ ann (noJump_of_no_break_continue _ (jumpPasses_noBrk body) (jumpPasses_noCont body))

/-- The source body and the functionalised lowered program (native target semantics `Func.execNB`) give the same
function result and effect log.  `q` is the lowered program annotated by `ann`; `FuncHyp D q O` are the
hypotheses of `Func.control_flow_correct` on that annotation (liveness consistency, `declared`/`undefined`
inclusions, definedness, `return` only at top level) — checked on the real annotations by the C01 harness. -/
theorem C01_jumps_then_functionalise_partial (X : Ext) {genB genC : Gen} {dr rv : Name}
    (gens : JumpGens genB genC dr rv) (body : Block) (hyp : JumpHyp body = true)
    (ann : Func.Ann) (q : Func.ABlock) (hq : Func.annotB ann 0 (jumpPasses genB genC dr rv body) = some q)
    (D O : List Name) (fh : Func.FuncHyp D q O)
    (σ : St) (σ' : Func.TSt) (hag : Func.Agree (Func.blockIn q O) σ σ') (hb : Func.BoundSub σ D)
    (n : Nat) (o : Out) (σ₁ : St) (h : execB X n body σ = some (o, σ₁)) :
    ∃ t, Func.func ann (jumpPasses genB genC dr rv body) = some t ∧
      ∃ m σ₁' o', Func.execNB X m t σ' = some (o', σ₁') ∧ fnResult o' = fnResult o ∧ σ₁'.log = σ₁.log := by
  obtain ⟨m3, σc, o', hx3, hres, hagc⟩ := jump_passes_correct_partial X gens body hyp n σ o σ₁ h
  obtain ⟨t, ht, m, σ₁', hxn, hlog, _⟩ :=
    Func.control_flow_correct_sem X ann _ q hq D O fh σ σ' hag hb m3 o' σc hx3
  exact ⟨t, ht, m, σ₁', o', hxn, hres, by rw [hlog]; exact hagc.1.symm⟩

theorem C01_jumps_then_functionalise_partial_S0 (X : Ext) {genB genC : Gen} {dr rv : Name}
    (gens : JumpGens genB genC dr rv) (body : Block) (hyp : JumpHyp body = true) (_hS0 : inS0B body = true)
    (ann : Func.Ann) (q : Func.ABlock) (hq : Func.annotB ann 0 (jumpPasses genB genC dr rv body) = some q)
    (D O : List Name) (fh : Func.FuncHyp D q O)
    (σ : St) (σ' : Func.TSt) (hag : Func.Agree (Func.blockIn q O) σ σ') (hb : Func.BoundSub σ D)
    (n : Nat) (o : Out) (σ₁ : St) (h : execB X n body σ = some (o, σ₁)) :
    ∃ t, Func.func ann (jumpPasses genB genC dr rv body) = some t ∧
      ∃ m σ₁' o', Func.execNB X m t σ' = some (o', σ₁') ∧ fnResult o' = fnResult o ∧ σ₁'.log = σ₁.log :=
  C01_jumps_then_functionalise_partial X gens body hyp ann q hq D O fh σ σ' hag hb n o σ₁ h

theorem C01_lowered_program_annotatable_S0 (genB genC : Gen) (dr rv : Name) (body : Block)
    (_hS0 : inS0B body = true) (ann : Func.Ann) :
    ∃ q, Func.annotB ann 0 (jumpPasses genB genC dr rv body) = some q :=
  C01_lowered_program_annotatable genB genC dr rv body ann

theorem jump_passes_preserve_S0 (genB genC : Gen) (dr rv : Name) (body : Block) (h : inS0B body = true) :
    inS0B (jumpPasses genB genC dr rv body) = true :=
  lowerReturn_inS0 dr rv _ (cntB_inS0 genC (genC []) [0] false _ (brkB_inS0 genB (genB []) [0] body h))

open Malt.Props.C01Jumps in
/-- S0:
```
for i in n():
    while d():
        if d(): break
        if d(): continue
        if d(): return tr(1, i)
        x = tr(2, x)
    tr(3)
return tr(0, x)
``` -/
def exAll : Block :=
  [.forS "i" (.call "n" []) none
    [.whileS dcall
      [.ifS dcall [.brk] [], .ifS dcall [.cont] [], .ifS dcall [.ret (some (trv 1 "i"))] [],
       .assign "x" (trv 2 "x")],
     .expr (tr 3)],
   .ret (some (trv 0 "x"))]

example : JumpHyp exAll = true ∧ inS0B exAll = true := ⟨by decide +kernel, by decide +kernel⟩

open Malt.Props.C01Jumps in
def exAllTry : Block :=
  [.whileS dcall
    [.tryS [.ifS dcall [.brk] [], .withS 4 [.ifS dcall [.cont] []], .ifS dcall [.ret (some (tr 1))] []]
      [(1, [.expr (tr 2)])] [.expr (tr 3)],
     .expr (tr 5)],
   .expr (tr 6)]

example : JumpHyp exAllTry = true ∧ inS0B exAllTry = false := ⟨by decide +kernel, by decide +kernel⟩

example (X : Ext) (n : Nat) (σ : St) (o : Out) (σ₁ : St) (h : execB X n exAll σ = some (o, σ₁)) :
    ∃ m σ₁' o', execB X m (jumpPasses (stdGen 'b') (stdGen 'c') stdDr stdRv exAll) σ = some (o', σ₁') ∧
      fnResult o' = fnResult o ∧ Agree (GenAll (stdGen 'b') (stdGen 'c') stdDr stdRv) σ₁ σ₁' :=
  jump_passes_correct_partial X stdJumpGens exAll (by decide +kernel) n σ o σ₁ h

example (X : Ext) (ann : Func.Ann) (q : Func.ABlock)
    (hq : Func.annotB ann 0 (jumpPasses (stdGen 'b') (stdGen 'c') stdDr stdRv exAllTry) = some q)
    (D O : List Name) (fh : Func.FuncHyp D q O)
    (σ : St) (σ' : Func.TSt) (hag : Func.Agree (Func.blockIn q O) σ σ') (hb : Func.BoundSub σ D)
    (n : Nat) (o : Out) (σ₁ : St) (h : execB X n exAllTry σ = some (o, σ₁)) :
    ∃ t, Func.func ann (jumpPasses (stdGen 'b') (stdGen 'c') stdDr stdRv exAllTry) = some t ∧
      ∃ m σ₁' o', Func.execNB X m t σ' = some (o', σ₁') ∧ fnResult o' = fnResult o ∧ σ₁'.log = σ₁.log :=
  C01_jumps_then_functionalise_partial X stdJumpGens exAllTry (by decide +kernel) ann q hq D O fh σ σ' hag hb n o σ₁ h

example (ann : Func.Ann) :
    ∃ q, Func.annotB ann 0 (jumpPasses (stdGen 'b') (stdGen 'c') stdDr stdRv exAllTry) = some q :=
  C01_lowered_program_annotatable _ _ _ _ exAllTry ann

/-- The counterexample `return_lowering_full_false` (Props/C01Jumps.lean) lies outside `JumpHyp`. -/
example : JumpHyp Malt.Props.C01Jumps.cexRet = false := by decide +kernel

theorem C01_pipeline_uses_extracted_order :
    decodeSteps Malt.Gen.Pipeline.steps =
      some [.verify, .initialAnalysis, .functions, .directives, .breakStatements, .continueStatements,
        .returnStatements, .callTrees, .controlFlow, .conditionalExpressions, .logicalExpressions, .variables] := by
  decide +kernel

theorem runSteps_extracted (c : PipeCfg) (body : Block) :
    runSteps c Malt.Gen.Pipeline.steps (.src body) =
      (Func.func c.ann (jumpPasses c.genB c.genC c.dr c.rv body)).map
        (fun t => Prog.fin (Malt.SemW.wrapTB c.eqOn t)) := by
  rw [runSteps, C01_pipeline_uses_extracted_order]
  show (Option.map Prog.tgt (Func.func c.ann (jumpPasses c.genB c.genC c.dr c.rv body))).bind _ = _
  cases Func.func c.ann (jumpPasses c.genB c.genC c.dr c.rv body) <;> rfl

/-! The full statement, not provable as it stands:

  theorem C01_pipeline (X) (c : PipeCfg) (body : Block) :
    ∀ n σ o σ₁, execB X n body σ = some (o, σ₁) →
      ∃ final, runSteps c Malt.Gen.Pipeline.steps (.src body) = some (.fin final) ∧
        ∃ m σ₁' o', execNBW X m final (TSt.ofSt σ) = some (o', σ₁') ∧ fnResult o' = fnResult o ∧ σ₁'.log = σ₁.log

What `C01_pipeline_partial` assumes instead:
* jump passes: `JumpGens` and `JumpHyp`; what the second and third pass need of their inputs is proved preserved
  (Proofs/ComposePreserve.lean);
* control_flow: `FuncHyp D q O` on the annotated INTERMEDIATE program `q`, as in `Func.control_flow_correct`.  That
  the REAL analyses satisfy it is what the C05–C08 chain and the harness (`funcHyp` checker on the real
  `LIVE_VARS_*`/`DEFINED_VARS_IN`) establish, with the known exceptions;
* expression wrappers: nothing (`Malt.Sem` expressions have no comparison chains: `chainsOk_ofSem`).
Outside the chain: the `functions`/`directives` passes (no counterpart in `Malt.Sem`), the `ConditionalReturnRewriter`
half of `return_statements` (`rewriteReturns`, proved by itself: `conditional_return_rewrite_correct`; the stage is
`lowerReturn` alone), the placement of
`call_trees` before `control_flow` (its wrapper is part of the one expression model applied at the end), the
`try/except: raise` wrapper of the return lowering, nested functions / closures (S2), and the feature-guarded
passes (`asserts`, `lists`, `slices`).
-/

/-- C01 end to end, under the hypotheses listed above (`JumpGens`, `JumpHyp` on the source; `FuncHyp` on the annotated
intermediate program `q`; `BoundSub`): if the source body terminates, the program obtained by running the stages in the
order of `Malt.Gen.Pipeline.steps` is defined and, run under the native target semantics with converted
expressions (`execNBW`) from any target store agreeing with the source store on the variables live at entry,
terminates with the same function result and effect log. -/
theorem C01_pipeline_partial (X : Ext) (c : PipeCfg) (gens : JumpGens c.genB c.genC c.dr c.rv)
    (body : Block) (hyp : JumpHyp body = true)
    (q : Func.ABlock) (hq : Func.annotB c.ann 0 (jumpPasses c.genB c.genC c.dr c.rv body) = some q)
    (D O : List Name) (fh : Func.FuncHyp D q O)
    (σ : St) (σ' : Func.TSt) (hag : Func.Agree (Func.blockIn q O) σ σ') (hb : Func.BoundSub σ D)
    (n : Nat) (o : Out) (σ₁ : St) (h : execB X n body σ = some (o, σ₁)) :
    ∃ final, runSteps c Malt.Gen.Pipeline.steps (.src body) = some (.fin final) ∧
      ∃ m σ₁' o', Malt.SemW.execNBW X m final σ' = some (o', σ₁') ∧ fnResult o' = fnResult o ∧
        σ₁'.log = σ₁.log := by
  obtain ⟨t, ht, m, σ₁', o', hx, hres, hlog⟩ :=
    C01_jumps_then_functionalise_partial X gens body hyp c.ann q hq D O fh σ σ' hag hb n o σ₁ h
  refine ⟨Malt.SemW.wrapTB c.eqOn t, ?_, m, σ₁', o', ?_, hres, hlog⟩
  · rw [runSteps_extracted, ht]; rfl
  · rw [Malt.C01Exprs.wrap_target_correct]; exact hx

/-- Whole-function form: the converted function called on the same store (`D`: the variables that may be bound
at entry, i.e. the parameters). -/
theorem C01_pipeline_observe_partial (X : Ext) (c : PipeCfg) (gens : JumpGens c.genB c.genC c.dr c.rv)
    (body : Block) (hyp : JumpHyp body = true)
    (q : Func.ABlock) (hq : Func.annotB c.ann 0 (jumpPasses c.genB c.genC c.dr c.rv body) = some q)
    (D : List Name) (fh : Func.FuncHyp D q [])
    (σ : St) (hb : Func.BoundSub σ D)
    (n : Nat) (o : Out) (σ₁ : St) (h : execB X n body σ = some (o, σ₁)) :
    ∃ final, runSteps c Malt.Gen.Pipeline.steps (.src body) = some (.fin final) ∧
      ∃ m r', Malt.SemW.execNBW X m final (Func.TSt.ofSt σ) = some r' ∧
        (fnResult r'.1, r'.2.log) = (fnResult o, σ₁.log) := by
  obtain ⟨final, hf, m, σ₁', o', hx, hres, hlog⟩ :=
    C01_pipeline_partial X c gens body hyp q hq D [] fh σ (Func.TSt.ofSt σ) (Func.agree_ofSt _ σ) hb n o σ₁ h
  exact ⟨final, hf, m, (o', σ₁'), hx, by simp [hres, hlog]⟩

open Malt.Props.C01Jumps in
/-- ```
x = 0
while d():
    try:
        if d(): break
        x = tr(1, x)
    finally:
        tr(2)
    if d(): return tr(3, x)
return tr(0, x)
``` -/
def exPipe : Block :=
  [.assign "x" (.const (.int 0)),
   .whileS dcall
     [.tryS [.ifS dcall [.brk] [], .assign "x" (trv 1 "x")] [] [.expr (tr 2)],
      .ifS dcall [.ret (some (trv 3 "x"))] []],
   .ret (some (trv 0 "x"))]

def exPipeLowered : Block := jumpPasses (stdGen 'b') (stdGen 'c') stdDr stdRv exPipe
def exPipeNames : List Name := (Malt.Conv.JumpToSem.namesB exPipeLowered).eraseDups

/-- `annAll`: everything live and declared; EQUALITY_OPERATORS off. -/
def exCfg : PipeCfg :=
  { genB := stdGen 'b', genC := stdGen 'c', dr := stdDr, rv := stdRv, ann := annAll exPipeNames, eqOn := false }

def exPipeQ : Func.ABlock := (Func.annotB exCfg.ann 0 exPipeLowered).getD []

theorem exPipe_jumpHyp : JumpHyp exPipe = true ∧ inS0B exPipe = false := ⟨by decide +kernel, by decide +kernel⟩

theorem exPipe_annot : Func.annotB exCfg.ann 0 (jumpPasses exCfg.genB exCfg.genC exCfg.dr exCfg.rv exPipe) = some exPipeQ := by
  obtain ⟨q, hq⟩ := C01_lowered_program_annotatable (stdGen 'b') (stdGen 'c') stdDr stdRv exPipe exCfg.ann
  show Func.annotB exCfg.ann 0 exPipeLowered = some exPipeQ
  unfold exPipeQ
  have hq' : Func.annotB exCfg.ann 0 exPipeLowered = some q := hq
  rw [hq']; rfl

theorem exPipe_funcHyp : Func.FuncHyp [] exPipeQ [] :=
  Func.funcHyp_checker_sound [] exPipeQ [] (by decide +kernel)

/-- Non-vacuity: every hypothesis of the chain is discharged for `exPipe`. -/
theorem exPipe_pipeline (X : Ext) (n : Nat) (o : Out) (σ₁ : St)
    (h : execB X n exPipe Malt.Props.C01Jumps.σ0 = some (o, σ₁)) :
    ∃ final, runSteps exCfg Malt.Gen.Pipeline.steps (.src exPipe) = some (.fin final) ∧
      ∃ m r', Malt.SemW.execNBW X m final (Func.TSt.ofSt Malt.Props.C01Jumps.σ0) = some r' ∧
        (fnResult r'.1, r'.2.log) = (fnResult o, σ₁.log) :=
  C01_pipeline_observe_partial X exCfg stdJumpGens exPipe exPipe_jumpHyp.1 exPipeQ exPipe_annot [] exPipe_funcHyp
    Malt.Props.C01Jumps.σ0 (by intro y hy; exact absurd rfl hy) n o σ₁ h

/-- `d()` answers from a decision list (by the number of `d` calls so far), `tr(k, v)` returns `v`. -/
def XD (dec : List Int) : Ext :=
  ⟨fun f args log =>
    if f = "d" then .int (dec.getD (log.filter fun e => match e with | .call "d" _ => true | _ => false).length 0)
    else args.getD 1 (args.headD .none)⟩

def finalObs (X : Ext) (m : Nat) : Option (Out × List Event) :=
  match runSteps exCfg Malt.Gen.Pipeline.steps (.src exPipe) with
  | some (.fin t) => (Malt.SemW.execNBW X m t (Func.TSt.ofSt Malt.Props.C01Jumps.σ0)).map fun r => (fnResult r.1, r.2.log)
  | _ => none

/-- One iteration, then the `break` under try/finally (the `finally` still logs `tr 2`), then the final return. -/
example : (execB (XD [1, 0, 0, 1, 1]) 40 exPipe Malt.Props.C01Jumps.σ0).map (fun r => (fnResult r.1, r.2.log)) =
    some (.ret (.int 0), [.call "d" [], .call "d" [], .call "tr" [.int 1, .int 0], .call "tr" [.int 2], .call "d" [],
      .call "d" [], .call "d" [], .call "tr" [.int 2], .call "tr" [.int 0, .int 0]]) := by decide +kernel
example : finalObs (XD [1, 0, 0, 1, 1]) 80 =
    some (.ret (.int 0), [.call "d" [], .call "d" [], .call "tr" [.int 1, .int 0], .call "tr" [.int 2], .call "d" [],
      .call "d" [], .call "d" [], .call "tr" [.int 2], .call "tr" [.int 0, .int 0]]) := by decide +kernel
/-- the early `return` inside the loop -/
example : finalObs (XD [1, 0, 1]) 80 = (execB (XD [1, 0, 1]) 40 exPipe Malt.Props.C01Jumps.σ0).map
    (fun r => (fnResult r.1, r.2.log)) := by decide +kernel

end Malt.Props.C01Compose
