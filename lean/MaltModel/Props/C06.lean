import MaltModel.Analysis.ReachDef
import MaltModel.Proofs.C06Worklist
/-!
# C06 — reaching definitions and defined-on-entry sets are sound

The driver evaluates the Bool checkers (`isFix`, `isPostFix`, `stmtPrevComplete`, `definedInCovers`, `nameDefsOK`, …) on
the implementation's own graph, Scope sets, `Analyzer.in_/out` and annotations; the theorems say what `true` implies.

Full statement (FALSE of the pinned tree, see `C06_reads_full_false`):

    theorem C06_reads : isPostFix E V (rdFlow D) IN OUT → isPathB E V T → rdGenOK D T →
        isLastWriterB T j k v → (v, node j) ∈ IN (node k)

The hypothesis that fails is `hkill` of `rd_sound` ("a node that kills v really overwrites v") at a `for`
header visited when its iterator is exhausted: the header carries the loop target in
`scope.modified`, so it kills the target on the exit edge as well.  `C06_reads_partial` assumes the
decidable negation `forTargetKilledUnwritten = false`; the same predicate, evaluated by the driver
on a failing real trace, is the finding class `for_target_defined_before_zero_trip`.
Values written by other activations (closure writes / reads of enclosing-function variables) are outside
`rd_sound`'s `Run` (writes happen at steps of the walk): class `value_written_by_another_activation`.
-/
namespace Malt.Analysis.C06
open Malt.Analysis

/-- the property's last sentence -/
theorem C06_checker_fix (D : CfgData) (V : List Nat) (IN OUT : St Def)
    (h : isFix D.graph.edges V (rdFlow D) IN OUT = true) : IsFix D.graph.edges V (rdFlow D) IN OUT :=
  isFix_iff.mp h

/-- so a `false` answer is a real counterexample to the clause -/
theorem C06_checker_fix_complete (D : CfgData) (V : List Nat) (IN OUT : St Def)
    (h : IsFix D.graph.edges V (rdFlow D) IN OUT) : isFix D.graph.edges V (rdFlow D) IN OUT = true :=
  isFix_iff.mpr h

/-- the inclusions are all soundness needs -/
theorem C06_checker_postfix (D : CfgData) (V : List Nat) (IN OUT : St Def)
    (h : isPostFix D.graph.edges V (rdFlow D) IN OUT = true) : IsPostFix D.graph.edges V (rdFlow D) IN OUT :=
  isPostFix_iff.mp h

theorem C06_rd_sound (E : List (Nat × Nat)) (V : List Nat) (F : Flow Def) (IN OUT : St Def)
    (hfix : IsPostFix E V F IN OUT) (R : Run) (len : Nat)
    (hV : ∀ i, i ≤ len → R.node i ∈ V) (hpath : R.IsPath E len)
    (hgen : ∀ i v, i ≤ len → R.writes i v → (v, R.node i) ∈ F.gen (R.node i))
    (hkill : ∀ i v d, i ≤ len → F.kill (R.node i) (v, d) = true → R.touches i v)
    (k v j : Nat) (hk : k ≤ len) (hl : R.LastWriter k v j) : (v, R.node j) ∈ IN (R.node k) :=
  (rd_sound E V F IN OUT hfix R len hV hpath hgen hkill k v j hk hl).1

/-- Defined-on-entry clause: `dv` is the real `DEFINED_VARS_IN` annotation of the compound statement `s`. -/
theorem C06_defined_in (E : List (Nat × Nat)) (V : List Nat) (F : Flow Def) (IN OUT : St Def)
    (hfix : IsPostFix E V F IN OUT) (R : Run) (len : Nat)
    (hV : ∀ i, i ≤ len → R.node i ∈ V) (hpath : R.IsPath E len)
    (hgen : ∀ i v, i ≤ len → R.writes i v → (v, R.node i) ∈ F.gen (R.node i))
    (hkill : ∀ i v d, i ≤ len → F.kill (R.node i) (v, d) = true → R.touches i v)
    (s : StmtData) (dv : List Nat)
    (hprev : stmtPrevComplete E s = true) (hcov : definedInCovers OUT s dv = true)
    (k v j : Nat) (hk : k ≤ len) (hk0 : 0 < k)
    (hin : R.node k ∈ s.inside) (hout : R.node (k - 1) ∉ s.inside)
    (hbound : R.LastWriter k v j) : v ∈ dv :=
  defined_in_sound E V F IN OUT hfix R len hV hpath hgen hkill s dv hprev hcov k v j hk hk0 hin hout hbound

/-- On the serialised real data, every hypothesis a Bool the driver evaluates (`hgen`: property C08, here an input): the actual last
writer of a Name load is among its `DEFINITIONS`. -/
theorem C06_reads_partial (D : CfgData) (V : List Nat) (IN OUT : St Def) (T : Trace) (a : NameAnno)
    (hfix : isPostFix D.graph.edges V (rdFlow D) IN OUT = true)
    (hanno : nameDefsOK IN OUT a = true) (hload : a.isLoad = true)
    (hpath : isPathB D.graph.edges V T = true)
    (hgen : rdGenOK D T = true)
    (j k : Nat) (hk : k < T.length) (hcfg : T.nodeAt k = a.cfg)
    (hfor : forTargetKilledUnwritten D T j k a.var = false)
    (hother : otherKillUnwritten D T j k a.var = false)
    (hlast : isLastWriterB T j k a.var = true) :
    (a.var, T.nodeAt j) ∈ a.defs := by
  have h := (rd_trace_sound D V IN OUT T hfix hpath hgen j k a.var hk
    (rdKillOK_of_classes D T j k a.var hfor hother) hlast).1
  rw [hcfg] at h
  exact nameDefsOK_mem hanno hload _ h

/-- the same with the annotation relation stated at the node that EVALUATES the name; the negation of `nameDefsAtEval` is the
finding class `read_in_default_of_nested_def` -/
theorem C06_reads_eval_partial (D : CfgData) (V : List Nat) (IN OUT : St Def) (T : Trace) (a : NameAnno)
    (hfix : isPostFix D.graph.edges V (rdFlow D) IN OUT = true)
    (hpath : isPathB D.graph.edges V T = true)
    (hgen : rdGenOK D T = true)
    (j k : Nat) (hk : k < T.length)
    (hanno : nameDefsAtEval IN a (T.nodeAt k) = true)
    (hfor : forTargetKilledUnwritten D T j k a.var = false)
    (hother : otherKillUnwritten D T j k a.var = false)
    (hlast : isLastWriterB T j k a.var = true) :
    (a.var, T.nodeAt j) ∈ a.defs :=
  nameDefsAtEval_mem hanno _ (rd_trace_sound D V IN OUT T hfix hpath hgen j k a.var hk
    (rdKillOK_of_classes D T j k a.var hfor hother) hlast).1

theorem C06_defined_in_partial (D : CfgData) (V : List Nat) (IN OUT : St Def) (T : Trace) (s : StmtData) (dv : List Nat)
    (hfix : isPostFix D.graph.edges V (rdFlow D) IN OUT = true)
    (hprev : stmtPrevComplete D.graph.edges s = true) (hcov : definedInCovers OUT s dv = true)
    (hpath : isPathB D.graph.edges V T = true)
    (hgen : rdGenOK D T = true)
    (j k v : Nat) (hk : k < T.length) (hk0 : 0 < k)
    (hin : T.nodeAt k ∈ s.inside) (hout : T.nodeAt (k - 1) ∉ s.inside)
    (hfor : forTargetKilledUnwritten D T j k v = false)
    (hother : otherKillUnwritten D T j k v = false)
    (hlast : isLastWriterB T j k v = true) : v ∈ dv := by
  have hedge := (isPathB_spec _ _ _ hpath).2 (k - 1) (by rwa [Nat.sub_add_cancel hk0])
  rw [Nat.sub_add_cancel hk0] at hedge
  exact definedIn_of_enter hprev hcov hedge hin hout (rd_trace_sound D V IN OUT T hfix hpath hgen j k v hk
    (rdKillOK_of_classes D T j k v hfor hother) hlast).2

theorem C06_worklist_fix (D : CfgData) (fuel : Nat) (hq : (rdRunModel D fuel).open_ = []) :
    IsFix D.graph.edges (rdRunModel D fuel).closed (rdFlow D) (rdRunModel D fuel).A (rdRunModel D fuel).B ∧
    closedUnder D.graph.edges (rdRunModel D fuel).closed = true ∧ D.entry ∈ (rdRunModel D fuel).closed := by
  obtain ⟨hfix, hclosed, hstart⟩ := worklist_fix D.graph.edges (rdFlow D) [D.entry] fuel hq
  exact ⟨hfix, hclosed, hstart D.entry (by simp)⟩

theorem C06_model_sound (D : CfgData) (fuel : Nat) (hq : (rdRunModel D fuel).open_ = []) (R : Run) (len : Nat)
    (h0 : R.node 0 = D.entry) (hpath : R.IsPath D.graph.edges len)
    (hgen : ∀ i v, i ≤ len → R.writes i v → (v, R.node i) ∈ (rdFlow D).gen (R.node i))
    (hkill : ∀ i v d, i ≤ len → (rdFlow D).kill (R.node i) (v, d) = true → R.touches i v)
    (k v j : Nat) (hk : k ≤ len) (hl : R.LastWriter k v j) :
    (v, R.node j) ∈ (rdRunModel D fuel).A (R.node k) := by
  obtain ⟨hfix, hc, he⟩ := C06_worklist_fix D fuel hq
  have hV : ∀ i, i ≤ len → R.node i ∈ _ := fun i hi =>
    chain_in_closed hc R.node 0 len (by rw [h0]; exact he) (fun i _ h => hpath i h) i (Nat.zero_le _) hi
  exact C06_rd_sound _ _ _ _ _ hfix.toPostFix R len hV hpath hgen hkill k v j hk hl

/-- `rdFuel D` is `fuelBound`, computed from the graph and the gen sets; the graph need not be well-formed. -/
theorem C06_worklist_terminates (D : CfgData) (fuel : Nat) (hfuel : rdFuel D ≤ fuel) : (rdRunModel D fuel).open_ = [] :=
  run_terminates D.graph.edges (rdFlow D) [D.entry] fuel hfuel

/-- The model computes the least fixed point, so every other iteration order that returns a least solution yields the same
sets (`lfp_unique`). -/
theorem C06_worklist_lfp (D : CfgData) :
    IsFix D.graph.edges (rdRunModel D (rdFuel D)).closed (rdFlow D) (rdRunModel D (rdFuel D)).A (rdRunModel D (rdFuel D)).B ∧
    closedUnder D.graph.edges (rdRunModel D (rdFuel D)).closed = true ∧ D.entry ∈ (rdRunModel D (rdFuel D)).closed ∧
    ∀ (V' : List Nat) (A' B' : St Def), IsPostFix D.graph.edges V' (rdFlow D) A' B' → D.entry ∈ V' →
      closedUnder D.graph.edges V' = true →
      ∀ n a, (a ∈ (rdRunModel D (rdFuel D)).B n → a ∈ B' n) ∧ (a ∈ (rdRunModel D (rdFuel D)).A n → a ∈ A' n) := by
  unfold rdRunModel
  obtain ⟨hfix, hclosed, hstart, hleast⟩ := worklist_lfp D.graph.edges (rdFlow D) [D.entry] (rdFuel D) (Nat.le_refl _)
  exact ⟨hfix, hclosed, hstart _ (List.mem_singleton.mpr rfl), fun V' A' B' hp he hc =>
    hleast V' A' B' hp (fun n hn => List.mem_singleton.mp hn ▸ he) hc⟩

/-- `IN` / `OUT`: the real `Analyzer.in_/out`. -/
theorem C06_real_above_lfp (D : CfgData) (IN OUT : St Def)
    (h : isPostFix D.graph.edges (rdRunModel D (rdFuel D)).closed (rdFlow D) IN OUT = true) :
    ∀ n a, (a ∈ (rdRunModel D (rdFuel D)).B n → a ∈ OUT n) ∧ (a ∈ (rdRunModel D (rdFuel D)).A n → a ∈ IN n) := by
  obtain ⟨_, h2, h3, h4⟩ := C06_worklist_lfp D
  exact h4 _ IN OUT (isPostFix_iff.mp h) h3 h2

/-- What the driver's `model_eq` check says; a real analysis returning a larger but still sound solution would fail it. -/
theorem C06_real_is_lfp (D : CfgData) (IN OUT : St Def)
    (hA : solEqOn D.graph.nodes (rdRunModel D (rdFuel D)).A IN = true)
    (hB : solEqOn D.graph.nodes (rdRunModel D (rdFuel D)).B OUT = true) :
    ∀ n, n ∈ D.graph.nodes → SetEq ((rdRunModel D (rdFuel D)).A n) (IN n) ∧ SetEq ((rdRunModel D (rdFuel D)).B n) (OUT n) :=
  fun n hn => ⟨solEqOn_spec hA n hn, solEqOn_spec hB n hn⟩

/-! ## The pinned tree: `def f(xs): x = 1; for x in xs: pass; return x` with `xs = []`
(literals below are the REAL graph / Scope sets / `Analyzer.in_/out` / trace, printed by the harness;
variables 0 = xs, 1 = x; nodes 2 = args, 4 = `x = 1`, 9 = for header `xs`, 10 = `pass`, 11 = `return x`) -/

def ztD : CfgData where
  fnId := 1
  graph := { nodes := [2, 4, 9, 10, 11], edges := [(2, 4), (4, 9), (9, 10), (9, 11), (10, 9)] }
  entry := 2
  exits := [11]
  info := [
    { id := 2, scope := some { read := [], modified := [], deleted := [], bound := [0], globals := [], nonlocals := [], params := [0], annotations := [] }, isForIter := false, forTargets := [], isFnDef := false, fnsIn := some [] },
    { id := 4, scope := some { read := [], modified := [1], deleted := [], bound := [1], globals := [], nonlocals := [], params := [], annotations := [] }, isForIter := false, forTargets := [], isFnDef := false, fnsIn := some [] },
    { id := 9, scope := some { read := [0], modified := [1], deleted := [], bound := [1], globals := [], nonlocals := [], params := [], annotations := [] }, isForIter := true, forTargets := [1], isFnDef := false, fnsIn := some [] },
    { id := 10, scope := none, isForIter := false, forTargets := [], isFnDef := false, fnsIn := some [] },
    { id := 11, scope := some { read := [1], modified := [], deleted := [], bound := [], globals := [], nonlocals := [], params := [], annotations := [] }, isForIter := false, forTargets := [], isFnDef := false, fnsIn := some [] }]
  fns := []

def ztV : List Nat := [2, 4, 9, 10, 11]
def ztIN : St Def := solAt [(2, []), (4, [(0, 2)]), (9, [(0, 2), (1, 4), (1, 9)]), (10, [(0, 2), (1, 9)]), (11, [(0, 2), (1, 9)])]
def ztOUT : St Def := solAt [(2, [(0, 2)]), (4, [(0, 2), (1, 4)]), (9, [(0, 2), (1, 9)]), (10, [(0, 2), (1, 9)]), (11, [(0, 2), (1, 9)])]
/-- zero iterations: args, `x = 1`, header (exhausted), `return x` -/
def ztT0 : Trace :=
  [{ node := 2, reads := [], writes := [0], dels := [], fwrites := [], creads := [] },
   { node := 4, reads := [], writes := [1], dels := [], fwrites := [], creads := [] },
   { node := 9, reads := [0], writes := [], dels := [], fwrites := [], creads := [] },
   { node := 11, reads := [1], writes := [], dels := [], fwrites := [], creads := [] }]
/-- one iteration -/
def ztT1 : Trace :=
  [{ node := 2, reads := [], writes := [0], dels := [], fwrites := [], creads := [] },
   { node := 4, reads := [], writes := [1], dels := [], fwrites := [], creads := [] },
   { node := 9, reads := [0], writes := [1], dels := [], fwrites := [], creads := [] },
   { node := 10, reads := [], writes := [], dels := [], fwrites := [], creads := [] },
   { node := 9, reads := [], writes := [], dels := [], fwrites := [], creads := [] },
   { node := 11, reads := [1], writes := [], dels := [], fwrites := [], creads := [] }]
def ztName : NameAnno := { id := 13, var := 1, isLoad := true, cfg := 11, defs := [(1, 9)] }
def ztFor : StmtData := { id := 7, next := [11], prev := [4], inside := [9, 10], entry := some 9, liveOut := some [1], liveIn := some [0], definedIn := some [0, 1] }

/-- Without the `for`-header hypothesis: `x = 1` (step 1) is the last writer of the `x` read by `return x` (step 3), yet its
definition is not in `in_` of that node. -/
theorem C06_reads_full_false :
    ¬ (∀ (D : CfgData) (V : List Nat) (IN OUT : St Def) (T : Trace) (j k v : Nat),
        isFix D.graph.edges V (rdFlow D) IN OUT = true → isPathB D.graph.edges V T = true → rdGenOK D T = true →
        k < T.length → isLastWriterB T j k v = true → (v, T.nodeAt j) ∈ IN (T.nodeAt k)) := by
  intro h
  have := h ztD ztV ztIN ztOUT ztT0 1 3 1 (by decide +kernel) (by decide +kernel) (by decide +kernel) (by decide +kernel) (by decide +kernel)
  revert this
  decide +kernel

/-- the counterexample is in the class `C06_reads_partial` assumes away -/
example : forTargetKilledUnwritten ztD ztT0 1 3 1 = true ∧ otherKillUnwritten ztD ztT0 1 3 1 = false := by decide +kernel

/-- Non-vacuity of `C06_reads_partial`: one iteration, the writer is the header (step 2) -/
example : (1, ztT1.nodeAt 2) ∈ ztName.defs :=
  C06_reads_partial ztD ztV ztIN ztOUT ztT1 ztName (by decide +kernel) (by decide +kernel) (by decide +kernel) (by decide +kernel) (by decide +kernel)
    2 5 (by decide +kernel) (by decide +kernel) (by decide +kernel) (by decide +kernel) (by decide +kernel)

/-- entering the `for` at step 2 with `x` bound by step 1 -/
example : 1 ∈ [0, 1] :=
  C06_defined_in_partial ztD ztV ztIN ztOUT ztT0 ztFor [0, 1] (by decide +kernel) (by decide +kernel) (by decide +kernel) (by decide +kernel) (by decide +kernel)
    1 2 1 (by decide +kernel) (by decide +kernel) (by decide +kernel) (by decide +kernel) (by decide +kernel) (by decide +kernel) (by decide +kernel)

example : (rdRunModel ztD 100).open_ = [] ∧ solEqOn ztD.graph.nodes (rdRunModel ztD 100).A ztIN = true
    ∧ solEqOn ztD.graph.nodes (rdRunModel ztD 100).B ztOUT = true := by decide +kernel

/-! ## The pinned tree, second deviation: a value written by another activation

    def f(a, b, c):
        def g():
            nonlocal x
            x = tr(1, 5)
        g()
        if d():
            x = x + 1
        return tr(0, x)

(REAL data; variables 0 c, 1 a, 2 b, 3 g, 4 x, 5 tr, 6 d; nodes 2 args, 6 `def g`, 15 `g()`, 19 `d()` (entry of the `if`, statement 18),
21 `x = x + 1`, 26 return).  `rd_sound` models writes as steps of the walk; the closure's write is not one, and the analysis has no
definition for it: on entering the `if`, the local `x` is bound and `DEFINED_VARS_IN` does not contain it (control_flow then emits
`x = Undefined('x')` over the live value: 6 natively, UnboundLocalError converted). -/

def fwD : CfgData where
  fnId := 1
  graph := { nodes := [2, 6, 15, 19, 21, 26], edges := [(2, 6), (6, 15), (15, 19), (19, 21), (19, 26), (21, 26)] }
  entry := 2
  exits := [26]
  info := [
    { id := 2, scope := some { read := [], modified := [], deleted := [], bound := [0, 1, 2], globals := [], nonlocals := [], params := [0, 1, 2], annotations := [] }, isForIter := false, forTargets := [], isFnDef := false, fnsIn := some [] },
    { id := 6, scope := some { read := [], modified := [3], deleted := [], bound := [3], globals := [], nonlocals := [], params := [], annotations := [] }, isForIter := false, forTargets := [], isFnDef := true, fnsIn := some [] },
    { id := 15, scope := some { read := [3], modified := [], deleted := [], bound := [], globals := [], nonlocals := [], params := [], annotations := [] }, isForIter := false, forTargets := [], isFnDef := false, fnsIn := some [6] },
    { id := 19, scope := some { read := [6], modified := [], deleted := [], bound := [], globals := [], nonlocals := [], params := [], annotations := [] }, isForIter := false, forTargets := [], isFnDef := false, fnsIn := some [6] },
    { id := 21, scope := some { read := [4], modified := [4], deleted := [], bound := [4], globals := [], nonlocals := [], params := [], annotations := [] }, isForIter := false, forTargets := [], isFnDef := false, fnsIn := some [6] },
    { id := 26, scope := some { read := [4, 5], modified := [], deleted := [], bound := [], globals := [], nonlocals := [], params := [], annotations := [] }, isForIter := false, forTargets := [], isFnDef := false, fnsIn := some [6] }]
  fns := [
    { id := 1, parent := 0, isLambda := false, read := [3, 4, 5, 6], bound := [0, 1, 2, 3, 4], nonlocals := [], globals := [] },
    { id := 6, parent := 1, isLambda := false, read := [4, 5], bound := [4], nonlocals := [4], globals := [] }]
def fwV : List Nat := [2, 6, 15, 19, 21, 26]
def fwIN : St Def := solAt [(2, []), (6, [(0, 2), (1, 2), (2, 2)]), (15, [(0, 2), (1, 2), (2, 2), (3, 6)]), (19, [(0, 2), (1, 2), (2, 2), (3, 6)]), (21, [(0, 2), (1, 2), (2, 2), (3, 6)]), (26, [(0, 2), (1, 2), (2, 2), (3, 6), (4, 21)])]
def fwOUT : St Def := solAt [(2, [(0, 2), (1, 2), (2, 2)]), (6, [(0, 2), (1, 2), (2, 2), (3, 6)]), (15, [(0, 2), (1, 2), (2, 2), (3, 6)]), (19, [(0, 2), (1, 2), (2, 2), (3, 6)]), (21, [(0, 2), (1, 2), (2, 2), (3, 6), (4, 21)]), (26, [(0, 2), (1, 2), (2, 2), (3, 6), (4, 21)])]
/-- f(1, 2, 3) with d() true: during step 2 (`g()`) the closure binds x (variable 4) -/
def fwT : Trace :=
  [{ node := 2, reads := [], writes := [0, 1, 2], dels := [], fwrites := [], creads := [] },
   { node := 6, reads := [], writes := [3], dels := [], fwrites := [], creads := [] },
   { node := 15, reads := [3], writes := [], dels := [], fwrites := [4], creads := [(6, 5)] },
   { node := 19, reads := [6], writes := [], dels := [], fwrites := [], creads := [] },
   { node := 21, reads := [4], writes := [4], dels := [], fwrites := [], creads := [] },
   { node := 26, reads := [4, 5], writes := [], dels := [], fwrites := [], creads := [] }]
def fwIf : StmtData := { id := 18, next := [26], prev := [15], inside := [19, 21], entry := some 19, liveOut := some [4, 5], liveIn := some [4, 5, 6], definedIn := some [0, 1, 2, 3] }

/-- The defined-on-entry clause with "bound" read as Python does (the last touch is a binding, by this activation or another
one): `x` is bound when the `if` is entered (step 3) and `x ∉ DEFINED_VARS_IN`. -/
theorem C06_defined_in_full_false :
    ¬ (∀ (D : CfgData) (V : List Nat) (IN OUT : St Def) (T : Trace) (s : StmtData) (dv : List Nat) (k v : Nat),
        isFix D.graph.edges V (rdFlow D) IN OUT = true → stmtPrevComplete D.graph.edges s = true →
        definedInCovers OUT s dv = true → definedInTight OUT s dv = true → isPathB D.graph.edges V T = true → rdGenOK D T = true →
        0 < k → k < T.length → T.nodeAt k ∈ s.inside → T.nodeAt (k - 1) ∉ s.inside →
        (lastTouchIsForeign T k v = true ∨ ∃ j, isLastWriterB T j k v = true) → v ∈ dv) := by
  intro h
  have := h fwD fwV fwIN fwOUT fwT fwIf [0, 1, 2, 3] 3 4 (by decide +kernel) (by decide +kernel) (by decide +kernel) (by decide +kernel) (by decide +kernel) (by decide +kernel)
    (by decide +kernel) (by decide +kernel) (by decide +kernel) (by decide +kernel) (Or.inl (by decide +kernel))
  revert this
  decide +kernel

example : lastTouchIsForeign fwT 4 4 = true ∧ (fwIN 21).filter (fun d => d.1 == 4) = [] := by decide +kernel

/-! ## The pinned tree, third deviation: names in the default values of a nested `def`

    def f(a, b, c):
        v = [a, b]
        def g(p=v):          # `v` is evaluated by f when the def statement runs
            return p
        r = g()
        return tr(0, r)

`TreeAnnotator.visit_FunctionDef` switches to the nested function's analyzer before visiting `node.args`, so the Name `v` in the
default value is annotated from `in_` of the NESTED graph's `arguments` node (node 12, empty) instead of `in_` of the enclosing
`def` node (node 11), which does contain the definition.  (REAL data; variables 3 v, 4 g, 5 p; nodes 2 args, 6 `v = …`, 11 `def g`,
17 `r = g()`, 21 return.) -/

def ndD : CfgData where
  fnId := 1
  graph := { nodes := [2, 6, 11, 17, 21], edges := [(2, 6), (6, 11), (11, 17), (17, 21)] }
  entry := 2
  exits := [21]
  info := [
    { id := 2, scope := some { read := [], modified := [], deleted := [], bound := [0, 1, 2], globals := [], nonlocals := [], params := [0, 1, 2], annotations := [] }, isForIter := false, forTargets := [], isFnDef := false, fnsIn := some [] },
    { id := 6, scope := some { read := [0, 1], modified := [3], deleted := [], bound := [3], globals := [], nonlocals := [], params := [], annotations := [] }, isForIter := false, forTargets := [], isFnDef := false, fnsIn := some [] },
    { id := 11, scope := some { read := [3], modified := [4], deleted := [], bound := [4, 5], globals := [], nonlocals := [], params := [5], annotations := [] }, isForIter := false, forTargets := [], isFnDef := true, fnsIn := some [] },
    { id := 17, scope := some { read := [4], modified := [6], deleted := [], bound := [6], globals := [], nonlocals := [], params := [], annotations := [] }, isForIter := false, forTargets := [], isFnDef := false, fnsIn := some [11] },
    { id := 21, scope := some { read := [6, 7], modified := [], deleted := [], bound := [], globals := [], nonlocals := [], params := [], annotations := [] }, isForIter := false, forTargets := [], isFnDef := false, fnsIn := some [11] }]
  fns := [
    { id := 1, parent := 0, isLambda := false, read := [0, 1, 3, 4, 6, 7], bound := [0, 1, 2, 3, 4, 5, 6], nonlocals := [], globals := [] },
    { id := 11, parent := 1, isLambda := false, read := [5], bound := [5], nonlocals := [], globals := [] }]
def ndV : List Nat := [2, 6, 11, 17, 21]
def ndIN : St Def := solAt [(2, []), (6, [(0, 2), (1, 2), (2, 2)]), (11, [(0, 2), (1, 2), (2, 2), (3, 6)]), (17, [(0, 2), (1, 2), (2, 2), (3, 6), (4, 11), (5, 11)]), (21, [(0, 2), (1, 2), (2, 2), (3, 6), (4, 11), (5, 11), (6, 17)])]
def ndOUT : St Def := solAt [(2, [(0, 2), (1, 2), (2, 2)]), (6, [(0, 2), (1, 2), (2, 2), (3, 6)]), (11, [(0, 2), (1, 2), (2, 2), (3, 6), (4, 11), (5, 11)]), (17, [(0, 2), (1, 2), (2, 2), (3, 6), (4, 11), (5, 11), (6, 17)]), (21, [(0, 2), (1, 2), (2, 2), (3, 6), (4, 11), (5, 11), (6, 17)])]
def ndT : Trace :=
  [{ node := 2, reads := [], writes := [0, 1, 2], dels := [], fwrites := [], creads := [] },
   { node := 6, reads := [0, 1], writes := [3], dels := [], fwrites := [], creads := [] },
   { node := 11, reads := [3], writes := [4], dels := [], fwrites := [], creads := [] },
   { node := 17, reads := [4], writes := [6], dels := [], fwrites := [], creads := [] },
   { node := 21, reads := [6, 7], writes := [], dels := [], fwrites := [], creads := [] }]
/-- the REAL annotation of the Name `v` (id 14) in the default value: taken from node 12, DEFINITIONS = () -/
def ndName : NameAnno := { id := 14, var := 3, isLoad := true, cfg := 12, defs := [] }

/-- Every hypothesis of `C06_reads_eval_partial` but the annotation relation holds for the read of `v` at step 2 (writer: step 1);
the definition is in `in_` of the evaluating node and the annotation misses it. -/
theorem C06_default_read_counterexample :
    isFix ndD.graph.edges ndV (rdFlow ndD) ndIN ndOUT = true ∧ isPathB ndD.graph.edges ndV ndT = true ∧ rdGenOK ndD ndT = true ∧
    isLastWriterB ndT 1 2 ndName.var = true ∧ forTargetKilledUnwritten ndD ndT 1 2 ndName.var = false ∧
    otherKillUnwritten ndD ndT 1 2 ndName.var = false ∧ (ndName.var, ndT.nodeAt 1) ∈ ndIN (ndT.nodeAt 2) ∧
    nameDefsAtEval ndIN ndName (ndT.nodeAt 2) = false ∧ (ndName.var, ndT.nodeAt 1) ∉ ndName.defs := by decide +kernel

example : (rdRunModel ztD (rdFuel ztD)).open_ = [] := C06_worklist_terminates ztD _ (Nat.le_refl _)
example : solEqOn ztD.graph.nodes (rdRunModel ztD (rdFuel ztD)).A ztIN = true ∧
    solEqOn ztD.graph.nodes (rdRunModel ztD (rdFuel ztD)).B ztOUT = true := by decide +kernel
example : ∀ n a, (a ∈ (rdRunModel ztD (rdFuel ztD)).B n → a ∈ ztOUT n) ∧ (a ∈ (rdRunModel ztD (rdFuel ztD)).A n → a ∈ ztIN n) :=
  C06_real_above_lfp ztD ztIN ztOUT (by decide +kernel)

end Malt.Analysis.C06
