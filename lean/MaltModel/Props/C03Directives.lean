import MaltModel.Proofs.C03Directives
/-!
# C03, loop options from the SOURCE: where the directives annotated on a loop come from

`C03_opts` (Props/C03.lean) starts from the `set_loop_options` table ANNOTATED on a loop.  This file covers the step
before: the annotation itself, as set by the model of `DirectivesTransformer` (`Conv/Directives.lean`, tied to the real
pass by C04's correspondence).

Not modelled: the identity of a loop across the passes between Directives and ControlFlow (the annotation travels on the
node object; `./check C03` checks the end-to-end statement at run time with the instrumented operators: every loop carries
exactly the directive the generator placed in it, identified by its `maximum_iterations` value).
-/
namespace Malt.Conv.DirectivesSpec
open Malt.Py Malt.Conv Malt.Conv.Directives

/-- If the pass succeeds, every loop annotation it leaves is `("set_loop_options", m)` on a loop `l` such that the source
contains an expression statement `set_loop_options(as, ks)` (callee resolved statically) whose INNERMOST enclosing
synchronous loop is `l` (its body or `else` block, through `if`/`with`/`try`/nested `def`s but not through another loop),
and `m` is the argument map `_map_args` computes from that call.  In particular no directive is attached to an outer or a
sibling loop. -/
theorem C03_directive_source (env : Directives.Env) (root : Stmt) (out : List Stmt) (st : St)
    (h : Directives.run env root = .ok (out, st)) :
    ∀ a ∈ st.annos, a.2.1 = "set_loop_options" ∧
      ∃ as ks, (a.1, as, ks) ∈ placedS env 0 root ∧ mapArgs loopParams 0 as ks = .ok a.2.2 := by
  intro a ha
  have := visitS_inv env root { stack := [(0, 0)] } out st 0 0 [] rfl h
  rcases this.2 a ha with h0 | h1
  · cases h0
  · exact h1

/-- `placedS` on `for …: set_loop_options(maximum_iterations=3); x = 1`: the call is placed in the loop (id 1). -/
example :
    let env : Directives.Env := { staticOf := fun i => if i = 4 then some "set_loop_options" else none, origDefs := fun _ => none }
    let loop : Stmt := .for_ 1 (.name 2 "i" .store) (.name 9 "l" .load)
      [.expr 3 (.call 5 (.name 4 "slo" .load) [] [.keyword 6 "maximum_iterations" true (.const 7 "int" "3")]),
       .assign 8 [.name 10 "x" .store] (.const 11 "int" "1")] [] [] false
    placedS env 0 loop = [(1, [], [.keyword 6 "maximum_iterations" true (.const 7 "int" "3")])] := by
  simp [placedS, placedL, Expr.id]

end Malt.Conv.DirectivesSpec
