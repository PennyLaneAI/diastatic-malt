import MaltModel.Proofs.C03Store
/-!
# C03 — emitted operator calls obey the operator calling contract

Model: `Conv/BlockVars.lean` (`_get_block_vars`), `Conv/ControlFlow.lean` (`ControlFlowTransformer`),
`Conv/Contract.lean` (the contract as predicates on generated code, the verified checker, the store semantics
of the state functions).  The theorems are about `cfOutput env nm root`, the output of the model of the pass,
for all source trees, annotation / directive tables and namer states.  The only hypothesis is `cleanS root`:
the source itself contains no statement `ag__.if_stmt(...)`, `ag__.while_stmt(...)`, `ag__.for_stmt(...)`
(the `ag__` namespace belongs to the converter).

`emitted g` lists every operator call of a tree with its functions resolved (`none` = malformed call), so
"`∀ o ∈ emitted g, ∃ c, o = some c ∧ P c`" says: every call is well formed and satisfies `P`.
-/
namespace Malt.Conv.Contract
open Malt Malt.Py Malt.Naming Malt.Conv.ControlFlow

/-- The names tuple, the getter's tuple and the setter's target tuple have equal length. -/
theorem C03_lengths (env : Env) (nm : Namer) (root : Stmt) (h : cleanS root = true) :
    ∀ o ∈ emitted (cfOutput env nm root), ∃ c, o = some c ∧ Lengths c :=
  (cfOutput_good env nm root h).imp fun _ h => h.contract.lengths

/-- Position by position the three tuples denote the same variable: `names[i] = 's'`, `getter[i]` reads `qnOf s`
(through `ag__.ldu(lambda: …, 's')` when `s` is composite), `setter[i]` assigns `qnOf s`. -/
theorem C03_positions (env : Env) (nm : Namer) (root : Stmt) (h : cleanS root = true) :
    ∀ o ∈ emitted (cfOutput env nm root), ∃ c, o = some c ∧ Positions c :=
  (cfOutput_good env nm root h).imp fun _ h => h.contract.positions

/-- "Denotes" is anchored in `str`: `qnOf s` prints back (`str(qn)`) to exactly `s`, for every string. -/
theorem C03_name_is_str_of_variable (s : String) : (qnOf s).toString = s := qnOf_toString s

theorem C03_positions_at (env : Env) (nm : Namer) (root : Stmt) (h : cleanS root = true) :
    ∀ o ∈ emitted (cfOutput env nm root), ∃ c gs ts, o = some c ∧ getterTuple c = some gs ∧
      setterTargets c = some ts ∧
      ∀ (i : Nat) (n g t : Expr), c.names[i]? = some n → gs[i]? = some g → ts[i]? = some t → PosOk n g t := by
  intro o ho
  obtain ⟨c, hc, gs, ts, hgs, hts, h3⟩ := C03_positions env nm root h o ho
  exact ⟨c, gs, ts, hc, hgs, hts, h3.getElem?⟩

theorem C03_distinct (env : Env) (nm : Namer) (root : Stmt) (h : cleanS root = true) :
    ∀ o ∈ emitted (cfOutput env nm root), ∃ c, o = some c ∧ Distinct c :=
  (cfOutput_good env nm root h).imp fun _ h => h.contract.distinct

/-- Every simple state variable is declared `global` / `nonlocal` in the setter, so it assigns the enclosing
function's variables. -/
theorem C03_setter_declares (env : Env) (nm : Namer) (root : Stmt) (h : cleanS root = true) :
    ∀ o ∈ emitted (cfOutput env nm root), ∃ c, o = some c ∧ SetterDeclares c :=
  (cfOutput_good env nm root h).imp fun _ h => h.contract.setterDeclares

/-- getter 0, setter 1, body 0 (`for_stmt`: 1), orelse / test / extra_test 0 parameters — plain positional
parameters only; `extra_test` may be `None` only in a `for_stmt`. -/
theorem C03_arity (env : Env) (nm : Namer) (root : Stmt) (h : cleanS root = true) :
    ∀ o ∈ emitted (cfOutput env nm root), ∃ c, o = some c ∧ Arity c :=
  (cfOutput_good env nm root h).imp fun _ h => h.contract.arity

/-- `nouts` of an `if_stmt` is an integer constant with `0 ≤ nouts ≤ len(symbol_names)`, and outputs occupy the
positions `< nouts`: the names are `_get_block_vars`' variables of one `if` node, none of the first `nouts` is
input-only and every later one is (`inputOnly` = simple, modified, live into and not live out of the statement). -/
theorem C03_nouts (env : Env) (nm : Namer) (root : Stmt) (h : cleanS root = true) :
    ∀ o ∈ emitted (cfOutput env nm root), ∃ c, o = some c ∧ Nouts c ∧
      (c.kind = .ifStmt → ∃ r : BlockVars.Result,
        (∃ fs id, r = env.blockVars fs id ((env.scope id "BODY_SCOPE").bound ++ (env.scope id "ORELSE_SCOPE").bound)) ∧
        c.names = r.scopeVars.map strConst ∧ natConst? c.last = some r.nouts ∧
        r.nouts ≤ r.scopeVars.length ∧
        (∀ v ∈ r.scopeVars.take r.nouts, r.inputOnly.contains v = false) ∧
        (∀ v ∈ r.scopeVars.drop r.nouts, r.inputOnly.contains v = true)) := by
  refine (cfOutput_good env nm root h).imp fun c h => ⟨h.contract.nouts, ?_⟩
  intro hk
  obtain ⟨fs, id, hn, hl⟩ := (optsOk_if hk).mp h.contract.opts
  refine ⟨_, ⟨fs, id, rfl⟩, hn, ?_, ?_⟩
  · rw [hl]; exact natConst_intConst _
  · exact BlockVars.blockVars_nouts rfl

/-- `opts` of a `for_stmt` are exactly the `set_loop_options` keywords annotated on THAT source loop followed by
`iterate_names` = its unparsed target (which its body function unpacks); of a `while_stmt` exactly the keywords
annotated on THAT loop (whose test its test function returns). -/
theorem C03_opts (env : Env) (nm : Namer) (root : Stmt) (h : cleanS root = true) :
    ∀ o ∈ emitted (cfOutput env nm root), ∃ c, o = some c ∧
      (c.kind = .forStmt → ∃ l ∈ sourceLoopsS root, l.isFor = true ∧
        c.last = loopOptions env.dirs l.id [("iterate_names", strConst (unparseE l.header))] ∧
        forBodyTarget c = some (splice .store l.header)) ∧
      (c.kind = .whileStmt → ∃ l ∈ sourceLoopsS root, l.isFor = false ∧
        c.last = loopOptions env.dirs l.id [] ∧ whileTest c = some (splice .load l.header)) := by
  exact (cfOutput_good env nm root h).imp fun c h =>
    ⟨fun hk => (optsOk_for hk).mp h.contract.opts, fun hk => (optsOk_while hk).mp h.contract.opts⟩

/-- **C03, the contract handed to third-party operator implementations**, as one statement: every `ag__.if_stmt` /
`ag__.while_stmt` / `ag__.for_stmt` call in the output of the model — at any nesting depth, inside generated body
functions included — is well formed (its functions are defined in its block) and satisfies `OperatorContract`: the
clauses above, callbacks declaring what they assign, and the first `nouts` entries being EXACTLY the outputs
(`BlockVars.isOutput`). -/
theorem C03_operator_contract (env : Env) (nm : Namer) (root : Stmt) (h : cleanS root = true) :
    ∀ o ∈ emitted (cfOutput env nm root), ∃ c, o = some c ∧ OperatorContract env (sourceLoopsS root) c :=
  (cfOutput_good env nm root h).imp fun _ h => h.contract

/-- What "output" means: a simple output that is neither live into nor live out of the statement is a name the enclosing
function declares `global` / `nonlocal`; every other output is composite or live out. -/
theorem C03_outputs_are_live_out_or_outer (m li lo di g n : List String) (v : String)
    (hv : v ∈ (BlockVars.blockVars m li lo di g n).scopeVars) (ho : BlockVars.isOutput li lo v = true) :
    BlockVars.isComposite v = true ∨ lo.contains v = true ∨ (n ++ g).contains v = true := by
  rcases (BlockVars.mem_scopeVars ..).mp hv with hb | hc
  · have := (List.mem_filter.mp hb).2
    simp only [BlockVars.isOutput, Bool.or_eq_true, Bool.and_eq_true, Bool.not_eq_true'] at this ho
    rcases ho with (h | h) | h
    · exact .inl h
    · rcases this.2 with (h' | h') | h'
      · rw [h] at h'; cases h'
      · exact .inr (.inl h')
      · exact .inr (.inr h')
    · exact .inr (.inl h)
  · exact .inl (BlockVars.composite_of_mem_compositeVars hc)

/-- Reading state has no effect: every element of the getter tuple is a plain read, and evaluating the getter
leaves the world (store and effect count) as it was. -/
theorem C03_get_pure (env : Env) (nm : Namer) (root : Stmt) (h : cleanS root = true) :
    ∀ o ∈ emitted (cfOutput env nm root), ∃ c, o = some c ∧ GetterPure c ∧ ∀ w : World, (runGetter c w).2 = w := by
  refine (cfOutput_good env nm root h).imp fun c h => ?_
  obtain ⟨_, _, hread, _⟩ := good_algebra h.1
  exact ⟨h.contract.getterPure, hread⟩

/-! `classify σ es` puts every (store, state tuple) pair into exactly one of `undefinedBase`, `missingComposite`,
`dependent`, `aliased`, `lawful` (`Conv/Contract.lean`).  The getter / setter laws are theorems on `lawful`; each
other class has a counterexample below, the first three are findings about the library. -/

theorem C03_state_classes (σ : Store) (es : List Entry) :
    classify σ es = .lawful ↔
      (undefBaseAt σ es = false ∧ missingAt σ es = false ∧ dependentAt σ es = false ∧ aliasedAt σ es = false) :=
  classify_lawful_iff σ es

/-
"A write followed by a read returns what was written", for every emitted call and EVERY store, fails in the library
(corpus/C03/index_in_state.json).  At the level of stores: for `('dd[x]', 'x')` the tuple assignment writes `dd[<old x>]`,
then `x`, and the read evaluates `dd[<new x>]` (`C03_set_get_counterexample`, class `dependent`); it raises when a base holds
`Undefined` (class `undefinedBase`) or an entry cannot be located (class `missingComposite`); two aliasing entries read back
the later value (class `aliased`, `C03_aliased_counterexample`).  What holds:
-/

/-- `get_state()` after `set_state(vs)` returns `vs`, for every emitted call, every store `lawful` for its state
tuple and every `vs` of the right length. -/
theorem C03_set_get_partial (env : Env) (nm : Namer) (root : Stmt) (h : cleanS root = true) :
    ∀ o ∈ emitted (cfOutput env nm root), ∃ c es, o = some c ∧ entries c = some es ∧
      ∀ (σ : Store) (vs : List Val) (n : Nat), classify σ es = .lawful → vs.length = c.names.length →
        ∃ σ', runSetter c vs σ = some σ' ∧ (runGetter c ⟨σ', n⟩).1 = some vs := by
  intro o ho
  obtain ⟨c, hc, hg, _⟩ := cfOutput_good env nm root h o ho
  obtain ⟨es, he, _, hsg, _⟩ := good_algebra hg
  exact ⟨c, es, hc, he, hsg⟩

/-- Class `dependent`: `('dd[x]', 'x')` with `dd` an object, `x = 0`, `dd[0] = 5`, written with `(1, 2)`, does not
read back `(1, 2)`. -/
theorem C03_set_get_counterexample :
    let es : List Entry := [{ qn := .sub (.sym "dd") (.sym "x"), guarded := true, label := strConst "dd[x]" },
                            { qn := .sym "x", guarded := false, label := .noneMarker }]
    let σ : Store := fun q =>
      if q = .sym "dd" then some (.obj 0) else if q = .sym "x" then some (.int 0)
      else if q = .sub (objLit 0) (.lit "int" (toString (0 : Int))) then some (.int 5) else none
    let vs : List Val := [.int 1, .int 2]
    classify σ es = .dependent ∧
    ∃ σ', assignSeq (es.map (·.qn)) vs σ = some σ' ∧ getS es σ' ≠ some vs := by
  intro es σ vs
  exact ⟨by decide, _, rfl, by decide⟩

/-- Class `aliased`: `('o.a', 'p.a')` with `o is p`, written with `(1, 2)`, reads back `(2, 2)`. -/
theorem C03_aliased_counterexample :
    let es : List Entry := [{ qn := .attr (.sym "o") "a", guarded := true, label := strConst "o.a" },
                            { qn := .attr (.sym "p") "a", guarded := true, label := strConst "p.a" }]
    let σ : Store := fun q =>
      if q = .sym "o" then some (.obj 0) else if q = .sym "p" then some (.obj 0)
      else if q = .attr (objLit 0) "a" then some (.int 5) else none
    classify σ es = .aliased ∧
    ∃ σ', assignSeq (es.map (·.qn)) [.int 1, .int 2] σ = some σ' ∧ getS es σ' = some [.int 2, .int 2] := by
  intro es σ
  exact ⟨by decide, _, rfl, by decide⟩

/-
"Writing back what was just read changes nothing", for EVERY store, fails in the library.  At the level of stores: a
composite entry (`d['k']`, `o.a`) that the store lacks is read through `ag__.ldu` as `Undefined('d[…]')` and the write-back
CREATES it (`C03_get_set_counterexample`, class `missingComposite`, corpus/C03/missing_composite.json); with a base that holds
`Undefined` the read succeeds and the write-back RAISES (`C03_undefined_base_counterexample`, class `undefinedBase`,
corpus/C03/composite_base_undefined.json).  What holds:
-/

/-- `set_state(get_state())` is the identity on the caller-visible store, for every emitted call and every store in
neither of the classes `undefinedBase`, `missingComposite` (dependence and aliasing do not matter here). -/
theorem C03_get_set_partial (env : Env) (nm : Namer) (root : Stmt) (h : cleanS root = true) :
    ∀ o ∈ emitted (cfOutput env nm root), ∃ c es, o = some c ∧ entries c = some es ∧
      ∀ (σ : Store) (vs : List Val) (n : Nat), undefBaseAt σ es = false → missingAt σ es = false →
        (runGetter c ⟨σ, n⟩).1 = some vs → runSetter c vs σ = some σ := by
  intro o ho
  obtain ⟨c, hc, hg, _⟩ := cfOutput_good env nm root h o ho
  obtain ⟨es, he, _, _, hgs⟩ := good_algebra hg
  exact ⟨c, es, hc, he, hgs⟩

/-- Class `missingComposite`: `("d['k']",)` of `if a: d['k'] = 1` with `d` an empty dict: the guarded read yields
`Undefined`, the write-back creates the entry. -/
theorem C03_get_set_counterexample :
    let e : Entry := { qn := .sub (.sym "d") (.lit "str" "'k'"), guarded := true, label := strConst "d['k']" }
    let σ : Store := fun q => if q = .sym "d" then some (.obj 0) else none
    classify σ [e] = .missingComposite ∧
    ∃ (vs : List Val) (σ' : Store), getS [e] σ = some vs ∧ assignSeq [e.qn] vs σ = some σ' ∧ σ' ≠ σ := by
  intro e σ
  refine ⟨by decide, [.undef (labelStr e.label)], _,
    by simp [e, σ, getS, readEntry, resolve, Res.read, resolveIdx, objLit], rfl, ?_⟩
  intro heq
  have := congrFun heq (.sub (objLit 0) (.lit "str" "'k'"))
  revert this
  decide

/-- Class `undefinedBase`: `('p.v',)` with `p = Undefined('p')`: the read succeeds (the placeholder answers every
attribute with itself), the write-back raises. -/
theorem C03_undefined_base_counterexample :
    let e : Entry := { qn := .attr (.sym "p") "v", guarded := true, label := strConst "p.v" }
    let σ : Store := fun q => if q = .sym "p" then some (.undef "p") else none
    classify σ [e] = .undefinedBase ∧ getS [e] σ = some [.undef "p"] ∧ assignSeq [e.qn] [.undef "p"] σ = none := by
  intro e σ
  decide

theorem C03_get_set_full_is_false :
    ¬ ∀ (es : List Entry) (vs : List Val) (σ σ' : Store), getS es σ = some vs →
        assignSeq (es.map (·.qn)) vs σ = some σ' → σ' = σ := by
  intro hall
  obtain ⟨_, vs, σ', h1, h2, h3⟩ := C03_get_set_counterexample
  exact h3 (hall _ vs _ σ' h1 h2)

/-- Non-vacuity: `cleanS` holds of ordinary source trees … -/
example : cleanS (.if_ 1 (.name 2 "c" .load) [.assign 3 [.name 4 "x" .store] (.const 5 "int" "1"),
    .expr 6 (.call 7 (.name 8 "tr" .load) [] [])] []) = true := by
  decide

/-- … and fails of a tree that calls the operator itself. -/
example : cleanS (.expr 1 (.call 2 (.attr 3 (.name 4 "ag__" .load) "if_stmt" .load) [] [])) = false := by
  decide

/-- `lawful` is inhabited by a tuple with a composite entry: `('o.a', 'x')` with `o` an object that has `a`. -/
example :
    let es : List Entry := [{ qn := .attr (.sym "o") "a", guarded := true, label := strConst "o.a" },
                            { qn := .sym "x", guarded := false, label := .noneMarker }]
    let σ : Store := fun q =>
      if q = .sym "o" then some (.obj 0) else if q = .sym "x" then some (.int 1)
      else if q = .attr (objLit 0) "a" then some (.int 7) else none
    classify σ es = .lawful ∧ getS es σ = some [.int 7, .int 1] := by
  intro es σ
  decide

/-- Soundness of the checker `contractOk`, which the harness runs on the library's final generated code. -/
theorem C03_contractOk_sound (g : ParsedOutput) (h : contractOk g = true) :
    ∀ o ∈ emitted g, ∃ c, o = some c ∧ Lengths c ∧ Positions c ∧ Arity c ∧ Nouts c ∧ Distinct c ∧ GetterPure c ∧
      SetterDeclares c :=
  contractOk_good h

/-- For code accepted by the checker the getter / setter laws hold as for the model's output. -/
theorem C03_contractOk_algebra (g : ParsedOutput) (h : contractOk g = true) :
    ∀ o ∈ emitted g, ∃ c es, o = some c ∧ entries c = some es ∧ (∀ w : World, (runGetter c w).2 = w) ∧
      (∀ (σ : Store) (vs : List Val) (n : Nat), classify σ es = .lawful →
        vs.length = c.names.length → ∃ σ', runSetter c vs σ = some σ' ∧ (runGetter c ⟨σ', n⟩).1 = some vs) ∧
      (∀ (σ : Store) (vs : List Val) (n : Nat), undefBaseAt σ es = false → missingAt σ es = false →
        (runGetter c ⟨σ, n⟩).1 = some vs → runSetter c vs σ = some σ) := by
  intro o ho
  obtain ⟨c, hc, hg⟩ := contractOk_good h o ho
  obtain ⟨es, he, hpure, hsg, hgs⟩ := good_algebra hg
  exact ⟨c, es, hc, he, hpure, hsg, hgs⟩

end Malt.Conv.Contract
