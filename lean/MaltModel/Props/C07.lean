import MaltModel.Analysis.Liveness
import MaltModel.Proofs.C06Worklist
/-!
# C07 — liveness is sound: anything read later is reported live

The driver evaluates the Bool checkers (`isFix` / `isPostFix` on reversed edges, `stmtNextComplete`, `liveOutCovers`, …)
on the implementation's own graph, Scope sets, `Analyzer.in_/out` and annotations; the theorems say what `true` implies.

Full statement (FALSE of the pinned tree, see `C07_full_false_zero_trip`, `C07_closures_full_false`):

    theorem C07 : isPostFix (rev E) V (liveFlow D) OUT IN → isPathB E V T → isReadBeforeOverwriteB T i j v →
        (direct reads ⊆ scope.read) → (closure reads are reads of reaching non-lambda local functions) →
        v ∈ OUT (node i) ∧ v ∈ IN (node (i+1))

Two hypotheses of `live_sound` fail on the pinned tree and are the finding classes:
  * `hkill` at a `for` header visited when its iterator is exhausted (the header kills the target on the exit edge):
    `forTargetKilledUnwrittenL`, class `for_target_live_across_zero_trip`;
  * `hgen` for a read made by a function nested below the reaching local function that declares the variable `nonlocal`
    (`nonlocalInReader` with `closureReadCovered = false`, class `nonlocal_declared_below_reaching_closure`; when the
    reaching function itself declares it, the read is covered: an instance of `C07_closures`);
    and for lambdas, which `lamba_check` skips (`readerIsLambda`, class
    `read_by_lambda_called_after_its_statement`).
-/
namespace Malt.Analysis.C07
open Malt.Analysis

/-- The property's last sentence.  Orientation: edges reversed, `A = live_out`, `B = live_in`. -/
theorem C07_checker_fix (D : CfgData) (V : List Nat) (IN OUT : St Nat)
    (h : isFix (Graph.revEdges D.graph.edges) V (liveFlow D) OUT IN = true) :
    IsFix (Graph.revEdges D.graph.edges) V (liveFlow D) OUT IN := isFix_iff.mp h

theorem C07_checker_fix_complete (D : CfgData) (V : List Nat) (IN OUT : St Nat)
    (h : IsFix (Graph.revEdges D.graph.edges) V (liveFlow D) OUT IN) :
    isFix (Graph.revEdges D.graph.edges) V (liveFlow D) OUT IN = true := isFix_iff.mpr h

theorem C07_checker_postfix (D : CfgData) (V : List Nat) (IN OUT : St Nat)
    (h : isPostFix (Graph.revEdges D.graph.edges) V (liveFlow D) OUT IN = true) :
    IsPostFix (Graph.revEdges D.graph.edges) V (liveFlow D) OUT IN := isPostFix_iff.mp h

/-- the equations in the property's own words -/
theorem C07_equations (D : CfgData) (V : List Nat) (IN OUT : St Nat)
    (h : isFix (Graph.revEdges D.graph.edges) V (liveFlow D) OUT IN = true) (n : Nat) (hn : n ∈ V) (v : Nat) :
    (v ∈ OUT n ↔ ∃ s, (n, s) ∈ D.graph.edges ∧ v ∈ IN s) ∧
    (v ∈ IN n ↔ (v ∈ (liveFlow D).gen n ∨ (v ∈ OUT n ∧ (liveFlow D).kill n v = false))) := by
  have hf := isFix_iff.mp h
  refine ⟨?_, hf.2 n hn v⟩
  rw [hf.1 n hn v]
  constructor
  · rintro ⟨s, hs, hv⟩; exact ⟨s, (Graph.mem_revEdges _ _ _).mp hs, hv⟩
  · rintro ⟨s, hs, hv⟩; exact ⟨s, (Graph.mem_revEdges _ _ _).mpr hs, hv⟩

theorem C07_live_sound (E : List (Nat × Nat)) (V : List Nat) (F : Flow Nat) (IN OUT : St Nat)
    (hfix : IsPostFix (Graph.revEdges E) V F OUT IN) (R : Run) (len : Nat)
    (hV : ∀ i, i ≤ len → R.node i ∈ V) (hpath : R.IsPath E len)
    (hgen : ∀ i v, i ≤ len → R.reads i v → v ∈ F.gen (R.node i))
    (hkill : ∀ i v, i ≤ len → F.kill (R.node i) v = true → R.touches i v)
    (i v j : Nat) (hj : j ≤ len) (h : R.ReadBeforeOverwrite i v j) :
    v ∈ OUT (R.node i) ∧ v ∈ IN (R.node (i + 1)) :=
  live_sound E V F IN OUT hfix R len hV hpath hgen hkill i v j hj h

/-- Statement level: `lo` is the real `LIVE_VARS_OUT` annotation of `s`. -/
theorem C07_stmt_level (E : List (Nat × Nat)) (V : List Nat) (F : Flow Nat) (IN OUT : St Nat)
    (hfix : IsPostFix (Graph.revEdges E) V F OUT IN) (R : Run) (len : Nat)
    (hV : ∀ i, i ≤ len → R.node i ∈ V) (hpath : R.IsPath E len)
    (hgen : ∀ i v, i ≤ len → R.reads i v → v ∈ F.gen (R.node i))
    (hkill : ∀ i v, i ≤ len → F.kill (R.node i) v = true → R.touches i v)
    (s : StmtData) (lo : List Nat)
    (hnext : stmtNextComplete E s = true) (hcov : liveOutCovers IN s lo = true)
    (i v j : Nat) (hj : j ≤ len)
    (hin : R.node i ∈ s.inside) (hout : R.node (i + 1) ∉ s.inside)
    (h : R.ReadBeforeOverwrite i v j) : v ∈ lo :=
  live_out_stmt_sound E V F IN OUT hfix R len hV hpath hgen hkill s lo hnext hcov i v j hj hin hout h

/-- soundness of the real `reaching_fndefs` solution, from its checked post-fixed-point property -/
theorem C07_fndef_reaches (D : CfgData) (V : List Nat) (FIN FOUT : St Nat)
    (hfix : IsPostFix D.graph.edges V (fnFlow D) FIN FOUT) (R : Run) (len : Nat)
    (hV : ∀ i, i ≤ len → R.node i ∈ V) (hpath : R.IsPath D.graph.edges len)
    (d j : Nat) (hdj : d < j) (hj : j ≤ len) (hdef : R.node d ∈ (fnFlow D).gen (R.node d)) :
    R.node d ∈ FIN (R.node j) :=
  fndefs_sound D V FIN FOUT hfix R.node d j hdj (fun i _ h => hV i (by omega)) (fun i _ h => hpath i (by omega)) hdef

/-- `live_sound` on the serialised real data: every hypothesis is a Bool the driver evaluates. -/
theorem C07_trace_partial (D : CfgData) (V : List Nat) (IN OUT : St Nat) (T : Trace)
    (hfix : isPostFix (Graph.revEdges D.graph.edges) V (liveFlow D) OUT IN = true)
    (hpath : isPathB D.graph.edges V T = true)
    (i j v : Nat) (hj : j < T.length)
    (hgen : liveGenOK D T j v = true)
    (hfor : forTargetKilledUnwrittenL D T i j v = false)
    (hother : otherKillUnwrittenL D T i j v = false)
    (hrbo : isReadBeforeOverwriteB T i j v = true) :
    v ∈ OUT (T.nodeAt i) ∧ v ∈ IN (T.nodeAt (i + 1)) :=
  live_trace_sound D V IN OUT T hfix hpath i j v hj hgen (liveKillOK_of_classes D T i j v hfor hother) hrbo

/-- `hr`: property C08 for a direct read, here an input -/
theorem C07_gen_of_direct (D : CfgData) (T : Trace) (j v : Nat) (s : Scope) (hs : D.scopeOf (T.nodeAt j) = some s)
    (hr : v ∈ s.read) : liveGenOK D T j v = true := by
  simp [liveGenOK, liveFlow, hs, hr]

theorem C07_gen_of_closure (D : CfgData) (T : Trace) (j g v : Nat) (s : Scope) (hs : D.scopeOf (T.nodeAt j) = some s)
    (hcov : closureReadCovered D (T.nodeAt j) g v = true) : liveGenOK D T j v = true := by
  have := closureReadCovered_spec D (T.nodeAt j) g v hcov
  simp [liveGenOK, liveFlow, hs, this]

/-- The closure clause of C07 on the serialised real data, for covered reads (`closureReadCovered`). -/
theorem C07_closures (D : CfgData) (V : List Nat) (IN OUT : St Nat) (T : Trace)
    (hfix : isPostFix (Graph.revEdges D.graph.edges) V (liveFlow D) OUT IN = true)
    (hpath : isPathB D.graph.edges V T = true)
    (i j v g : Nat) (hj : j < T.length) (s : Scope) (hs : D.scopeOf (T.nodeAt j) = some s)
    (hcov : closureReadCovered D (T.nodeAt j) g v = true)
    (hfor : forTargetKilledUnwrittenL D T i j v = false)
    (hother : otherKillUnwrittenL D T i j v = false)
    (hrbo : isReadBeforeOverwriteB T i j v = true) :
    v ∈ OUT (T.nodeAt i) ∧ v ∈ IN (T.nodeAt (i + 1)) :=
  C07_trace_partial D V IN OUT T hfix hpath i j v hj (C07_gen_of_closure D T j g v s hs hcov) hfor hother hrbo

/-- "… and at the entry of the statement that follows": `li` is the real `LIVE_VARS_IN` annotation of `s`. -/
theorem C07_live_in_stmt (IN : St Nat) (s : StmtData) (e : Nat) (li : List Nat) (h : liveInOK IN s = true)
    (he : s.entry = some e) (hl : s.liveIn = some li) (v : Nat) (hv : v ∈ IN e) : v ∈ li :=
  liveInOK_mem h e li he hl v hv

theorem C07_worklist_fix (D : CfgData) (fuel : Nat) (hq : (liveRunModel D fuel).open_ = []) :
    IsFix (Graph.revEdges D.graph.edges) (liveRunModel D fuel).closed (liveFlow D) (liveRunModel D fuel).A (liveRunModel D fuel).B ∧
    closedUnder (Graph.revEdges D.graph.edges) (liveRunModel D fuel).closed = true ∧
    ∀ n, n ∈ D.exits → n ∈ (liveRunModel D fuel).closed :=
  worklist_fix (Graph.revEdges D.graph.edges) (liveFlow D) D.exits fuel hq

theorem C07_model_sound (D : CfgData) (fuel : Nat) (hq : (liveRunModel D fuel).open_ = []) (R : Run) (len : Nat)
    (hend : R.node len ∈ D.exits) (hpath : R.IsPath D.graph.edges len)
    (hgen : ∀ i v, i ≤ len → R.reads i v → v ∈ (liveFlow D).gen (R.node i))
    (hkill : ∀ i v, i ≤ len → (liveFlow D).kill (R.node i) v = true → R.touches i v)
    (i v j : Nat) (hj : j ≤ len) (h : R.ReadBeforeOverwrite i v j) :
    v ∈ (liveRunModel D fuel).A (R.node i) ∧ v ∈ (liveRunModel D fuel).B (R.node (i + 1)) := by
  obtain ⟨hfix, hc, he⟩ := C07_worklist_fix D fuel hq
  have hV : ∀ i, i ≤ len → R.node i ∈ _ := fun i hi =>
    chain_in_closed_rev hc R.node 0 len (he _ hend) (fun m _ h => hpath m h) i (Nat.zero_le _) hi
  exact C07_live_sound _ _ _ _ _ hfix.toPostFix R len hV hpath hgen hkill i v j hj h

/-- `liveFuel D` is `fuelBound`, computed from the graph and the gen sets. -/
theorem C07_worklist_terminates (D : CfgData) (fuel : Nat) (hfuel : liveFuel D ≤ fuel) : (liveRunModel D fuel).open_ = [] :=
  run_terminates (Graph.revEdges D.graph.edges) (liveFlow D) D.exits fuel hfuel

/-- The model computes the least solution of the liveness equations, hence one independent of the iteration order
(`lfp_unique`). -/
theorem C07_worklist_lfp (D : CfgData) :
    IsFix (Graph.revEdges D.graph.edges) (liveRunModel D (liveFuel D)).closed (liveFlow D)
      (liveRunModel D (liveFuel D)).A (liveRunModel D (liveFuel D)).B ∧
    closedUnder (Graph.revEdges D.graph.edges) (liveRunModel D (liveFuel D)).closed = true ∧
    (∀ n, n ∈ D.exits → n ∈ (liveRunModel D (liveFuel D)).closed) ∧
    ∀ (V' : List Nat) (OUT' IN' : St Nat), IsPostFix (Graph.revEdges D.graph.edges) V' (liveFlow D) OUT' IN' →
      (∀ n, n ∈ D.exits → n ∈ V') → closedUnder (Graph.revEdges D.graph.edges) V' = true →
      ∀ n v, (v ∈ (liveRunModel D (liveFuel D)).B n → v ∈ IN' n) ∧ (v ∈ (liveRunModel D (liveFuel D)).A n → v ∈ OUT' n) := by
  unfold liveRunModel
  exact worklist_lfp (Graph.revEdges D.graph.edges) (liveFlow D) D.exits (liveFuel D) (Nat.le_refl _)

/-- `IN` / `OUT`: the real `Analyzer.in_/out`. -/
theorem C07_real_above_lfp (D : CfgData) (IN OUT : St Nat)
    (h : isPostFix (Graph.revEdges D.graph.edges) (liveRunModel D (liveFuel D)).closed (liveFlow D) OUT IN = true) :
    ∀ n v, (v ∈ (liveRunModel D (liveFuel D)).B n → v ∈ IN n) ∧ (v ∈ (liveRunModel D (liveFuel D)).A n → v ∈ OUT n) := by
  obtain ⟨_, h2, h3, h4⟩ := C07_worklist_lfp D
  exact h4 _ OUT IN (isPostFix_iff.mp h) h3 h2

/-- what the driver's `model_eq` check says -/
theorem C07_real_is_lfp (D : CfgData) (IN OUT : St Nat)
    (hA : solEqOn D.graph.nodes (liveRunModel D (liveFuel D)).A OUT = true)
    (hB : solEqOn D.graph.nodes (liveRunModel D (liveFuel D)).B IN = true) :
    ∀ n, n ∈ D.graph.nodes → SetEq ((liveRunModel D (liveFuel D)).A n) (OUT n) ∧ SetEq ((liveRunModel D (liveFuel D)).B n) (IN n) :=
  fun n hn => ⟨solEqOn_spec hA n hn, solEqOn_spec hB n hn⟩

/-- One recorded run on which every hypothesis holds and `v` is not live refutes the liveness statement, whatever the reading
`P` of "step `j` reads `v`". -/
private theorem live_statement_false (P : CfgData → Trace → Nat → Nat → Bool)
    (D : CfgData) (V : List Nat) (IN OUT : St Nat) (T : Trace) (i j v : Nat)
    (h : isFix (Graph.revEdges D.graph.edges) V (liveFlow D) OUT IN = true ∧ isPathB D.graph.edges V T = true ∧
      j < T.length ∧ P D T j v = true ∧ isReadBeforeOverwriteB T i j v = true ∧
      ¬ (v ∈ OUT (T.nodeAt i) ∧ v ∈ IN (T.nodeAt (i + 1)))) :
    ¬ (∀ (D : CfgData) (V : List Nat) (IN OUT : St Nat) (T : Trace) (i j v : Nat),
        isFix (Graph.revEdges D.graph.edges) V (liveFlow D) OUT IN = true → isPathB D.graph.edges V T = true →
        j < T.length → P D T j v = true → isReadBeforeOverwriteB T i j v = true →
        v ∈ OUT (T.nodeAt i) ∧ v ∈ IN (T.nodeAt (i + 1))) :=
  fun hall =>
    let ⟨hfix, hpath, hj, hread, hrbo, hnot⟩ := h
    hnot (hall D V IN OUT T i j v hfix hpath hj hread hrbo)

/-! ## The pinned tree, deviation (a): `def f(xs): x = 1; for x in xs: pass; return x` with `xs = []`
(REAL graph / Scope sets / liveness `in_/out` / trace; variables 0 = xs, 1 = x; nodes 2 args, 4 `x = 1`, 9 header, 10 pass, 11 return) -/

def ztD : CfgData where
  fnId := 1
  graph := { nodes := [2, 4, 9, 10, 11], edges := [(2, 4), (4, 9), (9, 10), (9, 11), (10, 9)] }
  entry := 2
  exits := [11]
  info := [
    { id := 2, scope := some { read := [], modified := [], deleted := [], bound := [0], globals := [], nonlocals := [], params := [0], annotations := [] }, isForIter := false, forTargets := [], isFnDef := false, fnsIn := some [] },
    { id := 4, scope := some { read := [], modified := [1], deleted := [], bound := [1], globals := [], nonlocals := [], params := [], annotations := [] }, isForIter := false, forTargets := [], isFnDef := false, fnsIn := some [] },
    { id := 9, scope := some { read := [0], modified := [1], deleted := [], bound := [1], globals := [], nonlocals := [], params := [], annotations := [] }, isForIter := true, forTargets := [1], isFnDef := false, fnsIn := some [] },
    { id := 10, scope := none, isForIter := false, forTargets := [], isFnDef := false, fnsIn := some [] },
    { id := 11, scope := some { read := [1], modified := [], deleted := [], bound := [], globals := [], nonlocals := [], params := [], annotations := [] }, isForIter := false, forTargets := [], isFnDef := false, fnsIn := some [] }]
  fns := []
def ztV : List Nat := [2, 4, 9, 10, 11]
def ztIN : St Nat := solAt [(2, [0]), (4, [0]), (9, [0]), (10, [0]), (11, [1])]
def ztOUT : St Nat := solAt [(2, [0]), (4, [0]), (9, [0, 1]), (10, [0]), (11, [])]
def ztT0 : Trace :=
  [{ node := 2, reads := [], writes := [0], dels := [], fwrites := [], creads := [] },
   { node := 4, reads := [], writes := [1], dels := [], fwrites := [], creads := [] },
   { node := 9, reads := [0], writes := [], dels := [], fwrites := [], creads := [] },
   { node := 11, reads := [1], writes := [], dels := [], fwrites := [], creads := [] }]
def ztFor : StmtData := { id := 7, next := [11], prev := [4], inside := [9, 10], entry := some 9, liveOut := some [1], liveIn := some [0], definedIn := some [0, 1] }

/-- Without the `for`-header hypothesis: the value of `x` after `x = 1` (step 1) is read by `return x` (step 3) with no write in
between, yet `x` is not live at the exit of `x = 1`. -/
theorem C07_full_false_zero_trip :
    ¬ (∀ (D : CfgData) (V : List Nat) (IN OUT : St Nat) (T : Trace) (i j v : Nat),
        isFix (Graph.revEdges D.graph.edges) V (liveFlow D) OUT IN = true → isPathB D.graph.edges V T = true →
        j < T.length → liveGenOK D T j v = true → isReadBeforeOverwriteB T i j v = true →
        v ∈ OUT (T.nodeAt i) ∧ v ∈ IN (T.nodeAt (i + 1))) :=
  live_statement_false liveGenOK ztD ztV ztIN ztOUT ztT0 1 3 1 (by decide +kernel)

example : forTargetKilledUnwrittenL ztD ztT0 1 3 1 = true ∧ otherKillUnwrittenL ztD ztT0 1 3 1 = false := by decide +kernel

/-- Non-vacuity of `C07_trace_partial`: the same run, for `xs`. -/
example : 0 ∈ ztOUT (ztT0.nodeAt 0) ∧ 0 ∈ ztIN (ztT0.nodeAt 1) :=
  C07_trace_partial ztD ztV ztIN ztOUT ztT0 (by decide +kernel) (by decide +kernel) 0 2 0 (by decide +kernel) (by decide +kernel) (by decide +kernel) (by decide +kernel) (by decide +kernel)

example : stmtNextComplete ztD.graph.edges ztFor = true ∧ liveOutCovers ztIN ztFor [1] = true := by decide +kernel

example : (liveRunModel ztD 100).open_ = [] ∧ solEqOn ztD.graph.nodes (liveRunModel ztD 100).A ztOUT = true
    ∧ solEqOn ztD.graph.nodes (liveRunModel ztD 100).B ztIN = true := by decide +kernel

example : (liveRunModel ztD (liveFuel ztD)).open_ = [] := C07_worklist_terminates ztD _ (Nat.le_refl _)
example : solEqOn ztD.graph.nodes (liveRunModel ztD (liveFuel ztD)).A ztOUT = true ∧
    solEqOn ztD.graph.nodes (liveRunModel ztD (liveFuel ztD)).B ztIN = true := by decide +kernel
example : ∀ n v, (v ∈ (liveRunModel ztD (liveFuel ztD)).B n → v ∈ ztIN n) ∧ (v ∈ (liveRunModel ztD (liveFuel ztD)).A n → v ∈ ztOUT n) :=
  C07_real_above_lfp ztD ztIN ztOUT (by decide +kernel)

/-! ## (b) A reaching closure that declares the variable `nonlocal`: covered

    def f(a, b, c):
        x = 0
        def g():
            nonlocal x
            x = x + 1
            return x
        if d():
            x = 10
            y = g()
        else:
            y = 0
        return tr(0, y)               11 natively and converted

The closure term is `read − (bound − nonlocals − globals)`, so this is an INSTANCE of `C07_closures`.
(REAL data of /repo at ccf3d44; variables 3 x, 4 g, 6 y; nodes 6 `x = 0`, 9 `def g`, 20 `d()`, 22 `x = 10`, 25 `y = g()`; function 9 = g.) -/

def nlD : CfgData where
  fnId := 1
  graph := { nodes := [2, 6, 9, 20, 22, 25, 29, 32], edges := [(2, 6), (6, 9), (9, 20), (20, 22), (20, 29), (22, 25), (25, 32), (29, 32)] }
  entry := 2
  exits := [32]
  info := [
    { id := 2, scope := some { read := [], modified := [], deleted := [], bound := [0, 1, 2], globals := [], nonlocals := [], params := [0, 1, 2], annotations := [] }, isForIter := false, forTargets := [], isFnDef := false, fnsIn := some [] },
    { id := 6, scope := some { read := [], modified := [3], deleted := [], bound := [3], globals := [], nonlocals := [], params := [], annotations := [] }, isForIter := false, forTargets := [], isFnDef := false, fnsIn := some [] },
    { id := 9, scope := some { read := [], modified := [4], deleted := [], bound := [4], globals := [], nonlocals := [], params := [], annotations := [] }, isForIter := false, forTargets := [], isFnDef := true, fnsIn := some [] },
    { id := 20, scope := some { read := [5], modified := [], deleted := [], bound := [], globals := [], nonlocals := [], params := [], annotations := [] }, isForIter := false, forTargets := [], isFnDef := false, fnsIn := some [9] },
    { id := 22, scope := some { read := [], modified := [3], deleted := [], bound := [3], globals := [], nonlocals := [], params := [], annotations := [] }, isForIter := false, forTargets := [], isFnDef := false, fnsIn := some [9] },
    { id := 25, scope := some { read := [4], modified := [6], deleted := [], bound := [6], globals := [], nonlocals := [], params := [], annotations := [] }, isForIter := false, forTargets := [], isFnDef := false, fnsIn := some [9] },
    { id := 29, scope := some { read := [], modified := [6], deleted := [], bound := [6], globals := [], nonlocals := [], params := [], annotations := [] }, isForIter := false, forTargets := [], isFnDef := false, fnsIn := some [9] },
    { id := 32, scope := some { read := [6, 7], modified := [], deleted := [], bound := [], globals := [], nonlocals := [], params := [], annotations := [] }, isForIter := false, forTargets := [], isFnDef := false, fnsIn := some [9] }]
  fns := [
    { id := 1, parent := 0, isLambda := false, read := [4, 5, 6, 7], bound := [0, 1, 2, 3, 4, 6], nonlocals := [], globals := [] },
    { id := 9, parent := 1, isLambda := false, read := [3], bound := [3], nonlocals := [3], globals := [] }]
def nlV : List Nat := [2, 6, 9, 20, 22, 25, 29, 32]
def nlIN : St Nat := solAt [(2, [5, 7]), (6, [5, 7]), (9, [3, 5, 7]), (20, [3, 4, 5, 7]), (22, [3, 4, 7]), (25, [3, 4, 7]), (29, [3, 7]), (32, [3, 6, 7])]
def nlOUT : St Nat := solAt [(2, [5, 7]), (6, [3, 5, 7]), (9, [3, 4, 5, 7]), (20, [3, 4, 7]), (22, [3, 4, 7]), (25, [3, 6, 7]), (29, [3, 6, 7]), (32, [])]
def nlT : Trace :=
  [{ node := 2, reads := [], writes := [0, 1, 2], dels := [], fwrites := [], creads := [] },
   { node := 6, reads := [], writes := [3], dels := [], fwrites := [], creads := [] },
   { node := 9, reads := [], writes := [4], dels := [], fwrites := [], creads := [] },
   { node := 20, reads := [5], writes := [], dels := [], fwrites := [], creads := [] },
   { node := 22, reads := [], writes := [3], dels := [], fwrites := [], creads := [] },
   { node := 25, reads := [4], writes := [6], dels := [], fwrites := [3], creads := [(9, 3)] },
   { node := 32, reads := [6, 7], writes := [], dels := [], fwrites := [], creads := [] }]

example : 3 ∈ nlOUT (nlT.nodeAt 4) ∧ 3 ∈ nlIN (nlT.nodeAt 5) :=
  C07_closures nlD nlV nlIN nlOUT nlT (by decide +kernel) (by decide +kernel) 4 5 3 9 (by decide +kernel)
    { read := [4], modified := [6], deleted := [], bound := [6], globals := [], nonlocals := [], params := [], annotations := [] }
    rfl (by decide +kernel) (by decide +kernel) (by decide +kernel) (by decide +kernel)

/-! ## (b') `nonlocal` declared BELOW the reaching closure

    def f(a, b, c):
        x = 0
        def g():
            def h():
                nonlocal x
                x = x + 1
                return x
            return h()
        if d():
            x = 10
            y = g()
        else:
            y = 0
        return tr(0, y)               11 natively, 1 converted

`g` reaches the call, but `x` is not in `g`'s read set: `Scope.finalize` hands an isolated scope's `read − bound` to its parent, and
`nonlocal x` put `x` into `h`'s bound set.  `h` itself is defined in `g`'s graph and reaches no node of `f`.
(REAL data of /repo at ccf3d44, before b182279 changed `Scope.finalize`; variables 3 x, 4 g, 6 h, 7 y; nodes 6 `x = 0`, 9 `def g`, 25 `d()`, 27 `x = 10`, 30 `y = g()`;
functions 9 = g, 11 = h.) -/

def nbD : CfgData where
  fnId := 1
  graph := { nodes := [2, 6, 9, 25, 27, 30, 34, 37], edges := [(2, 6), (6, 9), (9, 25), (25, 27), (25, 34), (27, 30), (30, 37), (34, 37)] }
  entry := 2
  exits := [37]
  info := [
    { id := 2, scope := some { read := [], modified := [], deleted := [], bound := [0, 1, 2], globals := [], nonlocals := [], params := [0, 1, 2], annotations := [] }, isForIter := false, forTargets := [], isFnDef := false, fnsIn := some [] },
    { id := 6, scope := some { read := [], modified := [3], deleted := [], bound := [3], globals := [], nonlocals := [], params := [], annotations := [] }, isForIter := false, forTargets := [], isFnDef := false, fnsIn := some [] },
    { id := 9, scope := some { read := [], modified := [4], deleted := [], bound := [4], globals := [], nonlocals := [], params := [], annotations := [] }, isForIter := false, forTargets := [], isFnDef := true, fnsIn := some [] },
    { id := 25, scope := some { read := [5], modified := [], deleted := [], bound := [], globals := [], nonlocals := [], params := [], annotations := [] }, isForIter := false, forTargets := [], isFnDef := false, fnsIn := some [9] },
    { id := 27, scope := some { read := [], modified := [3], deleted := [], bound := [3], globals := [], nonlocals := [], params := [], annotations := [] }, isForIter := false, forTargets := [], isFnDef := false, fnsIn := some [9] },
    { id := 30, scope := some { read := [4], modified := [7], deleted := [], bound := [7], globals := [], nonlocals := [], params := [], annotations := [] }, isForIter := false, forTargets := [], isFnDef := false, fnsIn := some [9] },
    { id := 34, scope := some { read := [], modified := [7], deleted := [], bound := [7], globals := [], nonlocals := [], params := [], annotations := [] }, isForIter := false, forTargets := [], isFnDef := false, fnsIn := some [9] },
    { id := 37, scope := some { read := [7, 8], modified := [], deleted := [], bound := [], globals := [], nonlocals := [], params := [], annotations := [] }, isForIter := false, forTargets := [], isFnDef := false, fnsIn := some [9] }]
  fns := [
    { id := 1, parent := 0, isLambda := false, read := [4, 5, 7, 8], bound := [0, 1, 2, 3, 4, 7], nonlocals := [], globals := [] },
    { id := 9, parent := 1, isLambda := false, read := [6], bound := [6], nonlocals := [], globals := [] },
    { id := 11, parent := 9, isLambda := false, read := [3], bound := [3], nonlocals := [3], globals := [] }]
def nbV : List Nat := [2, 6, 9, 25, 27, 30, 34, 37]
def nbIN : St Nat := solAt [(2, [5, 8]), (6, [5, 8]), (9, [5, 8]), (25, [4, 5, 8]), (27, [4, 8]), (30, [4, 8]), (34, [8]), (37, [7, 8])]
def nbOUT : St Nat := solAt [(2, [5, 8]), (6, [5, 8]), (9, [4, 5, 8]), (25, [4, 8]), (27, [4, 8]), (30, [7, 8]), (34, [7, 8]), (37, [])]
def nbT : Trace :=
  [{ node := 2, reads := [], writes := [0, 1, 2], dels := [], fwrites := [], creads := [] },
   { node := 6, reads := [], writes := [3], dels := [], fwrites := [], creads := [] },
   { node := 9, reads := [], writes := [4], dels := [], fwrites := [], creads := [] },
   { node := 25, reads := [5], writes := [], dels := [], fwrites := [], creads := [] },
   { node := 27, reads := [], writes := [3], dels := [], fwrites := [], creads := [] },
   { node := 30, reads := [4], writes := [7], dels := [], fwrites := [3], creads := [(11, 3)] },
   { node := 37, reads := [7, 8], writes := [], dels := [], fwrites := [], creads := [] }]

/-- a read by a function nested (at any depth) in a reaching, non-lambda local function -/
def closureReadsNested (D : CfgData) (T : Trace) (j v : Nat) : Bool :=
  match T[j]? with
  | some s => s.creads.any (fun c => c.2 == v &&
      onChain D (fun h => (D.fnsIn s.node).contains h && !readerIsLambda D h) (D.fns.length + 1) c.1)
  | none => false

/-- After `x = 10` (step 4) the next statement calls `g`, whose inner function `h` reads that value of `x`; `x` is live neither
at the exit of `x = 10` nor at the entry of `y = g()`. -/
theorem C07_closures_full_false :
    ¬ (∀ (D : CfgData) (V : List Nat) (IN OUT : St Nat) (T : Trace) (i j v : Nat),
        isFix (Graph.revEdges D.graph.edges) V (liveFlow D) OUT IN = true → isPathB D.graph.edges V T = true →
        j < T.length → closureReadsNested D T j v = true → isReadBeforeOverwriteB T i j v = true →
        v ∈ OUT (T.nodeAt i) ∧ v ∈ IN (T.nodeAt (i + 1))) :=
  live_statement_false closureReadsNested nbD nbV nbIN nbOUT nbT 4 5 3 (by decide +kernel)

/-- the counterexample is in the class `C07_closures` assumes away -/
example : closureReadCovered nbD 30 11 3 = false ∧ nonlocalInReader nbD 11 3 = true ∧ readerIsLambda nbD 11 = false
    ∧ forTargetKilledUnwrittenL nbD nbT 4 5 3 = false ∧ otherKillUnwrittenL nbD nbT 4 5 3 = false := by decide +kernel

/-! ## The pinned tree, deviation (c): a lambda called after its statement

    def f(a, b, c):
        x = 1
        k = lambda: x
        if d():
            x = 2
        return tr(0, k())            2 natively, 1 converted

(REAL data; variables 3 x, 4 k, 5 d, 6 tr; nodes 2 args, 6 `x = 1`, 11 the lambda expression, 9 `k = …`, 15 `d()`, 17 `x = 2`, 20 return;
function 11 = the lambda, reaching every later node, read = {x}, bound = ∅ — but `lamba_check` skips lambdas) -/

def llD : CfgData where
  fnId := 1
  graph := { nodes := [2, 6, 9, 11, 15, 17, 20], edges := [(2, 6), (6, 11), (9, 15), (11, 9), (15, 17), (15, 20), (17, 20)] }
  entry := 2
  exits := [20]
  info := [
    { id := 2, scope := some { read := [], modified := [], deleted := [], bound := [0, 1, 2], globals := [], nonlocals := [], params := [0, 1, 2], annotations := [] }, isForIter := false, forTargets := [], isFnDef := false, fnsIn := some [] },
    { id := 6, scope := some { read := [], modified := [3], deleted := [], bound := [3], globals := [], nonlocals := [], params := [], annotations := [] }, isForIter := false, forTargets := [], isFnDef := false, fnsIn := some [] },
    { id := 9, scope := some { read := [3], modified := [4], deleted := [], bound := [4], globals := [], nonlocals := [], params := [], annotations := [] }, isForIter := false, forTargets := [], isFnDef := false, fnsIn := some [11] },
    { id := 11, scope := some { read := [], modified := [], deleted := [], bound := [], globals := [], nonlocals := [], params := [], annotations := [] }, isForIter := false, forTargets := [], isFnDef := true, fnsIn := some [] },
    { id := 15, scope := some { read := [5], modified := [], deleted := [], bound := [], globals := [], nonlocals := [], params := [], annotations := [] }, isForIter := false, forTargets := [], isFnDef := false, fnsIn := some [11] },
    { id := 17, scope := some { read := [], modified := [3], deleted := [], bound := [3], globals := [], nonlocals := [], params := [], annotations := [] }, isForIter := false, forTargets := [], isFnDef := false, fnsIn := some [11] },
    { id := 20, scope := some { read := [4, 6], modified := [], deleted := [], bound := [], globals := [], nonlocals := [], params := [], annotations := [] }, isForIter := false, forTargets := [], isFnDef := false, fnsIn := some [11] }]
  fns := [
    { id := 1, parent := 0, isLambda := false, read := [3, 4, 5, 6], bound := [0, 1, 2, 3, 4], nonlocals := [], globals := [] },
    { id := 11, parent := 1, isLambda := true, read := [3], bound := [], nonlocals := [], globals := [] }]
def llV : List Nat := [2, 6, 9, 11, 15, 17, 20]
def llIN : St Nat := solAt [(2, [5, 6]), (6, [5, 6]), (9, [3, 5, 6]), (11, [3, 5, 6]), (15, [4, 5, 6]), (17, [4, 6]), (20, [4, 6])]
def llOUT : St Nat := solAt [(2, [5, 6]), (6, [3, 5, 6]), (9, [4, 5, 6]), (11, [3, 5, 6]), (15, [4, 6]), (17, [4, 6]), (20, [])]
def llT : Trace :=
  [{ node := 2, reads := [], writes := [0, 1, 2], dels := [], fwrites := [], creads := [] },
   { node := 6, reads := [], writes := [3], dels := [], fwrites := [], creads := [] },
   { node := 11, reads := [], writes := [], dels := [], fwrites := [], creads := [] },
   { node := 9, reads := [], writes := [4], dels := [], fwrites := [], creads := [] },
   { node := 15, reads := [5], writes := [], dels := [], fwrites := [], creads := [] },
   { node := 17, reads := [], writes := [3], dels := [], fwrites := [], creads := [] },
   { node := 20, reads := [4, 6], writes := [], dels := [], fwrites := [], creads := [(11, 3)] }]

/-- like the covered case, but lambdas count -/
def closureReadsAny (D : CfgData) (T : Trace) (j v : Nat) : Bool :=
  match T[j]? with
  | some s => s.creads.any (fun c => c.2 == v && (D.fnsIn s.node).contains c.1 &&
      (match D.fnOf c.1 with | some fi => fi.read.contains v && !fi.bound.contains v | none => false))
  | none => false

/-- After `x = 2` (step 5) the `return` statement calls the lambda, which reads that value; `x` is not live at the exit of `x = 2`. -/
theorem C07_lambda_full_false :
    ¬ (∀ (D : CfgData) (V : List Nat) (IN OUT : St Nat) (T : Trace) (i j v : Nat),
        isFix (Graph.revEdges D.graph.edges) V (liveFlow D) OUT IN = true → isPathB D.graph.edges V T = true →
        j < T.length → closureReadsAny D T j v = true → isReadBeforeOverwriteB T i j v = true →
        v ∈ OUT (T.nodeAt i) ∧ v ∈ IN (T.nodeAt (i + 1))) :=
  live_statement_false closureReadsAny llD llV llIN llOUT llT 5 6 3 (by decide +kernel)

example : closureReadCovered llD 20 11 3 = false ∧ readerIsLambda llD 11 = true ∧ nonlocalInReader llD 11 3 = false := by decide +kernel

/-! ## The pinned tree, deviation (d): the expression of `except <type>:` is read by no CFG node

    def f(a, b, c):
        exc = E1
        if d():
            exc = E2
        try:
            raise E2(tr(1))
        except exc:
            return tr(0, 1)
        return tr(0, 0)               1 natively; converted: E2 propagates

(REAL data; variables 3 E1, 4 exc, 5 d, 6 E2, 7 tr; nodes 2 args, 6 `exc = E1`, 10 `d()`, 12 `exc = E2`, 16 raise, 24 / 29 returns).
While the raised exception is matched (still step 4, the `raise` node) `exc` is read; no node's Scope records that read. -/

def etD : CfgData where
  fnId := 1
  graph := { nodes := [2, 6, 10, 12, 16, 24, 29], edges := [(2, 6), (6, 10), (10, 12), (10, 16), (12, 16), (16, 24), (16, 29)] }
  entry := 2
  exits := [16, 24, 29]
  info := [
    { id := 2, scope := some { read := [], modified := [], deleted := [], bound := [0, 1, 2], globals := [], nonlocals := [], params := [0, 1, 2], annotations := [] }, isForIter := false, forTargets := [], isFnDef := false, fnsIn := some [] },
    { id := 6, scope := some { read := [3], modified := [4], deleted := [], bound := [4], globals := [], nonlocals := [], params := [], annotations := [] }, isForIter := false, forTargets := [], isFnDef := false, fnsIn := some [] },
    { id := 10, scope := some { read := [5], modified := [], deleted := [], bound := [], globals := [], nonlocals := [], params := [], annotations := [] }, isForIter := false, forTargets := [], isFnDef := false, fnsIn := some [] },
    { id := 12, scope := some { read := [6], modified := [4], deleted := [], bound := [4], globals := [], nonlocals := [], params := [], annotations := [] }, isForIter := false, forTargets := [], isFnDef := false, fnsIn := some [] },
    { id := 16, scope := some { read := [6, 7], modified := [], deleted := [], bound := [], globals := [], nonlocals := [], params := [], annotations := [] }, isForIter := false, forTargets := [], isFnDef := false, fnsIn := some [] },
    { id := 24, scope := some { read := [7], modified := [], deleted := [], bound := [], globals := [], nonlocals := [], params := [], annotations := [] }, isForIter := false, forTargets := [], isFnDef := false, fnsIn := some [] },
    { id := 29, scope := some { read := [7], modified := [], deleted := [], bound := [], globals := [], nonlocals := [], params := [], annotations := [] }, isForIter := false, forTargets := [], isFnDef := false, fnsIn := some [] }]
  fns := [
    { id := 1, parent := 0, isLambda := false, read := [3, 4, 5, 6, 7], bound := [0, 1, 2, 4], nonlocals := [], globals := [] }]
def etV : List Nat := [2, 6, 10, 12, 16, 24, 29]
def etIN : St Nat := solAt [(2, [3, 5, 6, 7]), (6, [3, 5, 6, 7]), (10, [5, 6, 7]), (12, [6, 7]), (16, [6, 7]), (24, [7]), (29, [7])]
def etOUT : St Nat := solAt [(2, [3, 5, 6, 7]), (6, [5, 6, 7]), (10, [6, 7]), (12, [6, 7]), (16, [7]), (24, []), (29, [])]
def etT : Trace :=
  [{ node := 2, reads := [], writes := [0, 1, 2], dels := [], fwrites := [], creads := [] },
   { node := 6, reads := [3], writes := [4], dels := [], fwrites := [], creads := [] },
   { node := 10, reads := [5], writes := [], dels := [], fwrites := [], creads := [] },
   { node := 12, reads := [6], writes := [4], dels := [], fwrites := [], creads := [] },
   { node := 16, reads := [4, 6, 7], writes := [], dels := [], fwrites := [], creads := [] },
   { node := 24, reads := [7], writes := [], dels := [], fwrites := [], creads := [] }]

def directRead (T : Trace) (j v : Nat) : Bool := match T[j]? with | some s => s.reads.contains v | none => false

/-- With "the step reads `v` directly" in place of `liveGenOK` (i.e. without property C08's `actual reads ⊆ scope.read`) the
statement is false of the pinned tree. -/
theorem C07_direct_read_full_false :
    ¬ (∀ (D : CfgData) (V : List Nat) (IN OUT : St Nat) (T : Trace) (i j v : Nat),
        isFix (Graph.revEdges D.graph.edges) V (liveFlow D) OUT IN = true → isPathB D.graph.edges V T = true →
        j < T.length → directRead T j v = true → isReadBeforeOverwriteB T i j v = true →
        v ∈ OUT (T.nodeAt i) ∧ v ∈ IN (T.nodeAt (i + 1))) :=
  live_statement_false (fun _ => directRead) etD etV etIN etOUT etT 3 4 4 (by decide +kernel)

example : liveGenOK etD etT 4 4 = false ∧ forTargetKilledUnwrittenL etD etT 3 4 4 = false := by decide +kernel

/-! ## The pinned tree, deviation (e): the body of a class statement is read by no CFG node's Scope

    def f(a, b, c):
        v = [a, b]
        if d():
            v = [tr(1, c), 4]
        class K(object):
            z = v
        r = K.z
        return tr(0, r)               [3, 4] natively, [1, 2] converted

The `ClassDef` CFG node carries only the decorators / bases in its Scope; the reads of the class body go to the enclosing block's
Scope and to no node.  (REAL data; variables 3 v, 7 K; nodes 6 `v = …`, 12 `d()`, 14 `v = [tr(1, c), 4]`, 22 the class statement.) -/

def cbD : CfgData where
  fnId := 1
  graph := { nodes := [2, 6, 12, 14, 22, 27, 31], edges := [(2, 6), (6, 12), (12, 14), (12, 22), (14, 22), (22, 27), (27, 31)] }
  entry := 2
  exits := [31]
  info := [
    { id := 2, scope := some { read := [], modified := [], deleted := [], bound := [0, 1, 2], globals := [], nonlocals := [], params := [0, 1, 2], annotations := [] }, isForIter := false, forTargets := [], isFnDef := false, fnsIn := some [] },
    { id := 6, scope := some { read := [0, 1], modified := [3], deleted := [], bound := [3], globals := [], nonlocals := [], params := [], annotations := [] }, isForIter := false, forTargets := [], isFnDef := false, fnsIn := some [] },
    { id := 12, scope := some { read := [4], modified := [], deleted := [], bound := [], globals := [], nonlocals := [], params := [], annotations := [] }, isForIter := false, forTargets := [], isFnDef := false, fnsIn := some [] },
    { id := 14, scope := some { read := [2, 5], modified := [3], deleted := [], bound := [3], globals := [], nonlocals := [], params := [], annotations := [] }, isForIter := false, forTargets := [], isFnDef := false, fnsIn := some [] },
    { id := 22, scope := some { read := [6], modified := [7], deleted := [], bound := [7], globals := [], nonlocals := [], params := [], annotations := [] }, isForIter := false, forTargets := [], isFnDef := false, fnsIn := some [] },
    { id := 27, scope := some { read := [7, 8], modified := [9], deleted := [], bound := [9], globals := [], nonlocals := [], params := [], annotations := [] }, isForIter := false, forTargets := [], isFnDef := false, fnsIn := some [] },
    { id := 31, scope := some { read := [5, 9], modified := [], deleted := [], bound := [], globals := [], nonlocals := [], params := [], annotations := [] }, isForIter := false, forTargets := [], isFnDef := false, fnsIn := some [] }]
  fns := [
    { id := 1, parent := 0, isLambda := false, read := [0, 1, 2, 3, 4, 5, 6, 7, 8, 9], bound := [0, 1, 2, 3, 7, 9], nonlocals := [], globals := [] }]
def cbV : List Nat := [2, 6, 12, 14, 22, 27, 31]
def cbIN : St Nat := solAt [(2, [0, 1, 2, 4, 5, 6, 8]), (6, [0, 1, 2, 4, 5, 6, 8]), (12, [2, 4, 5, 6, 8]), (14, [2, 5, 6, 8]), (22, [5, 6, 8]), (27, [5, 7, 8]), (31, [5, 9])]
def cbOUT : St Nat := solAt [(2, [0, 1, 2, 4, 5, 6, 8]), (6, [2, 4, 5, 6, 8]), (12, [2, 5, 6, 8]), (14, [5, 6, 8]), (22, [5, 7, 8]), (27, [5, 9]), (31, [])]
def cbT : Trace :=
  [{ node := 2, reads := [], writes := [0, 1, 2], dels := [], fwrites := [], creads := [] },
   { node := 6, reads := [0, 1], writes := [3], dels := [], fwrites := [], creads := [] },
   { node := 12, reads := [4], writes := [], dels := [], fwrites := [], creads := [] },
   { node := 14, reads := [2, 5], writes := [3], dels := [], fwrites := [], creads := [] },
   { node := 22, reads := [3, 6], writes := [7], dels := [], fwrites := [], creads := [] },
   { node := 27, reads := [7], writes := [9], dels := [], fwrites := [], creads := [] },
   { node := 31, reads := [5, 9], writes := [], dels := [], fwrites := [], creads := [] }]

/-- same shape as `C07_direct_read_full_false`: the class statement (step 4) reads the `v` of step 3 -/
theorem C07_class_body_counterexample :
    isFix (Graph.revEdges cbD.graph.edges) cbV (liveFlow cbD) cbOUT cbIN = true ∧ isPathB cbD.graph.edges cbV cbT = true ∧
    directRead cbT 4 3 = true ∧ isReadBeforeOverwriteB cbT 3 4 3 = true ∧ liveGenOK cbD cbT 4 3 = false ∧
    3 ∉ cbOUT (cbT.nodeAt 3) ∧ 3 ∉ cbIN (cbT.nodeAt 4) := by decide +kernel

/-! ## The pinned tree, deviation (f): a sibling local function defined AFTER the running one

    def f(a, b, c):
        y = b
        def g(p):
            nonlocal y
            y = tr(1, p)
            r = h()            # h reads y
            return r
        def h():
            return tr(2, y)
        w = g(a)
        return tr(0, w)

This is the graph of the NESTED function `g` (function 9).  `reaching_fndefs` seeds a nested graph with the function definitions
that reach its `def` statement; `h` (function 25) is defined later — though before `g` is called — so it is in no
`DEFINED_FNS_IN` of `g`, and `y` is dead after `y = tr(1, p)` although the next statement's call reads it.  (control_flow keeps
every `nonlocal` name in the loop / branch state regardless of liveness, so no conversion result is known to change.)
(REAL data; variables 3 y, 5 p, 6 h, 7 tr, 8 r; nodes 10 args, 12 `nonlocal y`, 13 `y = tr(1, p)`, 19 `r = h()`, 23 return.) -/

def odD : CfgData where
  fnId := 9
  graph := { nodes := [10, 12, 13, 19, 23], edges := [(10, 12), (12, 13), (13, 19), (19, 23)] }
  entry := 10
  exits := [23]
  info := [
    { id := 10, scope := some { read := [], modified := [], deleted := [], bound := [5], globals := [], nonlocals := [], params := [5], annotations := [] }, isForIter := false, forTargets := [], isFnDef := false, fnsIn := some [] },
    { id := 12, scope := some { read := [3], modified := [], deleted := [], bound := [3], globals := [], nonlocals := [3], params := [], annotations := [] }, isForIter := false, forTargets := [], isFnDef := false, fnsIn := some [] },
    { id := 13, scope := some { read := [5, 7], modified := [3], deleted := [], bound := [3], globals := [], nonlocals := [], params := [], annotations := [] }, isForIter := false, forTargets := [], isFnDef := false, fnsIn := some [] },
    { id := 19, scope := some { read := [6], modified := [8], deleted := [], bound := [8], globals := [], nonlocals := [], params := [], annotations := [] }, isForIter := false, forTargets := [], isFnDef := false, fnsIn := some [] },
    { id := 23, scope := some { read := [8], modified := [], deleted := [], bound := [], globals := [], nonlocals := [], params := [], annotations := [] }, isForIter := false, forTargets := [], isFnDef := false, fnsIn := some [] }]
  fns := [
    { id := 1, parent := 0, isLambda := false, read := [1, 2, 3, 4, 6, 7, 9], bound := [0, 1, 2, 3, 4, 5, 6, 9], nonlocals := [], globals := [] },
    { id := 9, parent := 1, isLambda := false, read := [3, 5, 6, 7, 8], bound := [3, 5, 8], nonlocals := [3], globals := [] },
    { id := 25, parent := 1, isLambda := false, read := [3, 7], bound := [], nonlocals := [], globals := [] }]
def odV : List Nat := [10, 12, 13, 19, 23]
def odIN : St Nat := solAt [(10, [3, 5, 6, 7]), (12, [3, 5, 6, 7]), (13, [5, 6, 7]), (19, [6]), (23, [8])]
def odOUT : St Nat := solAt [(10, [3, 5, 6, 7]), (12, [5, 6, 7]), (13, [6]), (19, [8]), (23, [])]
def odT : Trace :=
  [{ node := 10, reads := [], writes := [5], dels := [], fwrites := [], creads := [] },
   { node := 12, reads := [], writes := [], dels := [], fwrites := [], creads := [] },
   { node := 13, reads := [5, 7], writes := [3], dels := [], fwrites := [], creads := [] },
   { node := 19, reads := [6], writes := [8], dels := [], fwrites := [], creads := [(25, 3), (25, 7)] },
   { node := 23, reads := [8], writes := [], dels := [], fwrites := [], creads := [] }]

/-- a read by a local function not nested in the analysed one (a sibling / outer function it calls) -/
def outsideReads (D : CfgData) (T : Trace) (j v : Nat) : Bool :=
  match T[j]? with
  | some s => s.creads.any (fun c => c.2 == v && !nestedInAnalysed D (D.fns.length + 1) c.1 && !readerIsLambda D c.1 &&
      (match D.fnOf c.1 with | some fi => fi.read.contains v && !fi.ownBound v | none => false))
  | none => false

/-- `h` reads `y` at step 3 with no write since `y = tr(1, p)` (step 2); `y` is not live there. -/
theorem C07_outer_function_full_false :
    ¬ (∀ (D : CfgData) (V : List Nat) (IN OUT : St Nat) (T : Trace) (i j v : Nat),
        isFix (Graph.revEdges D.graph.edges) V (liveFlow D) OUT IN = true → isPathB D.graph.edges V T = true →
        j < T.length → outsideReads D T j v = true → isReadBeforeOverwriteB T i j v = true →
        v ∈ OUT (T.nodeAt i) ∧ v ∈ IN (T.nodeAt (i + 1))) :=
  live_statement_false outsideReads odD odV odIN odOUT odT 2 3 3 (by decide +kernel)

example : closureReadCovered odD 19 25 3 = false ∧ readerOutsideNotSeeded odD 25 = true ∧ readerIsLambda odD 25 = false
    ∧ nonlocalInReader odD 25 3 = false := by decide +kernel

end Malt.Analysis.C07
