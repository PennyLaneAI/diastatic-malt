import MaltModel.Proofs.C19
import MaltModel.Proofs.C19Cex
import MaltModel.Proofs.C19Least
/-!
# C19 — static type inference over-approximates the types that occur at run time

FULL STATEMENT (false of the pinned code: `TISoundFull`, `TISoundFullW` at the end of this file):

    theorem ti_sound (hfix : IsTIFix R env G reach [] ins outs) (hT : Truthful R sem env) (h0 : InitOk R env [] σ₀)
        (hex : Exec sem env W G σ₀ i σ) :
        (∀ e T v, tyE R env (ins.get i) e = some T → Eval sem env.bound W σ e v → InSet v T)

What is proved (`ti_sound_partial`): the same conclusion for every expression that reads no name of a taint
set `S`, for ANY post-fixed point `ins/outs` (`IsTIFix`, decided by `isTIFix` on the real `Analyzer.in_/out`),
provided `S` is closed (`TaintClosed`, decided by `taintClosed`): it contains every name that is bound somewhere
without receiving a sound type — targets of binders the inference does not track (`for x in`, `x op= e`,
`with … as x`, `x: T = e`), targets of assignments whose value has no known type or reads a tainted name,
parameters the resolver knows nothing about, nonlocal names the function itself stores, and the names `W` that
calls to local functions may rebind.  With `S = []` (`OnlyTrackedBinders`, which forces `W = []`) this is the full statement.
-/
namespace Malt.TypeInf
open Malt.Py

variable {R : Resolver} {sem : Sem} {env : FnEnv} {G : Graph} {reach : List Nat} {S W : List String}
  {ins outs clos : NMap} {σ₀ σ : State} {i : Nat}

theorem TySet.subset_iff {a b : TySet} : TySet.subset a b = true ↔ ∀ t, t ∈ a → t ∈ b := by
  simp [TySet.subset, List.all_eq_true]

theorem TMap.leB_sound {a b : TMap} (h : a.leB b = true) : TMap.le a b := by
  intro x T hx
  have hk := TMap.mem_keys.mpr ⟨T, hx⟩
  simp only [TMap.leB, List.all_eq_true] at h
  have := h x hk
  rw [hx] at this
  cases hb : b.get x with
  | none => rw [hb] at this; simp at this
  | some T' =>
    rw [hb] at this
    exact ⟨T', rfl, TySet.subset_iff.mp this⟩

theorem freeOk_sound {m : TMap} (h : freeOk env S m = true) : FreeOk env S m := by
  intro x T hfree hx hm
  have hk := TMap.mem_keys.mpr ⟨T, hm⟩
  simp only [freeOk, List.all_eq_true] at h
  have := h x hk
  have hxs : S.contains x = false := by simpa using hx
  simp only [hfree, hxs, Bool.not_false, Bool.and_self, if_true, hm] at this
  cases hc : env.closure.get x with
  | none => rw [hc] at this; simp at this
  | some T0 =>
    rw [hc] at this
    exact ⟨T0, rfl, TySet.subset_iff.mp this⟩

theorem isTIFix_sound (h : isTIFix R env G reach S ins outs = true) : IsTIFix R env G reach S ins outs := by
  simp only [isTIFix, reachClosed, Bool.and_eq_true, List.all_eq_true, List.contains_iff_mem] at h
  obtain ⟨⟨⟨⟨hentry, hclosed⟩, hctx⟩, hefree⟩, hnodes⟩ := h
  have hfind : ∀ i, i ∈ reach → ∃ n, G.find i = some n := by
    intro i hi
    have := hclosed i hi
    cases hf : G.find i with
    | none => simp [hf] at this
    | some n => exact ⟨n, rfl⟩
  have hnode : ∀ i n, i ∈ reach → G.find i = some n →
      (((transfer R env n.node (ins.get i)).leB (outs.get i) = true ∧ freeOk env S (ins.get i) = true) ∧
        freeOk env S (outs.get i) = true) ∧ ∀ k, k ∈ n.succs → (outs.get i).leB (ins.get k) = true := by
    intro i n hi hf
    have := hnodes i hi
    simpa [hf, Bool.and_eq_true, List.all_eq_true] using this
  refine ⟨hentry, ?_, hfind, TMap.leB_sound hctx, fun x T hx => hefree x (TMap.mem_keys.mpr ⟨T, hx⟩), ?_, ?_, ?_, ?_⟩
  · intro i n k hi hf hk
    have := hclosed i hi
    simp only [hf, List.all_eq_true, List.contains_iff_mem] at this
    exact this k hk
  · intro i n hi hf
    obtain ⟨⟨⟨htrans, _⟩, _⟩, _⟩ := hnode i n hi hf
    exact TMap.leB_sound htrans
  · intro i n k hi hf hk
    exact TMap.leB_sound ((hnode i n hi hf).2 k hk)
  · intro i hi
    obtain ⟨n, hf⟩ := hfind i hi
    obtain ⟨⟨⟨_, hin⟩, _⟩, _⟩ := hnode i n hi hf
    exact freeOk_sound hin
  · intro i hi
    obtain ⟨n, hf⟩ := hfind i hi
    obtain ⟨⟨_, hout⟩, _⟩ := hnode i n hi hf
    exact freeOk_sound hout

theorem taintClosed_sound (h : taintClosed R env G reach ins W S = true) : TaintClosed R env G reach ins W S := by
  simp only [taintClosed, Bool.and_eq_true, List.all_eq_true, List.contains_iff_mem] at h
  obtain ⟨hw, hnodes⟩ := h
  refine ⟨hw, ?_, ?_⟩
  · intro i n x hi hf hx
    have := hnodes i hi
    simp only [hf, Bool.and_eq_true, List.all_eq_true, List.contains_iff_mem] at this
    exact this.1 x hx
  · intro i n hi hf x hx
    have := hnodes i hi
    simp only [hf, Bool.and_eq_true, List.all_eq_true, List.contains_iff_mem] at this
    have h2 := this.2 x hx
    simp only [Bool.or_eq_true, Bool.not_eq_true', List.contains_iff_mem] at h2
    refine ⟨by simpa using h2.1, fun hn => ?_⟩
    rcases h2.2 with h3 | h3
    · have : x ∈ env.nonlocals := by simpa using hn
      simp [this] at h3
    · exact h3

theorem closCovers_sound (h : closCovers G reach outs clos = true) : ClosCovers G reach outs clos := by
  intro i n d hi hf hs hd hr
  simp only [closCovers, List.all_eq_true] at h
  have := h i hi
  simp only [hf, hs, Bool.not_true, Bool.false_or, List.all_eq_true] at this
  have h2 := this d hd
  have hr' : n.reads.contains d.2 = true := by simpa using hr
  simp only [hr', Bool.not_true, Bool.false_or] at h2
  exact TMap.leB_sound h2

theorem sound_out (hfix : IsTIFix R env G reach S ins outs) (hT : Truthful R sem env)
    (hcl : TaintClosed R env G reach ins W S) (hi : i ∈ reach) {n : GNode} (hf : G.find i = some n) {σ' : State}
    (hS : Sound R env S σ (ins.get i)) (hstep : Step sem env W n.node σ σ') : Sound R env S σ' (outs.get i) :=
  (step_sound hT hcl.w hstep hS (fun x hx => hcl.untracked i n x hi hf hx) (hcl.scopes i n hi hf)).mono
    (hfix.trans i n hi hf) (hfix.freeOut i hi)

theorem exec_invariant (hfix : IsTIFix R env G reach S ins outs) (hT : Truthful R sem env)
    (hcl : TaintClosed R env G reach ins W S) (h0 : InitOk R env S σ₀) (hex : Exec sem env W G σ₀ i σ) :
    i ∈ reach ∧ Sound R env S σ (ins.get i) := by
  induction hex with
  | start => exact ⟨hfix.entry, Sound.init h0 (hfix.freeIn _ hfix.entry)⟩
  | @step j _ n _ k _ hf hstep hk ih =>
    have hk' : k ∈ reach := hfix.closed j n k ih.1 hf hk
    exact ⟨hk', (sound_out hfix hT hcl ih.1 hf ih.2 hstep).mono (hfix.edge j n k ih.1 hf hk) (hfix.freeIn k hk')⟩

/-- **C19, expressions** (partial: hypothesis `TaintClosed`): if the inference attaches `T` to an untainted `e` under
`types_in = ins i`, every value of `e` in a frame reaching `i` has its type in `T`. -/
theorem ti_sound_partial (hfix : IsTIFix R env G reach S ins outs) (hT : Truthful R sem env)
    (hcl : TaintClosed R env G reach ins W S) (h0 : InitOk R env S σ₀) (hex : Exec sem env W G σ₀ i σ)
    (e : Expr) (T : TySet) (v : Val) (hnt : NoTaint S e) (hty : tyE R env (ins.get i) e = some T)
    (hev : Eval sem env.bound W σ e v) : InSet v T :=
  tyE_sound hT hcl.w (exec_invariant hfix hT hcl h0 hex).2 hev T hnt hty

/-- **C19, names** (partial): the sets recorded in `types_in`. -/
theorem ti_sound_names_partial (hfix : IsTIFix R env G reach S ins outs) (hT : Truthful R sem env)
    (hcl : TaintClosed R env G reach ins W S) (h0 : InitOk R env S σ₀) (hex : Exec sem env W G σ₀ i σ)
    (x : String) (T : TySet) (v : Val) (hx : x ∉ S) (hm : (ins.get i).get x = some T) (hσ : σ x = some v) : InSet v T :=
  (exec_invariant hfix hT hcl h0 hex).2.get hx hσ hm

/-- **C19 at full strength** when every binder is tracked: `OnlyTrackedBinders` says the empty taint set is closed (then
no call rebinds a variable of the frame). -/
theorem ti_sound_tracked (hfix : IsTIFix R env G reach [] ins outs) (hT : Truthful R sem env)
    (hotb : OnlyTrackedBinders R env G reach ins) (h0 : InitOk R env [] σ₀) (hex : Exec sem env [] G σ₀ i σ)
    (e : Expr) (T : TySet) (v : Val) (hty : tyE R env (ins.get i) e = some T)
    (hev : Eval sem env.bound [] σ e v) : InSet v T :=
  ti_sound_partial hfix hT hotb h0 hex e T v (fun _ _ h => by simp at h) hty hev

/-- pairs are (node, frame before the node) -/
inductive IsExecPath (sem : Sem) (env : FnEnv) (W : List String) (G : Graph) : List (Nat × State) → Prop
  | single (s0 : State) : IsExecPath sem env W G [(G.entry, s0)]
  | snoc (π : List (Nat × State)) (a b : Nat) (s s' : State) (n : GNode) :
      IsExecPath sem env W G (π ++ [(a, s)]) → G.find a = some n → Step sem env W n.node s s' → b ∈ n.succs →
      IsExecPath sem env W G (π ++ [(a, s), (b, s')])

theorem IsExecPath.exec {π : List (Nat × State)} (hπ : IsExecPath sem env W G π) :
    ∃ s0, π.head? = some (G.entry, s0) ∧ ∀ p, p ∈ π → Exec sem env W G s0 p.1 p.2 := by
  induction hπ with
  | single s0 => exact ⟨s0, rfl, fun p hp => List.mem_singleton.mp hp ▸ .start⟩
  | snoc π' a b s s' n _ hf hstep hb ih =>
    obtain ⟨s0, hhead, hall⟩ := ih
    refine ⟨s0, by cases π' <;> simpa using hhead, fun p hp => ?_⟩
    rcases List.mem_append.mp hp with hp | hp
    · exact hall p (List.mem_append_left _ hp)
    · rcases List.mem_cons.mp hp with rfl | hp
      · exact hall _ (List.mem_append_right _ List.mem_cons_self)
      · exact List.mem_singleton.mp hp ▸ .step (hall (a, s) (List.mem_append_right _ List.mem_cons_self)) hf hstep hb

theorem ti_sound_path_partial (hfix : IsTIFix R env G reach S ins outs) (hT : Truthful R sem env)
    (hcl : TaintClosed R env G reach ins W S) {π : List (Nat × State)} (hπ : IsExecPath sem env W G π)
    (h0 : ∀ p, π.head? = some p → InitOk R env S p.2) :
    ∀ p, p ∈ π → ∀ e T v, NoTaint S e → tyE R env (ins.get p.1) e = some T → Eval sem env.bound W p.2 e v → InSet v T := by
  obtain ⟨s0, hhead, hall⟩ := hπ.exec
  exact fun p hp e T v hnt hty hev => ti_sound_partial hfix hT hcl (h0 _ hhead) (hall p hp) e T v hnt hty hev

/-- **C19, `TYPES` annotations** (partial).  `annE` is what the model writes while visiting an expression at node `i`; the
correspondence compares it with the real `anno.Static.TYPES`. -/
theorem ti_annotations_sound_partial (hfix : IsTIFix R env G reach S ins outs) (hT : Truthful R sem env)
    (hcl : TaintClosed R env G reach ins W S) (h0 : InitOk R env S σ₀) (hex : Exec sem env W G σ₀ i σ)
    (e : Expr) (p : Nat × TySet) (hp : p ∈ annE R env (ins.get i) e) :
    ∃ e' : Expr, e'.id = p.1 ∧ ∀ v, NoTaint S e' → Eval sem env.bound W σ e' v → InSet v p.2 := by
  obtain ⟨e', hid, hty⟩ := annE_justified e p hp
  exact ⟨e', hid, fun v hnt hev => ti_sound_partial hfix hT hcl h0 hex e' p.2 v hnt hty hev⟩

/-! ## "Where it cannot know it reports nothing" -/

/-- the resolver is not even asked -/
theorem ti_unknown_local (tin : TMap) (j : Nat) (x : String) (hloc : env.isFree x = false) (hm : tin.get x = none) :
    tyE R env tin (.name j x .load) = none := by
  simp [tyE, hm, hloc]

theorem ti_unknown_binop (tin : TMap) (j : Nat) (op : String) (l r : Expr)
    (h : tyE R env tin l = none ∨ tyE R env tin r = none) : tyE R env tin (.binop j op l r) = none := by
  rw [tyE_binop]
  rcases h with h | h <;> simp [h]

theorem ti_unknown_unary (tin : TMap) (j : Nat) (op : String) (e : Expr) (h : tyE R env tin e = none) :
    tyE R env tin (.unary j op e) = none := by
  rw [tyE_unary, h, Option.bind_none]

theorem ti_unknown_compare (tin : TMap) (j : Nat) (l : Expr) (ops : List String) (rs : List Expr)
    (h : tyE R env tin l = none ∨ tyAll R env tin rs = none) : tyE R env tin (.compare j l ops rs) = none := by
  rw [tyE_compare]
  rcases h with h | h <;> simp [h]

theorem ti_unknown_subscript (tin : TMap) (j : Nat) (e s : Expr) (c : Ctx)
    (h : tyE R env tin e = none ∨ tyE R env tin s = none) : tyE R env tin (.subscript j e s c) = none := by
  rw [tyE_subscript]
  rcases h with h | h <;> simp [h]

theorem ti_unknown_tuple (tin : TMap) (j : Nat) (es : List Expr) (h : tyAll R env tin es = none) :
    tyE R env tin (.seq j .tuple es .load) = none := by
  simp [tyE, h]

theorem ti_unknown_opaque (tin : TMap) (e : Expr) (h : isOpaque e = true) : tyE R env tin e = none :=
  tyE_opaque tin e h

/-- an assignment whose value is unknown records nothing for its targets -/
theorem ti_unknown_assign (ts : List Expr) : bindAllT R none ts = [] := by
  induction ts with
  | nil => rfl
  | cons t ts ih => simp [bindAllT, bindT_none t, ih]

/-- `selfAnn` writes an annotation only from a known set -/
theorem ti_anno_is_known (tin : TMap) (e : Expr) (p : Nat × TySet) (h : p ∈ selfAnn R env tin e) :
    p.1 = e.id ∧ tyE R env tin e = some p.2 :=
  selfAnn_mem h

/-! ## Closure types -/

/-- **Closure-types coverage** (partial: the calling statement must not itself bind the captured variable, `hnb`).  A node
that reads the name of a reaching local function `d` may call it; the untainted local variables that have a value then are
recorded in `CLOSURE_TYPES(d)` with a set containing their type. -/
theorem closure_cover_partial (hfix : IsTIFix R env G reach S ins outs) (hT : Truthful R sem env)
    (hcl : TaintClosed R env G reach ins W S) (hcov : ClosCovers G reach outs clos) (h0 : InitOk R env S σ₀)
    (hex : Exec sem env W G σ₀ i σ) {n : GNode} (hf : G.find i = some n) {σ' : State} (hstep : Step sem env W n.node σ σ')
    (hs : n.hasScope = true) (d : Nat × String) (hd : d ∈ n.defsIn) (hr : d.2 ∈ n.reads)
    (x : String) (v : Val) (hx : x ∉ S) (hloc : env.isFree x = false) (hnb : x ∉ storedN n.node) (hσ : σ x = some v) :
    ∃ T, (clos.get d.1).get x = some T ∧ InSet v T := by
  obtain ⟨hi, hS⟩ := exec_invariant hfix hT hcl h0 hex
  have h1 := sound_out hfix hT hcl hi hf hS hstep
  have hsame : σ' x = σ x := step_frame hstep x (by
    simp only [List.mem_append, not_or]
    exact ⟨hnb, fun hw => hx (hcl.w x hw)⟩)
  obtain ⟨T, hm, hv⟩ := (h1 x v hx (hsame ▸ hσ)).1 hloc
  obtain ⟨T', hc, hsub⟩ := hcov i n d hi hf hs hd hr x T hm
  exact ⟨T', hc, hv.mono hsub⟩

/-! ## The work-list algorithm: leastness (proved), termination (false of the pinned code)

FULL STATEMENT (false, two listed findings):

    theorem ti_worklist_terminates : ∃ fuel, (analyze R env G fuel).2 = true
    -- with fuel ≤ |nodes| · (1 + |names| · |types occurring in the program and the resolver's answers|) · max out-degree

It fails (a) because the transfer function is not monotone — an assignment whose value is unknown keeps the target's
stale set, a later visit strongly updates it, and the retracted set circulates round a loop for ever (finding
`no_fixed_point_nonmonotone_transfer`) — and (b) because `visit_Tuple` builds ever deeper product types in a loop, so the lattice
has no finite height (finding `no_fixed_point_unbounded_product_types`).  What is proved is the order-theoretic half,
for every fuel: under a monotone transfer function (`MonoTransfer`, a hypothesis with no decision procedure) the states
the work list goes through never exceed ANY post-fixed point over all nodes of the graph (`PostFix`; `isTIFix` decides the
different `IsTIFix`, over `reach` only, and no lemma relates the two).  Termination under `MonoTransfer` + a finite type
universe is NOT proved. -/

/-- **Leastness**, for any fuel, finished or not. -/
theorem ti_worklist_least {pins pouts : NMap} (hP : PostFix R env G pins pouts) (hM : MonoTransfer R env G) (fuel : Nat) :
    Below (analyze R env G fuel).1 pins pouts := by
  refine run_below hP hM fuel _ _ _ (fun j => ?_)
  exact ⟨by simpa [NMap.get] using TMap.le_nil _, by simpa [NMap.get] using TMap.le_nil _⟩

/-- The intended use: if what `analyze` returns is itself a post-fixed point it is the least (the inequality does not need
`_hself`). -/
theorem ti_worklist_least_fixpoint {pins pouts : NMap} (fuel : Nat)
    (_hself : PostFix R env G (analyze R env G fuel).1.ins (analyze R env G fuel).1.outs)
    (hP : PostFix R env G pins pouts) (hM : MonoTransfer R env G) (j : Nat) :
    TMap.le ((analyze R env G fuel).1.ins.get j) (pins.get j) ∧ TMap.le ((analyze R env G fuel).1.outs.get j) (pouts.get j) :=
  ti_worklist_least hP hM fuel j

open CEx in
/-- The hypotheses are satisfiable: the one-node graph of `def f(): …` (only the `arguments` node). -/
example : Below (analyze R0 env0 { entry := 1, nodes := [{ nArgs with succs := [] }] } 10).1 [] [] := by
  refine ti_worklist_least ⟨?_, ?_, ?_⟩ ?_ 10
  · intro x T h; simp [contextTypes, env0, TMap.get] at h
  · intro m hm k hk; simp at hm; subst hm; simp at hk
  · intro i n hf x T h
    obtain ⟨_, hn⟩ := Graph.find_id hf
    simp at hn
    subst hn
    simp [transfer, newSyms, nArgs, argNodes, argSyms, TMap.update, NMap.get, TMap.get] at h
  · intro i n a b hf hab
    obtain ⟨_, hn⟩ := Graph.find_id hf
    simp at hn
    subst hn
    simpa [transfer, newSyms, nArgs, argNodes, argSyms, TMap.update] using hab

/-! ## Non-vacuity -/

open CEx in
/-- `def f(): x = 1; y = x; return x`: every binder tracked; `type(x) ∈ {int}` where `y = x` reads it. -/
example : InSet (.int 1) [.int] :=
  have hfix : IsTIFix R0 env0 (graphOf copyN) reachC [] insCopy outsCopy := isTIFix_sound (by decide +kernel)
  have hotb : OnlyTrackedBinders R0 env0 (graphOf copyN) reachC insCopy := taintClosed_sound (by decide +kernel)
  ti_sound_tracked hfix truthful0 hotb (init0 []) (exec_to_mid [] copyN) (.name 7 "x" .load) [.int] (.int 1) (by decide +kernel)
    (.name (by simp) (by simp [s1, State.set]))

open CEx in
/-- A non-empty taint set: for `x = 1; for x in ['a']: …; return x`, `S = ["x"]` is closed (nothing is claimed about `x`). -/
example : TaintClosed R0 env0 (graphOf forN) reachC insC [] ["x"] ∧ IsTIFix R0 env0 (graphOf forN) reachC ["x"] insC outsC :=
  ⟨taintClosed_sound (by decide +kernel), isTIFix_sound (by decide +kernel)⟩

open CEx in
/-- `x = 1; def g(): …; g()`: at the call, `x : int` is in `CLOSURE_TYPES(g)`. -/
example : ∃ T, (closG.get 3).get "x" = some T ∧ InSet (.int 1) T :=
  have hfix : IsTIFix R0 env0 graphG reachC [] insG outsG := isTIFix_sound (by decide +kernel)
  have hotb : TaintClosed R0 env0 graphG reachC insG [] [] := taintClosed_sound (by decide +kernel)
  have hcov : ClosCovers graphG reachC outsG closG := closCovers_sound (by decide +kernel)
  have hstep : Step sem0 env0 [] nCall.node s2 s2 := .plain (by rfl) (Agree.refl _ _)
  closure_cover_partial hfix truthful0 hotb hcov (init0 []) exec_to_call (n := nCall) (by rfl) hstep (by rfl)
    (3, "g") (by simp [nCall]) (by simp [nCall]) "x" (.int 1) (by simp) (by decide +kernel) (by decide +kernel) (by simp [s2, s1, State.set])

/-! ## The full statement is false of the pinned code (known findings) -/

/-- C19 without the `TaintClosed` hypothesis -/
def TISoundFull : Prop :=
  ∀ (R : Resolver) (sem : Sem) (env : FnEnv) (G : Graph) (reach : List Nat) (ins outs : NMap) (σ₀ σ : State) (i : Nat)
    (x : String) (T : TySet) (v : Val),
    IsTIFix R env G reach [] ins outs → Truthful R sem env → InitOk R env [] σ₀ → Exec sem env [] G σ₀ i σ →
    (ins.get i).get x = some T → σ x = some v → InSet v T

open CEx in
private theorem stale_counterexample (N : CNode) (hfix : isTIFix R0 env0 (graphOf N) reachC [] insC outsC = true)
    (hN : Step sem0 env0 [] N s1 (s1.set "x" (.str "a"))) : ¬ TISoundFull := by
  intro h
  have := h R0 sem0 env0 (graphOf N) reachC insC outsC emp (s1.set "x" (.str "a")) 4 "x" [.int] (.str "a")
    (isTIFix_sound hfix) truthful0 (init0 []) (exec_to_ret [] N hN) (by decide +kernel) (by simp [State.set])
  exact str_not_int this

open CEx in
/-- Known finding `retyped_by_untracked_binder`, `for` target: `x = 1; for x in ['a']: pass; return x` — the solution
computed by the inference (`x ↦ {int}` at the `return`) is a fixed point, yet `x` holds a `str` there. -/
theorem ti_full_false_for_target : ¬ TISoundFull :=
  stale_counterexample forN (by decide +kernel) (plain_step [] forN (by rfl) (by decide +kernel))

open CEx in
/-- Known finding `retyped_by_untracked_binder`, augmented assignment (`x = 1; x += …; return x`). -/
theorem ti_full_false_augassign : ¬ TISoundFull :=
  stale_counterexample augN (by decide +kernel) (plain_step [] augN (by rfl) (by decide +kernel))

open CEx in
/-- Known finding `retyped_by_untracked_binder`, `with … as x`. -/
theorem ti_full_false_with_as : ¬ TISoundFull :=
  stale_counterexample withN (by decide +kernel) (plain_step [] withN (by rfl) (by decide +kernel))

open CEx in
/-- Known finding `retyped_by_untyped_assignment`: `x = 1; x = ('a' if c else 2.5); return x` — the inference has no
rule for `IfExp`, records nothing for the second assignment and keeps `x ↦ {int}`. -/
theorem ti_full_false_untyped_assignment : ¬ TISoundFull := by
  refine stale_counterexample ifexpN (by decide +kernel) ?_
  exact .assign (v := .str "a") (.opaq (by rfl)) (.cons .name .nil) (Agree.refl _ _)

/-- The statement with calls that may rebind the names in `W`, still without the taint hypothesis. -/
def TISoundFullW : Prop :=
  ∀ (R : Resolver) (sem : Sem) (env : FnEnv) (W : List String) (G : Graph) (reach : List Nat) (ins outs : NMap)
    (σ₀ σ : State) (i : Nat) (x : String) (T : TySet) (v : Val),
    IsTIFix R env G reach [] ins outs → Truthful R sem env → InitOk R env [] σ₀ → Exec sem env W G σ₀ i σ →
    (ins.get i).get x = some T → σ x = some v → InSet v T

open CEx in
/-- Known finding `retyped_by_local_call_side_effect`: `x = 1; g(); return x` where `g` rebinds the nonlocal `x`
to a `str` — the call node's transfer function is the identity, so `x ↦ {int}` survives. -/
theorem ti_full_false_local_call_side_effect : ¬ TISoundFullW := by
  intro h
  have hex := exec_to_ret ["x"] callN (plain_step ["x"] callN (by rfl) (by decide +kernel))
  have := h R0 sem0 env0 ["x"] (graphOf callN) reachC insC outsC emp (s1.set "x" (.str "a")) 4 "x" [.int] (.str "a")
    (isTIFix_sound (by decide +kernel)) truthful0 (init0 []) hex (by decide +kernel) (by simp [State.set])
  exact str_not_int this

open CEx in
/-- in these programs the empty taint set is not closed, as the finding class says; `["x"]` is (shown for the last) -/
example : taintClosed R0 env0 (graphOf forN) reachC insC [] [] = false ∧
    taintClosed R0 env0 (graphOf augN) reachC insC [] [] = false ∧
    taintClosed R0 env0 (graphOf withN) reachC insC [] [] = false ∧
    taintClosed R0 env0 (graphOf ifexpN) reachC insC [] [] = false ∧
    taintClosed R0 env0 (graphOf ifexpN) reachC insC [] ["x"] = true := by decide +kernel

end Malt.TypeInf
