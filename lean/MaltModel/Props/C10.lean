import MaltModel.Proofs.C10Refine
import MaltModel.Proofs.C10Progress
import MaltModel.Props.C20
import MaltModel.Generated.CacheLock
/-!
# C10 — the conversion cache is coherent, converts once, and is thread-safe

Model: `MaltModel/Rt/Cache.lean` (one dictionary operation per step, `gc` of code objects no live
function uses).  All theorems quantify over every request history `progs` (thread `i` performs
`progs[i]` in order), every schedule `sched` (fair or not) and every transform function `T`.

Two facts of the pinned implementation make the full property false; each is proved as a
counterexample and assumed away in the `…_partial` theorems by a decidable hypothesis on the history
(`SigCoherent`, `ValInj`) or the schedule (`SchedSafe`); `C10_result` assumes them of `T` instead
(`EnvIrrelevant`, `SrcByVal`):

* `SigCoherent` / `EnvIrrelevant` — the conversion reads the namespace of the function that happens
  to trigger it (directive resolution, namer), so functions sharing a code object but differing in the
  relevant part of their globals/closure are served a conversion made for the other one;
* `ValInj` — the cache is a `WeakKeyDictionary` keyed by the code object, whose `__eq__` is
  structural: two distinct code objects of equal value share one entry, which dies with the first
  of them (a second transformation for a pair that stayed alive, and a `KeyError` race).

| theorems | hypothesis | why it cannot be dropped |
|---|---|---|
| once, once_kept, error_only, no_error | `SchedSafe` (per schedule): no `gc` step removes an entry that an equal-valued distinct code object in use shares; implied by `ValInj` (`C10_schedSafe_of_valInj`), and true of "old function dies, then the same source is exec'ed again" where `ValInj` fails (`exRedefine`) | `C10_once_counterexample`, `C10_no_error_counterexample` |
| lock_released, mutex, progress, can_complete | stated under `SchedSafe`, which their proofs do not use: the lock discipline holds along every schedule (`LockInv_run`) | — |
| refines, no_alias_frame | `ValInj`: the spec is keyed by code identity, the implementation by value | not shown for the refinement statement itself; `C10_result_counterexample_equal_code` is an outcome the specification cannot produce |
| refines_ideal, outcome_ideal | `ValInj ∧ SigCoherent` | `C10_ideal_needs_sigCoherent`, `C10_ideal_needs_valInj` (both refute the outcome form) |
| served, no_alias, no_stale, result (under assumptions on `T`) | none | — |
-/
namespace Malt.Cache

section generic
variable {Opts Factory : Type} [BEq Opts] [Hashable Opts] [LawfulBEq Opts]

private theorem mem_allReqs (progs : List (List (Request Opts))) :
    ∀ p ∈ progs, ∀ r ∈ p, r ∈ allReqs progs := by
  intro p hp r hr
  exact List.mem_flatten.mpr ⟨p, hp, hr⟩

private theorem g_reach (T : Code → Opts → Nat → Option Factory) (progs : List (List (Request Opts)))
    (sched : List Label) : G T (allReqs progs) (run T (init progs) sched) :=
  G_run (G_init T progs (mem_allReqs progs)) sched

private theorem lockInv_reach (T : Code → Opts → Nat → Option Factory) (progs : List (List (Request Opts)))
    (sched : List Label) : LockInv (run T (init progs) sched) :=
  LockInv_run (LockInv_init progs) sched

private theorem reach (T : Code → Opts → Nat → Option Factory) (progs : List (List (Request Opts)))
    (sched : List Label) (hs : SchedSafe T (init progs) sched) :
    Reach T (allReqs progs) (run T (init progs) sched) :=
  Reach_run (Reach_init T progs (mem_allReqs progs)) sched hs

theorem C10_schedSafe_of_valInj (T : Code → Opts → Nat → Option Factory) (progs : List (List (Request Opts)))
    (V : ValInj (allReqs progs)) (sched : List Label) : SchedSafe T (init progs) sched :=
  schedSafe_of_valInj V (Inv_init progs (mem_allReqs progs)) sched

/-- **Coherence, no hypothesis.**  A finished request for `(code, options)` was served the conversion,
under those options, of an equal-valued code object of some requester of the same history, computed
against that requester's namespace (`finished` pairs the factory with its own request). -/
theorem C10_served (T : Code → Opts → Nat → Option Factory) (progs : List (List (Request Opts)))
    (sched : List Label) :
    ∀ e ∈ finished (run T (init progs) sched), ∀ f, e.2 = some f →
      ∃ r0 ∈ allReqs progs, r0.code.val = e.1.code.val ∧ r0.opts = e.1.opts ∧
        T r0.code e.1.opts r0.env.sig = some f :=
  (g_reach T progs sched).res

/- FULL STATEMENT (false of the pinned tree — `C10_result_counterexample`,
   `C10_result_counterexample_equal_code`):
     ∀ T inst progs sched, ∀ e ∈ finished (run T (init progs) sched), ∀ f, e.2 = some f →
       some (inst f e.1.env) = (T e.1.code e.1.opts e.1.env.sig).map (fun g => inst g e.1.env) -/

/-- **Result**, assuming `transform` ignores the namespace and reads the source by value: every
completed request returns `instantiate (T code opts) (its own env)`. -/
theorem C10_result {Fn : Type} (T : Code → Opts → Nat → Option Factory) (inst : Factory → Env → Fn)
    (hT : EnvIrrelevant T) (hV : SrcByVal T) (progs : List (List (Request Opts))) (sched : List Label) :
    ∀ e ∈ finished (run T (init progs) sched), ∀ f, e.2 = some f →
      some (inst f e.1.env) = (T e.1.code e.1.opts e.1.env.sig).map (fun g => inst g e.1.env) := by
  intro e he f hf
  obtain ⟨r0, _, hv, _, h⟩ := C10_served T progs sched e he f hf
  rw [hT _ _ r0.env.sig e.1.env.sig, hV _ _ _ _ hv] at h
  rw [h]; rfl

private theorem served_own (T : Code → Opts → Nat → Option Factory) (progs : List (List (Request Opts)))
    (hS : SigCoherent (allReqs progs)) (V : ValInj (allReqs progs)) (sched : List Label) :
    ∀ e ∈ finished (run T (init progs) sched), ∀ f, e.2 = some f → T e.1.code e.1.opts e.1.env.sig = some f := by
  intro e he f hf
  obtain ⟨r0, hr0, hv, _, h⟩ := C10_served T progs sched e he f hf
  have heP : e.1 ∈ allReqs progs := (g_reach T progs sched).resP e he
  rwa [hS r0 hr0 e.1 heP hv, V r0 hr0 e.1 heP hv] at h

/-- **Result**, with decidable hypotheses on the history instead of on `T`. -/
theorem C10_result_partial {Fn : Type} (T : Code → Opts → Nat → Option Factory) (inst : Factory → Env → Fn)
    (progs : List (List (Request Opts))) (hS : SigCoherent (allReqs progs)) (V : ValInj (allReqs progs))
    (sched : List Label) :
    ∀ e ∈ finished (run T (init progs) sched), ∀ f, e.2 = some f →
      some (inst f e.1.env) = (T e.1.code e.1.opts e.1.env.sig).map (fun g => inst g e.1.env) := by
  intro e he f hf
  rw [served_own T progs hS V sched e he f hf]; rfl

/- FULL STATEMENT (false of the pinned tree — `C10_once_counterexample`):
     ∀ T progs sched c o, xcount (run T (init progs) sched) c o ≤ 1 -/

/-- **Converts once**: along a `SchedSafe` schedule the conversion runs at most once per (code object,
options) — for ever, hence also between any two `gc` events.  The lock discipline this rests on is
the one extracted from the source: `C10_lock_discipline_extracted`. -/
theorem C10_once_partial (T : Code → Opts → Nat → Option Factory) (progs : List (List (Request Opts)))
    (sched : List Label) (hs : SchedSafe T (init progs) sched) (c : Code) (o : Opts) :
    xcount (run T (init progs) sched) c o ≤ 1 :=
  ((reach T progs sched hs).inv.once c o).1

/-- …and a pair that was converted is not left without an entry: as long as some live function uses the code
object, the pair is in the cache or about to be stored. -/
theorem C10_once_kept_partial (T : Code → Opts → Nat → Option Factory) (progs : List (List (Request Opts)))
    (sched : List Label) (hs : SchedSafe T (init progs) sched) (c : Code) (o : Opts)
    (h : 0 < xcount (run T (init progs) sched) c o) (hl : live (run T (init progs) sched) c = true) :
    (table (run T (init progs) sched) c o).isSome = true ∨ Storing (run T (init progs) sched) c o := by
  rcases ((reach T progs sched hs).inv.once c o).2 h with h | h | h
  · exact Or.inl h
  · exact Or.inr h
  · rw [hl] at h; cases h

/-- **The lock discipline of the model is the one of the source** (`tools/extract_cachelock.py` →
`Generated/CacheLock.lean`): in `PyToPy.transform_function` the first `has`/fetch and `instantiate`
are outside, the re-check, its fetch, the conversion (`super().transform_function`, `factory.create`)
and the store are lexically inside `with self._cache_lock`.  If one of them moves out of the critical
section, or the lock is taken by explicit acquire/release, this ceases to compile. -/
theorem C10_lock_discipline_extracted :
    Malt.Gen.CacheLock.sites =
      [("has", (Pc.has1 false : Pc Unit).locked), ("get", (Pc.get1 false : Pc Unit).locked),
       ("has", (Pc.has1 true : Pc Unit).locked), ("get", (Pc.get1 true : Pc Unit).locked),
       ("xform", (Pc.xform : Pc Unit).locked), ("create", (Pc.xform : Pc Unit).locked),
       ("store", (Pc.st2 () 0 : Pc Unit).locked), ("inst", (Pc.inst () false : Pc Unit).locked)] ∧
    Malt.Gen.CacheLock.lockKind = "threading.RLock()" ∧
    Malt.Gen.CacheLock.outerKind = "weakref.WeakKeyDictionary()" ∧
    Malt.Gen.CacheLock.keyExpr = "entity.__code__ | entity" ∧
    Malt.Gen.CacheLock.subkeyExpr = "ctx.options" ∧
    Malt.Gen.CacheLock.hasOps = ["outer.get", "in"] ∧
    Malt.Gen.CacheLock.getitemOps = ["outer.get", "outer.set{}"] ∧
    Malt.Gen.CacheLock.cachedFactoryExpr = "self._cache[fn][cache_subkey]" ∧
    Malt.Gen.CacheLock.instantiateArgs =
      [("globals_", "fn.__globals__"), ("closure", "fn.__closure__ or ()"), ("defaults", "fn.__defaults__"),
       ("kwdefaults", "getattr(fn, '__kwdefaults__', None)")] :=
  ⟨rfl, rfl, rfl, rfl, rfl, rfl, rfl, rfl, rfl⟩

/- FULL STATEMENT (false of the pinned tree — `C10_no_error_counterexample`):
     ∀ T progs sched, ∀ e ∈ finished (run T (init progs) sched), e.2 = none →
       T e.1.code e.1.opts e.1.env.sig = none -/

/-- **Thread safety of the lock-free fast path**: along a `SchedSafe` schedule a request raises only if
its own conversion raises — never a `KeyError` from the cache (the entry a reader saw in `has` is
still there when it fetches it). -/
theorem C10_error_only_partial (T : Code → Opts → Nat → Option Factory) (progs : List (List (Request Opts)))
    (sched : List Label) (hs : SchedSafe T (init progs) sched) :
    ∀ e ∈ finished (run T (init progs) sched), e.2 = none → T e.1.code e.1.opts e.1.env.sig = none :=
  (reach T progs sched hs).err.res

theorem C10_no_error_partial (T : Code → Opts → Nat → Option Factory) (progs : List (List (Request Opts)))
    (hT : ∀ r ∈ allReqs progs, (T r.code r.opts r.env.sig).isSome = true)
    (sched : List Label) (hs : SchedSafe T (init progs) sched) :
    ∀ e ∈ finished (run T (init progs) sched), ∃ f, e.2 = some f := by
  intro e he
  cases h : e.2 with
  | some f => exact ⟨f, rfl⟩
  | none =>
    have heP : e.1 ∈ allReqs progs := (g_reach T progs sched).resP e he
    have := hT e.1 heP
    rw [C10_error_only_partial T progs sched hs e he h] at this
    cases this

/-- **The lock is never leaked**, in particular not after a conversion raised. -/
theorem C10_lock_released_partial (T : Code → Opts → Nat → Option Factory) (progs : List (List (Request Opts)))
    (sched : List Label) (hs : SchedSafe T (init progs) sched)
    (h : ∀ th ∈ (run T (init progs) sched).threads, th.pc.locked = false) :
    (run T (init progs) sched).lock = none := by
  cases hl : (run T (init progs) sched).lock with
  | none => rfl
  | some tn =>
    obtain ⟨t, n⟩ := tn
    obtain ⟨_, th, hth, hlk⟩ := (lockInv_reach T progs sched).lock1 t n hl
    rw [h th (List.mem_of_getElem? hth)] at hlk
    cases hlk

/-- **Mutual exclusion**: at most one thread is inside `with self._cache_lock`. -/
theorem C10_mutex_partial (T : Code → Opts → Nat → Option Factory) (progs : List (List (Request Opts)))
    (sched : List Label) (hs : SchedSafe T (init progs) sched) (t t' : Tid) (th th' : Thread Opts Factory)
    (h : (run T (init progs) sched).threads[t]? = some th) (hl : th.pc.locked = true)
    (h' : (run T (init progs) sched).threads[t']? = some th') (hl' : th'.pc.locked = true) : t = t' :=
  (lockInv_reach T progs sched).holder_unique h hl h' hl'

/-- **No deadlock** (local form): while some request is unfinished, some thread can take a step that
strictly decreases `work` — the owner of the lock is never blocked, and nobody is blocked when the
lock is free.  No step, and no `gc`, increases `work` (`step_work_le`). -/
theorem C10_progress_partial (T : Code → Opts → Nat → Option Factory) (progs : List (List (Request Opts)))
    (sched : List Label) (hs : SchedSafe T (init progs) sched)
    (h : ∃ th ∈ (run T (init progs) sched).threads, th.todo ≠ []) :
    ∃ t, work (step T (run T (init progs) sched) (.thr t)) < work (run T (init progs) sched) :=
  (lockInv_reach T progs sched).progress T h

/-- **No deadlock** (global form): after any schedule, some continuation of at most `work` further steps
finishes every request. -/
theorem C10_can_complete_partial (T : Code → Opts → Nat → Option Factory) (progs : List (List (Request Opts)))
    (sched : List Label) (hs : SchedSafe T (init progs) sched) :
    ∃ more : List Label, more.length ≤ work (run T (init progs) sched) ∧
      ∀ th ∈ (run T (init progs) (sched ++ more)).threads, th.todo = [] := by
  obtain ⟨more, hlen, hfin⟩ := can_complete T (lockInv_reach T progs sched)
  refine ⟨more, hlen, ?_⟩
  have : run T (init progs) (sched ++ more) = run T (run T (init progs) sched) more := by
    simp [run, List.foldl_append]
  rw [this]; exact hfin

/-- **No aliasing**: requests that differ in the code value or in the options are never served the
same factory, provided distinct keys have distinct conversions (otherwise sharing is unobservable). -/
theorem C10_no_alias (T : Code → Opts → Nat → Option Factory)
    (hinj : ∀ c o s c' o' s' f, T c o s = some f → T c' o' s' = some f → c.val = c'.val ∧ o = o')
    (progs : List (List (Request Opts))) (sched : List Label) :
    ∀ e ∈ finished (run T (init progs) sched), ∀ e' ∈ finished (run T (init progs) sched),
      ∀ f f', e.2 = some f → e'.2 = some f' →
      (e.1.code.val ≠ e'.1.code.val ∨ e.1.opts ≠ e'.1.opts) → f ≠ f' := by
  intro e he e' he' f f' hf hf' hne heq
  obtain ⟨r0, _, hv0, _, h1⟩ := C10_served T progs sched e he f hf
  obtain ⟨r1, _, hv1, _, h2⟩ := C10_served T progs sched e' he' f' hf'
  rw [← heq] at h2
  obtain ⟨hv, ho⟩ := hinj _ _ _ _ _ _ _ h1 h2
  rcases hne with h | h
  · exact h (hv0.symm.trans (hv.trans hv1))
  · exact h ho

/-- **No stale code**: a redefinition (a code object with a new value) is never served a factory
converted for the old code, with or without `gc` of the old code (provided distinct keys have distinct conversions). -/
theorem C10_no_stale (T : Code → Opts → Nat → Option Factory)
    (hinj : ∀ c o s c' o' s' f, T c o s = some f → T c' o' s' = some f → c.val = c'.val ∧ o = o')
    (progs : List (List (Request Opts))) (sched : List Label) (old : Code) :
    ∀ e ∈ finished (run T (init progs) sched), e.1.code.val ≠ old.val →
      ∀ f, e.2 = some f → ∀ o s, T old o s ≠ some f := by
  intro e he hne f hf o s heq
  obtain ⟨r0, _, hv0, _, h1⟩ := C10_served T progs sched e he f hf
  exact hne (hv0.symm.trans (hinj _ _ _ _ _ _ _ h1 heq).1)

/- FULL STATEMENT: the same without `ValInj`.  Not refuted as stated; the `KeyError` outcome of
   `C10_no_error_counterexample` and the second conversion of `C10_once_counterexample` are not
   behaviours of the atomic specification. -/

/-- **Refinement** to the atomic specification "lookup-or-convert" (`Malt.Cache.Spec`): some sequence
of atomic steps leads the specification to the abstraction `abs` of the implementation's state (cache contents
as a lookup function on the code objects of the history; per thread the remaining requests and the outcomes, a
request counting as served from its linearisation point on, `linearised`). -/
theorem C10_refines_partial (T : Code → Opts → Nat → Option Factory) (progs : List (List (Request Opts)))
    (V : ValInj (allReqs progs)) (sched : List Label) :
    ∃ ls : List Spec.SLabel,
      Spec.srun T (Spec.sinit progs) ls = abs (allReqs progs) (run T (init progs) sched) := by
  obtain ⟨ls, hls⟩ := refines_from V sched (Reach_init T progs (mem_allReqs progs))
  rw [abs_init] at hls
  exact ⟨ls, hls⟩

/- FULL STATEMENT (its outcome form `C10_outcome_ideal_partial` is false of the pinned tree without either hypothesis —
   `C10_ideal_needs_sigCoherent`, `C10_ideal_needs_valInj`):
     ∀ T progs sched, ∃ ts, Ideal.irun T (Ideal.iinit progs) ts = (abs (allReqs progs) (run T (init progs) sched)).threads -/

/-- **Refinement to the abstract specification of the property** — no cache at all, "a map from
(function identity incl. closure/globals/defaults binding, options) to a fresh conversion"
(`Malt.Cache.Ideal`): inside `ValInj ∧ SigCoherent`, for all schedules, some sequence of atomic
"answer this request by a fresh conversion of exactly this function" steps yields the threads of the abstraction
`abs` of the implementation's state (observable at idle points: `C10_refines_observable`). -/
theorem C10_refines_ideal_partial (T : Code → Opts → Nat → Option Factory) (progs : List (List (Request Opts)))
    (V : ValInj (allReqs progs)) (hS : SigCoherent (allReqs progs)) (sched : List Label) :
    ∃ ts : List Tid,
      Ideal.irun T (Ideal.iinit progs) ts = (abs (allReqs progs) (run T (init progs) sched)).threads := by
  have := refines_ideal_from V hS sched (Reach_init T progs (mem_allReqs progs))
    (by rw [abs_init]; exact TabOK_sinit progs (mem_allReqs progs))
  rwa [abs_init] at this

/-- …in terms of outcomes: every finished request, whether it returned or raised, got the outcome of
a fresh conversion of that exact function under those exact options. -/
theorem C10_outcome_ideal_partial (T : Code → Opts → Nat → Option Factory) (progs : List (List (Request Opts)))
    (V : ValInj (allReqs progs)) (hS : SigCoherent (allReqs progs)) (sched : List Label) :
    ∀ e ∈ finished (run T (init progs) sched), e.2 = T e.1.code e.1.opts e.1.env.sig := by
  intro e he
  cases h : e.2 with
  | none =>
    exact (C10_error_only_partial T progs sched (C10_schedSafe_of_valInj T progs V sched) e he h).symm
  | some f => exact (served_own T progs hS V sched e he f h).symm

/-- **No aliasing, frame form**: a step of a thread changes what a lookup of `(c, o)`, `c` a code object of the
history, finds only if `(c, o)` is exactly the key of the request that thread is executing. -/
theorem C10_no_alias_frame_partial (T : Code → Opts → Nat → Option Factory) (progs : List (List (Request Opts)))
    (V : ValInj (allReqs progs)) (sched : List Label) (t : Tid) (c : Code)
    (hc : c ∈ (allReqs progs).map (fun r => r.code)) (o : Opts)
    (h : table (step T (run T (init progs) sched) (.thr t)) c o ≠ table (run T (init progs) sched) c o) :
    ∃ th r rest, (run T (init progs) sched).threads[t]? = some th ∧ th.todo = r :: rest ∧
      r.code = c ∧ r.opts = o := by
  exact table_frame V (reach T progs sched (C10_schedSafe_of_valInj T progs V sched)) t hc o h

/-- The abstraction of a thread between requests is its pending requests and its outcomes (of any state: no
invariant is involved). -/
theorem C10_refines_observable (P : List (Request Opts)) (s : State Opts Factory) (t : Tid)
    (th : Thread Opts Factory) (h : s.threads[t]? = some th) (hidle : th.pc = .idle) :
    (abs P s).threads[t]? = some { todo := th.todo, results := th.results } := by
  simp [abs, h, absThread, linearised, hidle]

end generic

/-! ## The real subkey type: `ConversionOptions` (C20) -/

instance optsLawful : LawfulBEq Malt.Options.Opts where
  eq_of_beq := fun {a b} h => (Malt.Options.C20_eq_iff a b).mp h
  rfl := fun {a} => (Malt.Options.C20_eq_iff a a).mpr rfl

/-- **Different option sets never alias** (C20 enters through the instance `optsLawful`:
`ConversionOptions.__eq__` is field equality), provided distinct keys have distinct conversions. -/
theorem C10_no_alias_options {Factory : Type} (T : Code → Malt.Options.Opts → Nat → Option Factory)
    (hinj : ∀ c o s c' o' s' f, T c o s = some f → T c' o' s' = some f → c.val = c'.val ∧ o = o')
    (progs : List (List (Request Malt.Options.Opts))) (sched : List Label) :
    ∀ e ∈ finished (run T (init progs) sched), ∀ e' ∈ finished (run T (init progs) sched),
      ∀ f f', e.2 = some f → e'.2 = some f' →
      (e.1.opts.recursive ≠ e'.1.opts.recursive ∨ e.1.opts.userRequested ≠ e'.1.opts.userRequested ∨
       e.1.opts.internal ≠ e'.1.opts.internal ∨ e.1.opts.features ≠ e'.1.opts.features) → f ≠ f' := by
  intro e he e' he' f f' hf hf' hne
  apply C10_no_alias T hinj progs sched e he e' he' f f' hf hf'
  right
  intro heq
  rw [heq] at hne
  simp at hne

/-! ## Non-vacuity and counterexamples

Options are `Nat` here; `T c o s = 1000000·c.id + 10000·c.val + 100·o + s` shows which source,
options and namespace a factory was made from. -/
section examples

private def exT : Code → Nat → Nat → Option Nat := fun c o s =>
  if c.val = 13 then none else some (c.id * 1000000 + c.val * 10000 + o * 100 + s)
private def thr (t n : Nat) : List Label := List.replicate n (.thr t)
private def outs (s : State Nat Nat) : List (List (Option Nat)) := s.threads.map (fun th => th.results.map (·.2))

/-- Two functions sharing one code object (value 7), same namespace view, same options. -/
private def exRace : List (List (Request Nat)) := [[⟨⟨1, 7⟩, 0, ⟨1, 5⟩⟩], [⟨⟨1, 7⟩, 0, ⟨2, 5⟩⟩]]

/-- Both threads race on the same key: both miss in the lock-free check, thread 1 wins the lock and
converts, thread 0 blocks, then finds the entry in the re-check under the lock.  One transformation,
both served the same factory. -/
private def exRaceSched : List Label :=
  thr 0 2 ++ thr 1 2 ++ thr 1 1 ++ thr 0 3 ++ thr 1 8 ++ thr 0 8

example : outs (run exT (init exRace) exRaceSched) = [[some 1070005], [some 1070005]] := by decide +kernel
example : xcount (run exT (init exRace) exRaceSched) ⟨1, 7⟩ 0 = 1 := by decide +kernel
example : ValInj (allReqs exRace) ∧ SigCoherent (allReqs exRace) := by decide +kernel
/-- The hypotheses of the positive theorems are satisfiable by this non-trivial instance. -/
example : ∀ e ∈ finished (run exT (init exRace) exRaceSched), ∃ f, e.2 = some f :=
  C10_no_error_partial exT exRace (by decide +kernel) exRaceSched
    (C10_schedSafe_of_valInj exT exRace (by decide +kernel) exRaceSched)
/-- …and the refinement theorem applies to it. -/
example : ∃ ls : List Spec.SLabel,
    Spec.srun exT (Spec.sinit exRace) ls = abs (allReqs exRace) (run exT (init exRace) exRaceSched) :=
  C10_refines_partial exT exRace (by decide +kernel) exRaceSched
example : work (init exRace : State Nat Nat) = 36 := by decide +kernel
/-- An unfair schedule: thread 0 never runs again after blocking on the lock. -/
example : outs (run exT (init exRace) (thr 0 2 ++ thr 1 3 ++ thr 0 5 ++ thr 1 20)) = [[], [some 1070005]] := by
  decide +kernel

/-- Different options, different code, redefinition after `gc`. -/
private def exKeys : List (List (Request Nat)) :=
  [[⟨⟨1, 7⟩, 0, ⟨1, 5⟩⟩, ⟨⟨1, 7⟩, 1, ⟨1, 5⟩⟩], [⟨⟨2, 8⟩, 0, ⟨2, 5⟩⟩, ⟨⟨1, 7⟩, 0, ⟨3, 5⟩⟩]]
set_option maxRecDepth 8192 in
example : outs (run exT (init exKeys) (thr 0 30 ++ [.gc ⟨1, 7⟩] ++ thr 1 30)) =
    [[some 1070005, some 1070105], [some 2080005, some 1070005]] := by decide +kernel
set_option maxRecDepth 8192 in
example : xcount (run exT (init exKeys) (thr 0 30 ++ [.gc ⟨1, 7⟩] ++ thr 1 30)) ⟨1, 7⟩ 0 = 1 := by decide +kernel

/-- COUNTEREXAMPLE to the full result statement (known finding `C10-shared-code-namespace`): two
functions share a code object but see different namespaces (`sig` 1 vs 2, e.g. global `m` is
`malt.experimental` for one and a user object for the other).  The second is served the conversion
made against the first one's namespace. -/
private def exSig : List (List (Request Nat)) := [[⟨⟨1, 7⟩, 0, ⟨1, 1⟩⟩], [⟨⟨1, 7⟩, 0, ⟨2, 2⟩⟩]]
/-- Code objects 1 and 2 are distinct but equal (`exec` of the same source twice, or equal `def`s in two files). -/
private def exKeyErr : List (List (Request Nat)) := [[⟨⟨1, 7⟩, 0, ⟨1, 5⟩⟩], [⟨⟨2, 7⟩, 0, ⟨2, 5⟩⟩]]

theorem C10_result_counterexample :
    ¬ (∀ (T : Code → Nat → Nat → Option Nat) (progs : List (List (Request Nat))) (sched : List Label),
        ∀ e ∈ finished (run T (init progs) sched), ∀ f, e.2 = some f →
          T e.1.code e.1.opts e.1.env.sig = some f) := by
  intro h
  have := h exT exSig (thr 0 12 ++ thr 1 12) (⟨⟨1, 7⟩, 0, ⟨2, 2⟩⟩, some 1070001) (by decide +kernel) 1070001 rfl
  exact absurd this (by decide +kernel)

/-- COUNTEREXAMPLE to the full result statement, second cause (known finding `C10-equal-code-objects`):
even for a `transform` that ignores the namespace, a function whose code object is equal to, but not
identical with, one converted earlier is served the conversion of the *other* function's source
(whose annotations, decorators, file may differ). -/
theorem C10_result_counterexample_equal_code :
    ¬ (∀ (T : Code → Nat → Nat → Option Nat), EnvIrrelevant T →
        ∀ (progs : List (List (Request Nat))) (sched : List Label),
        ∀ e ∈ finished (run T (init progs) sched), ∀ f, e.2 = some f →
          T e.1.code e.1.opts e.1.env.sig = some f) := by
  intro h
  have := h (fun c o _ => exT c o 0) (fun _ _ _ _ => rfl) exKeyErr (thr 0 12 ++ thr 1 12)
    (⟨⟨2, 7⟩, 0, ⟨2, 5⟩⟩, some 1070000) (by decide +kernel) 1070000 rfl
  exact absurd this (by decide +kernel)

example : ¬ SigCoherent (allReqs exSig) := by decide +kernel

/-- COUNTEREXAMPLE to the full once statement (known finding `C10-equal-code-objects`): code objects
1 and 2 are distinct but equal (`exec` of the same source twice).  Thread 0 converts (1, options 0);
thread 1 converts (2, options 1) — stored in the bucket keyed by object 1; object 1 dies; thread 1 asks
for (2, options 1) again while object 2 stayed alive: second transformation. -/
private def exEq : List (List (Request Nat)) :=
  [[⟨⟨1, 7⟩, 0, ⟨1, 5⟩⟩], [⟨⟨2, 7⟩, 1, ⟨2, 5⟩⟩, ⟨⟨2, 7⟩, 1, ⟨2, 5⟩⟩]]

theorem C10_once_counterexample :
    ¬ (∀ (T : Code → Nat → Nat → Option Nat) (progs : List (List (Request Nat))) (sched : List Label) (c : Code) (o : Nat),
        xcount (run T (init progs) sched) c o ≤ 1) := by
  intro h
  have := h exT exEq (thr 0 12 ++ thr 1 12 ++ [.gc ⟨1, 7⟩] ++ thr 1 12) ⟨2, 7⟩ 1
  exact absurd this (by decide +kernel)

example : ¬ ValInj (allReqs exEq) := by decide +kernel

/-- COUNTEREXAMPLE to the full no-error statement (same finding): thread 1 sees the entry in the
lock-free `has` (through the bucket of the equal code object 1); object 1 dies; `_cached_factory`
finds no bucket, creates an empty one and raises `KeyError`. -/
theorem C10_no_error_counterexample :
    ¬ (∀ (T : Code → Nat → Nat → Option Nat) (progs : List (List (Request Nat))) (sched : List Label),
        ∀ e ∈ finished (run T (init progs) sched), e.2 = none → T e.1.code e.1.opts e.1.env.sig = none) := by
  intro h
  have := h exT exKeyErr (thr 0 12 ++ thr 1 3 ++ [.gc ⟨1, 7⟩] ++ thr 1 4)
    (⟨⟨2, 7⟩, 0, ⟨2, 5⟩⟩, none) (by decide +kernel) rfl
  exact absurd this (by decide +kernel)

/-- A conversion that raises (code value 13): each request retries and fails, nothing is cached, the
lock is released every time and the other thread is not disturbed. -/
private def exFail : List (List (Request Nat)) :=
  [[⟨⟨3, 13⟩, 0, ⟨1, 5⟩⟩, ⟨⟨3, 13⟩, 0, ⟨1, 5⟩⟩], [⟨⟨1, 7⟩, 0, ⟨2, 5⟩⟩]]
set_option maxRecDepth 8192 in
example : outs (run exT (init exFail) (thr 0 5 ++ thr 1 3 ++ thr 0 20 ++ thr 1 20)) =
    [[none, none], [some 1070005]] := by decide +kernel
set_option maxRecDepth 8192 in
example : (run exT (init exFail) (thr 0 5 ++ thr 1 3 ++ thr 0 20 ++ thr 1 20)).lock = none := by decide +kernel
set_option maxRecDepth 8192 in
example : xcount (run exT (init exFail) (thr 0 5 ++ thr 1 3 ++ thr 0 20 ++ thr 1 20)) ⟨3, 13⟩ 0 = 0 := by decide +kernel

/-- The refinement to the cache-less specification FAILS without `SigCoherent` (known finding
`C10-shared-code-namespace`): a history with `ValInj` in which an outcome is not the fresh conversion. -/
theorem C10_ideal_needs_sigCoherent :
    ¬ (∀ (progs : List (List (Request Nat))) (sched : List Label), ValInj (allReqs progs) →
        ∀ e ∈ finished (run exT (init progs) sched), e.2 = exT e.1.code e.1.opts e.1.env.sig) := by
  intro h
  have := h exSig (thr 0 12 ++ thr 1 12) (by decide +kernel) (⟨⟨1, 7⟩, 0, ⟨2, 2⟩⟩, some 1070001) (by decide +kernel)
  exact absurd this (by decide +kernel)

/-- …and FAILS without `ValInj` (known finding `C10-equal-code-objects`): a history with `SigCoherent`
in which an outcome is not the fresh conversion (it is the conversion of the *other* function's
source).  For each hypothesis of `C10_outcome_ideal_partial` there is thus a history violating only it on which
the outcome form fails. -/
theorem C10_ideal_needs_valInj :
    ¬ (∀ (progs : List (List (Request Nat))) (sched : List Label), SigCoherent (allReqs progs) →
        ∀ e ∈ finished (run exT (init progs) sched), e.2 = exT e.1.code e.1.opts e.1.env.sig) := by
  intro h
  have := h exKeyErr (thr 0 12 ++ thr 1 12) (by decide +kernel) (⟨⟨2, 7⟩, 0, ⟨2, 5⟩⟩, some 1070005) (by decide +kernel)
  exact absurd this (by decide +kernel)

example : ValInj (allReqs exSig) ∧ ¬ SigCoherent (allReqs exSig) := by decide +kernel
example : SigCoherent (allReqs exKeyErr) ∧ ¬ ValInj (allReqs exKeyErr) := by decide +kernel

/-- Redefinition with the SAME source (`exec` twice): object 1 is converted, dies, and only then is
the equal-valued object 2 used.  `ValInj` fails (static), the dynamic hypothesis `SchedSafe` holds, so
the once / no-error / lock theorems apply: the new definition is converted once, no stale hit. -/
private def exRedefine : List (List (Request Nat)) := [[⟨⟨1, 7⟩, 0, ⟨1, 5⟩⟩], [⟨⟨2, 7⟩, 0, ⟨2, 5⟩⟩, ⟨⟨2, 7⟩, 0, ⟨2, 5⟩⟩]]
private def exRedefineSched : List Label := thr 0 12 ++ [.gc ⟨1, 7⟩] ++ thr 1 24
set_option maxRecDepth 8192 in
example : ¬ ValInj (allReqs exRedefine) ∧ SchedSafe exT (init exRedefine) exRedefineSched := by decide +kernel
set_option maxRecDepth 8192 in
example : outs (run exT (init exRedefine) exRedefineSched) = [[some 1070005], [some 2070005, some 2070005]] := by decide +kernel
example : xcount (run exT (init exRedefine) exRedefineSched) ⟨2, 7⟩ 0 ≤ 1 :=
  C10_once_partial exT exRedefine exRedefineSched (by decide +kernel) ⟨2, 7⟩ 0
/-- The schedules of the two counterexamples are unsafe. -/
example : ¬ SchedSafe exT (init exEq) (thr 0 12 ++ thr 1 12 ++ [.gc ⟨1, 7⟩] ++ thr 1 12) := by decide +kernel
example : ¬ SchedSafe exT (init exKeyErr) (thr 0 12 ++ thr 1 3 ++ [.gc ⟨1, 7⟩] ++ thr 1 4) := by decide +kernel

end examples

end Malt.Cache
