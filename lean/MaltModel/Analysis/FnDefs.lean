import MaltModel.Analysis.CfgData
/-
Reaching function definitions (`malt/pyct/static_analysis/reaching_fndefs.py`): which local
`def`/`lambda` nodes may have been executed when a node runs.  Liveness consumes the result
(`anno.Static.DEFINED_FNS_IN`) to keep the free variables of callable local functions alive.

  Analyzer.visit_node:  defs_in  = (external_defs if node is entry else out[node]) ∪ ⋃ out[p], p ∈ node.prev
                        defs_out = defs_in (+ node.ast_node if it is a FunctionDef / Lambda)

`defs_in` accumulates the node's own previous `out`, so the stored solution is a post-fixed point
of the plain forward equations but in general not their least solution; soundness needs only that.
Facts are function-node ids; nothing is ever killed.
-/
namespace Malt.Analysis

def fnFlow (D : CfgData) : Flow Nat where
  gen n := match D.infoOf n with
    | some i => if i.isFnDef then [n] else []
    | none => []
  kill _ _ := false

/-- checker for the real `reaching_fndefs.Analyzer.in_/out` (+ `external_defs ⊆ in_[entry]`) -/
def isFnDefsPostFix (D : CfgData) (V : List Nat) (ext : List Nat) (IN OUT : St Nat) : Bool :=
  isPostFix D.graph.edges V (fnFlow D) IN OUT && ext.all (fun f => (IN D.entry).contains f)

theorem fndefs_sound (D : CfgData) (V : List Nat) (IN OUT : St Nat)
    (hfix : IsPostFix D.graph.edges V (fnFlow D) IN OUT)
    (x : Nat → Nat) (j k : Nat) (hjk : j < k)
    (hV : ∀ i, j ≤ i → i ≤ k → x i ∈ V)
    (hE : ∀ i, j ≤ i → i < k → (x i, x (i + 1)) ∈ D.graph.edges)
    (hdef : x j ∈ (fnFlow D).gen (x j)) : x j ∈ IN (x k) :=
  (flow_sound D.graph.edges V (fnFlow D) IN OUT hfix x j k hV hE (x j) hdef (fun _ _ _ => Or.inl rfl)).2 k hjk
    (Nat.le_refl _)

end Malt.Analysis
