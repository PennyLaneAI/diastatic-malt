/-
One orientation only: facts flow ALONG the edges of `E`.  `A n` is the state at the join side of
node `n` (union of `B p` over the edges `(p, n) ∈ E`), `B n = gen n ∪ (A n − kill n)` the state after
the transfer function.
  * reaching definitions / reaching fndefs : `E` = CFG edges,          A = in_,  B = out
  * liveness                               : `E` = reversed CFG edges, A = out,  B = in_
Everything is restricted to a set `V` of *visited* nodes (the real `GraphVisitor` only visits what is
reachable from its start set); soundness is stated for chains that stay inside `V` (`chain_in_closed`).

Import-free: compiles into the native drivers.
-/
namespace Malt.Analysis

/-- as the harness serialises the real `cfg.Graph` -/
structure Graph where
  nodes : List Nat
  edges : List (Nat × Nat)
  deriving Repr

namespace Graph
def succ (G : Graph) (n : Nat) : List Nat := (G.edges.filter (fun e => e.1 == n)).map (·.2)
def pred (G : Graph) (n : Nat) : List Nat := (G.edges.filter (fun e => e.2 == n)).map (·.1)
def revEdges (E : List (Nat × Nat)) : List (Nat × Nat) := E.map (fun e => (e.2, e.1))

theorem mem_succ (G : Graph) (n s : Nat) : s ∈ G.succ n ↔ (n, s) ∈ G.edges := by
  simp only [succ, List.mem_map, List.mem_filter, beq_iff_eq]
  constructor
  · rintro ⟨⟨a, b⟩, ⟨h1, h2⟩, h3⟩
    simp only at h2 h3; subst h2; subst h3; exact h1
  · intro h; exact ⟨(n, s), ⟨h, rfl⟩, rfl⟩

theorem mem_pred (G : Graph) (n p : Nat) : p ∈ G.pred n ↔ (p, n) ∈ G.edges := by
  simp only [pred, List.mem_map, List.mem_filter, beq_iff_eq]
  constructor
  · rintro ⟨⟨a, b⟩, ⟨h1, h2⟩, h3⟩
    simp only at h2 h3; subst h2; subst h3; exact h1
  · intro h; exact ⟨(p, n), ⟨h, rfl⟩, rfl⟩

theorem mem_revEdges (E : List (Nat × Nat)) (a b : Nat) : (a, b) ∈ revEdges E ↔ (b, a) ∈ E := by
  simp only [revEdges, List.mem_map, Prod.mk.injEq]
  constructor
  · rintro ⟨⟨x, y⟩, h, h1, h2⟩
    simp only at h1 h2; subst h1; subst h2; exact h
  · intro h; exact ⟨(b, a), h, rfl, rfl⟩
end Graph

structure Flow (α : Type) where
  gen : Nat → List α
  kill : Nat → α → Bool

/-- sets as lists; only membership matters -/
abbrev St (α : Type) := Nat → List α

def SetEq {α} (x y : List α) : Prop := ∀ a, a ∈ x ↔ a ∈ y

section
variable {α : Type}

/-- the two inclusions: all that soundness needs -/
def IsPostFix (E : List (Nat × Nat)) (V : List Nat) (F : Flow α) (A B : St α) : Prop :=
  (∀ p n, (p, n) ∈ E → n ∈ V → ∀ a, a ∈ B p → a ∈ A n) ∧
  (∀ n, n ∈ V → ∀ a, (a ∈ F.gen n ∨ (a ∈ A n ∧ F.kill n a = false)) → a ∈ B n)

def IsFix (E : List (Nat × Nat)) (V : List Nat) (F : Flow α) (A B : St α) : Prop :=
  (∀ n, n ∈ V → ∀ a, a ∈ A n ↔ ∃ p, (p, n) ∈ E ∧ a ∈ B p) ∧
  (∀ n, n ∈ V → ∀ a, a ∈ B n ↔ (a ∈ F.gen n ∨ (a ∈ A n ∧ F.kill n a = false)))

theorem IsFix.toPostFix {E V} {F : Flow α} {A B} (h : IsFix E V F A B) : IsPostFix E V F A B :=
  ⟨fun p n hE hn a ha => ((h.1 n hn a).mpr ⟨p, hE, ha⟩), fun n hn a ha => (h.2 n hn a).mpr ha⟩

/-- The generic soundness theorem: `x j, …, x k` is a chain along `E` inside `V`; `hnk` lets the fact be killed where it is
generated again (a writer revisited). -/
theorem flow_sound (E : List (Nat × Nat)) (V : List Nat) (F : Flow α) (A B : St α)
    (hfix : IsPostFix E V F A B) (x : Nat → Nat) (j k : Nat)
    (hV : ∀ i, j ≤ i → i ≤ k → x i ∈ V)
    (hE : ∀ i, j ≤ i → i < k → (x i, x (i + 1)) ∈ E)
    (a : α) (hgen : a ∈ F.gen (x j))
    (hnk : ∀ m, j < m → m < k → (F.kill (x m) a = false ∨ a ∈ F.gen (x m))) :
    (∀ m, j ≤ m → m < k → a ∈ B (x m)) ∧ (∀ m, j < m → m ≤ k → a ∈ A (x m)) := by
  have hA : ∀ m, j ≤ m → m < k → a ∈ B (x m) → a ∈ A (x (m + 1)) :=
    fun m hjm hmk hb => hfix.1 _ _ (hE m hjm hmk) (hV _ (Nat.le_succ_of_le hjm) hmk) a hb
  have hB : ∀ m, j ≤ m → m < k → a ∈ B (x m) := by
    intro m hjm hmk
    induction m with
    | zero =>
      obtain rfl := Nat.le_zero.mp hjm
      exact hfix.2 _ (hV 0 hjm (Nat.le_of_lt hmk)) a (Or.inl hgen)
    | succ m ih =>
      rcases Nat.le_or_eq_of_le_succ hjm with h | rfl
      · have ha := hA m h (Nat.lt_of_succ_lt hmk) (ih h (Nat.lt_of_succ_lt hmk))
        exact hfix.2 _ (hV _ hjm (Nat.le_of_lt hmk)) a
          ((hnk (m + 1) (Nat.lt_succ_of_le h) hmk).elim (fun hk => Or.inr ⟨ha, hk⟩) Or.inl)
      · exact hfix.2 _ (hV _ hjm (Nat.le_of_lt hmk)) a (Or.inl hgen)
  refine ⟨hB, fun m hjm hmk => ?_⟩
  cases m with
  | zero => exact absurd hjm (Nat.not_lt_zero j)
  | succ m => exact hA m (Nat.le_of_lt_succ hjm) hmk (hB m (Nat.le_of_lt_succ hjm) hmk)

/-- The same against the edges: the chain is along `E`, the equations are those of the reversed graph. -/
theorem flow_sound_rev (E : List (Nat × Nat)) (V : List Nat) (F : Flow α) (A B : St α)
    (hfix : IsPostFix (Graph.revEdges E) V F A B) (x : Nat → Nat) (i j : Nat)
    (hV : ∀ m, i ≤ m → m ≤ j → x m ∈ V)
    (hE : ∀ m, i ≤ m → m < j → (x m, x (m + 1)) ∈ E)
    (a : α) (hgen : a ∈ F.gen (x j))
    (hnk : ∀ m, i < m → m < j → (F.kill (x m) a = false ∨ a ∈ F.gen (x m))) :
    (∀ m, i < m → m ≤ j → a ∈ B (x m)) ∧ (∀ m, i ≤ m → m < j → a ∈ A (x m)) := by
  have hA : ∀ m, i ≤ m → m < j → a ∈ B (x (m + 1)) → a ∈ A (x m) := fun m him hmj hb =>
    hfix.1 _ _ ((Graph.mem_revEdges E _ _).mpr (hE m him hmj)) (hV m him (Nat.le_of_lt hmj)) a hb
  -- induction on the distance `g` from the end of the chain
  have hB : ∀ g m, m + g = j → i < m → a ∈ B (x m) := by
    intro g
    induction g with
    | zero =>
      intro m hm him
      obtain rfl : m = j := hm
      exact hfix.2 _ (hV _ (Nat.le_of_lt him) (Nat.le_refl _)) a (Or.inl hgen)
    | succ g ih =>
      intro m hm him
      have hmj : m < j := by omega
      have ha := hA m (Nat.le_of_lt him) hmj (ih (m + 1) (by omega) (Nat.lt_succ_of_lt him))
      exact hfix.2 _ (hV m (Nat.le_of_lt him) (Nat.le_of_lt hmj)) a
        ((hnk m him hmj).elim (fun hk => Or.inr ⟨ha, hk⟩) Or.inl)
  exact ⟨fun m him hmj => hB (j - m) m (Nat.add_sub_cancel' hmj) him, fun m him hmj =>
    hA m him hmj (hB (j - (m + 1)) (m + 1) (Nat.add_sub_cancel' hmj) (Nat.lt_succ_of_le him))⟩

def closedUnder (E : List (Nat × Nat)) (V : List Nat) : Bool :=
  E.all (fun e => !(V.contains e.1) || V.contains e.2)

theorem closedUnder_spec {E : List (Nat × Nat)} {V : List Nat} (h : closedUnder E V = true) :
    ∀ a b, (a, b) ∈ E → a ∈ V → b ∈ V := by
  intro a b hE ha
  simp only [closedUnder, List.all_eq_true] at h
  have := h (a, b) hE
  simp only [Bool.or_eq_true, Bool.not_eq_true', List.contains_eq_mem, decide_eq_true_eq,
    decide_eq_false_iff_not] at this
  rcases this with h1 | h1
  · exact absurd ha h1
  · exact h1

theorem closedUnder_of {E : List (Nat × Nat)} {V : List Nat} (h : ∀ a b, (a, b) ∈ E → a ∈ V → b ∈ V) :
    closedUnder E V = true :=
  List.all_eq_true.mpr fun e he => by
    by_cases ha : e.1 ∈ V
    · simp [h e.1 e.2 he ha]
    · simp [ha]

theorem chain_in_closed {E : List (Nat × Nat)} {V : List Nat} (hc : closedUnder E V = true)
    (x : Nat → Nat) (j k : Nat) (hstart : x j ∈ V)
    (hE : ∀ i, j ≤ i → i < k → (x i, x (i + 1)) ∈ E) :
    ∀ i, j ≤ i → i ≤ k → x i ∈ V := by
  intro i hji hik
  induction i with
  | zero =>
    obtain rfl := Nat.le_zero.mp hji
    exact hstart
  | succ i ih =>
    rcases Nat.le_or_eq_of_le_succ hji with h | rfl
    · exact closedUnder_spec hc _ _ (hE i h hik) (ih h (Nat.le_of_succ_le hik))
    · exact hstart

theorem chain_in_closed_rev {E : List (Nat × Nat)} {V : List Nat} (hc : closedUnder (Graph.revEdges E) V = true)
    (x : Nat → Nat) (i j : Nat) (hend : x j ∈ V)
    (hE : ∀ m, i ≤ m → m < j → (x m, x (m + 1)) ∈ E) :
    ∀ m, i ≤ m → m ≤ j → x m ∈ V := by
  have h : ∀ g m, m + g = j → i ≤ m → x m ∈ V := by
    intro g
    induction g with
    | zero =>
      intro m hm _
      obtain rfl : m = j := hm
      exact hend
    | succ g ih =>
      intro m hm him
      exact closedUnder_spec hc _ _ ((Graph.mem_revEdges E _ _).mpr (hE m him (by omega)))
        (ih (m + 1) (by omega) (Nat.le_succ_of_le him))
  exact fun m him hmj => h (j - m) m (Nat.add_sub_cancel' hmj) him

end

/-! ### Checkers the drivers run on the implementation's real output -/
section
variable {α : Type} [DecidableEq α]

def isPostFix (E : List (Nat × Nat)) (V : List Nat) (F : Flow α) (A B : St α) : Bool :=
  E.all (fun e => !(V.contains e.2) || (B e.1).all (fun a => (A e.2).contains a)) &&
  V.all (fun n => (F.gen n).all (fun a => (B n).contains a) &&
                  (A n).all (fun a => F.kill n a || (B n).contains a))

/-- the reverse inclusions -/
def isTight (E : List (Nat × Nat)) (V : List Nat) (F : Flow α) (A B : St α) : Bool :=
  V.all (fun n => (A n).all (fun a => E.any (fun e => e.2 == n && (B e.1).contains a)) &&
                  (B n).all (fun a => (F.gen n).contains a || ((A n).contains a && !F.kill n a)))

def isFix (E : List (Nat × Nat)) (V : List Nat) (F : Flow α) (A B : St α) : Bool :=
  isPostFix E V F A B && isTight E V F A B

theorem isPostFix_iff {E V} {F : Flow α} {A B} : isPostFix E V F A B = true ↔ IsPostFix E V F A B := by
  simp only [isPostFix, IsPostFix, Bool.and_eq_true, List.all_eq_true, Bool.or_eq_true, Bool.not_eq_true',
    List.contains_eq_mem, decide_eq_true_eq, decide_eq_false_iff_not, Prod.forall]
  refine and_congr (forall₃_congr fun _ _ _ => Decidable.imp_iff_not_or.symm) (forall₂_congr fun n _ => ?_)
  constructor
  · rintro ⟨hg, hA⟩ a (ha | ⟨ha, hk⟩)
    · exact hg a ha
    · exact (hA a ha).resolve_left (by simp [hk])
  · exact fun h => ⟨fun a ha => h a (Or.inl ha), fun a ha => by
      cases hk : F.kill n a with
      | true => exact Or.inl rfl
      | false => exact Or.inr (h a (Or.inr ⟨ha, hk⟩))⟩

theorem isFix_iff {E V} {F : Flow α} {A B} : isFix E V F A B = true ↔ IsFix E V F A B := by
  simp only [isFix, Bool.and_eq_true, isPostFix_iff, isTight, List.all_eq_true, List.any_eq_true, Bool.or_eq_true,
    List.contains_eq_mem, decide_eq_true_eq, beq_iff_eq, Bool.not_eq_true', Prod.exists]
  constructor
  · rintro ⟨hp, ht⟩
    refine ⟨fun n hn a => ⟨fun ha => ?_, fun ⟨p, hE, hb⟩ => hp.1 p n hE hn a hb⟩, fun n hn a => ⟨fun ha => ?_, hp.2 n hn a⟩⟩
    · obtain ⟨p, n', hE, rfl, hb⟩ := (ht n hn).1 a ha
      exact ⟨p, hE, hb⟩
    · exact ((ht n hn).2 a ha).imp_right id
  · intro h
    refine ⟨h.toPostFix, fun n hn => ⟨fun a ha => ?_, fun a ha => ?_⟩⟩
    · obtain ⟨p, hE, hb⟩ := (h.1 n hn a).mp ha
      exact ⟨p, n, hE, rfl, hb⟩
    · exact (h.2 n hn a).mp ha
end

/-! ### An execution seen as a walk over CFG nodes

`node i` is the CFG node executed at step `i`; `reads i v`: step `i` reads the value `v` had when
the step began; `writes i v`: step `i` binds `v`; `dels i v`: step `i` unbinds `v`.  -/
structure Run where
  node : Nat → Nat
  reads : Nat → Nat → Prop
  writes : Nat → Nat → Prop
  dels : Nat → Nat → Prop

def Run.touches (R : Run) (i v : Nat) : Prop := R.writes i v ∨ R.dels i v

def Run.IsPath (R : Run) (E : List (Nat × Nat)) (len : Nat) : Prop :=
  ∀ i, i < len → (R.node i, R.node (i + 1)) ∈ E

/-- `j` is the step that produced the value of `v` visible when step `k` begins -/
def Run.LastWriter (R : Run) (k v j : Nat) : Prop :=
  j < k ∧ R.writes j v ∧ ∀ m, j < m → m < k → ¬ R.touches m v

/-- the value `v` holds when step `i` finishes is read at step `j` before being overwritten -/
def Run.ReadBeforeOverwrite (R : Run) (i v j : Nat) : Prop :=
  i < j ∧ R.reads j v ∧ ∀ m, i < m → m < j → ¬ R.touches m v

end Malt.Analysis
