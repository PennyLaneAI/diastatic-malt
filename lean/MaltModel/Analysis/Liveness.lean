import MaltModel.Analysis.ReachDef
import MaltModel.Analysis.FnDefs
/-
Liveness (`malt/pyct/static_analysis/liveness.py`), a backward may-analysis:

  Analyzer.visit_node:   live_out = ⋃ in_[s], s ∈ node.next
                         gen  = scope.read            kill = scope.modified ∪ scope.deleted
                         live_in = gen ∪ (live_out − kill)
                                   ∪ ⋃ { fn_scope.read − (fn_scope.bound − fn_scope.nonlocals − fn_scope.globals)
                                       | fn ∈ DEFINED_FNS_IN(node), fn not a lambda }
                         no Scope (pass/break/continue):  live_in = live_out

In the orientation of `Dataflow.lean`: edges reversed, `A = live_out`, `B = live_in`; the closure
term is not subject to `kill`, so it is part of `gen`.
-/
namespace Malt.Analysis

/-- bound for itself: names merely declared nonlocal / global refer to the enclosing variable -/
def FnInfo.ownBound (f : FnInfo) (v : Nat) : Bool :=
  f.bound.contains v && !f.nonlocals.contains v && !f.globals.contains v

/-- lambdas are skipped (`lamba_check`) -/
def fnFreeOf (f : FnInfo) : List Nat :=
  if f.isLambda then [] else f.read.filter (fun v => !f.ownBound v)

/-- the closure term of `visit_node`, from the node's real `DEFINED_FNS_IN` annotation -/
def fnFree (D : CfgData) (n : Nat) : List Nat :=
  (D.fnsIn n).flatMap (fun f => match D.fnOf f with | some fi => fnFreeOf fi | none => [])

def liveKillVars (s : Scope) : List Nat := s.modified ++ s.deleted

def liveFlow (D : CfgData) : Flow Nat where
  gen n := match D.scopeOf n with
    | some s => s.read ++ fnFree D n
    | none => []
  kill n v := match D.scopeOf n with
    | some s => (liveKillVars s).contains v
    | none => false

/-- `hgen`: everything a step reads is generated; `hkill`: everything a node kills is actually overwritten. -/
theorem live_sound (E : List (Nat × Nat)) (V : List Nat) (F : Flow Nat) (IN OUT : St Nat)
    (hfix : IsPostFix (Graph.revEdges E) V F OUT IN) (R : Run) (len : Nat)
    (hV : ∀ i, i ≤ len → R.node i ∈ V) (hpath : R.IsPath E len)
    (hgen : ∀ i v, i ≤ len → R.reads i v → v ∈ F.gen (R.node i))
    (hkill : ∀ i v, i ≤ len → F.kill (R.node i) v = true → R.touches i v)
    (i v j : Nat) (hj : j ≤ len) (h : R.ReadBeforeOverwrite i v j) :
    v ∈ OUT (R.node i) ∧ v ∈ IN (R.node (i + 1)) := by
  obtain ⟨hij, hr, hno⟩ := h
  have hs := flow_sound_rev E V F OUT IN hfix R.node i j
    (fun m _ hm => hV m (Nat.le_trans hm hj))
    (fun m _ hm => hpath m (Nat.lt_of_lt_of_le hm hj))
    v (hgen j v hj hr)
    (fun m him hmj => by
      cases hk : F.kill (R.node m) v with
      | false => exact Or.inl rfl
      | true => exact absurd (hkill m v (Nat.le_trans (Nat.le_of_lt hmj) hj) hk) (hno m him hmj))
  exact ⟨hs.2 i (Nat.le_refl _) hij, hs.1 (i + 1) (Nat.lt_succ_self i) hij⟩

/-- the closure term at node `n` contains `v` on behalf of function `h` -/
def coveredBy (D : CfgData) (n h v : Nat) : Bool :=
  (D.fnsIn n).contains h && match D.fnOf h with
    | some fi => !fi.isLambda && fi.read.contains v && !fi.ownBound v
    | none => false

/-- the lexical chain reader → enclosing function → …, stopping at the analysed function itself -/
def onChain (D : CfgData) (p : Nat → Bool) : Nat → Nat → Bool
  | 0, _ => false
  | fuel + 1, g => if g == D.fnId then false else
      p g || (match D.fnOf g with | some fi => onChain D p fuel fi.parent | none => false)

/-- the read of `v` by the local function `g` is covered by the closure term at `n`, on behalf of `g` or a function enclosing it -/
def closureReadCovered (D : CfgData) (n g v : Nat) : Bool :=
  onChain D (fun h => coveredBy D n h v) (D.fns.length + 1) g

theorem coveredBy_spec (D : CfgData) (n h v : Nat) (hc : coveredBy D n h v = true) : v ∈ fnFree D n := by
  simp only [coveredBy, Bool.and_eq_true, List.contains_eq_mem, decide_eq_true_eq] at hc
  obtain ⟨hg, h2⟩ := hc
  simp only [fnFree, List.mem_flatMap]
  refine ⟨h, hg, ?_⟩
  cases hf : D.fnOf h with
  | none => rw [hf] at h2; cases h2
  | some fi =>
    rw [hf] at h2
    simp only [Bool.and_eq_true, Bool.not_eq_true', decide_eq_true_eq] at h2
    obtain ⟨⟨hl, hr⟩, hb⟩ := h2
    simp [fnFreeOf, hl, List.mem_filter, hr, hb]

theorem onChain_exists (D : CfgData) (p : Nat → Bool) (fuel g : Nat) (h : onChain D p fuel g = true) : ∃ x, p x = true := by
  fun_induction onChain D p fuel g with
  | case1 => cases h
  | case2 => cases h
  | case3 fuel g hg ih =>
    rcases Bool.or_eq_true_iff.mp h with h | h
    · exact ⟨g, h⟩
    · cases hf : D.fnOf g with
      | none => rw [hf] at h; cases h
      | some fi => exact ih fi (by rw [hf] at h; exact h)

theorem closureReadCovered_spec (D : CfgData) (n g v : Nat) (h : closureReadCovered D n g v = true) :
    v ∈ fnFree D n := by
  obtain ⟨x, hx⟩ := onChain_exists D _ _ _ h
  exact coveredBy_spec D n x v hx

/-- class `nonlocal_declared_below_reaching_closure` (together with `closureReadCovered = false`): the reading function, or
a local function enclosing it, declares `v` nonlocal.  In /repo before b182279 `Scope.finalize` passes only `read − bound` of a
function scope up, so a `nonlocal v` declared BELOW the reaching function never shows up in that function's `read` set. -/
def nonlocalInReader (D : CfgData) (g v : Nat) : Bool :=
  onChain D (fun h => match D.fnOf h with | some fi => fi.nonlocals.contains v | none => false) (D.fns.length + 1) g

def nestedInAnalysed (D : CfgData) : Nat → Nat → Bool
  | 0, _ => false
  | fuel + 1, g => g == D.fnId || (match D.fnOf g with | some fi => nestedInAnalysed D fuel fi.parent | none => false)

/-- finding class `outer_function_defined_after_callers_definition`: the reader is a sibling / outer local function not among
the definitions at the analysed function's entry (`reaching_fndefs` seeds a nested graph with the definitions that reach its
`def` statement, not those that reach its calls) -/
def readerOutsideNotSeeded (D : CfgData) (g : Nat) : Bool :=
  !(nestedInAnalysed D (D.fns.length + 1) g) && !((D.fnsIn D.entry).contains g)

/-- finding class `read_by_lambda_called_after_its_statement` -/
def readerIsLambda (D : CfgData) (g : Nat) : Bool :=
  match D.fnOf g with | some fi => fi.isLambda | none => false

/-! ### Statement level: LIVE_VARS_OUT / LIVE_VARS_IN -/

/-- every edge leaving the statement ends at a node of `stmt_next` -/
def stmtNextComplete (E : List (Nat × Nat)) (s : StmtData) : Bool :=
  E.all (fun e => !(s.inside.contains e.1 && !s.inside.contains e.2) || s.next.contains e.2)

theorem stmtNextComplete_spec {E : List (Nat × Nat)} {s : StmtData} (h : stmtNextComplete E s = true) {n q : Nat}
    (hedge : (n, q) ∈ E) (hin : n ∈ s.inside) (hout : q ∉ s.inside) : q ∈ s.next := by
  have := List.all_eq_true.mp h _ hedge
  simpa [hin, hout] using this

/-- `LIVE_VARS_OUT ⊇ ⋃ in_[b]`, `b ∈ stmt_next` -/
def liveOutCovers (IN : St Nat) (s : StmtData) (lo : List Nat) : Bool :=
  s.next.all (fun b => (IN b).all (fun v => lo.contains v))

def liveOutTight (IN : St Nat) (s : StmtData) (lo : List Nat) : Bool :=
  lo.all (fun v => s.next.any (fun b => (IN b).contains v))

/-- The walk leaves statement `s` after step `i`. -/
theorem live_out_stmt_sound (E : List (Nat × Nat)) (V : List Nat) (F : Flow Nat) (IN OUT : St Nat)
    (hfix : IsPostFix (Graph.revEdges E) V F OUT IN) (R : Run) (len : Nat)
    (hV : ∀ i, i ≤ len → R.node i ∈ V) (hpath : R.IsPath E len)
    (hgen : ∀ i v, i ≤ len → R.reads i v → v ∈ F.gen (R.node i))
    (hkill : ∀ i v, i ≤ len → F.kill (R.node i) v = true → R.touches i v)
    (s : StmtData) (lo : List Nat)
    (hnext : stmtNextComplete E s = true) (hcov : liveOutCovers IN s lo = true)
    (i v j : Nat) (hj : j ≤ len)
    (hin : R.node i ∈ s.inside) (hout : R.node (i + 1) ∉ s.inside)
    (h : R.ReadBeforeOverwrite i v j) : v ∈ lo := by
  have hn := stmtNextComplete_spec hnext (hpath i (Nat.lt_of_lt_of_le h.1 hj)) hin hout
  simp only [liveOutCovers, List.all_eq_true, List.contains_eq_mem, decide_eq_true_eq] at hcov
  exact hcov _ hn _ (live_sound E V F IN OUT hfix R len hV hpath hgen hkill i v j hj h).2

/-- `LIVE_VARS_IN(s) =` live_in of the statement's entry node (`_block_statement_live_in`) -/
def liveInOK (IN : St Nat) (s : StmtData) : Bool :=
  match s.entry, s.liveIn with
  | some e, some li => setEqB li (IN e)
  | _, _ => true

theorem liveInOK_mem {IN : St Nat} {s : StmtData} (h : liveInOK IN s = true) (e : Nat) (li : List Nat)
    (he : s.entry = some e) (hl : s.liveIn = some li) (v : Nat) (hv : v ∈ IN e) : v ∈ li := by
  simp only [liveInOK, he, hl] at h
  exact ((setEqB_spec _ _).mp h v).mpr hv

def isReadBeforeOverwriteB (T : Trace) (i j v : Nat) : Bool :=
  decide (i < j) && T.readsB j v && (List.range j).all (fun m => !(decide (i < m)) || !T.touchesB m v)

theorem isReadBeforeOverwriteB_spec (T : Trace) (i j v : Nat) (h : isReadBeforeOverwriteB T i j v = true) :
    T.toRun.ReadBeforeOverwrite i v j := by
  simp only [isReadBeforeOverwriteB, Bool.and_eq_true, decide_eq_true_eq] at h
  obtain ⟨⟨hlt, hr⟩, hno⟩ := h
  exact ⟨hlt, (T.readsB_iff j v).mp hr, untouched_between hno⟩

/-- `hgen` at the reading step: a direct read is in the node's `scope.read` (property C08, here an input), a read by a local function must be covered
by the closure term -/
def liveGenOK (D : CfgData) (T : Trace) (j v : Nat) : Bool := ((liveFlow D).gen (T.nodeAt j)).contains v

/-- hypothesis `hkill` for `v` strictly between `i` and `j` -/
def liveKillOK (D : CfgData) (T : Trace) (i j v : Nat) : Bool :=
  (List.range j).all (fun m => !(decide (i < m)) || !((liveFlow D).kill (T.nodeAt m) v) || T.touchesB m v)

/-- finding class `for_target_live_across_zero_trip` -/
def forTargetKilledUnwrittenL (D : CfgData) (T : Trace) (i j v : Nat) : Bool :=
  (List.range j).any (fun m => decide (i < m) && D.isForIter (T.nodeAt m) && (D.forTargets (T.nodeAt m)).contains v
    && (liveFlow D).kill (T.nodeAt m) v && !T.touchesB m v)

def otherKillUnwrittenL (D : CfgData) (T : Trace) (i j v : Nat) : Bool :=
  (List.range j).any (fun m => decide (i < m) && (liveFlow D).kill (T.nodeAt m) v && !T.touchesB m v
    && !(D.isForIter (T.nodeAt m) && (D.forTargets (T.nodeAt m)).contains v))

/-- `killOK_of_not_classes` without the regeneration disjunct (liveness facts carry no defining node). -/
theorem killOK_of_not_classesL : ∀ (a i c k t : Bool), ¬ (a && i && c && k && !t) = true →
    ¬ (a && k && !t && !(i && c)) = true → (!a || !k || t) = true := by decide +kernel

theorem liveKillOK_of_classes (D : CfgData) (T : Trace) (i j v : Nat)
    (h1 : forTargetKilledUnwrittenL D T i j v = false) (h2 : otherKillUnwrittenL D T i j v = false) :
    liveKillOK D T i j v = true :=
  List.all_eq_true.mpr fun m hm =>
    killOK_of_not_classesL _ _ _ _ _ (List.any_eq_false.mp h1 m hm) (List.any_eq_false.mp h2 m hm)

theorem live_trace_sound (D : CfgData) (V : List Nat) (IN OUT : St Nat) (T : Trace)
    (hfix : isPostFix (Graph.revEdges D.graph.edges) V (liveFlow D) OUT IN = true)
    (hpath : isPathB D.graph.edges V T = true)
    (i j v : Nat) (hj : j < T.length)
    (hgen : liveGenOK D T j v = true)
    (hkill : liveKillOK D T i j v = true)
    (hrbo : isReadBeforeOverwriteB T i j v = true) :
    v ∈ OUT (T.nodeAt i) ∧ v ∈ IN (T.nodeAt (i + 1)) := by
  obtain ⟨hV, hE⟩ := isPathB_spec _ _ _ hpath
  obtain ⟨hij, _, hno⟩ := isReadBeforeOverwriteB_spec T i j v hrbo
  -- `flow_sound_rev`, not `live_sound`: the kill hypothesis is only available for `v` between `i` and `j`
  have hs := flow_sound_rev D.graph.edges V (liveFlow D) OUT IN (isPostFix_iff.mp hfix) T.nodeAt i j
    (fun m _ hm => hV m (Nat.lt_of_le_of_lt hm hj))
    (fun m _ hm => hE m (Nat.lt_of_le_of_lt hm hj))
    v (by simpa [liveGenOK] using hgen)
    (fun m him hmj => by
      have := List.all_eq_true.mp hkill m (List.mem_range.mpr hmj)
      simp only [Bool.or_eq_true, Bool.not_eq_true', decide_eq_false_iff_not] at this
      rcases this with (h | h) | h
      · exact absurd him h
      · exact Or.inl h
      · exact absurd ((T.touchesB_iff m v).mp h) (hno m him hmj))
  exact ⟨hs.2 i (Nat.le_refl _) hij, hs.1 (i + 1) (Nat.lt_succ_self i) hij⟩

/-- models `visit_reverse`; in the result `A = live_out`, `B = live_in` -/
def liveRunModel (D : CfgData) (fuel : Nat) : WL Nat :=
  run (Graph.revEdges D.graph.edges) (liveFlow D) fuel (WL.init D.exits)

/-- always suffices (`run_terminates`) -/
def liveFuel (D : CfgData) : Nat := fuelBound (Graph.revEdges D.graph.edges) D.exits (liveFlow D)

end Malt.Analysis
