import MaltModel.Analysis.CfgData
import MaltModel.Analysis.Worklist
/-
Reaching definitions (`malt/pyct/static_analysis/reaching_definitions.py`).

A definition is identified by (variable, defining CFG node): the real `Analyzer.gen_map` creates one
`Definition` object per (node, symbol), so this is exactly the identity the real code compares by.

  Analyzer.visit_node:   defs_in  = ⋃ out[p], p ∈ node.prev
                         gen      = (bound ∪ globals) − deleted, plus params          (of the node's Scope)
                         kill     = modified ∪ deleted
                         defs_out = gen ∪ (defs_in − kill)          | no Scope: defs_out = defs_in
-/
namespace Malt.Analysis

abbrev Def := Nat × Nat

def rdGenVars (s : Scope) : List Nat :=
  (s.bound ++ s.globals).filter (fun v => !s.deleted.contains v) ++ s.params

def rdKillVars (s : Scope) : List Nat := s.modified ++ s.deleted

def rdFlow (D : CfgData) : Flow Def where
  gen n := match D.scopeOf n with
    | some s => (rdGenVars s).map (fun v => (v, n))
    | none => []
  kill n a := match D.scopeOf n with
    | some s => (rdKillVars s).contains a.1
    | none => false

theorem rdFlow_kill_fst (D : CfgData) (n v d d' : Nat) :
    (rdFlow D).kill n (v, d) = (rdFlow D).kill n (v, d') := by
  simp only [rdFlow]

/-- `hgen`: every actual write is generated; `hkill`: everything killed is actually (over)written. -/
theorem rd_sound (E : List (Nat × Nat)) (V : List Nat) (F : Flow Def) (IN OUT : St Def)
    (hfix : IsPostFix E V F IN OUT) (R : Run) (len : Nat)
    (hV : ∀ i, i ≤ len → R.node i ∈ V) (hpath : R.IsPath E len)
    (hgen : ∀ i v, i ≤ len → R.writes i v → (v, R.node i) ∈ F.gen (R.node i))
    (hkill : ∀ i v d, i ≤ len → F.kill (R.node i) (v, d) = true → R.touches i v)
    (k v j : Nat) (hk : k ≤ len) (hl : R.LastWriter k v j) :
    (v, R.node j) ∈ IN (R.node k) ∧ (v, R.node j) ∈ OUT (R.node (k - 1)) := by
  obtain ⟨hjk, hw, hno⟩ := hl
  have h := flow_sound E V F IN OUT hfix R.node j k
    (fun i _ hik => hV i (Nat.le_trans hik hk))
    (fun i _ hik => hpath i (Nat.lt_of_lt_of_le hik hk))
    (v, R.node j) (hgen j v (Nat.le_trans (Nat.le_of_lt hjk) hk) hw)
    (fun m hjm hmk => by
      cases hkm : F.kill (R.node m) (v, R.node j) with
      | false => exact Or.inl rfl
      | true => exact absurd (hkill m v _ (Nat.le_trans (Nat.le_of_lt hmk) hk) hkm) (hno m hjm hmk))
  exact ⟨h.2 k hjk (Nat.le_refl _), h.1 (k - 1) (Nat.le_sub_one_of_lt hjk) (Nat.sub_one_lt_of_lt hjk)⟩

/-- every edge entering the statement from outside starts at a node of `stmt_prev` -/
def stmtPrevComplete (E : List (Nat × Nat)) (s : StmtData) : Bool :=
  E.all (fun e => !(s.inside.contains e.2 && !s.inside.contains e.1) || s.prev.contains e.1)

/-- `DEFINED_VARS_IN ⊇` the symbols defined at the exit of every statement predecessor -/
def definedInCovers (OUT : St Def) (s : StmtData) (dv : List Nat) : Bool :=
  s.prev.all (fun p => (OUT p).all (fun a => dv.contains a.1))

/-- … and nothing else (the literal `_aggregate_predecessors_defined_in`) -/
def definedInTight (OUT : St Def) (s : StmtData) (dv : List Nat) : Bool :=
  dv.all (fun v => s.prev.any (fun p => (OUT p).any (fun a => a.1 == v)))

theorem stmtPrevComplete_spec {E : List (Nat × Nat)} {s : StmtData} (h : stmtPrevComplete E s = true) {p n : Nat}
    (hedge : (p, n) ∈ E) (hin : n ∈ s.inside) (hout : p ∉ s.inside) : p ∈ s.prev := by
  have := List.all_eq_true.mp h _ hedge
  simpa [hin, hout] using this

theorem definedIn_of_enter {E : List (Nat × Nat)} {OUT : St Def} {s : StmtData} {dv : List Nat}
    (hprev : stmtPrevComplete E s = true) (hcov : definedInCovers OUT s dv = true) {p n : Nat} (hedge : (p, n) ∈ E)
    (hin : n ∈ s.inside) (hout : p ∉ s.inside) {a : Def} (ha : a ∈ OUT p) : a.1 ∈ dv := by
  simp only [definedInCovers, List.all_eq_true, List.contains_eq_mem, decide_eq_true_eq] at hcov
  exact hcov _ (stmtPrevComplete_spec hprev hedge hin hout) _ ha

/-- The walk enters statement `s` at step `k`. -/
theorem defined_in_sound (E : List (Nat × Nat)) (V : List Nat) (F : Flow Def) (IN OUT : St Def)
    (hfix : IsPostFix E V F IN OUT) (R : Run) (len : Nat)
    (hV : ∀ i, i ≤ len → R.node i ∈ V) (hpath : R.IsPath E len)
    (hgen : ∀ i v, i ≤ len → R.writes i v → (v, R.node i) ∈ F.gen (R.node i))
    (hkill : ∀ i v d, i ≤ len → F.kill (R.node i) (v, d) = true → R.touches i v)
    (s : StmtData) (dv : List Nat)
    (hprev : stmtPrevComplete E s = true) (hcov : definedInCovers OUT s dv = true)
    (k v j : Nat) (hk : k ≤ len) (hk0 : 0 < k)
    (hin : R.node k ∈ s.inside) (hout : R.node (k - 1) ∉ s.inside)
    (hbound : R.LastWriter k v j) : v ∈ dv := by
  have hedge := hpath (k - 1) (Nat.lt_of_lt_of_le (Nat.sub_one_lt_of_lt hk0) hk)
  rw [Nat.sub_add_cancel hk0] at hedge
  exact definedIn_of_enter hprev hcov hedge hin hout
    (rd_sound E V F IN OUT hfix R len hV hpath hgen hkill k v j hk hbound).2

/-- the `DEFINITIONS` annotation of one Name / arg node -/
structure NameAnno where
  id : Nat
  var : Nat
  isLoad : Bool
  cfg : Nat
  defs : List Def
  deriving Repr, Inhabited

/-- `DEFINITIONS(name) =` the definitions of its variable in `in_` (loads) / `out` (stores, params) of the CFG node evaluating it -/
def nameDefsOK (IN OUT : St Def) (a : NameAnno) : Bool :=
  let st := if a.isLoad then IN a.cfg else OUT a.cfg
  setEqB a.defs (st.filter (fun d => d.1 == a.var))

/-- The annotation of a Name load was taken from `in_` of the node `n` that EVALUATES the Name; `nameDefsOK` uses the node
whose state `TreeAnnotator` really used.  The two differ for names in the default values / annotations of a nested `def`
(annotated from the nested function's empty entry state): finding class `read_in_default_of_nested_def`. -/
def nameDefsAtEval (IN : St Def) (a : NameAnno) (n : Nat) : Bool :=
  setEqB a.defs ((IN n).filter (fun d => d.1 == a.var))

theorem nameDefsAtEval_mem {IN : St Def} {a : NameAnno} {n : Nat} (h : nameDefsAtEval IN a n = true)
    (d : Nat) (hd : (a.var, d) ∈ IN n) : (a.var, d) ∈ a.defs := by
  simp only [nameDefsAtEval] at h
  have := (setEqB_spec _ _).mp h (a.var, d)
  rw [this]
  simp [List.mem_filter, hd]

theorem nameDefsOK_mem {IN OUT : St Def} {a : NameAnno} (h : nameDefsOK IN OUT a = true) (hl : a.isLoad = true)
    (d : Nat) (hd : (a.var, d) ∈ IN a.cfg) : (a.var, d) ∈ a.defs :=
  nameDefsAtEval_mem (n := a.cfg) (by simpa only [nameDefsOK, nameDefsAtEval, hl, if_true] using h) d hd

/-! ### Concrete traces: the hypotheses of `rd_sound` as Bools (finding classes when false) -/

/-- `j` is the step whose own binding of `v` is visible when step `k` begins -/
def isLastWriterB (T : Trace) (j k v : Nat) : Bool :=
  decide (j < k) && T.writesB j v && (List.range k).all (fun m => !(decide (j < m)) || !T.touchesB m v)

theorem isLastWriterB_spec (T : Trace) (j k v : Nat) (h : isLastWriterB T j k v = true) :
    T.toRun.LastWriter k v j := by
  simp only [isLastWriterB, Bool.and_eq_true, decide_eq_true_eq] at h
  obtain ⟨⟨hlt, hw⟩, hno⟩ := h
  exact ⟨hlt, (T.writesB_iff j v).mp hw, untouched_between hno⟩

/-- finding class `value_written_by_another_activation`: the last touch of `v` before `k` is by a closure / callee -/
def lastTouchIsForeign (T : Trace) (k v : Nat) : Bool :=
  (List.range k).any (fun m => (match T[m]? with | some s => s.fwrites.contains v | none => false) &&
    (List.range k).all (fun m' => !(decide (m < m')) || !T.touchesB m' v))

/-- `hgen` on a trace (actual writes ⊆ bound / params: property C08, here an input the driver checks per trace) -/
def rdGenOK (D : CfgData) (T : Trace) : Bool :=
  T.all (fun s => s.writes.all (fun v => ((rdFlow D).gen s.node).contains (v, s.node)))

/-- `hkill` for `v` strictly between steps `j` and `k`, weakened by "or generates `(v, node j)` again" (the writer itself,
revisited).  FALSE of the pinned tree at a `for` header visited when its iterator is exhausted.  `kill` ignores the defining
node (`rdFlow_kill_fst`), so it is asked about `(v, 0)`. -/
def rdKillOK (D : CfgData) (T : Trace) (j k v : Nat) : Bool :=
  (List.range k).all (fun m => !(decide (j < m)) ||
    !((rdFlow D).kill (T.nodeAt m) (v, 0)) || T.touchesB m v || ((rdFlow D).gen (T.nodeAt m)).contains (v, T.nodeAt j))

/-- finding class `for_target_defined_before_zero_trip` -/
def forTargetKilledUnwritten (D : CfgData) (T : Trace) (j k v : Nat) : Bool :=
  (List.range k).any (fun m => decide (j < m) && D.isForIter (T.nodeAt m) && (D.forTargets (T.nodeAt m)).contains v
    && (rdFlow D).kill (T.nodeAt m) (v, 0) && !T.touchesB m v && !((rdFlow D).gen (T.nodeAt m)).contains (v, T.nodeAt j))

/-- the failures of `rdKillOK` outside that class -/
def otherKillUnwritten (D : CfgData) (T : Trace) (j k v : Nat) : Bool :=
  (List.range k).any (fun m => decide (j < m) && (rdFlow D).kill (T.nodeAt m) (v, 0) && !T.touchesB m v
    && !((rdFlow D).gen (T.nodeAt m)).contains (v, T.nodeAt j)
    && !(D.isForIter (T.nodeAt m) && (D.forTargets (T.nodeAt m)).contains v))

/-- Per step `m`: `a` = after the writer, `i`/`c` = a `for` header whose targets contain `v`, `k` = kills `v`,
`t` = touches `v`, `g` = generates the writer's definition again. -/
theorem killOK_of_not_classes : ∀ (a i c k t g : Bool), ¬ (a && i && c && k && !t && !g) = true →
    ¬ (a && k && !t && !g && !(i && c)) = true → (!a || !k || t || g) = true := by decide +kernel

theorem rdKillOK_of_classes (D : CfgData) (T : Trace) (j k v : Nat)
    (h1 : forTargetKilledUnwritten D T j k v = false) (h2 : otherKillUnwritten D T j k v = false) :
    rdKillOK D T j k v = true :=
  List.all_eq_true.mpr fun m hm =>
    killOK_of_not_classes _ _ _ _ _ _ (List.any_eq_false.mp h1 m hm) (List.any_eq_false.mp h2 m hm)

theorem rd_trace_sound (D : CfgData) (V : List Nat) (IN OUT : St Def) (T : Trace)
    (hfix : isPostFix D.graph.edges V (rdFlow D) IN OUT = true)
    (hpath : isPathB D.graph.edges V T = true)
    (hgen : rdGenOK D T = true)
    (j k v : Nat) (hk : k < T.length)
    (hkill : rdKillOK D T j k v = true)
    (hlast : isLastWriterB T j k v = true) :
    (v, T.nodeAt j) ∈ IN (T.nodeAt k) ∧ (v, T.nodeAt j) ∈ OUT (T.nodeAt (k - 1)) := by
  obtain ⟨hV, hE⟩ := isPathB_spec _ _ _ hpath
  obtain ⟨hjk, ⟨s, hs, hvs⟩, hno⟩ := isLastWriterB_spec T j k v hlast
  have hg : (v, T.nodeAt j) ∈ (rdFlow D).gen (T.nodeAt j) := by
    have hn : T.nodeAt j = s.node := by simp [Trace.nodeAt, hs]
    rw [hn]
    simpa using List.all_eq_true.mp (List.all_eq_true.mp hgen s (List.mem_of_getElem? hs)) v hvs
  -- `flow_sound`, not `rd_sound`: the kill hypothesis is only available for `v` between `j` and `k`
  have h := flow_sound D.graph.edges V (rdFlow D) IN OUT (isPostFix_iff.mp hfix) T.nodeAt j k
    (fun i _ hik => hV i (Nat.lt_of_le_of_lt hik hk))
    (fun i _ hik => hE i (Nat.lt_of_le_of_lt hik hk))
    (v, T.nodeAt j) hg
    (fun m hjm hmk => by
      have := List.all_eq_true.mp hkill m (List.mem_range.mpr hmk)
      simp only [Bool.or_eq_true, Bool.not_eq_true', decide_eq_false_iff_not] at this
      rcases this with ((h | h) | h) | h
      · exact absurd hjm h
      · exact Or.inl ((rdFlow_kill_fst D _ v _ 0).trans h)
      · exact absurd ((T.touchesB_iff m v).mp h) (hno m hjm hmk)
      · exact Or.inr (by simpa using h))
  exact ⟨h.2 k hjk (Nat.le_refl _), h.1 (k - 1) (Nat.le_sub_one_of_lt hjk) (Nat.sub_one_lt_of_lt hjk)⟩

/-- `gm`: the real `gen_map`, which has entries only for nodes with a Scope -/
def genMapOK (D : CfgData) (gm : List (Nat × List Def)) : Bool :=
  D.graph.nodes.all (fun n => match gm.lookup n with
    | some g => setEqB g ((rdFlow D).gen n)
    | none => true)

/-- models `visit_forward` (breadth-first work-list + `visit_node`) -/
def rdRunModel (D : CfgData) (fuel : Nat) : WL Def :=
  run D.graph.edges (rdFlow D) fuel (WL.init [D.entry])

/-- always suffices (`run_terminates`) -/
def rdFuel (D : CfgData) : Nat := fuelBound D.graph.edges [D.entry] (rdFlow D)

end Malt.Analysis
