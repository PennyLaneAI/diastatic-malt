import MaltModel.Analysis.Dataflow
/-
The REAL per-function data the analyses of /repo read, as serialised by harness/dataflow_common.py:
the real `cfg.Graph` (nodes by serial AST id, edges from `Node.next`), per node the `Scope` sets
found under `anno.Static.SCOPE` (or none: the node takes the `can_ignore` branch), whether the node
is a `for` header, the `DEFINED_FNS_IN` annotation, and for every reaching local function its
`ARGS_AND_BODY_SCOPE`.  Variables (`QN`s) and functions are numbered by the harness.
-/
namespace Malt.Analysis

/-- the sets of `activity.Scope` that the dataflow analyses read -/
structure Scope where
  read : List Nat
  modified : List Nat
  deleted : List Nat
  bound : List Nat
  globals : List Nat
  nonlocals : List Nat
  params : List Nat
  annotations : List Nat
  deriving Repr, Inhabited

structure NodeInfo where
  id : Nat
  scope : Option Scope
  isForIter : Bool
  forTargets : List Nat
  isFnDef : Bool
  fnsIn : Option (List Nat)
  deriving Repr, Inhabited

/-- a local function (FunctionDef / Lambda node): `ARGS_AND_BODY_SCOPE`, and the function lexically enclosing it -/
structure FnInfo where
  id : Nat
  parent : Nat
  isLambda : Bool
  read : List Nat
  bound : List Nat
  nonlocals : List Nat
  globals : List Nat
  deriving Repr, Inhabited

structure CfgData where
  fnId : Nat
  graph : Graph
  entry : Nat
  exits : List Nat
  info : List NodeInfo
  fns : List FnInfo
  deriving Repr

namespace CfgData
def infoOf (D : CfgData) (n : Nat) : Option NodeInfo := D.info.find? (fun i => i.id == n)
def scopeOf (D : CfgData) (n : Nat) : Option Scope := (D.infoOf n).bind (·.scope)
def fnOf (D : CfgData) (f : Nat) : Option FnInfo := D.fns.find? (fun i => i.id == f)
def isForIter (D : CfgData) (n : Nat) : Bool := match D.infoOf n with | some i => i.isForIter | none => false
def forTargets (D : CfgData) (n : Nat) : List Nat := match D.infoOf n with | some i => i.forTargets | none => []
def fnsIn (D : CfgData) (n : Nat) : List Nat := match D.infoOf n with | some i => i.fnsIn.getD [] | none => []
end CfgData

/-- what the harness serialises about one compound statement: the real `stmt_prev`, `stmt_next`, the CFG nodes lexically
inside it, and the real annotations -/
structure StmtData where
  id : Nat
  next : List Nat
  prev : List Nat
  inside : List Nat
  entry : Option Nat
  liveOut : Option (List Nat)
  liveIn : Option (List Nat)
  definedIn : Option (List Nat)
  deriving Repr, Inhabited

/-- a solution as serialised: association list node ↦ facts; absent = empty -/
def solAt {α : Type} (s : List (Nat × List α)) : St α := fun n => (s.lookup n).getD []

/-- One visit of a CFG node by one activation of the function.
`reads`   variables whose value at the *beginning* of the visit is read by the node itself;
`writes`  variables the node itself binds; `dels` variables it unbinds;
`fwrites` variables of this function that OTHER activations (callees, closures) bind or unbind during the visit;
`creads`  (g, v): the local function `g` (or one nested in it), running during this visit, reads `v` of this function. -/
structure Step where
  node : Nat
  reads : List Nat
  writes : List Nat
  dels : List Nat
  fwrites : List Nat
  creads : List (Nat × Nat)
  deriving Repr, Inhabited

abbrev Trace := List Step

def Trace.nodeAt (T : Trace) (i : Nat) : Nat := (T[i]?.map (·.node)).getD 0

/-- The abstract run of a trace.  A read by a closure counts as a read; a foreign write counts as a
deletion (it overwrites, and the analysis of *this* function has no definition for it). -/
def Trace.toRun (T : Trace) : Run where
  node := T.nodeAt
  reads i v := ∃ s, T[i]? = some s ∧ (v ∈ s.reads ∨ ∃ g, (g, v) ∈ s.creads)
  writes i v := ∃ s, T[i]? = some s ∧ v ∈ s.writes
  dels i v := ∃ s, T[i]? = some s ∧ (v ∈ s.dels ∨ v ∈ s.fwrites)

def Trace.writesB (T : Trace) (m v : Nat) : Bool := match T[m]? with | some s => s.writes.contains v | none => false
def Trace.touchesB (T : Trace) (m v : Nat) : Bool :=
  match T[m]? with | some s => s.writes.contains v || s.dels.contains v || s.fwrites.contains v | none => false

theorem Trace.writesB_iff (T : Trace) (m v : Nat) : T.writesB m v = true ↔ T.toRun.writes m v := by
  simp only [Trace.writesB, Trace.toRun]
  cases h : T[m]? with
  | none => simp
  | some s => simp

theorem Trace.touchesB_iff (T : Trace) (m v : Nat) : T.touchesB m v = true ↔ T.toRun.touches m v := by
  simp only [Trace.touchesB, Trace.toRun, Run.touches]
  cases h : T[m]? with
  | none => simp
  | some s => simp [or_assoc]

def Trace.readsB (T : Trace) (j v : Nat) : Bool :=
  match T[j]? with | some s => s.reads.contains v || s.creads.any (fun c => c.2 == v) | none => false

theorem Trace.readsB_iff (T : Trace) (j v : Nat) : T.readsB j v = true ↔ T.toRun.reads j v := by
  simp only [Trace.readsB, Trace.toRun]
  cases h : T[j]? with
  | none => simp
  | some s =>
    simp only [Bool.or_eq_true, List.contains_eq_mem, decide_eq_true_eq, List.any_eq_true, beq_iff_eq,
      Option.some.injEq, exists_eq_left']
    constructor
    · rintro (h | ⟨⟨g, v'⟩, hm, he⟩)
      · exact Or.inl h
      · simp only at he; subst he; exact Or.inr ⟨g, hm⟩
    · rintro (h | ⟨g, hm⟩)
      · exact Or.inl h
      · exact Or.inr ⟨(g, v), hm, rfl⟩

theorem untouched_between {T : Trace} {j k v : Nat}
    (h : (List.range k).all (fun m => !(decide (j < m)) || !T.touchesB m v) = true) :
    ∀ m, j < m → m < k → ¬ T.toRun.touches m v := by
  intro m hjm hmk ht
  have := List.all_eq_true.mp h m (List.mem_range.mpr hmk)
  simp [hjm, (T.touchesB_iff m v).mpr ht] at this

def isPathB (E : List (Nat × Nat)) (V : List Nat) : Trace → Bool
  | [] => true
  | [s] => V.contains s.node
  | s :: t :: rest => V.contains s.node && E.contains (s.node, t.node) && isPathB E V (t :: rest)

theorem isPathB_spec (E : List (Nat × Nat)) (V : List Nat) (T : Trace) (h : isPathB E V T = true) :
    (∀ i, i < T.length → T.nodeAt i ∈ V) ∧ (∀ i, i + 1 < T.length → (T.nodeAt i, T.nodeAt (i + 1)) ∈ E) := by
  fun_induction isPathB E V T with
  | case1 => exact ⟨nofun, nofun⟩
  | case2 s =>
    refine ⟨fun i hi => ?_, fun i hi => absurd hi (by simp)⟩
    obtain rfl : i = 0 := Nat.lt_one_iff.mp hi
    exact List.contains_iff_mem.mp h
  | case3 s t rest ih =>
    simp only [Bool.and_eq_true, List.contains_eq_mem, decide_eq_true_eq] at h
    obtain ⟨⟨hV, hE⟩, hrest⟩ := h
    obtain ⟨ih1, ih2⟩ := ih hrest
    -- `nodeAt` of a longer trace at `i + 1` is, by computation, `nodeAt` of its tail at `i`
    exact ⟨fun i hi => by cases i with | zero => exact hV | succ i => exact ih1 i (Nat.lt_of_succ_lt_succ hi),
      fun i hi => by cases i with | zero => exact hE | succ i => exact ih2 i (Nat.lt_of_succ_lt_succ hi)⟩

end Malt.Analysis
