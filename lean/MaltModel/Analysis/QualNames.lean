import MaltModel.Py.Ast
/-
`Analysis.QualNames` — qualified names as `malt/pyct/qual_names.py` computes them.

`QN` mirrors the class `QN`: a simple symbol (`QN('a')`), a literal (`QN(Literal(v))`, only ever used
as a subscript), an attribute QN (`QN(base, attr=…)`) or a subscript QN (`QN(base, subscript=…)`).
`qnOf` mirrors `QnResolver`: it is the annotation `anno.Basic.QN` that `qual_names.resolve` leaves on
a node (`none` = no annotation).  The resolver is purely bottom-up, so the annotation of a node is a
function of the node alone.

Python identifies literals that compare equal (`Literal(1) == Literal(True)`); the model identifies
literals by (type name, repr).  The harness sets functions aside in which two subscript constants are
`==` but spelled differently.
-/
namespace Malt.Analysis
open Malt.Py

inductive QN where
  | sym (s : String)
  | lit (kind repr : String)
  | attr (p : QN) (a : String)
  | sub (p : QN) (s : QN)
  deriving DecidableEq, Repr, Inhabited

namespace QN

/-- `QN.is_simple` (`len(self.qn) <= 1`). -/
def isSimple : QN → Bool
  | .sym _ | .lit .. => true
  | _ => false

def isComposite (q : QN) : Bool := !q.isSimple

/-- `QN.is_symbol` on simple names: the base is a `str`. -/
def isSymbol : QN → Bool
  | .sym _ => true
  | _ => false

def hasAttr : QN → Bool
  | .attr .. => true
  | _ => false

def hasSubscript : QN → Bool
  | .sub .. => true
  | _ => false

/-- `QN.parent` (`none` where Python raises `ValueError`). -/
def parent? : QN → Option QN
  | .attr p _ | .sub p _ => some p
  | _ => none

/-- `QN.owner_set`: all the (simple or composite) names that own this one. -/
def ownerSet : QN → List QN
  | .attr p _ | .sub p _ => p :: p.ownerSet
  | _ => []

/-- `QN.support_set`: the simple symbols the name relies on. -/
def supportSet : QN → List QN
  | .attr p _ => p.supportSet
  | .sub p s => p.supportSet ++ s.supportSet
  | q => [q]

def root : QN → QN
  | .attr p _ | .sub p _ => p.root
  | q => q

/-- Canonical text (the harness prints the implementation's QNs in the same format). -/
def toStr : QN → String
  | .sym s => s
  | .lit k r => "<" ++ k ++ ":" ++ r ++ ">"
  | .attr p a => p.toStr ++ "." ++ a
  | .sub p s => p.toStr ++ "[" ++ s.toStr ++ "]"

def name? : QN → Option String
  | .sym s => some s
  | _ => none

end QN

/-- String constants on which `QN(Literal(v))` trips its own
    `assert '.' not in base and '[' not in base and ']' not in base`
    (for a `Literal` namedtuple, `in` is tuple membership). -/
def literalAssertFails (kind repr : String) : Bool :=
  kind == "str" && (repr == "'.'" || repr == "'['" || repr == "']'")

/-- `QnResolver`: the `anno.Basic.QN` annotation of an expression node, if any. -/
def qnOf : Expr → Option QN
  | .name _ s _ => some (.sym s)
  | .arg _ s _ => some (.sym s)
  | .attr _ v a _ => (qnOf v).map (fun q => .attr q a)
  | .subscript _ v s _ =>
      match s with
      | .seq _ .tuple _ _ => none
      | .other _ "Slice" _ _ => none
      | .const _ k r =>
          if k == "ellipsis" then none
          else (qnOf v).map (fun q => .sub q (.lit k r))
      | _ =>
          match qnOf s with
          | none => none
          | some sq => (qnOf v).map (fun q => .sub q sq)
  | _ => none

abbrev QSet := List QN

def QSet.diff (a b : QSet) : QSet := a.filter (fun q => !b.contains q)

@[simp] theorem QSet.mem_diff {a b : QSet} {q : QN} : q ∈ QSet.diff a b ↔ q ∈ a ∧ q ∉ b := by
  simp [QSet.diff, List.mem_filter]

/-- appends only the new elements, to keep the lists small -/
def QSet.union (a b : QSet) : QSet := a ++ b.filter (fun q => !a.contains q)

@[simp] theorem QSet.mem_union {a b : QSet} {q : QN} : q ∈ QSet.union a b ↔ q ∈ a ∨ q ∈ b := by
  simp only [QSet.union, List.mem_append, List.mem_filter, List.contains_eq_mem, Bool.not_eq_eq_eq_not,
    Bool.not_true, decide_eq_false_iff_not]
  constructor
  · rintro (h | ⟨h, _⟩)
    · exact Or.inl h
    · exact Or.inr h
  · rintro (h | h)
    · exact Or.inl h
    · by_cases hq : q ∈ a
      · exact Or.inl hq
      · exact Or.inr ⟨h, hq⟩

/-- `set.add`. -/
def QSet.ins (q : QN) (a : QSet) : QSet := if a.contains q then a else q :: a

@[simp] theorem QSet.mem_ins {a : QSet} {q x : QN} : x ∈ QSet.ins q a ↔ x = q ∨ x ∈ a := by
  unfold QSet.ins
  split
  · rename_i h
    simp only [List.contains_eq_mem, decide_eq_true_eq] at h
    constructor
    · exact Or.inr
    · rintro (rfl | h')
      · exact h
      · exact h'
  · simp

def QSet.names (a : QSet) : List String := a.filterMap QN.name?

@[simp] theorem QSet.mem_names {a : QSet} {s : String} : s ∈ QSet.names a ↔ QN.sym s ∈ a := by
  simp only [QSet.names, List.mem_filterMap]
  constructor
  · rintro ⟨q, hq, hs⟩
    cases q <;> simp [QN.name?] at hs
    subst hs; exact hq
  · intro h; exact ⟨_, h, rfl⟩

end Malt.Analysis
