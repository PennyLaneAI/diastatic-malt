import MaltModel.Analysis.Dataflow
/-
Model of `cfg.GraphVisitor._visit_internal` (the breadth-first worklist) together with the shape
that all `visit_node` implementations share:

    open_ = [start…]; closed = set()
    while open_:
      node = open_.pop(0); closed.add(node)
      should_revisit = self.visit_node(node)          -- recompute A node, B node; report B changed
      for next_ in children(node):
        if should_revisit or next_ not in closed: open_.append(next_)

oriented as in `Dataflow.lean` (children of `n` are the `c` with `(n, c) ∈ E`; the join at `n` is over
the `p` with `(p, n) ∈ E`; for the reverse walk `E` is the reversed edge list).
-/
namespace Malt.Analysis
section
variable {α : Type} [DecidableEq α]

def joinAt (E : List (Nat × Nat)) (B : St α) (n : Nat) : List α :=
  (E.filter (fun e => e.2 == n)).flatMap (fun e => B e.1)

def transfer (F : Flow α) (n : Nat) (a : List α) : List α :=
  F.gen n ++ a.filter (fun x => !F.kill n x)

def setEqB (x y : List α) : Bool := x.all (fun a => y.contains a) && y.all (fun a => x.contains a)

def upd (f : St α) (n : Nat) (v : List α) : St α := fun m => if m = n then v else f m

omit [DecidableEq α] in
theorem upd_self (f : St α) (n : Nat) (v : List α) : upd f n v n = v := if_pos rfl

omit [DecidableEq α] in
theorem upd_ne (f : St α) {n m : Nat} (v : List α) (h : m ≠ n) : upd f n v m = f m := if_neg h

structure WL (α : Type) where
  open_ : List Nat
  closed : List Nat
  A : St α
  B : St α

def WL.init (start : List Nat) : WL α := ⟨start, [], fun _ => [], fun _ => []⟩

/-- one iteration of the `while open_` loop -/
def step (E : List (Nat × Nat)) (F : Flow α) (s : WL α) : WL α :=
  match s.open_ with
  | [] => s
  | n :: rest =>
    let a := joinAt E s.B n
    let b := transfer F n a
    let changed := !(setEqB (s.B n) b)
    let closed' := n :: s.closed
    let children := (E.filter (fun e => e.1 == n)).map (·.2)
    { open_ := rest ++ children.filter (fun c => changed || !(closed'.contains c)),
      closed := closed', A := upd s.A n a, B := upd s.B n b }

def run (E : List (Nat × Nat)) (F : Flow α) : Nat → WL α → WL α
  | 0, s => s
  | fuel + 1, s => match s.open_ with
    | [] => s
    | _ :: _ => run E F fuel (step E F s)

omit [DecidableEq α] in
theorem mem_joinAt (E : List (Nat × Nat)) (B : St α) (n : Nat) (a : α) :
    a ∈ joinAt E B n ↔ ∃ p, (p, n) ∈ E ∧ a ∈ B p := by
  simp only [joinAt, List.mem_flatMap, List.mem_filter, beq_iff_eq]
  constructor
  · rintro ⟨⟨p, n'⟩, ⟨hE, hn⟩, ha⟩
    simp only at hn ha; subst hn; exact ⟨p, hE, ha⟩
  · rintro ⟨p, hE, ha⟩; exact ⟨(p, n), ⟨hE, rfl⟩, ha⟩

omit [DecidableEq α] in
theorem mem_transfer (F : Flow α) (n : Nat) (x : List α) (a : α) :
    a ∈ transfer F n x ↔ (a ∈ F.gen n ∨ (a ∈ x ∧ F.kill n a = false)) := by
  simp [transfer, List.mem_append, List.mem_filter]

theorem setEqB_spec (x y : List α) : setEqB x y = true ↔ SetEq x y := by
  simp only [setEqB, Bool.and_eq_true, List.all_eq_true, List.contains_eq_mem, decide_eq_true_eq, SetEq]
  constructor
  · rintro ⟨h1, h2⟩ a; exact ⟨h1 a, h2 a⟩
  · intro h; exact ⟨fun a ha => (h a).mp ha, fun a ha => (h a).mpr ha⟩

def NodeOK (E : List (Nat × Nat)) (F : Flow α) (A B : St α) (n : Nat) : Prop :=
  SetEq (A n) (joinAt E B n) ∧ SetEq (B n) (transfer F n (A n))

/-- What quiescence turns into a fixed point: closed nodes that are not waiting satisfy their equations, children of closed
nodes and the start nodes are closed or waiting. -/
structure Inv (E : List (Nat × Nat)) (F : Flow α) (start : List Nat) (s : WL α) : Prop where
  ok : ∀ n, n ∈ s.closed → n ∉ s.open_ → NodeOK E F s.A s.B n
  front : ∀ n c, n ∈ s.closed → (n, c) ∈ E → c ∈ s.closed ∨ c ∈ s.open_
  start : ∀ n, n ∈ start → n ∈ s.closed ∨ n ∈ s.open_

omit [DecidableEq α] in
theorem inv_init (E : List (Nat × Nat)) (F : Flow α) (start : List Nat) :
    Inv E F start (WL.init start : WL α) :=
  ⟨fun n h => by simp [WL.init] at h, fun n c h => by simp [WL.init] at h,
   fun n h => Or.inr (by simpa [WL.init] using h)⟩

omit [DecidableEq α] in
private theorem SetEq.trans' {x y z : List α} (h1 : SetEq x y) (h2 : SetEq y z) : SetEq x z :=
  fun a => (h1 a).trans (h2 a)

def requeued (E : List (Nat × Nat)) (n : Nat) (closed : List Nat) (changed : Bool) : List Nat :=
  ((E.filter (fun e => e.1 == n)).map (·.2)).filter (fun c => changed || !(closed.contains c))

theorem mem_requeued {E : List (Nat × Nat)} {n : Nat} {closed : List Nat} {changed : Bool} {c : Nat} :
    c ∈ requeued E n closed changed ↔ (n, c) ∈ E ∧ (changed = true ∨ c ∉ closed) := by
  unfold requeued
  rw [List.mem_filter, show (E.filter (fun e => e.1 == n)).map (·.2) = Graph.succ ⟨[], E⟩ n from rfl, Graph.mem_succ]
  simp

theorem length_requeued_le (E : List (Nat × Nat)) (n : Nat) (closed : List Nat) (changed : Bool) :
    (requeued E n closed changed).length ≤ E.length :=
  Nat.le_trans (List.length_filter_le _ _) (by rw [List.length_map]; exact List.length_filter_le _ _)

theorem step_cons (E : List (Nat × Nat)) (F : Flow α) {s : WL α} {n : Nat} {rest : List Nat} (hopen : s.open_ = n :: rest) :
    step E F s =
      { open_ := rest ++ requeued E n (n :: s.closed) (!(setEqB (s.B n) (transfer F n (joinAt E s.B n)))),
        closed := n :: s.closed, A := upd s.A n (joinAt E s.B n),
        B := upd s.B n (transfer F n (joinAt E s.B n)) } := by
  unfold step requeued
  rw [hopen]

theorem step_nil (E : List (Nat × Nat)) (F : Flow α) {s : WL α} (hopen : s.open_ = []) : step E F s = s := by
  unfold step
  rw [hopen]

theorem run_invariant {E : List (Nat × Nat)} {F : Flow α} {P : WL α → Prop} (hstep : ∀ s, P s → P (step E F s))
    (fuel : Nat) (s : WL α) (h : P s) : P (run E F fuel s) := by
  induction fuel generalizing s with
  | zero => exact h
  | succ f ih =>
    unfold run
    split
    · exact h
    · exact ih _ (hstep s h)

omit [DecidableEq α] in
private theorem joinAt_congr (E : List (Nat × Nat)) (B B' : St α) (n : Nat)
    (h : ∀ p, (p, n) ∈ E → SetEq (B p) (B' p)) : SetEq (joinAt E B n) (joinAt E B' n) := by
  intro a
  rw [mem_joinAt, mem_joinAt]
  constructor
  · rintro ⟨p, hE, ha⟩; exact ⟨p, hE, (h p hE a).mp ha⟩
  · rintro ⟨p, hE, ha⟩; exact ⟨p, hE, (h p hE a).mpr ha⟩

omit [DecidableEq α] in
theorem joinAt_upd (E : List (Nat × Nat)) (B : St α) {n m : Nat} {b : List α} (h : (n, m) ∈ E → SetEq (B n) b) :
    SetEq (joinAt E (upd B n b) m) (joinAt E B m) := by
  refine joinAt_congr E _ _ m fun p hp a => ?_
  by_cases hpn : p = n
  · subst hpn
    rw [upd_self]
    exact (h hp a).symm
  · rw [upd_ne _ _ hpn]

/-- `ok` survives because a visit that changes `B n` re-queues ALL children of `n`, and one that does not leaves every join
unchanged as a set (`joinAt_upd`). -/
theorem inv_step (E : List (Nat × Nat)) (F : Flow α) (start : List Nat) (s : WL α)
    (h : Inv E F start s) : Inv E F start (step E F s) := by
  cases hopen : s.open_ with
  | nil => rwa [step_nil E F hopen]
  | cons n rest =>
    rw [step_cons E F hopen]
    have hold : ∀ m, m ∈ s.open_ ↔ m = n ∨ m ∈ rest := fun m => by rw [hopen, List.mem_cons]
    constructor <;> dsimp only
    · intro m hm hmo
      rw [List.mem_append, mem_requeued, not_or] at hmo
      -- `m` is closed and not re-queued: if an edge leads from `n` to `m`, `B n` has not changed
      have hjoin := joinAt_upd E s.B (n := n) (m := m) (b := transfer F n (joinAt E s.B n)) fun hE =>
        (setEqB_spec _ _).mp (by simpa [hE, hm] using hmo.2)
      by_cases hmn : m = n
      · subst hmn
        exact ⟨fun a => by rw [upd_self]; exact (hjoin a).symm, fun a => by rw [upd_self, upd_self]⟩
      · obtain ⟨h1, h2⟩ := h.ok m ((List.mem_cons.mp hm).resolve_left hmn) fun ho => ((hold m).mp ho).elim hmn hmo.1
        exact ⟨fun a => by rw [upd_ne _ _ hmn]; exact (h1 a).trans (hjoin a).symm,
          fun a => by rw [upd_ne _ _ hmn, upd_ne _ _ hmn]; exact h2 a⟩
    · intro m c hm hE
      by_cases hcc : c ∈ n :: s.closed
      · exact Or.inl hcc
      · refine Or.inr (List.mem_append.mpr ?_)
        rcases List.mem_cons.mp hm with rfl | hm
        · exact Or.inr (mem_requeued.mpr ⟨hE, Or.inr hcc⟩)
        · rcases h.front m c hm hE with h' | h'
          · exact absurd (List.mem_cons_of_mem _ h') hcc
          · exact Or.inl (((hold c).mp h').resolve_left fun e => hcc (e ▸ List.mem_cons_self))
    · intro m hm
      rcases h.start m hm with h' | h'
      · exact Or.inl (List.mem_cons_of_mem _ h')
      · exact ((hold m).mp h').elim (fun e => Or.inl (e ▸ List.mem_cons_self)) fun hr => Or.inr (List.mem_append_left _ hr)

/-- Quiescence (`open_ = []`, within any fuel) gives a fixed point on the visited set. -/
theorem worklist_fix (E : List (Nat × Nat)) (F : Flow α) (start : List Nat) (fuel : Nat)
    (hq : (run E F fuel (WL.init start)).open_ = []) :
    let s := run E F fuel (WL.init start)
    IsFix E s.closed F s.A s.B ∧ closedUnder E s.closed = true ∧ ∀ n, n ∈ start → n ∈ s.closed := by
  intro s
  have hinv : Inv E F start s := run_invariant (inv_step E F start) fuel _ (inv_init E F start)
  have hq' : s.open_ = [] := hq
  refine ⟨⟨?_, ?_⟩, ?_, ?_⟩
  · intro n hn a
    have := (hinv.ok n hn (by rw [hq']; simp)).1 a
    rw [this, mem_joinAt]
  · intro n hn a
    have := (hinv.ok n hn (by rw [hq']; simp)).2 a
    rw [this, mem_transfer]
  · exact closedUnder_of fun a b hE ha => (hinv.front a b ha hE).resolve_right (by rw [hq']; simp)
  · intro n hn
    rcases hinv.start n hn with h | h
    · exact h
    · rw [hq'] at h; simp at h

/-! A fuel bound for `run` (`run_terminates`), exponential in the number of nodes because the algorithm is; the header of
`Proofs/C06Worklist.lean` says why. -/

/-- every node the work-list can ever hold -/
def nodesOf (E : List (Nat × Nat)) (start : List Nat) : List Nat := start ++ E.map (·.1) ++ E.map (·.2)

/-- every fact the solution can ever hold -/
def factsOf (E : List (Nat × Nat)) (start : List Nat) (F : Flow α) : List α := (nodesOf E start).flatMap F.gen

/-- what one waiting entry can still cause while `u` nodes are unvisited, `D` bounding the number of children -/
def gW (D : Nat) : Nat → Nat
  | 0 => 1
  | u + 1 => gW D u + D * gW D u + 1

def fuelBound (E : List (Nat × Nat)) (start : List Nat) (F : Flow α) : Nat :=
  let Ns := nodesOf E start
  start.length * gW E.length Ns.length +
    (E.length * gW E.length (Ns.length + 1)) * (Ns.length * (factsOf E start F).length)

end

def solEqOn {α : Type} [DecidableEq α] (ns : List Nat) (x y : St α) : Bool := ns.all (fun n => setEqB (x n) (y n))

theorem solEqOn_spec {α : Type} [DecidableEq α] {ns : List Nat} {x y : St α} (h : solEqOn ns x y = true) :
    ∀ n, n ∈ ns → SetEq (x n) (y n) := by
  intro n hn
  simp only [solEqOn, List.all_eq_true] at h
  exact (setEqB_spec _ _).mp (h n hn)

end Malt.Analysis
