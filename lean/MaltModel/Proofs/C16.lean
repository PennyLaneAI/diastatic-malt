import MaltModel.Rt.Ctx

/-!
A wrapper enters its contexts, runs the body in the state and mode `inside` names, and leaves again (`Around`,
`wrap_around`); everything about a call tree then follows by induction over the tree from what a body (`bodyC`) and
a try-block (`runKids`) do to the state, the outcome and the log.  Then: the machine reaches what the big-step run
computes (`Sim`, `runThread_reach`), the log checker looks only below its path and accepts the model's logs
(`runNode_check`), and `scopeWith` for arbitrary step lists.
-/

namespace Malt.Ctx

/-- The entry in effect where `converted_call` of a `convert` wrapper decides (the checker's `effectiveEntry`). -/
def effective (c : Option CtxRef) (s : TState) : Option Entry :=
  match c with
  | none => s.stack.head?
  | some r => r.get s.stack

theorem effectiveEntry_eq (c : Option CtxRef) (s : TState) : effectiveEntry c s.stack.head? = effective c s := by
  cases c with
  | none => rfl
  | some r => cases r <;> rfl

/-- If the body is converted code, the current status is not DISABLED. -/
def Compat (m : Mode) (s : TState) : Prop :=
  m.isConverted = true → ∃ e, s.stack.head? = some e ∧ e.status ≠ .disabled

theorem compat_of_stack_eq {m : Mode} {s s' : TState} (h : Compat m s) (hs : s'.stack = s.stack) : Compat m s' := by
  intro hc; rw [hs]; exact h hc

theorem pushFresh_ok (st : Status) (s : TState) : (pushFresh st s).stack ≠ [] ∧ Compat .native (pushFresh st s) :=
  ⟨by simp [pushFresh, push], nofun⟩

theorem insidePlainCall_state {m m' : Mode} {s s' : TState} (h : insidePlainCall m s = some (s', m')) : s' = s := by
  cases m with
  | native => cases h; rfl
  | refused => cases h; rfl
  | converted rec =>
    simp only [insidePlainCall] at h
    cases hh : s.stack.head? <;> rw [hh] at h <;> cases h
    rfl

theorem insidePlainCall_ok (m : Mode) (s : TState) (h : s.stack ≠ []) :
    ∃ m', insidePlainCall m s = some (s, m') ∧ Compat m' s := by
  cases m with
  | native => exact ⟨_, rfl, nofun⟩
  | refused => exact ⟨_, rfl, nofun⟩
  | converted rec =>
    cases hs : s.stack with
    | nil => exact absurd hs h
    | cons e rest =>
      refine ⟨calleeMode rec e, by simp [insidePlainCall, hs], fun hc => ⟨e, by rw [hs]; rfl, fun hd => ?_⟩⟩
      rw [calleeMode, if_pos hd] at hc
      cases hc

theorem insideScope_cases (ur feat : Bool) (mOk : Mode) (s : TState) :
    (feat = true ∧ insideScope ur feat mOk s = (s, .refused)) ∨
    (feat = false ∧ ur = true ∧ insideScope ur feat mOk s = (pushFresh .enabled s, mOk)) ∨
    (feat = false ∧ ur = false ∧ insideScope ur feat mOk s = (s, mOk)) := by
  cases feat <;> cases ur <;> simp [insideScope]

theorem insideScope_ok {ur feat : Bool} {mOk : Mode} {s : TState} (hs : s.stack ≠ [])
    (h : ur = true ∨ Compat mOk s) :
    (insideScope ur feat mOk s).1.stack ≠ [] ∧ Compat (insideScope ur feat mOk s).2 (insideScope ur feat mOk s).1 := by
  rcases insideScope_cases ur feat mOk s with ⟨_, h1⟩ | ⟨_, _, h1⟩ | ⟨_, hur, h1⟩ <;> rw [h1]
  · exact ⟨hs, nofun⟩
  · exact ⟨by simp [pushFresh, push], fun _ => ⟨_, rfl, nofun⟩⟩
  · exact ⟨hs, h.resolve_left (by rw [hur]; nofun)⟩

theorem insideConvertedCall_of_disabled {ur rec feat : Bool} {s : TState} {e : Entry} (h0 : s.stack.head? = some e)
    (hd : e.status = .disabled) : insideConvertedCall ur rec feat s = some (s, .native) := by
  simp only [insideConvertedCall, h0, if_pos hd]

theorem insideConvertedCall_of_not_disabled {ur rec feat : Bool} {s : TState} {e : Entry} (h0 : s.stack.head? = some e)
    (hd : e.status ≠ .disabled) :
    insideConvertedCall ur rec feat s = some (insideScope ur feat (.converted rec) s) := by
  simp only [insideConvertedCall, h0, if_neg hd]

theorem insideConvertedCall_ok (ur rec feat : Bool) (s : TState) (h : s.stack ≠ []) :
    ∃ s' m', insideConvertedCall ur rec feat s = some (s', m') ∧ s'.stack ≠ [] ∧ Compat m' s' := by
  cases hs : s.stack with
  | nil => exact absurd hs h
  | cons e rest =>
    have h0 : s.stack.head? = some e := by rw [hs]; rfl
    by_cases hd : e.status = .disabled
    · exact ⟨s, _, insideConvertedCall_of_disabled h0 hd, h, nofun⟩
    · exact ⟨_, _, insideConvertedCall_of_not_disabled h0 hd, insideScope_ok h (.inr fun _ => ⟨e, h0, hd⟩)⟩

theorem CtxRef.get_some_of_ne_nil (r : CtxRef) (s : TState) (h : s.stack ≠ []) : ∃ e, r.get s.stack = some e := by
  cases r with
  | obj e => exact ⟨e, rfl⟩
  | current =>
    cases hs : s.stack with
    | nil => exact absurd hs h
    | cons e rest => exact ⟨e, rfl⟩

theorem insideConvert_some (ur rec feat : Bool) {r : CtxRef} {s : TState} {e : Entry} (hr : r.get s.stack = some e) :
    insideConvert ur rec feat (some r) s = insideConvertedCall ur rec feat (push e s) := by
  simp [insideConvert, hr]

theorem insideConvert_ok (ur rec feat : Bool) (c : Option CtxRef) (s : TState) (h : s.stack ≠ []) :
    ∃ s' m', insideConvert ur rec feat c s = some (s', m') ∧ s'.stack ≠ [] ∧ Compat m' s' := by
  cases c with
  | none => exact insideConvertedCall_ok ur rec feat s h
  | some r =>
    obtain ⟨e, hr⟩ := CtxRef.get_some_of_ne_nil r s h
    rw [insideConvert_some ur rec feat hr]
    exact insideConvertedCall_ok ur rec feat (push e s) (by simp [push])

theorem insideConvert_eq (ur rec feat : Bool) (c : Option CtxRef) (s : TState) (e : Entry) (he : effective c s = some e) :
    ∃ s0, s0.stack.head? = some e ∧ s0.next = s.next ∧
      insideConvert ur rec feat c s = insideConvertedCall ur rec feat s0 := by
  cases c with
  | none => exact ⟨s, he, rfl, rfl⟩
  | some r =>
    simp only [effective] at he
    exact ⟨push e s, rfl, rfl, insideConvert_some ur rec feat he⟩

theorem resolveInternal_cases (e : Entry) (cbd ur : Bool) :
    resolveInternal e cbd ur = .convert ur true false (some (.obj e)) ∨ resolveInternal e cbd ur = .doNotConvert ∨
    resolveInternal e cbd ur = .unspecified := by
  unfold resolveInternal
  cases e.status <;> cases cbd <;> simp

theorem inside_internal (r : CtxRef) (cbd ur : Bool) (m : Mode) (s : TState) (e : Entry) (hr : r.get s.stack = some e) :
    inside (.internalConvert r cbd ur) m s = inside (resolveInternal e cbd ur) m s := by
  cases hs : e.status <;> cases cbd <;> simp [inside, resolveInternal, hr, hs]

theorem inside_ok (k : Kind) (m : Mode) (s : TState) (h : s.stack ≠ []) :
    ∃ s' m', inside k m s = some (s', m') ∧ s'.stack ≠ [] ∧ Compat m' s' := by
  cases k with
  | plain =>
    obtain ⟨m', hm, hc⟩ := insidePlainCall_ok m s h
    exact ⟨s, m', hm, h, hc⟩
  | doNotConvert => exact ⟨_, _, rfl, pushFresh_ok _ s⟩
  | unspecified => exact ⟨_, _, rfl, pushFresh_ok _ s⟩
  | withCtx st src =>
    cases src
    · exact ⟨_, _, rfl, pushFresh_ok st s⟩
    · obtain ⟨m', hm, -⟩ := insidePlainCall_ok m s h
      obtain ⟨m'', hm', hc⟩ := insidePlainCall_ok m' (pushFresh st s) (pushFresh_ok st s).1
      exact ⟨pushFresh st s, m'', by simp [inside, hm, hm'], (pushFresh_ok st s).1, hc⟩
  | functionScope ur feat => exact ⟨_, _, rfl, insideScope_ok h (.inr nofun)⟩
  | toGraph rec lam feat => exact ⟨_, _, rfl, insideScope_ok h (.inl rfl)⟩
  | convert ur rec feat c => exact insideConvert_ok ur rec feat c s h
  | internalConvert r cbd ur =>
    obtain ⟨e, hr⟩ := CtxRef.get_some_of_ne_nil r s h
    rw [inside_internal r cbd ur m s e hr]
    rcases resolveInternal_cases e cbd ur with h' | h' | h' <;> rw [h']
    · exact insideConvert_ok ur true false (some (.obj e)) s h
    · exact ⟨_, _, rfl, pushFresh_ok _ s⟩
    · exact ⟨_, _, rfl, pushFresh_ok _ s⟩

theorem insideScope_user_enabled (feat : Bool) (mOk : Mode) (s0 s' : TState) (m' : Mode)
    (h : (s', m') = insideScope true feat mOk s0) (hm : m' ≠ .refused) :
    s'.stack.head? = some ⟨.fresh s0.next, .enabled⟩ := by
  rcases insideScope_cases true feat mOk s0 with ⟨_, h1⟩ | ⟨_, _, h1⟩ | ⟨_, h2, _⟩
  · rw [h1] at h; cases h; exact absurd rfl hm
  · rw [h1] at h; cases h; rfl
  · cases h2

theorem required_ok (k : Kind) (m : Mode) (s s' : TState) (m' : Mode) (hi : inside k m s = some (s', m'))
    (hm' : m' ≠ .refused) (st : Status)
    (hr : requiredStatus k s.stack.head? = some st) : s'.stack.head?.map (·.status) = some st := by
  cases k with
  | plain => simp [requiredStatus] at hr
  | unspecified => simp [requiredStatus] at hr
  | withCtx x src => simp [requiredStatus] at hr
  | internalConvert r cbd ur => simp [requiredStatus] at hr
  | doNotConvert =>
    simp only [requiredStatus, Option.some.injEq] at hr
    cases hi; subst hr; rfl
  | functionScope ur feat =>
    cases ur
    · simp [requiredStatus] at hr
    · simp only [requiredStatus, Option.some.injEq] at hr
      simp only [inside, Option.some.injEq] at hi
      rw [insideScope_user_enabled feat _ s s' m' hi.symm hm']; subst hr; rfl
  | toGraph rec lam feat =>
    simp only [requiredStatus, Option.some.injEq] at hr
    simp only [inside, Option.some.injEq] at hi
    rw [insideScope_user_enabled feat _ s s' m' hi.symm hm']; subst hr; rfl
  | convert ur rec feat c =>
    cases ur
    · simp [requiredStatus] at hr
    · simp only [requiredStatus, effectiveEntry_eq] at hr
      cases he : effective c s with
      | none => simp [he] at hr
      | some e =>
        simp only [he] at hr
        split at hr
        · simp at hr
        · rename_i hd
          cases hr
          obtain ⟨s0, h0, _, heq⟩ := insideConvert_eq true rec feat c s e he
          have hi' : insideConvertedCall true rec feat s0 = some (s', m') := by
            rw [← heq]; simpa [inside] using hi
          rw [insideConvertedCall_of_not_disabled h0 hd] at hi'
          have := (Option.some.inj hi').symm
          rw [insideScope_user_enabled feat _ s0 s' m' this hm']; rfl

def Bal (b : Comp) : Prop := ∀ s, (b s).st.stack = s.stack

def MBal (b : MComp) : Prop := ∀ m, Bal (b m)

/-- `w` behaves at `s` like: enter contexts reaching state `ins.1`, run `b` in mode `ins.2`, leave them again. -/
def Around (w : Comp) (b : MComp) (ins : Option (TState × Mode)) (s : TState) : Prop :=
  match ins with
  | none => w s = ⟨s, some .index, []⟩
  | some (s', m') => w s = ⟨⟨s.stack, (b m' s').st.next⟩, (b m' s').out, (b m' s').log⟩

theorem exitCtx_top (e : Entry) (o : Option Exn) (s : TState) (rest : Stack)
    (h : s.stack = e :: rest) : exitCtx e.id o s = ({ s with stack := rest }, o) := by
  simp [exitCtx, h]

theorem withEntry_eq (e : Entry) (b : Comp) (hb : Bal b) (s : TState) :
    withEntry e b s = ⟨⟨s.stack, (b (push e s)).st.next⟩, (b (push e s)).out, (b (push e s)).log⟩ := by
  have h := hb (push e s)
  simp only [withEntry]
  rw [exitCtx_top e _ _ s.stack (by simpa [push] using h)]

theorem withFresh_eq (st : Status) (b : Comp) (hb : Bal b) (s : TState) :
    withFresh st b s = ⟨⟨s.stack, (b (pushFresh st s)).st.next⟩, (b (pushFresh st s)).out, (b (pushFresh st s)).log⟩ := by
  simp only [withFresh, pushFresh]
  rw [withEntry_eq _ b hb]

theorem bal_eq (b : Comp) (hb : Bal b) (s : TState) :
    b s = ⟨⟨s.stack, (b s).st.next⟩, (b s).out, (b s).log⟩ := by
  have := hb s
  rcases h : b s with ⟨⟨stk, n⟩, o, l⟩
  simp [h] at this
  simp [this]

theorem around_none {w : Comp} {b : MComp} {s : TState} (h : w s = ⟨s, some .index, []⟩) : Around w b none s := h

theorem around_some {w : Comp} {b : MComp} {s s' : TState} {m' : Mode}
    (h : w s = ⟨⟨s.stack, (b m' s').st.next⟩, (b m' s').out, (b m' s').log⟩) : Around w b (some (s', m')) s := h

theorem Around.congr {w w' : Comp} {b : MComp} {ins : Option (TState × Mode)} {s : TState} (h : w s = w' s)
    (ha : Around w' b ins s) : Around w b ins s := by
  unfold Around at ha ⊢
  rw [h]; exact ha

theorem Around.eq_of_some {w : Comp} {b : MComp} {ins : Option (TState × Mode)} {s s' : TState} {m' : Mode}
    (h : Around w b ins s) (hi : ins = some (s', m')) :
    w s = ⟨⟨s.stack, (b m' s').st.next⟩, (b m' s').out, (b m' s').log⟩ := by
  subst hi; exact h

theorem Around.bal {w : Comp} {b : MComp} {ins : Option (TState × Mode)} {s : TState} (h : Around w b ins s) :
    (w s).st.stack = s.stack := by
  unfold Around at h
  split at h <;> simp [h]

theorem Around.log {w : Comp} {b : MComp} {ins : Option (TState × Mode)} {s : TState} (h : Around w b ins s) :
    ∀ o ∈ (w s).log, ∃ s' m', ins = some (s', m') ∧ o ∈ (b m' s').log := by
  unfold Around at h
  split at h
  · simp [h]
  · rename_i s' m'; intro o ho; rw [h] at ho; exact ⟨s', m', rfl, ho⟩

theorem Around.withEntry {w : Comp} {b : MComp} {x : TState × Mode} {s : TState} {e : Entry} (hw : Bal w)
    (h : Around w b (some x) (push e s)) : Around (withEntry e w) b (some x) s :=
  around_some (by rw [withEntry_eq e w hw, h.eq_of_some rfl])

theorem Around.withFresh {w : Comp} {b : MComp} {x : TState × Mode} {s : TState} {st : Status} (hw : Bal w)
    (h : Around w b (some x) (pushFresh st s)) : Around (withFresh st w) b (some x) s :=
  around_some (by rw [withFresh_eq st w hw, h.eq_of_some rfl])

/-- In the pseudo-mode `refused` a body does nothing but raise the scope's refusal. -/
def Refuses (b : MComp) : Prop := ∀ s, b .refused s = ⟨s, some .rejected, []⟩

/-- Depends on the extracted steps being: checks in `__init__`, `__enter__` = the conditional push. -/
theorem fsWith_eq (ur feat : Bool) (body : Comp) (s : TState) :
    fsWith ur feat body s = if feat then ⟨s, some .rejected, []⟩ else functionScope ur body s := by
  cases feat <;> cases ur <;>
    simp [fsWith, scopeWith, Gen.fsInitSteps, Gen.fsEnterSteps, runEnter, functionScope, withFresh, withEntry, push]

theorem fsWith_around (ur feat : Bool) (mOk : Mode) (b : MComp) (hb : MBal b) (hr : Refuses b) (s : TState) :
    Around (fsWith ur feat (b mOk)) b (some (insideScope ur feat mOk s)) s := by
  unfold Around
  rw [fsWith_eq]
  cases feat
  · cases ur
    · simpa [insideScope, functionScope] using bal_eq _ (hb mOk) s
    · simpa [insideScope, functionScope] using withFresh_eq _ _ (hb mOk) s
  · simp [insideScope, hr s]

theorem plainCall_eq (m : Mode) (b : MComp) (s : TState) :
    plainCall m b s = match insidePlainCall m s with
      | none => ⟨s, some .index, []⟩
      | some (_, m') => b m' s := by
  cases m with
  | native => rfl
  | refused => rfl
  | converted rec => simp only [plainCall, insidePlainCall]; cases s.stack.head? <;> rfl

theorem plainCall_around (m : Mode) (b : MComp) (hb : MBal b) (s : TState) :
    Around (plainCall m b) b (insidePlainCall m s) s := by
  cases hi : insidePlainCall m s with
  | none => exact around_none (by rw [plainCall_eq, hi])
  | some x =>
    obtain ⟨s', m'⟩ := x
    cases insidePlainCall_state hi
    exact around_some (by rw [plainCall_eq, hi]; exact bal_eq _ (hb m') s)

theorem plainCall_bal (m : Mode) (b : MComp) (hb : MBal b) : Bal (plainCall m b) :=
  fun s => Around.bal (plainCall_around m b hb s)

theorem convertedCall_around (ur rec feat : Bool) (b : MComp) (hb : MBal b) (hrf : Refuses b) (s : TState) :
    Around (convertedCall ur rec feat b) b (insideConvertedCall ur rec feat s) s := by
  cases hh : s.stack.head? with
  | none => simp only [insideConvertedCall, hh]; exact around_none (by simp only [convertedCall, hh])
  | some e =>
    by_cases hd : e.status = .disabled
    · simp only [insideConvertedCall, hh, if_pos hd]
      exact around_some (by simp only [convertedCall, hh, if_pos hd]; exact bal_eq _ (hb _) s)
    · simp only [insideConvertedCall, hh, if_neg hd]
      exact Around.congr (by simp only [convertedCall, hh, if_neg hd])
        (fsWith_around ur feat (.converted rec) b hb hrf s)

theorem convertedCall_bal (ur rec feat : Bool) (b : MComp) (hb : MBal b) (hrf : Refuses b) : Bal (convertedCall ur rec feat b) :=
  fun s => Around.bal (convertedCall_around ur rec feat b hb hrf s)

theorem convertW_around (ur rec feat : Bool) (c : Option CtxRef) (b : MComp) (hb : MBal b) (hrf : Refuses b) (s : TState) :
    Around (convertW ur rec feat c b) b (insideConvert ur rec feat c s) s := by
  cases c with
  | none => exact convertedCall_around ur rec feat b hb hrf s
  | some r =>
    cases hr : r.get s.stack with
    | none => simp only [insideConvert, hr]; exact around_none (by simp only [convertW, hr])
    | some e =>
      obtain ⟨s', m', hx, -⟩ := insideConvertedCall_ok ur rec feat (push e s) (by simp [push])
      rw [insideConvert_some ur rec feat hr, hx]
      exact Around.congr (w' := withEntry e (convertedCall ur rec feat b)) (by simp [convertW, hr])
        (.withEntry (convertedCall_bal ur rec feat b hb hrf) (hx ▸ convertedCall_around ur rec feat b hb hrf (push e s)))

theorem wrap_internal (r : CtxRef) (cbd ur : Bool) (m : Mode) (b : MComp) (s : TState) (e : Entry) (hr : r.get s.stack = some e) :
    wrap (.internalConvert r cbd ur) m b s = wrap (resolveInternal e cbd ur) m b s := by
  cases hs : e.status <;> cases cbd <;> simp [wrap, resolveInternal, hr, hs]

theorem withFresh_plainCall_around (st : Status) (m : Mode) (b : MComp) (hb : MBal b) (s : TState) :
    Around (withFresh st (plainCall m b)) b (insidePlainCall m (pushFresh st s)) s := by
  obtain ⟨m', hm', -⟩ := insidePlainCall_ok m (pushFresh st s) (pushFresh_ok st s).1
  rw [hm']
  exact .withFresh (plainCall_bal m b hb) (hm' ▸ plainCall_around m b hb (pushFresh st s))

theorem wrap_around (k : Kind) (m : Mode) (b : MComp) (hb : MBal b) (hrf : Refuses b) (s : TState) :
    Around (wrap k m b) b (inside k m s) s := by
  cases k with
  | plain => exact plainCall_around m b hb s
  | doNotConvert => exact around_some (withFresh_eq _ _ (hb _) s)
  | unspecified => exact around_some (withFresh_eq _ _ (hb _) s)
  | withCtx st src =>
    cases src
    · exact around_some (withFresh_eq _ _ (hb _) s)
    · -- the block is a plain user function called in mode `m`
      have hw : wrap (.withCtx st true) m b s = plainCall m (fun m' => withFresh st (plainCall m' b)) s := rfl
      rw [plainCall_eq] at hw
      cases hm : insidePlainCall m s with
      | none =>
        rw [hm] at hw
        rw [show inside (.withCtx st true) m s = none by simp only [inside, hm]]
        exact around_none hw
      | some x =>
        rw [hm] at hw
        rw [show inside (.withCtx st true) m s = insidePlainCall x.2 (pushFresh st s) by simp only [inside, hm]]
        exact Around.congr hw (withFresh_plainCall_around st x.2 b hb s)
  | functionScope ur feat => exact fsWith_around ur feat .native b hb hrf s
  | toGraph rec lam feat => exact fsWith_around true feat _ b hb hrf s
  | convert ur rec feat c => exact convertW_around ur rec feat c b hb hrf s
  | internalConvert r cbd ur =>
    cases hr : r.get s.stack with
    | none =>
      have hi : inside (.internalConvert r cbd ur) m s = none := by simp [inside, hr]
      rw [hi]; exact around_none (by simp [wrap, hr])
    | some e =>
      rw [inside_internal r cbd ur m s e hr]
      refine Around.congr (wrap_internal r cbd ur m b s e hr) ?_
      rcases resolveInternal_cases e cbd ur with h | h | h <;> rw [h]
      · exact convertW_around ur true false (some (.obj e)) b hb hrf s
      · exact around_some (withFresh_eq _ _ (hb _) s)
      · exact around_some (withFresh_eq _ _ (hb _) s)

theorem wrap_bal (k : Kind) (m : Mode) (b : MComp) (hb : MBal b) (hrf : Refuses b) : Bal (wrap k m b) :=
  fun s => Around.bal (wrap_around k m b hb hrf s)

theorem bodyC_refused (p : Path) (ca : Bool) (b : Comp) (s : TState) : bodyC p ca .refused b s = ⟨s, some .rejected, []⟩ := by
  simp [bodyC]

theorem bodyC_of_ne (p : Path) (ca : Bool) (m : Mode) (b : Comp) (s : TState) (hm : m ≠ .refused) :
    bodyC p ca m b s = bodyCore p ca m b s := by
  simp [bodyC, hm]

theorem bodyCore_st_out (p : Path) (ca : Bool) (m : Mode) (b : Comp) (s : TState) :
    (bodyCore p ca m b s).st = (b s).st ∧
    ((bodyCore p ca m b s).out = none ∨ (bodyCore p ca m b s).out = (b s).out) := by
  simp only [bodyCore]
  split
  · exact ⟨rfl, .inl rfl⟩
  · rename_i h; split
    · exact ⟨rfl, .inl rfl⟩
    · exact ⟨rfl, .inr h.symm⟩
  · rename_i h; split
    · exact ⟨rfl, .inl rfl⟩
    · exact ⟨rfl, .inr h.symm⟩
  · rename_i h; exact ⟨rfl, .inr h.symm⟩

theorem bodyC_bal (p : Path) (ca : Bool) (m : Mode) (b : Comp) (hb : Bal b) : Bal (bodyC p ca m b) := by
  intro s
  by_cases hm : m = .refused
  · subst hm; rw [bodyC_refused]
  · rw [bodyC_of_ne _ _ _ _ _ hm]
    exact (congrArg TState.stack (bodyCore_st_out p ca m b s).1).trans (hb s)

abbrev bodyOf (cs : List Tree) (ra : Option Nat) (ca : Bool) (p : Path) : MComp :=
  fun m => bodyC p ca m (runKids cs p 0 ra m)

theorem bodyOf_refuses (cs : List Tree) (ra : Option Nat) (ca : Bool) (p : Path) : Refuses (bodyOf cs ra ca p) :=
  fun s => bodyC_refused p ca _ s

mutual
theorem runNode_bal : ∀ (t : Tree) (p : Path) (m : Mode), Bal (runNode t p m)
  | .node k cs ra ca, p, m => by
    simp only [runNode]
    exact wrap_bal k m _ (fun m' => bodyC_bal p ca m' _ (runKids_bal cs p 0 ra m')) (bodyOf_refuses cs ra ca p)
theorem runKids_bal : ∀ (cs : List Tree) (p : Path) (i : Nat) (ra : Option Nat) (m : Mode), Bal (runKids cs p i ra m)
  | [], p, i, ra, m => by
    intro s; simp only [runKids]; split <;> rfl
  | c :: cs, p, i, ra, m => by
    intro s
    simp only [runKids]
    split
    · rfl
    · have h1 := runNode_bal c (i :: p) m s
      split
      · have h2 := runKids_bal cs p (i + 1) ra m (runNode c (i :: p) m s).st
        simp only [h2, h1]
      · exact h1
end

theorem bodyOf_bal (cs : List Tree) (ra : Option Nat) (ca : Bool) (p : Path) : MBal (bodyOf cs ra ca p) :=
  fun m => bodyC_bal p ca m _ (runKids_bal cs p 0 ra m)

theorem runNode_around (k : Kind) (cs : List Tree) (ra : Option Nat) (ca : Bool) (p : Path) (m : Mode) (s : TState) :
    Around (runNode (.node k cs ra ca) p m) (bodyOf cs ra ca p) (inside k m s) s := by
  have := wrap_around k m (bodyOf cs ra ca p) (bodyOf_bal cs ra ca p) (bodyOf_refuses cs ra ca p) s
  simpa [runNode, bodyOf] using this

theorem runNode_eq (k : Kind) (cs : List Tree) (ra : Option Nat) (ca : Bool) (p : Path) (m : Mode) {s s' : TState}
    {m' : Mode} (hi : inside k m s = some (s', m')) :
    runNode (.node k cs ra ca) p m s =
      ⟨⟨s.stack, (bodyOf cs ra ca p m' s').st.next⟩, (bodyOf cs ra ca p m' s').out, (bodyOf cs ra ca p m' s').log⟩ :=
  (runNode_around k cs ra ca p m s).eq_of_some hi

theorem bodyC_log_shape (p : Path) (ca : Bool) (m : Mode) (b : Comp) (s : TState) (hm : m ≠ .refused) :
    ∃ pts : List Point,
      (bodyC p ca m b s).log = obsAt p .inn m s :: ((b s).log ++ pts.map fun pt => obsAt p pt m (b s).st) := by
  rw [bodyC_of_ne _ _ _ _ _ hm]
  simp only [bodyCore]
  split
  · exact ⟨[.out], rfl⟩
  · split
    · exact ⟨[.caught, .out], rfl⟩
    · exact ⟨[], by simp⟩
  · split
    · exact ⟨[.caught, .out], rfl⟩
    · exact ⟨[], by simp⟩
  · exact ⟨[], by simp⟩

theorem mem_bodyC_log {p : Path} {ca : Bool} {m : Mode} {b : Comp} {s : TState} {o : Obs}
    (h : o ∈ (bodyC p ca m b s).log) :
    o = obsAt p .inn m s ∨ o ∈ (b s).log ∨ ∃ pt, o = obsAt p pt m (b s).st := by
  by_cases hm : m = .refused
  · subst hm; rw [bodyC_refused] at h; cases h
  · obtain ⟨pts, hshape⟩ := bodyC_log_shape p ca m b s hm
    rw [hshape, List.mem_cons, List.mem_append, List.mem_map] at h
    exact h.imp_right (Or.imp_right fun ⟨pt, _, e⟩ => ⟨pt, e.symm⟩)

theorem mem_runKids_cons_log {c : Tree} {cs : List Tree} {p : Path} {i : Nat} {ra : Option Nat} {m : Mode}
    {s : TState} {o : Obs} (h : o ∈ (runKids (c :: cs) p i ra m s).log) :
    o = obsAt p (.pre i) m s ∨ o ∈ (runNode c (i :: p) m s).log ∨
    o = obsAt p (.post i) m (runNode c (i :: p) m s).st ∨
    o ∈ (runKids cs p (i + 1) ra m (runNode c (i :: p) m s).st).log := by
  simp only [runKids] at h
  split at h
  · cases h
  · split at h
    · simpa only [List.mem_cons, List.mem_append] using h
    · rw [List.mem_cons] at h
      exact h.imp_right Or.inl

theorem runKids_nil_log (p : Path) (i : Nat) (ra : Option Nat) (m : Mode) (s : TState) :
    (runKids [] p i ra m s).log = [] := by
  simp only [runKids]; split <;> rfl

theorem not_owner_of_child {i : Nat} {p q : Path} (h : (i :: p) <:+ q) : q ≠ p := by
  intro e
  subst e
  have := h.length_le
  simp at this
  omega

mutual
theorem runNode_owned : ∀ (t : Tree) (p : Path) (m : Mode) (s : TState), ∀ o ∈ (runNode t p m s).log, p <:+ o.owner
  | .node k cs ra ca, p, m, s => by
    intro o ho
    obtain ⟨s', m', _, ho'⟩ := Around.log (runNode_around k cs ra ca p m s) o ho
    rcases mem_bodyC_log ho' with rfl | ho' | ⟨pt, rfl⟩
    · exact List.suffix_refl _
    · rcases runKids_log cs p 0 ra m' s' o ho' with h | ⟨j, _, h⟩
      · rw [h.1]; exact List.suffix_refl _
      · exact (List.suffix_cons j p).trans h
    · exact List.suffix_refl _
/-- One induction gives both ownership and what a body sees: an observation in the log of the try-block of `p` is
the body's own — and then reports the top of the list the try-block started with — or is owned by a child `≥ i`. -/
theorem runKids_log : ∀ (cs : List Tree) (p : Path) (i : Nat) (ra : Option Nat) (m : Mode) (s : TState),
    ∀ o ∈ (runKids cs p i ra m s).log,
      (o.owner = p ∧ o.top = s.stack.head? ∧ o.conv = m.isConverted) ∨ ∃ j, i ≤ j ∧ (j :: p) <:+ o.owner
  | [], p, i, ra, m, s => by
    intro o ho; rw [runKids_nil_log] at ho; cases ho
  | c :: cs, p, i, ra, m, s => by
    intro o ho
    have hb1 := runNode_bal c (i :: p) m s
    rcases mem_runKids_cons_log ho with rfl | ho | rfl | ho
    · exact .inl ⟨rfl, rfl, rfl⟩
    · exact .inr ⟨i, Nat.le_refl i, runNode_owned c (i :: p) m s o ho⟩
    · exact .inl ⟨rfl, congrArg List.head? hb1, rfl⟩
    · rcases runKids_log cs p (i + 1) ra m _ o ho with h | ⟨j, hj, h⟩
      · exact .inl ⟨h.1, by rw [h.2.1, hb1], h.2.2⟩
      · exact .inr ⟨j, Nat.le_of_succ_le hj, h⟩
end

theorem bodyOf_sees (cs : List Tree) (ra : Option Nat) (ca : Bool) (p : Path) (m : Mode) (s : TState) :
    ∀ o ∈ (bodyOf cs ra ca p m s).log, o.owner = p → o.top = s.stack.head? ∧ o.conv = m.isConverted := by
  intro o ho hp
  rcases mem_bodyC_log ho with rfl | ho | ⟨pt, rfl⟩
  · exact ⟨rfl, rfl⟩
  · rcases runKids_log cs p 0 ra m s o ho with h | ⟨j, _, h⟩
    · exact h.2
    · exact absurd hp (not_owner_of_child h)
  · exact ⟨congrArg List.head? (runKids_bal cs p 0 ra m s), rfl⟩

/-- The harness' own exception, or the function scope refusing the options. -/
def Exn.isUser : Exn → Prop
  | .boom _ => True
  | .rejected => True
  | _ => False

def Safe (b : Comp) : Prop := ∀ s, s.stack ≠ [] → ∀ e, (b s).out = some e → e.isUser

theorem bodyC_safe (p : Path) (ca : Bool) (m : Mode) (b : Comp) (hb : Safe b) : Safe (bodyC p ca m b) := by
  intro s hs e he
  by_cases hm : m = .refused
  · subst hm; rw [bodyC_refused] at he; cases he; trivial
  rw [bodyC_of_ne _ _ _ _ _ hm] at he
  rcases (bodyCore_st_out p ca m b s).2 with h | h
  · rw [h] at he; cases he
  · exact hb s hs e (h ▸ he)

mutual
theorem runNode_safe : ∀ (t : Tree) (p : Path) (m : Mode), Safe (runNode t p m)
  | .node k cs ra ca, p, m => by
    intro s hs e he
    obtain ⟨s', m', hi, hs', -⟩ := inside_ok k m s hs
    rw [runNode_eq k cs ra ca p m hi] at he
    exact bodyC_safe p ca m' _ (runKids_safe cs p 0 ra m') s' hs' e he
theorem runKids_safe : ∀ (cs : List Tree) (p : Path) (i : Nat) (ra : Option Nat) (m : Mode), Safe (runKids cs p i ra m)
  | [], p, i, ra, m => by
    intro s _ e he
    simp only [runKids] at he
    split at he
    · simp only [Option.some.injEq] at he; subst he; trivial
    · simp at he
  | c :: cs, p, i, ra, m => by
    intro s hs e he
    simp only [runKids] at he
    split at he
    · simp only [Option.some.injEq] at he; subst he; trivial
    · have h1 := runNode_safe c (i :: p) m s hs
      have hb1 := runNode_bal c (i :: p) m s
      split at he
      · exact runKids_safe cs p (i + 1) ra m (runNode c (i :: p) m s).st (by rw [hb1]; exact hs) e he
      · rename_i e' hout
        simp only [Option.some.injEq] at he
        subst he
        exact h1 e' hout
end

theorem iter_add (a b : Nat) (c : Cfg) : iter (a + b) c = iter b (iter a c) := by
  induction a generalizing c with
  | zero => simp [iter]
  | succ a ih => rw [Nat.succ_add]; simp only [iter]; exact ih (step c)

theorem iter_succ' (n : Nat) (c : Cfg) : iter (n + 1) c = step (iter n c) := by
  rw [iter_add]; rfl

def Reach (c c' : Cfg) : Prop := ∃ n, iter n c = c'

theorem Reach.refl (c : Cfg) : Reach c c := ⟨0, rfl⟩

theorem Reach.trans {a b c : Cfg} (h1 : Reach a b) (h2 : Reach b c) : Reach a c := by
  obtain ⟨n, h1⟩ := h1; obtain ⟨m, h2⟩ := h2
  exact ⟨n + m, by rw [iter_add, h1, h2]⟩

theorem Reach.head {a b c : Cfg} (h1 : step a = b) (h2 : Reach b c) : Reach a c := by
  obtain ⟨m, h2⟩ := h2
  exact ⟨m + 1, by simp only [iter, h1, h2]⟩

theorem Reach.one {a b : Cfg} (h : step a = b) : Reach a b := Reach.head h (Reach.refl b)

def Sim (F : List Frame) (b : Comp) : Prop :=
  ∀ K s L, Reach ⟨F ++ K, none, s, L⟩ ⟨K, (b s).out, (b s).st, L ++ (b s).log⟩

theorem step_exit (id : CtxId) (K : List Frame) (m : Option Exn) (s : TState) (L : List Obs) :
    step ⟨.exit id :: K, m, s, L⟩ = ⟨K, (exitCtx id m s).2, (exitCtx id m s).1, L⟩ := by
  cases m <;> rfl

theorem sim_withEntry (e : Entry) (F : List Frame) (b : Comp) (hb : Sim F b) (K : List Frame) (s : TState) (L : List Obs) :
    Reach ⟨F ++ .exit e.id :: K, none, push e s, L⟩
      ⟨K, (withEntry e b s).out, (withEntry e b s).st, L ++ (withEntry e b s).log⟩ :=
  Reach.trans (hb (.exit e.id :: K) (push e s) L) (Reach.one (step_exit _ _ _ _ _))

theorem sim_freshFrames (st : Status) (F : List Frame) (b : Comp) (hb : Sim F b) (K : List Frame) (s : TState) (L : List Obs) :
    Reach (freshFrames st F K s L) ⟨K, (withFresh st b s).out, (withFresh st b s).st, L ++ (withFresh st b s).log⟩ :=
  sim_withEntry ⟨.fresh s.next, st⟩ F b hb K { s with next := s.next + 1 } L

theorem step_skip_post (p : Path) (i : Nat) (m : Mode) (K : List Frame) (e : Exn) (s : TState) (L : List Obs) :
    step ⟨.post p i m :: K, some e, s, L⟩ = ⟨K, some e, s, L⟩ := rfl

theorem step_skip_kids (cs : List Tree) (p : Path) (i : Nat) (ra : Option Nat) (m : Mode) (K : List Frame) (e : Exn) (s : TState) (L : List Obs) :
    step ⟨.kids cs p i ra m :: K, some e, s, L⟩ = ⟨K, some e, s, L⟩ := rfl

theorem step_skip_out (p : Path) (m : Mode) (K : List Frame) (e : Exn) (s : TState) (L : List Obs) :
    step ⟨.out p m :: K, some e, s, L⟩ = ⟨K, some e, s, L⟩ := rfl

theorem sim_body (cs : List Tree) (ra : Option Nat) (ca : Bool) (p : Path) (m : Mode)
    (hk : Sim [.kids cs p 0 ra m] (runKids cs p 0 ra m)) :
    Sim (bodyFrames cs ra ca p m) (bodyOf cs ra ca p m) := by
  intro K s L
  by_cases hm : m = .refused
  · subst hm
    refine Reach.one ?_
    simp [bodyFrames, bodyOf, bodyC, step, stepOk]
  have hF : bodyFrames cs ra ca p m = [.inn p m, .kids cs p 0 ra m, .handler p ca m, .out p m] := by simp [bodyFrames, hm]
  rw [hF]
  refine Reach.head (b := ⟨.kids cs p 0 ra m :: .handler p ca m :: .out p m :: K, none, s, L ++ [obsAt p .inn m s]⟩) rfl ?_
  refine Reach.trans (hk (.handler p ca m :: .out p m :: K) s (L ++ [obsAt p .inn m s])) ?_
  simp only [bodyOf]
  rw [bodyC_of_ne _ _ _ _ _ hm]
  simp only [bodyCore]
  -- handler, then `out`: two steps, whatever came out of the try-block and whether it is caught
  cases ho : (runKids cs p 0 ra m s).out with
  | none => exact ⟨2, by simp [iter, step, stepOk]⟩
  | some e => cases e <;> cases ca <;> exact ⟨2, by simp [iter, step, stepOk, stepExc]⟩

def BodySim (cs : List Tree) (ra : Option Nat) (ca : Bool) (p : Path) : Prop :=
  ∀ m, Sim (bodyFrames cs ra ca p m) (bodyOf cs ra ca p m)

theorem scopeFrames_eq (ur feat : Bool) (mOk : Mode) (cs : List Tree) (ra : Option Nat) (ca : Bool) (p : Path)
    (K : List Frame) (s : TState) (L : List Obs) :
    scopeFrames ur feat mOk cs ra ca p K s L =
      if feat then ⟨K, some .rejected, s, L⟩
      else if ur then freshFrames .enabled (bodyFrames cs ra ca p mOk) K s L
      else ⟨bodyFrames cs ra ca p mOk ++ K, none, s, L⟩ := by
  cases feat <;> cases ur <;> simp [scopeFrames, Gen.fsInitSteps, Gen.fsEnterSteps, runEnter, freshFrames, push]

theorem sim_scope (ur feat : Bool) (mOk : Mode) (cs : List Tree) (ra : Option Nat) (ca : Bool) (p : Path)
    (hb : BodySim cs ra ca p) (K : List Frame) (s : TState) (L : List Obs) :
    Reach (scopeFrames ur feat mOk cs ra ca p K s L)
      ⟨K, (fsWith ur feat (bodyOf cs ra ca p mOk) s).out, (fsWith ur feat (bodyOf cs ra ca p mOk) s).st,
       L ++ (fsWith ur feat (bodyOf cs ra ca p mOk) s).log⟩ := by
  rw [scopeFrames_eq, fsWith_eq]
  cases feat
  · cases ur
    · simpa [functionScope] using hb mOk K s L
    · simpa [functionScope] using sim_freshFrames .enabled _ _ (hb mOk) K s L
  · simp; exact Reach.refl _

theorem sim_cc (ur rec feat : Bool) (cs : List Tree) (ra : Option Nat) (ca : Bool) (p : Path)
    (hb : BodySim cs ra ca p) :
    Sim [.cc ur rec feat cs ra ca p] (convertedCall ur rec feat (bodyOf cs ra ca p)) := by
  intro K s L
  cases hh : s.stack.head? with
  | none =>
    refine Reach.head (b := ⟨K, some .index, s, L⟩) (by simp [step, stepOk, hh]) ?_
    simp [convertedCall, hh]; exact Reach.refl _
  | some e =>
    by_cases hd : e.status = .disabled
    · refine Reach.head (b := ⟨bodyFrames cs ra ca p .native ++ K, none, s, L⟩) (by simp [step, stepOk, hh, hd]) ?_
      have : convertedCall ur rec feat (bodyOf cs ra ca p) s = bodyOf cs ra ca p .native s := by simp [convertedCall, hh, hd]
      rw [this]; exact hb .native K s L
    · refine Reach.head (b := scopeFrames ur feat (.converted rec) cs ra ca p K s L) (by simp [step, stepOk, hh, hd]) ?_
      have : convertedCall ur rec feat (bodyOf cs ra ca p) s = fsWith ur feat (bodyOf cs ra ca p (.converted rec)) s := by
        simp [convertedCall, hh, hd]
      rw [this]; exact sim_scope ur feat _ cs ra ca p hb K s L

theorem sim_pc (m : Mode) (cs : List Tree) (ra : Option Nat) (ca : Bool) (p : Path)
    (hb : BodySim cs ra ca p) :
    Sim [.pc m cs ra ca p] (plainCall m (bodyOf cs ra ca p)) := by
  intro K s L
  rw [plainCall_eq]
  cases hm : insidePlainCall m s with
  | none => exact Reach.one (by simp [step, stepOk, hm])
  | some x => exact Reach.head (b := ⟨bodyFrames cs ra ca p x.2 ++ K, none, s, L⟩) (by simp [step, stepOk, hm]) (hb x.2 K s L)

theorem step_call (k : Kind) (m : Mode) (cs : List Tree) (ra : Option Nat) (ca : Bool) (p : Path) (K : List Frame) (s : TState) (L : List Obs) :
    step ⟨.call (.node k cs ra ca) p m :: K, none, s, L⟩ = callStep k m cs ra ca p K s L := rfl

theorem sim_convertW (ur rec feat : Bool) (c : Option CtxRef) (cs : List Tree) (ra : Option Nat) (ca : Bool) (p : Path)
    (hb : BodySim cs ra ca p) (K : List Frame) (s : TState) (L : List Obs) :
    Reach (convertFrames ur rec feat c cs ra ca p K s L)
      ⟨K, (convertW ur rec feat c (bodyOf cs ra ca p) s).out, (convertW ur rec feat c (bodyOf cs ra ca p) s).st,
       L ++ (convertW ur rec feat c (bodyOf cs ra ca p) s).log⟩ := by
  cases c with
  | none => exact sim_cc ur rec feat cs ra ca p hb K s L
  | some r =>
    cases hr : r.get s.stack with
    | none => simp only [convertFrames, convertW, hr, List.append_nil]; exact Reach.refl _
    | some e =>
      simp only [convertFrames, convertW, hr]
      exact sim_withEntry e [.cc ur rec feat cs ra ca p] _ (sim_cc ur rec feat cs ra ca p hb) K s L

theorem sim_call (k : Kind) (m : Mode) (cs : List Tree) (ra : Option Nat) (ca : Bool) (p : Path)
    (hb : BodySim cs ra ca p) :
    Sim [.call (.node k cs ra ca) p m] (wrap k m (bodyOf cs ra ca p)) := by
  intro K s L
  refine Reach.head (step_call k m cs ra ca p K s L) ?_
  cases k with
  | plain => exact sim_pc m cs ra ca p hb K s L
  | doNotConvert => exact sim_freshFrames _ _ _ (hb _) K s L
  | unspecified => exact sim_freshFrames _ _ _ (hb _) K s L
  | withCtx st src =>
    cases src
    · exact sim_freshFrames _ _ _ (hb _) K s L
    · have hw : wrap (.withCtx st true) m (bodyOf cs ra ca p) s
          = plainCall m (fun m' => withFresh st (plainCall m' (bodyOf cs ra ca p))) s := rfl
      rw [hw, plainCall_eq]
      simp only [callStep]
      cases insidePlainCall m s with
      | none => simp only [List.append_nil]; exact Reach.refl _
      | some x => exact sim_freshFrames st _ _ (sim_pc x.2 cs ra ca p hb) K s L
  | functionScope ur feat => exact sim_scope ur feat .native cs ra ca p hb K s L
  | toGraph rec lam feat => exact sim_scope true feat _ cs ra ca p hb K s L
  | convert ur rec feat c => exact sim_convertW ur rec feat c cs ra ca p hb K s L
  | internalConvert r cbd ur =>
    cases hr : r.get s.stack with
    | none =>
      simp only [callStep, wrap, hr, List.append_nil]; exact Reach.refl _
    | some e =>
      have h1 : callStep (.internalConvert r cbd ur) m cs ra ca p K s L
          = ⟨.call (.node (resolveInternal e cbd ur) cs ra ca) p m :: K, none, s, L⟩ := by simp [callStep, hr]
      rw [h1, wrap_internal r cbd ur m _ s e hr]
      refine Reach.head (step_call _ m cs ra ca p K s L) ?_
      rcases resolveInternal_cases e cbd ur with h | h | h <;> rw [h]
      · exact sim_convertW ur true false (some (.obj e)) cs ra ca p hb K s L
      · exact sim_freshFrames _ _ _ (hb _) K s L
      · exact sim_freshFrames _ _ _ (hb _) K s L

mutual
theorem runNode_sim : ∀ (t : Tree) (p : Path) (m : Mode), Sim [.call t p m] (runNode t p m)
  | .node k cs ra ca, p, m => by
    have := sim_call k m cs ra ca p (fun m' => sim_body cs ra ca p m' (runKids_sim cs p 0 ra m'))
    simpa [runNode, bodyOf] using this
theorem runKids_sim : ∀ (cs : List Tree) (p : Path) (i : Nat) (ra : Option Nat) (m : Mode),
    Sim [.kids cs p i ra m] (runKids cs p i ra m)
  | [], p, i, ra, m => by
    intro K s L
    by_cases h : ra = some i
    · refine Reach.one ?_
      simp [step, stepOk, runKids, h]
    · refine Reach.one ?_
      simp [step, stepOk, runKids, h]
  | c :: cs, p, i, ra, m => by
    intro K s L
    by_cases h : ra = some i
    · refine Reach.one ?_
      simp [step, stepOk, runKids, h]
    · refine Reach.head (b := ⟨[.call c (i :: p) m] ++ .post p i m :: .kids cs p (i + 1) ra m :: K, none, s, L ++ [obsAt p (.pre i) m s]⟩)
        (by simp [step, stepOk, h]) ?_
      refine Reach.trans (runNode_sim c (i :: p) m _ s _) ?_
      simp only [runKids, h, if_false]
      cases ho : (runNode c (i :: p) m s).out with
      | none =>
        refine Reach.head (b := ⟨[.kids cs p (i + 1) ra m] ++ K, none, (runNode c (i :: p) m s).st, _⟩) rfl ?_
        refine Reach.trans (runKids_sim cs p (i + 1) ra m K _ _) ?_
        simp only [List.append_assoc, List.cons_append, List.nil_append]
        exact Reach.refl _
      | some e =>
        refine Reach.head (step_skip_post p i m _ e _ _) ?_
        refine Reach.head (step_skip_kids cs p (i + 1) ra m K e _ _) ?_
        simp only [List.append_assoc, List.cons_append, List.nil_append]
        exact Reach.refl _
end

theorem runThread_reach (t : Tree) (s : TState) :
    Reach (Cfg.init t s) ⟨[], (runThread t s).out, (runThread t s).st, (runThread t s).log⟩ := by
  refine Reach.head (b := ⟨[.call t [0] .native] ++ [.fin], none, s, [] ++ [obsAt [] .start .native s]⟩) rfl ?_
  refine Reach.trans (runNode_sim t [0] .native [.fin] s _) ?_
  refine Reach.one ?_
  cases ho : (runNode t [0] .native s).out <;> simp [step, stepOk, stepExc, runThread, ho]

theorem iter_done (n : Nat) (c : Cfg) (h : c.ctrl = []) : iter n c = c := by
  induction n with
  | zero => rfl
  | succ n ih => simp only [iter, show step c = c by simp [step, h], ih]

theorem reach_done_stable {c c' : Cfg} {n : Nat} (hn : iter n c = c') (hd : c'.ctrl = []) (m : Nat) (h : n ≤ m) :
    iter m c = c' := by
  obtain ⟨d, rfl⟩ := Nat.exists_eq_add_of_le h
  rw [iter_add, hn, iter_done d _ hd]

theorem reach_done_unique {c c' : Cfg} (hr : Reach c c') (hd : c'.ctrl = []) (m : Nat)
    (hm : (iter m c).ctrl = []) : iter m c = c' := by
  obtain ⟨n, hn⟩ := hr
  rcases Nat.le_total m n with h | h
  · obtain ⟨d, rfl⟩ := Nat.exists_eq_add_of_le h
    rw [iter_add] at hn
    rw [iter_done d _ hm] at hn
    exact hn
  · exact reach_done_stable hn hd m h

theorem scopeFrames_log (ur feat : Bool) (mOk : Mode) (cs : List Tree) (ra : Option Nat) (ca : Bool) (p : Path)
    (K : List Frame) (s : TState) (L : List Obs) : (scopeFrames ur feat mOk cs ra ca p K s L).log = L := by
  rw [scopeFrames_eq]; cases feat <;> cases ur <;> simp [freshFrames]

theorem callStep_log (k : Kind) (m : Mode) (cs : List Tree) (ra : Option Nat) (ca : Bool) (p : Path)
    (K : List Frame) (s : TState) (L : List Obs) : (callStep k m cs ra ca p K s L).log = L := by
  cases k with
  | plain | doNotConvert | unspecified => rfl
  | withCtx st src =>
    cases src
    · rfl
    · simp only [callStep]; split <;> rfl
  | functionScope ur feat => exact scopeFrames_log ..
  | toGraph rec lam feat => exact scopeFrames_log ..
  | convert ur rec feat c =>
    cases c
    · rfl
    · simp only [callStep, convertFrames]; split <;> rfl
  | internalConvert r cbd ur => simp only [callStep]; split <;> rfl

theorem step_log_prefix (c : Cfg) : c.log <+: (step c).log := by
  obtain ⟨ctrl, mode, s, L⟩ := c
  cases ctrl with
  | nil => exact List.prefix_refl _
  | cons f K =>
    cases mode with
    | none =>
      show L <+: (stepOk f K s L).log
      cases f with
      | start | fin | inn | post | out => exact List.prefix_append _ _
      | handler | exit | reject => exact List.prefix_refl _
      | call t p m => cases t; rw [stepOk, callStep_log]; exact List.prefix_refl _
      | cc ur rec feat cs ra ca p =>
        simp only [stepOk]
        split
        · exact List.prefix_refl _
        · split
          · exact List.prefix_refl _
          · rw [scopeFrames_log]; exact List.prefix_refl _
      | pc m cs ra ca p => simp only [stepOk]; split <;> exact List.prefix_refl _
      | kids cs p i ra m =>
        simp only [stepOk]
        split
        · exact List.prefix_refl _
        · split
          · exact List.prefix_refl _
          · exact List.prefix_append _ _
    | some e =>
      show L <+: (stepExc f K e s L).log
      cases f with
      | fin => exact List.prefix_append _ _
      | handler p ca m =>
        cases e with
        | boom | rejected =>
          cases ca
          · exact List.prefix_refl _
          · exact List.prefix_append _ _
        | assertion | index => exact List.prefix_refl _
      | start | call | cc | pc | inn | kids | post | out | exit | reject => exact List.prefix_refl _

theorem iter_log_prefix (n : Nat) (c : Cfg) : c.log <+: (iter n c).log := by
  induction n generalizing c with
  | zero => exact List.prefix_refl _
  | succ n ih => exact List.IsPrefix.trans (step_log_prefix c) (ih (step c))

def under (q : Path) (o : Obs) : Bool := decide (q <:+ o.owner)

theorem bodyLevel_under {p q : Path} (h : p <:+ q) (l : List Obs) :
    bodyLevel q (l.filter (under p)) = bodyLevel q l := by
  simp only [bodyLevel, List.filter_filter]
  apply List.filter_congr
  intro o _
  by_cases ho : o.owner = q
  · simp [under, ho, h]
  · simp [ho]

theorem filter_under_under {p q : Path} (h : p <:+ q) (l : List Obs) :
    (l.filter (under p)).filter (under q) = l.filter (under q) := by
  simp only [List.filter_filter]
  apply List.filter_congr
  intro o _
  by_cases ho : q <:+ o.owner
  · simp [under, ho, List.IsSuffix.trans h ho]
  · simp [under, ho]

mutual
theorem checkNode_under : ∀ (t : Tree) (p : Path) (x : Option Entry) (l : List Obs),
    checkNode t p x l = checkNode t p x (l.filter (under p))
  | .node k cs ra ca, p, x, l => by
    simp only [checkNode]
    rw [bodyLevel_under (List.suffix_refl p)]
    split
    · rfl
    · rw [checkKids_under cs p 0 _ l]
theorem checkKids_under : ∀ (cs : List Tree) (p : Path) (i : Nat) (x : Option Entry) (l : List Obs),
    checkKids cs p i x l = checkKids cs p i x (l.filter (under p))
  | [], _, _, _, _ => by simp [checkKids]
  | c :: cs, p, i, x, l => by
    simp only [checkKids]
    rw [checkKids_under cs p (i + 1) x l]
    rw [checkNode_under c (i :: p) x l, checkNode_under c (i :: p) x (l.filter (under p)),
        filter_under_under (List.suffix_cons i p)]
end

theorem checkNode_congr (t : Tree) (p : Path) (x : Option Entry) (l l' : List Obs)
    (h : l.filter (under p) = l'.filter (under p)) : checkNode t p x l = checkNode t p x l' := by
  rw [checkNode_under t p x l, checkNode_under t p x l', h]

theorem checkKids_congr : ∀ (cs : List Tree) (p : Path) (i : Nat) (x : Option Entry) (l l' : List Obs),
    (∀ j, i ≤ j → l.filter (under (j :: p)) = l'.filter (under (j :: p))) →
    checkKids cs p i x l = checkKids cs p i x l'
  | [], _, _, _, _, _, _ => by simp [checkKids]
  | c :: cs, p, i, x, l, l', h => by
    simp only [checkKids]
    rw [checkNode_congr c (i :: p) x l l' (h i (Nat.le_refl i)),
        checkKids_congr cs p (i + 1) x l l' (fun j hj => h j (Nat.le_of_succ_le hj))]

theorem under_child_of_owner {p : Path} {o : Obs} (j : Nat) (h : o.owner = p) : under (j :: p) o = false := by
  simp only [under, decide_eq_false_iff_not]
  exact fun hs => not_owner_of_child hs h

theorem under_other_child {p : Path} {o : Obs} {j j' : Nat} (h : (j' :: p) <:+ o.owner) (hne : j ≠ j') :
    under (j :: p) o = false := by
  simp only [under, decide_eq_false_iff_not]
  intro hs
  have h1 := List.suffix_of_suffix_length_le hs h (by simp)
  have h2 := h1.eq_of_length (by simp)
  simp only [List.cons.injEq, and_true] at h2
  exact hne h2

theorem filter_under_eq_nil {q : Path} {l : List Obs} (h : ∀ o ∈ l, under q o = false) : l.filter (under q) = [] := by
  rw [List.filter_eq_nil_iff]
  intro o ho
  simp [h o ho]

theorem filter_under_cons_own {p : Path} {o : Obs} (j : Nat) (h : o.owner = p) (l : List Obs) :
    (o :: l).filter (under (j :: p)) = l.filter (under (j :: p)) := by
  rw [List.filter_cons, under_child_of_owner j h, if_neg Bool.false_ne_true]

theorem filter_under_append_own {p : Path} (j : Nat) (l tail : List Obs) (ht : ∀ o ∈ tail, o.owner = p) :
    (l ++ tail).filter (under (j :: p)) = l.filter (under (j :: p)) := by
  rw [List.filter_append, filter_under_eq_nil fun o ho => under_child_of_owner j (ht o ho), List.append_nil]

mutual
theorem checkNode_nil : ∀ (t : Tree) (p : Path) (x : Option Entry), checkNode t p x [] = true
  | .node k cs ra ca, p, x => by simp [checkNode, bodyLevel]
theorem checkKids_nil : ∀ (cs : List Tree) (p : Path) (i : Nat) (x : Option Entry), checkKids cs p i x [] = true
  | [], _, _, _ => by simp [checkKids]
  | c :: cs, p, i, x => by simp [checkKids, checkNode_nil c (i :: p) x, checkKids_nil cs p (i + 1) x]
end

mutual
theorem runNode_check : ∀ (t : Tree) (p : Path) (m : Mode) (s : TState), s.stack ≠ [] →
    checkNode t p s.stack.head? (runNode t p m s).log = true
  | .node k cs ra ca, p, m, s, hs => by
    obtain ⟨s', m', hi, hs', hcompat⟩ := inside_ok k m s hs
    have hlog := congrArg Res.log (runNode_eq k cs ra ca p m hi)
    rw [hlog]
    simp only [checkNode]
    have hsee := bodyOf_sees cs ra ca p m' s'
    cases hb : bodyLevel p (bodyOf cs ra ca p m' s').log with
    | nil => rfl
    | cons o rest =>
      have hm' : m' ≠ .refused := by
        intro h; subst h
        simp only [bodyOf] at hb; rw [bodyC_refused] at hb; simp [bodyLevel] at hb
      have hmem : ∀ o' ∈ o :: rest, o'.top = s'.stack.head? ∧ o'.conv = m'.isConverted := by
        intro o' ho'
        have : o' ∈ bodyLevel p (bodyOf cs ra ca p m' s').log := hb ▸ ho'
        simp only [bodyLevel, List.mem_filter, decide_eq_true_eq] at this
        exact hsee o' this.1 this.2
      have ho : o.top = s'.stack.head? := (hmem o (List.mem_cons_self ..)).1
      have hoc : o.conv = m'.isConverted := (hmem o (List.mem_cons_self ..)).2
      simp only [Bool.and_eq_true]
      refine ⟨⟨⟨?_, ?_⟩, ?_⟩, ?_⟩
      · rw [List.all_eq_true]
        intro o' ho'
        have := hmem o' (List.mem_cons_of_mem _ ho')
        simp [this.1, this.2, ho, hoc]
      · split
        · rfl
        · rename_i st hr
          rw [ho, required_ok k m s s' m' hi hm' st hr]
          simp
      · cases hcv : m'.isConverted with
        | false => simp [hoc, hcv]
        | true =>
          obtain ⟨e, he, hd⟩ := hcompat hcv
          simp [ho, he, hd]
      · rw [ho]
        obtain ⟨pts, hshape⟩ := bodyC_log_shape p ca m' (runKids cs p 0 ra m') s' hm'
        have hcongr := checkKids_congr cs p 0 s'.stack.head? (bodyOf cs ra ca p m' s').log (runKids cs p 0 ra m' s').log
          (fun j _ => by
            rw [show (bodyOf cs ra ca p m' s').log = _ from hshape, filter_under_cons_own (p := p) j rfl,
              filter_under_append_own j _ _ fun o ho => by obtain ⟨pt, _, rfl⟩ := List.mem_map.mp ho; rfl])
        rw [hcongr]
        exact runKids_check cs p 0 ra m' s' hs'
theorem runKids_check : ∀ (cs : List Tree) (p : Path) (i : Nat) (ra : Option Nat) (m : Mode) (s : TState), s.stack ≠ [] →
    checkKids cs p i s.stack.head? (runKids cs p i ra m s).log = true
  | [], _, _, _, _, _, _ => by simp [checkKids]
  | c :: cs, p, i, ra, m, s, hs => by
    simp only [checkKids, Bool.and_eq_true]
    by_cases hra : ra = some i
    · have : (runKids (c :: cs) p i ra m s).log = [] := by simp [runKids, hra]
      rw [this]
      exact ⟨checkNode_nil _ _ _, checkKids_nil _ _ _ _⟩
    · have hown := runNode_owned c (i :: p) m s
      have hbal := runNode_bal c (i :: p) m s
      have hpre : (obsAt p (.pre i) m s).owner = p := rfl
      -- the log is `pre`, the child's log, and a rest that the checker accepts and in which nothing is under child `i`
      obtain ⟨rest, hlog, hrest, hk⟩ : ∃ rest,
          (runKids (c :: cs) p i ra m s).log = obsAt p (.pre i) m s :: ((runNode c (i :: p) m s).log ++ rest) ∧
          (∀ o ∈ rest, under (i :: p) o = false) ∧ checkKids cs p (i + 1) s.stack.head? rest = true := by
        cases ho : (runNode c (i :: p) m s).out with
        | some e => exact ⟨[], by simp [runKids, hra, ho], (fun _ h => nomatch h), checkKids_nil _ _ _ _⟩
        | none =>
          have hpost : (obsAt p (.post i) m (runNode c (i :: p) m s).st).owner = p := rfl
          refine ⟨obsAt p (.post i) m (runNode c (i :: p) m s).st ::
            (runKids cs p (i + 1) ra m (runNode c (i :: p) m s).st).log, by simp [runKids, hra, ho], ?_, ?_⟩
          · intro o ho'
            rcases List.mem_cons.mp ho' with rfl | ho'
            · exact under_child_of_owner i hpost
            · rcases runKids_log cs p (i + 1) ra m _ o ho' with h | ⟨j, hj, h⟩
              · exact under_child_of_owner i h.1
              · exact under_other_child h (by omega)
          · rw [checkKids_congr cs p (i + 1) _ _ (runKids cs p (i + 1) ra m (runNode c (i :: p) m s).st).log
              fun j _ => filter_under_cons_own j hpost _]
            have := runKids_check cs p (i + 1) ra m (runNode c (i :: p) m s).st (by rw [hbal]; exact hs)
            rwa [hbal] at this
      rw [hlog]
      constructor
      · rw [checkNode_congr c (i :: p) _ _ (runNode c (i :: p) m s).log (by
          rw [filter_under_cons_own i hpre, List.filter_append, filter_under_eq_nil hrest, List.append_nil])]
        exact runNode_check c (i :: p) m s hs
      · rw [checkKids_congr cs p (i + 1) _ _ rest fun j hj => by
          rw [filter_under_cons_own j hpre, List.filter_append,
            filter_under_eq_nil fun o ho' => under_other_child (hown o ho') (by omega), List.nil_append]]
        exact hk
end

theorem checkKids_get : ∀ (cs : List Tree) (p : Path) (i : Nat) (x : Option Entry) (l : List Obs),
    checkKids cs p i x l = true → ∀ (j : Nat) (c : Tree), cs[j]? = some c → checkNode c ((i + j) :: p) x l = true
  | [], _, _, _, _, _, j, c, hc => by simp at hc
  | c' :: cs, p, i, x, l, h, j, c, hc => by
    simp only [checkKids, Bool.and_eq_true] at h
    cases j with
    | zero => simp only [List.getElem?_cons_zero, Option.some.injEq] at hc; subst hc; simpa using h.1
    | succ j =>
      simp only [List.getElem?_cons_succ] at hc
      have := checkKids_get cs p (i + 1) x l h.2 j c hc
      rw [show i + (j + 1) = i + 1 + j by omega]
      exact this

def ConvObsOK (o : Obs) : Prop := o.conv = true → ∃ e, o.top = some e ∧ e.status ≠ .disabled

mutual
theorem runNode_convOK : ∀ (t : Tree) (p : Path) (m : Mode) (s : TState), s.stack ≠ [] →
    ∀ o ∈ (runNode t p m s).log, ConvObsOK o
  | .node k cs ra ca, p, m, s, hs => by
    intro o ho
    obtain ⟨s', m', hi, ho'⟩ := Around.log (runNode_around k cs ra ca p m s) o ho
    obtain ⟨s'', m'', hi', hs', hcompat⟩ := inside_ok k m s hs
    rw [hi] at hi'; cases hi'
    -- `ConvObsOK (obsAt p pt m s)` is `Compat m s` by definition
    rcases mem_bodyC_log ho' with rfl | ho' | ⟨pt, rfl⟩
    · exact hcompat
    · exact runKids_convOK cs p 0 ra m' s' hs' hcompat o ho'
    · exact compat_of_stack_eq hcompat (runKids_bal cs p 0 ra m' s')
theorem runKids_convOK : ∀ (cs : List Tree) (p : Path) (i : Nat) (ra : Option Nat) (m : Mode) (s : TState),
    s.stack ≠ [] → Compat m s → ∀ o ∈ (runKids cs p i ra m s).log, ConvObsOK o
  | [], p, i, ra, m, s, _, _ => by
    intro o ho; rw [runKids_nil_log] at ho; cases ho
  | c :: cs, p, i, ra, m, s, hs, hcm => by
    intro o ho
    have hb1 := runNode_bal c (i :: p) m s
    have hc1 : Compat m (runNode c (i :: p) m s).st := compat_of_stack_eq hcm hb1
    rcases mem_runKids_cons_log ho with rfl | ho | rfl | ho
    · exact hcm
    · exact runNode_convOK c (i :: p) m s hs o ho
    · exact hc1
    · exact runKids_convOK cs p (i + 1) ra m _ (by rw [hb1]; exact hs) hc1 o ho
end

/-- No refusing check after the push, and no second push. -/
def enterOrdered : List Gen.FsStep → Bool
  | [] => true
  | .pushIfUr :: r => !r.contains .check && !r.contains .pushIfUr
  | _ :: r => enterOrdered r

def enterOnePush : List Gen.FsStep → Bool
  | [] => true
  | .pushIfUr :: r => !r.contains .pushIfUr
  | _ :: r => enterOnePush r

def scopeSafe (init enter : List Gen.FsStep) : Bool :=
  enterOrdered enter || (init.contains .check && enterOnePush enter)

theorem enterOnePush_of_ordered : ∀ {enter : List Gen.FsStep}, enterOrdered enter = true → enterOnePush enter = true
  | [], _ => rfl
  | .pushIfUr :: r, h => by simp only [enterOrdered, Bool.and_eq_true] at h; simpa [enterOnePush] using h.2
  | .check :: r, h => enterOnePush_of_ordered (enter := r) h
  | .unknown :: r, h => enterOnePush_of_ordered (enter := r) h

theorem runEnter_noPush (r : List Gen.FsStep) (ur feat : Bool) (s : TState) (pu : Option CtxId)
    (h : r.contains .pushIfUr = false) :
    runEnter r ur feat s pu = (s, pu, feat && r.contains .check) := by
  induction r with
  | nil => simp [runEnter]
  | cons x r ih =>
    cases x with
    | pushIfUr => simp at h
    | check =>
      have h' : r.contains .pushIfUr = false := by simpa using h
      cases feat
      · simp [runEnter, ih h']
      · simp [runEnter]
    | unknown =>
      have h' : r.contains .pushIfUr = false := by simpa using h
      simp [runEnter, ih h']

/-- `featE`: may a check in `__enter__` fire (those of `__init__` have passed). -/
theorem scopeWith_enter_bal (enter : List Gen.FsStep) (ur featE : Bool) (body : Comp) (hb : Bal body) (s : TState)
    (h1 : enterOnePush enter = true) (h2 : featE = true → enterOrdered enter = true) :
    (scopeWith [] enter ur featE body s).st.stack = s.stack := by
  simp only [scopeWith, List.contains_nil, Bool.and_false, Bool.false_eq_true, if_false]
  induction enter with
  | nil => simp [runEnter, hb s]
  | cons x r ih =>
    cases x with
    | check =>
      cases featE
      · simpa [runEnter] using ih (by simpa [enterOnePush] using h1) (by simp)
      · simp [runEnter]
    | unknown =>
      simpa [runEnter] using ih (by simpa [enterOnePush] using h1) (fun h => by simpa [enterOrdered] using h2 h)
    | pushIfUr =>
      have hnp : r.contains .pushIfUr = false := by simpa [enterOnePush] using h1
      cases ur
      · -- nothing pushed: the rest cannot push either
        simp only [runEnter, Bool.false_eq_true, if_false]
        rw [runEnter_noPush r false featE s none hnp]
        cases hf : (featE && r.contains .check) <;> simp [hb s]
      · simp only [runEnter, if_true]
        rw [runEnter_noPush r true featE _ _ hnp]
        have hnc : (featE && r.contains .check) = false := by
          cases featE
          · rfl
          · have := h2 rfl
            simp only [enterOrdered, Bool.and_eq_true, Bool.not_eq_true'] at this
            rw [this.1]; rfl
        rw [hnc]
        simp only
        have hbody := hb (push ⟨.fresh s.next, .enabled⟩ { s with next := s.next + 1 })
        rw [exitCtx_top ⟨.fresh s.next, .enabled⟩ _ _ s.stack (by simpa [push] using hbody)]

end Malt.Ctx
