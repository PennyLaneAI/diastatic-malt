import MaltModel.Proofs.C03BlockVars
import MaltModel.Proofs.FuncCheck
namespace Malt.Func
open Malt.Conv.BlockVars

/-- `Malt.Conv.BlockVars.blockVars` (the mirror of `_get_block_vars`) on simple names, without `global`/`nonlocal`
(`bv_eq_blockVars`).  Stated separately because `isComposite` (a `String.any`) does not reduce in the kernel, so
instances of the general mirror cannot be checked by `decide`. -/
def bv (modified liveIn liveOut definedIn : List String) : Result :=
  let modified := dedup modified
  let basic := modified.filter fun s => liveIn.contains s || liveOut.contains s
  let undefined := modified.filter fun v => !definedIn.contains v
  let inputOnly := basic.filter fun v => liveIn.contains v && !liveOut.contains v
  let scopeVars := sortBy (keyLe inputOnly) basic
  { scopeVars, undefined, nouts := scopeVars.length - inputOnly.length, inputOnly }

theorem compositeVars_nil (modified liveIn : List String) (hs : ∀ v ∈ modified, isComposite v = false) :
    compositeVars modified liveIn = [] := by
  apply List.filter_eq_nil_iff.mpr
  intro v hv; simp [hs v hv]

theorem dedup_simple {modified : List String} (hs : ∀ v ∈ modified, isComposite v = false) :
    ∀ v ∈ dedup modified, isComposite v = false := fun v hv => hs v (mem_dedup.mp hv)

theorem bv_eq_blockVars (modified liveIn liveOut definedIn : List String) (hs : ∀ v ∈ modified, isComposite v = false) :
    blockVars modified liveIn liveOut definedIn [] [] = bv modified liveIn liveOut definedIn := by
  have hd := dedup_simple hs
  have hbasic : basicVars (dedup modified) liveIn liveOut [] =
      (dedup modified).filter fun s => liveIn.contains s || liveOut.contains s := by
    apply List.filter_congr
    intro x hx; simp [hd x hx]
  have hund : ((dedup modified).filter fun v =>
      !definedIn.contains v && !([] : List String).contains v && !([] : List String).contains v && !isComposite v) =
      (dedup modified).filter fun v => !definedIn.contains v := by
    apply List.filter_congr
    intro x hx; simp [hd x hx]
  simp only [blockVars, bv, compositeVars_nil _ _ hd, List.append_nil, hbasic, hund]

theorem bv_mem (modified liveIn liveOut definedIn : List String) (v : String) :
    v ∈ (bv modified liveIn liveOut definedIn).scopeVars ↔ v ∈ modified ∧ (v ∈ liveIn ∨ v ∈ liveOut) := by
  simp [bv, (sortBy_perm _ _).mem_iff, List.mem_filter, mem_dedup]

theorem bv_nodup (modified liveIn liveOut definedIn : List String) :
    (bv modified liveIn liveOut definedIn).scopeVars.Nodup := by
  simp only [bv]
  exact (sortBy_perm _ _).nodup_iff.mpr ((nodup_dedup modified).filter _)

theorem bv_undefined (modified liveIn liveOut definedIn : List String) (v : String) :
    v ∈ (bv modified liveIn liveOut definedIn).undefined ↔ v ∈ modified ∧ v ∉ definedIn := by
  simp [bv, List.mem_filter, mem_dedup]

/-- Outputs first: the first `nouts` entries are the entries that are not input-only. -/
theorem bv_take_nouts (modified liveIn liveOut definedIn : List String) :
    let r := bv modified liveIn liveOut definedIn
    r.scopeVars.take r.nouts = r.scopeVars.filter (fun x => !r.inputOnly.contains x) := by
  intro r
  have hsplit : r.scopeVars = _ := keyMono_split (sortBy_keyMono r.inputOnly _)
  -- the number of input-only entries in the tuple is `inputOnly.length`
  have hcount : (r.scopeVars.filter r.inputOnly.contains).length = r.inputOnly.length := by
    simp only [r, bv]
    rw [((sortBy_perm _ _).filter _).length_eq]
    congr 1
    apply List.filter_congr
    intro x hx
    rw [Bool.eq_iff_iff]
    have hx' := List.mem_filter.mp hx
    simp only [Bool.or_eq_true, List.contains_iff_mem] at hx'
    simp only [List.contains_iff_mem, List.mem_filter, Bool.and_eq_true, Bool.or_eq_true, Bool.not_eq_eq_eq_not,
      Bool.not_true]
    constructor
    · exact fun h => h.2
    · exact fun h => ⟨⟨hx'.1, Or.inl h.1⟩, h⟩
  have hn : r.nouts = (r.scopeVars.filter (fun x => !r.inputOnly.contains x)).length := by
    have hlen : r.scopeVars.length = (r.scopeVars.filter (fun x => !r.inputOnly.contains x)).length +
        (r.scopeVars.filter r.inputOnly.contains).length := by
      conv => lhs; rw [hsplit]
      exact List.length_append
    have : r.nouts = r.scopeVars.length - r.inputOnly.length := rfl
    rw [this, hlen, hcount]; omega
  conv => lhs; rw [hsplit, hn]
  simp

mutual
def allS : AStmt → List AStmt
  | .ifS i c t e => .ifS i c t e :: (allB t ++ allB e)
  | .whileS i c b => .whileS i c b :: allB b
  | .forS i x it extra b => .forS i x it extra b :: allB b
  | .assign i x e => [.assign i x e]
  | .expr i e => [.expr i e]
  | .pass i => [.pass i]
  | .ret i e => [.ret i e]
  | .raise i t => [.raise i t]
  | .withS i tag b => .withS i tag b :: allB b
  | .tryS i b hs f => .tryS i b hs f :: (allB b ++ (allH hs ++ allB f))
def allB : List AStmt → List AStmt
  | [] => []
  | s :: r => allS s ++ allB r
def allH : List (Nat × List AStmt) → List AStmt
  | [] => []
  | (_, b) :: r => allB b ++ allH r
end

def AStmt.isCompound : AStmt → Bool
  | .ifS .. => true
  | .whileS .. => true
  | .forS .. => true
  | _ => false

/-- `declared`, `nouts`, `undefined` of a compound statement are what `_get_block_vars` computes from its `modified`
set and its annotations. -/
def BV1 (s : AStmt) : Prop :=
  s.isCompound = true →
    s.info.declared = (bv s.modified s.info.liveIn s.info.liveOut s.info.definedIn).scopeVars ∧
    s.info.nouts = (bv s.modified s.info.liveIn s.info.liveOut s.info.definedIn).nouts ∧
    s.info.undefined = (bv s.modified s.info.liveIn s.info.liveOut s.info.definedIn).undefined

def UsesBlockVars (p : ABlock) : Prop := ∀ s ∈ allB p, BV1 s

theorem self_mem_allS (s : AStmt) : s ∈ allS s := by cases s <;> simp [allS]

/-- What `_get_block_vars` guarantees about the state tuple and the `Undefined` list of a compound statement. -/
structure BlockVarsFacts (s : AStmt) : Prop where
  live_declared : s.modified.filter (liveEither s.info) ⊆ s.info.declared
  undefined_modified : s.info.undefined ⊆ s.modified
  nodup : s.info.declared.Nodup
  declared_modified : s.info.declared ⊆ s.modified
  inputs_last : ∀ y ∈ s.info.declared.drop s.info.nouts, y ∉ s.info.liveOut
  outputs_first : ∀ v ∈ s.modified, v ∈ s.info.liveOut → v ∈ s.info.declared.take s.info.nouts
  undefined_complete : ∀ v ∈ s.modified, v ∉ s.info.definedIn → v ∈ s.info.undefined
  undefined_exact : ∀ u ∈ s.info.undefined, u ∉ s.info.definedIn

theorem bv1_facts {s : AStmt} (hc : s.isCompound = true) (h : BV1 s) : BlockVarsFacts s := by
  obtain ⟨hd, hn, hu⟩ := h hc
  have hmem := fun v => bv_mem s.modified s.info.liveIn s.info.liveOut s.info.definedIn v
  have hund := fun v => bv_undefined s.modified s.info.liveIn s.info.liveOut s.info.definedIn v
  have htake := bv_take_nouts s.modified s.info.liveIn s.info.liveOut s.info.definedIn
  simp only at htake
  have hnd : s.info.declared.Nodup := by rw [hd]; exact bv_nodup _ _ _ _
  have hio : ∀ y, y ∈ (bv s.modified s.info.liveIn s.info.liveOut s.info.definedIn).inputOnly → y ∉ s.info.liveOut := by
    intro y hy hlo
    simp only [bv, List.mem_filter, Bool.and_eq_true, Bool.not_eq_eq_eq_not, Bool.not_true] at hy
    have : s.info.liveOut.contains y = true := by simpa using hlo
    rw [hy.2.2] at this; cases this
  refine ⟨?_, ?_, hnd, ?_, ?_, ?_, ?_, ?_⟩
  · intro v hv
    have hv' := List.mem_filter.mp hv
    rw [hd]; exact (hmem v).mpr ⟨hv'.1, mem_liveEither.mp hv'.2⟩
  · intro v hv; rw [hu] at hv; exact ((hund v).mp hv).1
  · intro v hv; rw [hd] at hv; exact ((hmem v).mp hv).1
  · intro y hy hlo
    -- y is in the tuple but not among the first nouts entries, so it is input-only
    have hsplit : s.info.declared.take s.info.nouts ++ s.info.declared.drop s.info.nouts = s.info.declared :=
      List.take_append_drop _ _
    have hnd' : (s.info.declared.take s.info.nouts ++ s.info.declared.drop s.info.nouts).Nodup := by rw [hsplit]; exact hnd
    have hdisj := (List.nodup_append.mp hnd').2.2
    have hnt : y ∉ s.info.declared.take s.info.nouts := fun ht => hdisj y ht y hy rfl
    have hyd : y ∈ s.info.declared := List.mem_of_mem_drop hy
    rw [hd, hn, htake] at hnt
    rw [hd] at hyd
    have : (bv s.modified s.info.liveIn s.info.liveOut s.info.definedIn).inputOnly.contains y = true := by
      cases hc' : (bv s.modified s.info.liveIn s.info.liveOut s.info.definedIn).inputOnly.contains y with
      | true => rfl
      | false => exact absurd (List.mem_filter.mpr ⟨hyd, by rw [hc']; rfl⟩) hnt
    exact hio y (by simpa using this) hlo
  · intro v hv hlo
    rw [hd, hn, htake]
    refine List.mem_filter.mpr ⟨(hmem v).mpr ⟨hv, Or.inr hlo⟩, ?_⟩
    cases hc' : (bv s.modified s.info.liveIn s.info.liveOut s.info.definedIn).inputOnly.contains v with
    | false => rfl
    | true => exact absurd hlo (hio v (by simpa using hc'))
  · intro v hv hnd'; rw [hu]; exact (hund v).mpr ⟨hv, hnd'⟩
  · intro u hu'; rw [hu] at hu'; exact ((hund u).mp hu').2

theorem bv_decl : (∀ s, (∀ q ∈ allS s, BV1 q) → DeclS s ∧ HypFS s) ∧ (∀ b, (∀ q ∈ allB b, BV1 q) → DeclB b ∧ HypFB b) ∧
    (∀ hs, (∀ q ∈ allH hs, BV1 q) → DeclH hs ∧ HypFH hs) := by
  apply astmt_induct
  case ifS =>
    intro i c t e iht ihe h
    have hself := bv1_facts (s := .ifS i c t e) rfl (h _ (self_mem_allS _))
    have ht := iht (fun q hq => h q (by simp [allS, hq]))
    have he := ihe (fun q hq => h q (by simp [allS, hq]))
    exact ⟨⟨hself.live_declared, hself.undefined_modified, ht.1, he.1⟩, hself.nodup, hself.declared_modified,
      hself.inputs_last, ht.2, he.2⟩
  case whileS =>
    intro i c b ih h
    have hself := bv1_facts (s := .whileS i c b) rfl (h _ (self_mem_allS _))
    have hb := ih (fun q hq => h q (by simp [allS, hq]))
    exact ⟨⟨hself.live_declared, hself.undefined_modified, hb.1⟩, hself.declared_modified, hb.2⟩
  case forS =>
    intro i x it extra b ih h
    have hself := bv1_facts (s := .forS i x it extra b) rfl (h _ (self_mem_allS _))
    have hb := ih (fun q hq => h q (by simp [allS, hq]))
    exact ⟨⟨hself.live_declared, hself.undefined_modified, hb.1⟩, hself.declared_modified, hb.2⟩
  case withS => exact fun i tag b ih h => ih (fun q hq => h q (by simp [allS, hq]))
  case tryS =>
    intro i b hs f ihb ihh ihf h
    have hb := ihb (fun q hq => h q (by simp [allS, hq]))
    have hh := ihh (fun q hq => h q (by simp [allS, hq]))
    have hf := ihf (fun q hq => h q (by simp [allS, hq]))
    exact ⟨⟨hb.1, hh.1, hf.1⟩, hb.2, hh.2, hf.2⟩
  case cons =>
    intro s r ihs ihr h
    have hs := ihs (fun q hq => h q (by simp [allB, hq]))
    have hr := ihr (fun q hq => h q (by simp [allB, hq]))
    exact ⟨⟨hs.1, hr.1⟩, hs.2, hr.2⟩
  case hcons =>
    intro t b r ihb ihr h
    have hb := ihb (fun q hq => h q (by simp [allH, hq]))
    have hr := ihr (fun q hq => h q (by simp [allH, hq]))
    exact ⟨⟨hb.1, hr.1⟩, hb.2, hr.2⟩
  all_goals intros; exact ⟨trivial, trivial⟩

theorem bv_declS : ∀ (s : AStmt), (∀ q ∈ allS s, BV1 q) → DeclS s ∧ HypFS s := bv_decl.1
theorem bv_declB : ∀ (b : List AStmt), (∀ q ∈ allB b, BV1 q) → DeclB b ∧ HypFB b := bv_decl.2.1
theorem bv_declH : ∀ (hs : List (Nat × List AStmt)), (∀ q ∈ allH hs, BV1 q) → DeclH hs ∧ HypFH hs := bv_decl.2.2

theorem live_of_mem : (∀ s K, LiveS K s → ∀ q ∈ allS s, ∃ K', LiveS K' q) ∧
    (∀ b K O, LiveB K b O → ∀ q ∈ allB b, ∃ K', LiveS K' q) ∧ (∀ hs K O, LiveH K hs O → ∀ q ∈ allH hs, ∃ K', LiveS K' q) := by
  apply astmt_induct
  case ifS =>
    intro i c t e iht ihe K h q hq
    simp only [allS, List.mem_cons, List.mem_append] at hq
    rcases hq with rfl | hq | hq
    · exact ⟨K, h⟩
    · exact iht K _ h.2.2.2.1 q hq
    · exact ihe K _ h.2.2.2.2.1 q hq
  case whileS =>
    intro i c b ih K h q hq
    simp only [allS, List.mem_cons] at hq
    rcases hq with rfl | hq
    · exact ⟨K, h⟩
    · exact ih K _ h.2.2.2.1 q hq
  case forS =>
    intro i x it extra b ih K h q hq
    simp only [allS, List.mem_cons] at hq
    rcases hq with rfl | hq
    · exact ⟨K, h⟩
    · exact ih K _ h.2.2.2.2.1 q hq
  case withS =>
    intro i tag b ih K h q hq
    simp only [allS, List.mem_cons] at hq
    rcases hq with rfl | hq
    · exact ⟨K, h⟩
    · exact ih K _ h.2 q hq
  case tryS =>
    intro i b hs f ihb ihh ihf K h q hq
    simp only [allS, List.mem_cons, List.mem_append] at hq
    rcases hq with rfl | hq | hq | hq
    · exact ⟨K, h⟩
    · exact ihb _ _ h.2.2.1 q hq
    · exact ihh _ _ h.2.1 q hq
    · exact ihf K _ h.1 q hq
  case cons =>
    intro s r ihs ihr K O h q hq
    simp only [allB, List.mem_append] at hq
    exact hq.elim (ihs K h.1 q) (ihr K O h.2.2 q)
  case hcons =>
    intro t b r ihb ihr K O h q hq
    simp only [allH, List.mem_append] at hq
    exact hq.elim (ihb K O h.1 q) (ihr K O h.2 q)
  case assign | expr | pass | ret | raise =>
    intros; rename_i K h q hq; simp only [allS, List.mem_singleton] at hq; subst hq; exact ⟨K, h⟩
  all_goals exact fun _ _ _ _ hq => nomatch hq

theorem liveB_of_mem : ∀ (K : ExcCtx) (b : List AStmt) (O : List String), LiveB K b O → ∀ q ∈ allB b, ∃ K', LiveS K' q :=
  fun K b => live_of_mem.2.1 b K
theorem liveH_of_mem : ∀ (K : ExcCtx) (hs : List (Nat × List AStmt)) (O : List String), LiveH K hs O →
    ∀ q ∈ allH hs, ∃ K', LiveS K' q :=
  fun K hs => live_of_mem.2.2 hs K

end Malt.Func
