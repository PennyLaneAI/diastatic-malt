import MaltModel.Cfg.Builder
/- Projections of the builder steps: of a primitive update by unfolding, of a composite step from those of its parts. -/
namespace Malt.Cfg.B

@[simp] theorem fail_head (b : B) (msg : String) : (b.fail msg).head = b.head := rfl
@[simp] theorem fail_errors (b : B) (msg : String) : (b.fail msg).errors = b.errors := rfl
@[simp] theorem fail_nodes (b : B) (msg : String) : (b.fail msg).nodes = b.nodes := rfl
@[simp] theorem fail_heap (b : B) (msg : String) : (b.fail msg).heap = b.heap := rfl
@[simp] theorem fail_leaves (b : B) (msg : String) : (b.fail msg).leaves = b.leaves := rfl
@[simp] theorem fail_activeStmts (b : B) (msg : String) : (b.fail msg).activeStmts = b.activeStmts := rfl
@[simp] theorem fail_owners (b : B) (msg : String) : (b.fail msg).owners = b.owners := rfl
@[simp] theorem fail_edges (b : B) (msg : String) : (b.fail msg).edges = b.edges := rfl
@[simp] theorem fail_finallySections (b : B) (msg : String) : (b.fail msg).finallySections = b.finallySections := rfl
@[simp] theorem fail_finallySub (b : B) (msg : String) : (b.fail msg).finallySub = b.finallySub := rfl
@[simp] theorem fail_finallyDirect (b : B) (msg : String) : (b.fail msg).finallyDirect = b.finallyDirect := rfl
@[simp] theorem fail_pendingFinally (b : B) (msg : String) : (b.fail msg).pendingFinally = b.pendingFinally := rfl
@[simp] theorem fail_exits (b : B) (msg : String) : (b.fail msg).exits = b.exits := rfl
@[simp] theorem fail_sectionEntry (b : B) (msg : String) : (b.fail msg).sectionEntry = b.sectionEntry := rfl
@[simp] theorem fail_continues (b : B) (msg : String) : (b.fail msg).continues = b.continues := rfl
@[simp] theorem fail_raises (b : B) (msg : String) : (b.fail msg).raises = b.raises := rfl
@[simp] theorem fail_condEntry (b : B) (msg : String) : (b.fail msg).condEntry = b.condEntry := rfl
@[simp] theorem fail_condLeaves (b : B) (msg : String) : (b.fail msg).condLeaves = b.condLeaves := rfl
@[simp] theorem fail_roots (b : B) (msg : String) : (b.fail msg).roots = b.roots := rfl
@[simp] theorem check_head (b : B) (c : Bool) (msg : String) : (b.check c msg).head = b.head := by cases c <;> rfl
@[simp] theorem check_errors (b : B) (c : Bool) (msg : String) : (b.check c msg).errors = b.errors := by cases c <;> rfl
@[simp] theorem check_nodes (b : B) (c : Bool) (msg : String) : (b.check c msg).nodes = b.nodes := by cases c <;> rfl
@[simp] theorem check_heap (b : B) (c : Bool) (msg : String) : (b.check c msg).heap = b.heap := by cases c <;> rfl
@[simp] theorem check_leaves (b : B) (c : Bool) (msg : String) : (b.check c msg).leaves = b.leaves := by cases c <;> rfl
@[simp] theorem check_activeStmts (b : B) (c : Bool) (msg : String) : (b.check c msg).activeStmts = b.activeStmts := by cases c <;> rfl
@[simp] theorem check_owners (b : B) (c : Bool) (msg : String) : (b.check c msg).owners = b.owners := by cases c <;> rfl
@[simp] theorem check_edges (b : B) (c : Bool) (msg : String) : (b.check c msg).edges = b.edges := by cases c <;> rfl
@[simp] theorem check_finallySections (b : B) (c : Bool) (msg : String) : (b.check c msg).finallySections = b.finallySections := by cases c <;> rfl
@[simp] theorem check_finallySub (b : B) (c : Bool) (msg : String) : (b.check c msg).finallySub = b.finallySub := by cases c <;> rfl
@[simp] theorem check_finallyDirect (b : B) (c : Bool) (msg : String) : (b.check c msg).finallyDirect = b.finallyDirect := by cases c <;> rfl
@[simp] theorem check_pendingFinally (b : B) (c : Bool) (msg : String) : (b.check c msg).pendingFinally = b.pendingFinally := by cases c <;> rfl
@[simp] theorem check_exits (b : B) (c : Bool) (msg : String) : (b.check c msg).exits = b.exits := by cases c <;> rfl
@[simp] theorem check_sectionEntry (b : B) (c : Bool) (msg : String) : (b.check c msg).sectionEntry = b.sectionEntry := by cases c <;> rfl
@[simp] theorem check_continues (b : B) (c : Bool) (msg : String) : (b.check c msg).continues = b.continues := by cases c <;> rfl
@[simp] theorem check_raises (b : B) (c : Bool) (msg : String) : (b.check c msg).raises = b.raises := by cases c <;> rfl
@[simp] theorem check_condEntry (b : B) (c : Bool) (msg : String) : (b.check c msg).condEntry = b.condEntry := by cases c <;> rfl
@[simp] theorem check_condLeaves (b : B) (c : Bool) (msg : String) : (b.check c msg).condLeaves = b.condLeaves := by cases c <;> rfl
@[simp] theorem check_roots (b : B) (c : Bool) (msg : String) : (b.check c msg).roots = b.roots := by cases c <;> rfl
@[simp] theorem putExits_head (b : B) (k : Nat) (l : List NodeId) : (b.putExits k l).head = b.head := rfl
@[simp] theorem putExits_errors (b : B) (k : Nat) (l : List NodeId) : (b.putExits k l).errors = b.errors := rfl
@[simp] theorem putExits_nodes (b : B) (k : Nat) (l : List NodeId) : (b.putExits k l).nodes = b.nodes := rfl
@[simp] theorem putExits_heap (b : B) (k : Nat) (l : List NodeId) : (b.putExits k l).heap = b.heap := rfl
@[simp] theorem putExits_leaves (b : B) (k : Nat) (l : List NodeId) : (b.putExits k l).leaves = b.leaves := rfl
@[simp] theorem putExits_activeStmts (b : B) (k : Nat) (l : List NodeId) : (b.putExits k l).activeStmts = b.activeStmts := rfl
@[simp] theorem putExits_owners (b : B) (k : Nat) (l : List NodeId) : (b.putExits k l).owners = b.owners := rfl
@[simp] theorem putExits_edges (b : B) (k : Nat) (l : List NodeId) : (b.putExits k l).edges = b.edges := rfl
@[simp] theorem putExits_finallySections (b : B) (k : Nat) (l : List NodeId) : (b.putExits k l).finallySections = b.finallySections := rfl
@[simp] theorem putExits_finallySub (b : B) (k : Nat) (l : List NodeId) : (b.putExits k l).finallySub = b.finallySub := rfl
@[simp] theorem putExits_finallyDirect (b : B) (k : Nat) (l : List NodeId) : (b.putExits k l).finallyDirect = b.finallyDirect := rfl
@[simp] theorem putExits_pendingFinally (b : B) (k : Nat) (l : List NodeId) : (b.putExits k l).pendingFinally = b.pendingFinally := rfl
@[simp] theorem putExits_sectionEntry (b : B) (k : Nat) (l : List NodeId) : (b.putExits k l).sectionEntry = b.sectionEntry := rfl
@[simp] theorem putExits_continues (b : B) (k : Nat) (l : List NodeId) : (b.putExits k l).continues = b.continues := rfl
@[simp] theorem putExits_raises (b : B) (k : Nat) (l : List NodeId) : (b.putExits k l).raises = b.raises := rfl
@[simp] theorem putExits_condEntry (b : B) (k : Nat) (l : List NodeId) : (b.putExits k l).condEntry = b.condEntry := rfl
@[simp] theorem putExits_condLeaves (b : B) (k : Nat) (l : List NodeId) : (b.putExits k l).condLeaves = b.condLeaves := rfl
@[simp] theorem putExits_roots (b : B) (k : Nat) (l : List NodeId) : (b.putExits k l).roots = b.roots := rfl
@[simp] theorem putExits_err (b : B) (k : Nat) (l : List NodeId) : (b.putExits k l).err = b.err := rfl
@[simp] theorem delExits_head (b : B) (k : Nat) : (b.delExits k).head = b.head := rfl
@[simp] theorem delExits_errors (b : B) (k : Nat) : (b.delExits k).errors = b.errors := rfl
@[simp] theorem delExits_nodes (b : B) (k : Nat) : (b.delExits k).nodes = b.nodes := rfl
@[simp] theorem delExits_heap (b : B) (k : Nat) : (b.delExits k).heap = b.heap := rfl
@[simp] theorem delExits_leaves (b : B) (k : Nat) : (b.delExits k).leaves = b.leaves := rfl
@[simp] theorem delExits_activeStmts (b : B) (k : Nat) : (b.delExits k).activeStmts = b.activeStmts := rfl
@[simp] theorem delExits_owners (b : B) (k : Nat) : (b.delExits k).owners = b.owners := rfl
@[simp] theorem delExits_edges (b : B) (k : Nat) : (b.delExits k).edges = b.edges := rfl
@[simp] theorem delExits_finallySections (b : B) (k : Nat) : (b.delExits k).finallySections = b.finallySections := rfl
@[simp] theorem delExits_finallySub (b : B) (k : Nat) : (b.delExits k).finallySub = b.finallySub := rfl
@[simp] theorem delExits_finallyDirect (b : B) (k : Nat) : (b.delExits k).finallyDirect = b.finallyDirect := rfl
@[simp] theorem delExits_pendingFinally (b : B) (k : Nat) : (b.delExits k).pendingFinally = b.pendingFinally := rfl
@[simp] theorem delExits_sectionEntry (b : B) (k : Nat) : (b.delExits k).sectionEntry = b.sectionEntry := rfl
@[simp] theorem delExits_continues (b : B) (k : Nat) : (b.delExits k).continues = b.continues := rfl
@[simp] theorem delExits_raises (b : B) (k : Nat) : (b.delExits k).raises = b.raises := rfl
@[simp] theorem delExits_condEntry (b : B) (k : Nat) : (b.delExits k).condEntry = b.condEntry := rfl
@[simp] theorem delExits_condLeaves (b : B) (k : Nat) : (b.delExits k).condLeaves = b.condLeaves := rfl
@[simp] theorem delExits_roots (b : B) (k : Nat) : (b.delExits k).roots = b.roots := rfl
@[simp] theorem delExits_err (b : B) (k : Nat) : (b.delExits k).err = b.err := rfl
@[simp] theorem putContinues_head (b : B) (k : Nat) (l : List NodeId) : (b.putContinues k l).head = b.head := rfl
@[simp] theorem putContinues_errors (b : B) (k : Nat) (l : List NodeId) : (b.putContinues k l).errors = b.errors := rfl
@[simp] theorem putContinues_nodes (b : B) (k : Nat) (l : List NodeId) : (b.putContinues k l).nodes = b.nodes := rfl
@[simp] theorem putContinues_heap (b : B) (k : Nat) (l : List NodeId) : (b.putContinues k l).heap = b.heap := rfl
@[simp] theorem putContinues_leaves (b : B) (k : Nat) (l : List NodeId) : (b.putContinues k l).leaves = b.leaves := rfl
@[simp] theorem putContinues_activeStmts (b : B) (k : Nat) (l : List NodeId) : (b.putContinues k l).activeStmts = b.activeStmts := rfl
@[simp] theorem putContinues_owners (b : B) (k : Nat) (l : List NodeId) : (b.putContinues k l).owners = b.owners := rfl
@[simp] theorem putContinues_edges (b : B) (k : Nat) (l : List NodeId) : (b.putContinues k l).edges = b.edges := rfl
@[simp] theorem putContinues_finallySections (b : B) (k : Nat) (l : List NodeId) : (b.putContinues k l).finallySections = b.finallySections := rfl
@[simp] theorem putContinues_finallySub (b : B) (k : Nat) (l : List NodeId) : (b.putContinues k l).finallySub = b.finallySub := rfl
@[simp] theorem putContinues_finallyDirect (b : B) (k : Nat) (l : List NodeId) : (b.putContinues k l).finallyDirect = b.finallyDirect := rfl
@[simp] theorem putContinues_pendingFinally (b : B) (k : Nat) (l : List NodeId) : (b.putContinues k l).pendingFinally = b.pendingFinally := rfl
@[simp] theorem putContinues_exits (b : B) (k : Nat) (l : List NodeId) : (b.putContinues k l).exits = b.exits := rfl
@[simp] theorem putContinues_sectionEntry (b : B) (k : Nat) (l : List NodeId) : (b.putContinues k l).sectionEntry = b.sectionEntry := rfl
@[simp] theorem putContinues_raises (b : B) (k : Nat) (l : List NodeId) : (b.putContinues k l).raises = b.raises := rfl
@[simp] theorem putContinues_condEntry (b : B) (k : Nat) (l : List NodeId) : (b.putContinues k l).condEntry = b.condEntry := rfl
@[simp] theorem putContinues_condLeaves (b : B) (k : Nat) (l : List NodeId) : (b.putContinues k l).condLeaves = b.condLeaves := rfl
@[simp] theorem putContinues_roots (b : B) (k : Nat) (l : List NodeId) : (b.putContinues k l).roots = b.roots := rfl
@[simp] theorem putContinues_err (b : B) (k : Nat) (l : List NodeId) : (b.putContinues k l).err = b.err := rfl
@[simp] theorem putSectionEntry_head (b : B) (k : Nat) (e : NodeId) : (b.putSectionEntry k e).head = b.head := rfl
@[simp] theorem putSectionEntry_errors (b : B) (k : Nat) (e : NodeId) : (b.putSectionEntry k e).errors = b.errors := rfl
@[simp] theorem putSectionEntry_nodes (b : B) (k : Nat) (e : NodeId) : (b.putSectionEntry k e).nodes = b.nodes := rfl
@[simp] theorem putSectionEntry_heap (b : B) (k : Nat) (e : NodeId) : (b.putSectionEntry k e).heap = b.heap := rfl
@[simp] theorem putSectionEntry_leaves (b : B) (k : Nat) (e : NodeId) : (b.putSectionEntry k e).leaves = b.leaves := rfl
@[simp] theorem putSectionEntry_activeStmts (b : B) (k : Nat) (e : NodeId) : (b.putSectionEntry k e).activeStmts = b.activeStmts := rfl
@[simp] theorem putSectionEntry_owners (b : B) (k : Nat) (e : NodeId) : (b.putSectionEntry k e).owners = b.owners := rfl
@[simp] theorem putSectionEntry_edges (b : B) (k : Nat) (e : NodeId) : (b.putSectionEntry k e).edges = b.edges := rfl
@[simp] theorem putSectionEntry_finallySections (b : B) (k : Nat) (e : NodeId) : (b.putSectionEntry k e).finallySections = b.finallySections := rfl
@[simp] theorem putSectionEntry_finallySub (b : B) (k : Nat) (e : NodeId) : (b.putSectionEntry k e).finallySub = b.finallySub := rfl
@[simp] theorem putSectionEntry_finallyDirect (b : B) (k : Nat) (e : NodeId) : (b.putSectionEntry k e).finallyDirect = b.finallyDirect := rfl
@[simp] theorem putSectionEntry_pendingFinally (b : B) (k : Nat) (e : NodeId) : (b.putSectionEntry k e).pendingFinally = b.pendingFinally := rfl
@[simp] theorem putSectionEntry_exits (b : B) (k : Nat) (e : NodeId) : (b.putSectionEntry k e).exits = b.exits := rfl
@[simp] theorem putSectionEntry_continues (b : B) (k : Nat) (e : NodeId) : (b.putSectionEntry k e).continues = b.continues := rfl
@[simp] theorem putSectionEntry_raises (b : B) (k : Nat) (e : NodeId) : (b.putSectionEntry k e).raises = b.raises := rfl
@[simp] theorem putSectionEntry_condEntry (b : B) (k : Nat) (e : NodeId) : (b.putSectionEntry k e).condEntry = b.condEntry := rfl
@[simp] theorem putSectionEntry_condLeaves (b : B) (k : Nat) (e : NodeId) : (b.putSectionEntry k e).condLeaves = b.condLeaves := rfl
@[simp] theorem putSectionEntry_roots (b : B) (k : Nat) (e : NodeId) : (b.putSectionEntry k e).roots = b.roots := rfl
@[simp] theorem putSectionEntry_err (b : B) (k : Nat) (e : NodeId) : (b.putSectionEntry k e).err = b.err := rfl
@[simp] theorem delLoopKeys_head (b : B) (k : Nat) : (b.delLoopKeys k).head = b.head := rfl
@[simp] theorem delLoopKeys_errors (b : B) (k : Nat) : (b.delLoopKeys k).errors = b.errors := rfl
@[simp] theorem delLoopKeys_nodes (b : B) (k : Nat) : (b.delLoopKeys k).nodes = b.nodes := rfl
@[simp] theorem delLoopKeys_heap (b : B) (k : Nat) : (b.delLoopKeys k).heap = b.heap := rfl
@[simp] theorem delLoopKeys_leaves (b : B) (k : Nat) : (b.delLoopKeys k).leaves = b.leaves := rfl
@[simp] theorem delLoopKeys_activeStmts (b : B) (k : Nat) : (b.delLoopKeys k).activeStmts = b.activeStmts := rfl
@[simp] theorem delLoopKeys_owners (b : B) (k : Nat) : (b.delLoopKeys k).owners = b.owners := rfl
@[simp] theorem delLoopKeys_edges (b : B) (k : Nat) : (b.delLoopKeys k).edges = b.edges := rfl
@[simp] theorem delLoopKeys_finallySections (b : B) (k : Nat) : (b.delLoopKeys k).finallySections = b.finallySections := rfl
@[simp] theorem delLoopKeys_finallySub (b : B) (k : Nat) : (b.delLoopKeys k).finallySub = b.finallySub := rfl
@[simp] theorem delLoopKeys_finallyDirect (b : B) (k : Nat) : (b.delLoopKeys k).finallyDirect = b.finallyDirect := rfl
@[simp] theorem delLoopKeys_pendingFinally (b : B) (k : Nat) : (b.delLoopKeys k).pendingFinally = b.pendingFinally := rfl
@[simp] theorem delLoopKeys_exits (b : B) (k : Nat) : (b.delLoopKeys k).exits = b.exits := rfl
@[simp] theorem delLoopKeys_raises (b : B) (k : Nat) : (b.delLoopKeys k).raises = b.raises := rfl
@[simp] theorem delLoopKeys_condEntry (b : B) (k : Nat) : (b.delLoopKeys k).condEntry = b.condEntry := rfl
@[simp] theorem delLoopKeys_condLeaves (b : B) (k : Nat) : (b.delLoopKeys k).condLeaves = b.condLeaves := rfl
@[simp] theorem delLoopKeys_roots (b : B) (k : Nat) : (b.delLoopKeys k).roots = b.roots := rfl
@[simp] theorem delLoopKeys_err (b : B) (k : Nat) : (b.delLoopKeys k).err = b.err := rfl
@[simp] theorem putCondLeaves_head (b : B) (k : Nat) (l : List Ref) : (b.putCondLeaves k l).head = b.head := rfl
@[simp] theorem putCondLeaves_errors (b : B) (k : Nat) (l : List Ref) : (b.putCondLeaves k l).errors = b.errors := rfl
@[simp] theorem putCondLeaves_nodes (b : B) (k : Nat) (l : List Ref) : (b.putCondLeaves k l).nodes = b.nodes := rfl
@[simp] theorem putCondLeaves_heap (b : B) (k : Nat) (l : List Ref) : (b.putCondLeaves k l).heap = b.heap := rfl
@[simp] theorem putCondLeaves_leaves (b : B) (k : Nat) (l : List Ref) : (b.putCondLeaves k l).leaves = b.leaves := rfl
@[simp] theorem putCondLeaves_activeStmts (b : B) (k : Nat) (l : List Ref) : (b.putCondLeaves k l).activeStmts = b.activeStmts := rfl
@[simp] theorem putCondLeaves_owners (b : B) (k : Nat) (l : List Ref) : (b.putCondLeaves k l).owners = b.owners := rfl
@[simp] theorem putCondLeaves_edges (b : B) (k : Nat) (l : List Ref) : (b.putCondLeaves k l).edges = b.edges := rfl
@[simp] theorem putCondLeaves_finallySections (b : B) (k : Nat) (l : List Ref) : (b.putCondLeaves k l).finallySections = b.finallySections := rfl
@[simp] theorem putCondLeaves_finallySub (b : B) (k : Nat) (l : List Ref) : (b.putCondLeaves k l).finallySub = b.finallySub := rfl
@[simp] theorem putCondLeaves_finallyDirect (b : B) (k : Nat) (l : List Ref) : (b.putCondLeaves k l).finallyDirect = b.finallyDirect := rfl
@[simp] theorem putCondLeaves_pendingFinally (b : B) (k : Nat) (l : List Ref) : (b.putCondLeaves k l).pendingFinally = b.pendingFinally := rfl
@[simp] theorem putCondLeaves_exits (b : B) (k : Nat) (l : List Ref) : (b.putCondLeaves k l).exits = b.exits := rfl
@[simp] theorem putCondLeaves_sectionEntry (b : B) (k : Nat) (l : List Ref) : (b.putCondLeaves k l).sectionEntry = b.sectionEntry := rfl
@[simp] theorem putCondLeaves_continues (b : B) (k : Nat) (l : List Ref) : (b.putCondLeaves k l).continues = b.continues := rfl
@[simp] theorem putCondLeaves_raises (b : B) (k : Nat) (l : List Ref) : (b.putCondLeaves k l).raises = b.raises := rfl
@[simp] theorem putCondLeaves_condEntry (b : B) (k : Nat) (l : List Ref) : (b.putCondLeaves k l).condEntry = b.condEntry := rfl
@[simp] theorem putCondLeaves_roots (b : B) (k : Nat) (l : List Ref) : (b.putCondLeaves k l).roots = b.roots := rfl
@[simp] theorem putCondLeaves_err (b : B) (k : Nat) (l : List Ref) : (b.putCondLeaves k l).err = b.err := rfl
@[simp] theorem putCondEntry_head (b : B) (k : Nat) (r : Ref) : (b.putCondEntry k r).head = b.head := rfl
@[simp] theorem putCondEntry_errors (b : B) (k : Nat) (r : Ref) : (b.putCondEntry k r).errors = b.errors := rfl
@[simp] theorem putCondEntry_nodes (b : B) (k : Nat) (r : Ref) : (b.putCondEntry k r).nodes = b.nodes := rfl
@[simp] theorem putCondEntry_heap (b : B) (k : Nat) (r : Ref) : (b.putCondEntry k r).heap = b.heap := rfl
@[simp] theorem putCondEntry_leaves (b : B) (k : Nat) (r : Ref) : (b.putCondEntry k r).leaves = b.leaves := rfl
@[simp] theorem putCondEntry_activeStmts (b : B) (k : Nat) (r : Ref) : (b.putCondEntry k r).activeStmts = b.activeStmts := rfl
@[simp] theorem putCondEntry_owners (b : B) (k : Nat) (r : Ref) : (b.putCondEntry k r).owners = b.owners := rfl
@[simp] theorem putCondEntry_edges (b : B) (k : Nat) (r : Ref) : (b.putCondEntry k r).edges = b.edges := rfl
@[simp] theorem putCondEntry_finallySections (b : B) (k : Nat) (r : Ref) : (b.putCondEntry k r).finallySections = b.finallySections := rfl
@[simp] theorem putCondEntry_finallySub (b : B) (k : Nat) (r : Ref) : (b.putCondEntry k r).finallySub = b.finallySub := rfl
@[simp] theorem putCondEntry_finallyDirect (b : B) (k : Nat) (r : Ref) : (b.putCondEntry k r).finallyDirect = b.finallyDirect := rfl
@[simp] theorem putCondEntry_pendingFinally (b : B) (k : Nat) (r : Ref) : (b.putCondEntry k r).pendingFinally = b.pendingFinally := rfl
@[simp] theorem putCondEntry_exits (b : B) (k : Nat) (r : Ref) : (b.putCondEntry k r).exits = b.exits := rfl
@[simp] theorem putCondEntry_sectionEntry (b : B) (k : Nat) (r : Ref) : (b.putCondEntry k r).sectionEntry = b.sectionEntry := rfl
@[simp] theorem putCondEntry_continues (b : B) (k : Nat) (r : Ref) : (b.putCondEntry k r).continues = b.continues := rfl
@[simp] theorem putCondEntry_raises (b : B) (k : Nat) (r : Ref) : (b.putCondEntry k r).raises = b.raises := rfl
@[simp] theorem putCondEntry_condLeaves (b : B) (k : Nat) (r : Ref) : (b.putCondEntry k r).condLeaves = b.condLeaves := rfl
@[simp] theorem putCondEntry_roots (b : B) (k : Nat) (r : Ref) : (b.putCondEntry k r).roots = b.roots := rfl
@[simp] theorem putCondEntry_err (b : B) (k : Nat) (r : Ref) : (b.putCondEntry k r).err = b.err := rfl
@[simp] theorem delCondKeys_head (b : B) (k : Nat) : (b.delCondKeys k).head = b.head := rfl
@[simp] theorem delCondKeys_errors (b : B) (k : Nat) : (b.delCondKeys k).errors = b.errors := rfl
@[simp] theorem delCondKeys_nodes (b : B) (k : Nat) : (b.delCondKeys k).nodes = b.nodes := rfl
@[simp] theorem delCondKeys_heap (b : B) (k : Nat) : (b.delCondKeys k).heap = b.heap := rfl
@[simp] theorem delCondKeys_leaves (b : B) (k : Nat) : (b.delCondKeys k).leaves = b.leaves := rfl
@[simp] theorem delCondKeys_activeStmts (b : B) (k : Nat) : (b.delCondKeys k).activeStmts = b.activeStmts := rfl
@[simp] theorem delCondKeys_owners (b : B) (k : Nat) : (b.delCondKeys k).owners = b.owners := rfl
@[simp] theorem delCondKeys_edges (b : B) (k : Nat) : (b.delCondKeys k).edges = b.edges := rfl
@[simp] theorem delCondKeys_finallySections (b : B) (k : Nat) : (b.delCondKeys k).finallySections = b.finallySections := rfl
@[simp] theorem delCondKeys_finallySub (b : B) (k : Nat) : (b.delCondKeys k).finallySub = b.finallySub := rfl
@[simp] theorem delCondKeys_finallyDirect (b : B) (k : Nat) : (b.delCondKeys k).finallyDirect = b.finallyDirect := rfl
@[simp] theorem delCondKeys_pendingFinally (b : B) (k : Nat) : (b.delCondKeys k).pendingFinally = b.pendingFinally := rfl
@[simp] theorem delCondKeys_exits (b : B) (k : Nat) : (b.delCondKeys k).exits = b.exits := rfl
@[simp] theorem delCondKeys_sectionEntry (b : B) (k : Nat) : (b.delCondKeys k).sectionEntry = b.sectionEntry := rfl
@[simp] theorem delCondKeys_continues (b : B) (k : Nat) : (b.delCondKeys k).continues = b.continues := rfl
@[simp] theorem delCondKeys_raises (b : B) (k : Nat) : (b.delCondKeys k).raises = b.raises := rfl
@[simp] theorem delCondKeys_roots (b : B) (k : Nat) : (b.delCondKeys k).roots = b.roots := rfl
@[simp] theorem delCondKeys_err (b : B) (k : Nat) : (b.delCondKeys k).err = b.err := rfl
@[simp] theorem putFinallySections_head (b : B) (n : NodeId) (gs : List Nat) : (b.putFinallySections n gs).head = b.head := rfl
@[simp] theorem putFinallySections_errors (b : B) (n : NodeId) (gs : List Nat) : (b.putFinallySections n gs).errors = b.errors := rfl
@[simp] theorem putFinallySections_nodes (b : B) (n : NodeId) (gs : List Nat) : (b.putFinallySections n gs).nodes = b.nodes := rfl
@[simp] theorem putFinallySections_heap (b : B) (n : NodeId) (gs : List Nat) : (b.putFinallySections n gs).heap = b.heap := rfl
@[simp] theorem putFinallySections_leaves (b : B) (n : NodeId) (gs : List Nat) : (b.putFinallySections n gs).leaves = b.leaves := rfl
@[simp] theorem putFinallySections_activeStmts (b : B) (n : NodeId) (gs : List Nat) : (b.putFinallySections n gs).activeStmts = b.activeStmts := rfl
@[simp] theorem putFinallySections_owners (b : B) (n : NodeId) (gs : List Nat) : (b.putFinallySections n gs).owners = b.owners := rfl
@[simp] theorem putFinallySections_edges (b : B) (n : NodeId) (gs : List Nat) : (b.putFinallySections n gs).edges = b.edges := rfl
@[simp] theorem putFinallySections_finallySub (b : B) (n : NodeId) (gs : List Nat) : (b.putFinallySections n gs).finallySub = b.finallySub := rfl
@[simp] theorem putFinallySections_finallyDirect (b : B) (n : NodeId) (gs : List Nat) : (b.putFinallySections n gs).finallyDirect = b.finallyDirect := rfl
@[simp] theorem putFinallySections_pendingFinally (b : B) (n : NodeId) (gs : List Nat) : (b.putFinallySections n gs).pendingFinally = b.pendingFinally := rfl
@[simp] theorem putFinallySections_exits (b : B) (n : NodeId) (gs : List Nat) : (b.putFinallySections n gs).exits = b.exits := rfl
@[simp] theorem putFinallySections_sectionEntry (b : B) (n : NodeId) (gs : List Nat) : (b.putFinallySections n gs).sectionEntry = b.sectionEntry := rfl
@[simp] theorem putFinallySections_continues (b : B) (n : NodeId) (gs : List Nat) : (b.putFinallySections n gs).continues = b.continues := rfl
@[simp] theorem putFinallySections_raises (b : B) (n : NodeId) (gs : List Nat) : (b.putFinallySections n gs).raises = b.raises := rfl
@[simp] theorem putFinallySections_condEntry (b : B) (n : NodeId) (gs : List Nat) : (b.putFinallySections n gs).condEntry = b.condEntry := rfl
@[simp] theorem putFinallySections_condLeaves (b : B) (n : NodeId) (gs : List Nat) : (b.putFinallySections n gs).condLeaves = b.condLeaves := rfl
@[simp] theorem putFinallySections_roots (b : B) (n : NodeId) (gs : List Nat) : (b.putFinallySections n gs).roots = b.roots := rfl
@[simp] theorem putFinallySections_err (b : B) (n : NodeId) (gs : List Nat) : (b.putFinallySections n gs).err = b.err := rfl
@[simp] theorem delFinallySections_head (b : B) (n : NodeId) : (b.delFinallySections n).head = b.head := rfl
@[simp] theorem delFinallySections_errors (b : B) (n : NodeId) : (b.delFinallySections n).errors = b.errors := rfl
@[simp] theorem delFinallySections_nodes (b : B) (n : NodeId) : (b.delFinallySections n).nodes = b.nodes := rfl
@[simp] theorem delFinallySections_heap (b : B) (n : NodeId) : (b.delFinallySections n).heap = b.heap := rfl
@[simp] theorem delFinallySections_leaves (b : B) (n : NodeId) : (b.delFinallySections n).leaves = b.leaves := rfl
@[simp] theorem delFinallySections_activeStmts (b : B) (n : NodeId) : (b.delFinallySections n).activeStmts = b.activeStmts := rfl
@[simp] theorem delFinallySections_owners (b : B) (n : NodeId) : (b.delFinallySections n).owners = b.owners := rfl
@[simp] theorem delFinallySections_edges (b : B) (n : NodeId) : (b.delFinallySections n).edges = b.edges := rfl
@[simp] theorem delFinallySections_finallySub (b : B) (n : NodeId) : (b.delFinallySections n).finallySub = b.finallySub := rfl
@[simp] theorem delFinallySections_finallyDirect (b : B) (n : NodeId) : (b.delFinallySections n).finallyDirect = b.finallyDirect := rfl
@[simp] theorem delFinallySections_pendingFinally (b : B) (n : NodeId) : (b.delFinallySections n).pendingFinally = b.pendingFinally := rfl
@[simp] theorem delFinallySections_exits (b : B) (n : NodeId) : (b.delFinallySections n).exits = b.exits := rfl
@[simp] theorem delFinallySections_sectionEntry (b : B) (n : NodeId) : (b.delFinallySections n).sectionEntry = b.sectionEntry := rfl
@[simp] theorem delFinallySections_continues (b : B) (n : NodeId) : (b.delFinallySections n).continues = b.continues := rfl
@[simp] theorem delFinallySections_raises (b : B) (n : NodeId) : (b.delFinallySections n).raises = b.raises := rfl
@[simp] theorem delFinallySections_condEntry (b : B) (n : NodeId) : (b.delFinallySections n).condEntry = b.condEntry := rfl
@[simp] theorem delFinallySections_condLeaves (b : B) (n : NodeId) : (b.delFinallySections n).condLeaves = b.condLeaves := rfl
@[simp] theorem delFinallySections_roots (b : B) (n : NodeId) : (b.delFinallySections n).roots = b.roots := rfl
@[simp] theorem delFinallySections_err (b : B) (n : NodeId) : (b.delFinallySections n).err = b.err := rfl
@[simp] theorem setRaises_head (b : B) (rs : List (Nat × List NodeId)) : (b.setRaises rs).head = b.head := rfl
@[simp] theorem setRaises_errors (b : B) (rs : List (Nat × List NodeId)) : (b.setRaises rs).errors = b.errors := rfl
@[simp] theorem setRaises_nodes (b : B) (rs : List (Nat × List NodeId)) : (b.setRaises rs).nodes = b.nodes := rfl
@[simp] theorem setRaises_heap (b : B) (rs : List (Nat × List NodeId)) : (b.setRaises rs).heap = b.heap := rfl
@[simp] theorem setRaises_leaves (b : B) (rs : List (Nat × List NodeId)) : (b.setRaises rs).leaves = b.leaves := rfl
@[simp] theorem setRaises_activeStmts (b : B) (rs : List (Nat × List NodeId)) : (b.setRaises rs).activeStmts = b.activeStmts := rfl
@[simp] theorem setRaises_owners (b : B) (rs : List (Nat × List NodeId)) : (b.setRaises rs).owners = b.owners := rfl
@[simp] theorem setRaises_edges (b : B) (rs : List (Nat × List NodeId)) : (b.setRaises rs).edges = b.edges := rfl
@[simp] theorem setRaises_finallySections (b : B) (rs : List (Nat × List NodeId)) : (b.setRaises rs).finallySections = b.finallySections := rfl
@[simp] theorem setRaises_finallySub (b : B) (rs : List (Nat × List NodeId)) : (b.setRaises rs).finallySub = b.finallySub := rfl
@[simp] theorem setRaises_finallyDirect (b : B) (rs : List (Nat × List NodeId)) : (b.setRaises rs).finallyDirect = b.finallyDirect := rfl
@[simp] theorem setRaises_pendingFinally (b : B) (rs : List (Nat × List NodeId)) : (b.setRaises rs).pendingFinally = b.pendingFinally := rfl
@[simp] theorem setRaises_exits (b : B) (rs : List (Nat × List NodeId)) : (b.setRaises rs).exits = b.exits := rfl
@[simp] theorem setRaises_sectionEntry (b : B) (rs : List (Nat × List NodeId)) : (b.setRaises rs).sectionEntry = b.sectionEntry := rfl
@[simp] theorem setRaises_continues (b : B) (rs : List (Nat × List NodeId)) : (b.setRaises rs).continues = b.continues := rfl
@[simp] theorem setRaises_condEntry (b : B) (rs : List (Nat × List NodeId)) : (b.setRaises rs).condEntry = b.condEntry := rfl
@[simp] theorem setRaises_condLeaves (b : B) (rs : List (Nat × List NodeId)) : (b.setRaises rs).condLeaves = b.condLeaves := rfl
@[simp] theorem setRaises_roots (b : B) (rs : List (Nat × List NodeId)) : (b.setRaises rs).roots = b.roots := rfl
@[simp] theorem setRaises_err (b : B) (rs : List (Nat × List NodeId)) : (b.setRaises rs).err = b.err := rfl
@[simp] theorem setActive_head (b : B) (l : List Nat) : (b.setActive l).head = b.head := rfl
@[simp] theorem setActive_errors (b : B) (l : List Nat) : (b.setActive l).errors = b.errors := rfl
@[simp] theorem setActive_nodes (b : B) (l : List Nat) : (b.setActive l).nodes = b.nodes := rfl
@[simp] theorem setActive_heap (b : B) (l : List Nat) : (b.setActive l).heap = b.heap := rfl
@[simp] theorem setActive_leaves (b : B) (l : List Nat) : (b.setActive l).leaves = b.leaves := rfl
@[simp] theorem setActive_owners (b : B) (l : List Nat) : (b.setActive l).owners = b.owners := rfl
@[simp] theorem setActive_edges (b : B) (l : List Nat) : (b.setActive l).edges = b.edges := rfl
@[simp] theorem setActive_finallySections (b : B) (l : List Nat) : (b.setActive l).finallySections = b.finallySections := rfl
@[simp] theorem setActive_finallySub (b : B) (l : List Nat) : (b.setActive l).finallySub = b.finallySub := rfl
@[simp] theorem setActive_finallyDirect (b : B) (l : List Nat) : (b.setActive l).finallyDirect = b.finallyDirect := rfl
@[simp] theorem setActive_pendingFinally (b : B) (l : List Nat) : (b.setActive l).pendingFinally = b.pendingFinally := rfl
@[simp] theorem setActive_exits (b : B) (l : List Nat) : (b.setActive l).exits = b.exits := rfl
@[simp] theorem setActive_sectionEntry (b : B) (l : List Nat) : (b.setActive l).sectionEntry = b.sectionEntry := rfl
@[simp] theorem setActive_continues (b : B) (l : List Nat) : (b.setActive l).continues = b.continues := rfl
@[simp] theorem setActive_raises (b : B) (l : List Nat) : (b.setActive l).raises = b.raises := rfl
@[simp] theorem setActive_condEntry (b : B) (l : List Nat) : (b.setActive l).condEntry = b.condEntry := rfl
@[simp] theorem setActive_condLeaves (b : B) (l : List Nat) : (b.setActive l).condLeaves = b.condLeaves := rfl
@[simp] theorem setActive_roots (b : B) (l : List Nat) : (b.setActive l).roots = b.roots := rfl
@[simp] theorem setActive_err (b : B) (l : List Nat) : (b.setActive l).err = b.err := rfl
@[simp] theorem pushError_head (b : B) (n : NodeId) : (b.pushError n).head = b.head := rfl
@[simp] theorem pushError_nodes (b : B) (n : NodeId) : (b.pushError n).nodes = b.nodes := rfl
@[simp] theorem pushError_heap (b : B) (n : NodeId) : (b.pushError n).heap = b.heap := rfl
@[simp] theorem pushError_leaves (b : B) (n : NodeId) : (b.pushError n).leaves = b.leaves := rfl
@[simp] theorem pushError_activeStmts (b : B) (n : NodeId) : (b.pushError n).activeStmts = b.activeStmts := rfl
@[simp] theorem pushError_owners (b : B) (n : NodeId) : (b.pushError n).owners = b.owners := rfl
@[simp] theorem pushError_edges (b : B) (n : NodeId) : (b.pushError n).edges = b.edges := rfl
@[simp] theorem pushError_finallySections (b : B) (n : NodeId) : (b.pushError n).finallySections = b.finallySections := rfl
@[simp] theorem pushError_finallySub (b : B) (n : NodeId) : (b.pushError n).finallySub = b.finallySub := rfl
@[simp] theorem pushError_finallyDirect (b : B) (n : NodeId) : (b.pushError n).finallyDirect = b.finallyDirect := rfl
@[simp] theorem pushError_pendingFinally (b : B) (n : NodeId) : (b.pushError n).pendingFinally = b.pendingFinally := rfl
@[simp] theorem pushError_exits (b : B) (n : NodeId) : (b.pushError n).exits = b.exits := rfl
@[simp] theorem pushError_sectionEntry (b : B) (n : NodeId) : (b.pushError n).sectionEntry = b.sectionEntry := rfl
@[simp] theorem pushError_continues (b : B) (n : NodeId) : (b.pushError n).continues = b.continues := rfl
@[simp] theorem pushError_raises (b : B) (n : NodeId) : (b.pushError n).raises = b.raises := rfl
@[simp] theorem pushError_condEntry (b : B) (n : NodeId) : (b.pushError n).condEntry = b.condEntry := rfl
@[simp] theorem pushError_condLeaves (b : B) (n : NodeId) : (b.pushError n).condLeaves = b.condLeaves := rfl
@[simp] theorem pushError_roots (b : B) (n : NodeId) : (b.pushError n).roots = b.roots := rfl
@[simp] theorem pushError_err (b : B) (n : NodeId) : (b.pushError n).err = b.err := rfl
@[simp] theorem setLeavesRef_head (b : B) (r : Ref) : (b.setLeavesRef r).head = b.head := rfl
@[simp] theorem setLeavesRef_errors (b : B) (r : Ref) : (b.setLeavesRef r).errors = b.errors := rfl
@[simp] theorem setLeavesRef_nodes (b : B) (r : Ref) : (b.setLeavesRef r).nodes = b.nodes := rfl
@[simp] theorem setLeavesRef_heap (b : B) (r : Ref) : (b.setLeavesRef r).heap = b.heap := rfl
@[simp] theorem setLeavesRef_activeStmts (b : B) (r : Ref) : (b.setLeavesRef r).activeStmts = b.activeStmts := rfl
@[simp] theorem setLeavesRef_owners (b : B) (r : Ref) : (b.setLeavesRef r).owners = b.owners := rfl
@[simp] theorem setLeavesRef_edges (b : B) (r : Ref) : (b.setLeavesRef r).edges = b.edges := rfl
@[simp] theorem setLeavesRef_finallySections (b : B) (r : Ref) : (b.setLeavesRef r).finallySections = b.finallySections := rfl
@[simp] theorem setLeavesRef_finallySub (b : B) (r : Ref) : (b.setLeavesRef r).finallySub = b.finallySub := rfl
@[simp] theorem setLeavesRef_finallyDirect (b : B) (r : Ref) : (b.setLeavesRef r).finallyDirect = b.finallyDirect := rfl
@[simp] theorem setLeavesRef_pendingFinally (b : B) (r : Ref) : (b.setLeavesRef r).pendingFinally = b.pendingFinally := rfl
@[simp] theorem setLeavesRef_exits (b : B) (r : Ref) : (b.setLeavesRef r).exits = b.exits := rfl
@[simp] theorem setLeavesRef_sectionEntry (b : B) (r : Ref) : (b.setLeavesRef r).sectionEntry = b.sectionEntry := rfl
@[simp] theorem setLeavesRef_continues (b : B) (r : Ref) : (b.setLeavesRef r).continues = b.continues := rfl
@[simp] theorem setLeavesRef_raises (b : B) (r : Ref) : (b.setLeavesRef r).raises = b.raises := rfl
@[simp] theorem setLeavesRef_condEntry (b : B) (r : Ref) : (b.setLeavesRef r).condEntry = b.condEntry := rfl
@[simp] theorem setLeavesRef_condLeaves (b : B) (r : Ref) : (b.setLeavesRef r).condLeaves = b.condLeaves := rfl
@[simp] theorem setLeavesRef_roots (b : B) (r : Ref) : (b.setLeavesRef r).roots = b.roots := rfl
@[simp] theorem setLeavesRef_err (b : B) (r : Ref) : (b.setLeavesRef r).err = b.err := rfl
@[simp] theorem setLeavesFresh_head (b : B) (s : List NodeId) : (b.setLeavesFresh s).head = b.head := rfl
@[simp] theorem setLeavesFresh_errors (b : B) (s : List NodeId) : (b.setLeavesFresh s).errors = b.errors := rfl
@[simp] theorem setLeavesFresh_nodes (b : B) (s : List NodeId) : (b.setLeavesFresh s).nodes = b.nodes := rfl
@[simp] theorem setLeavesFresh_activeStmts (b : B) (s : List NodeId) : (b.setLeavesFresh s).activeStmts = b.activeStmts := rfl
@[simp] theorem setLeavesFresh_owners (b : B) (s : List NodeId) : (b.setLeavesFresh s).owners = b.owners := rfl
@[simp] theorem setLeavesFresh_edges (b : B) (s : List NodeId) : (b.setLeavesFresh s).edges = b.edges := rfl
@[simp] theorem setLeavesFresh_finallySections (b : B) (s : List NodeId) : (b.setLeavesFresh s).finallySections = b.finallySections := rfl
@[simp] theorem setLeavesFresh_finallySub (b : B) (s : List NodeId) : (b.setLeavesFresh s).finallySub = b.finallySub := rfl
@[simp] theorem setLeavesFresh_finallyDirect (b : B) (s : List NodeId) : (b.setLeavesFresh s).finallyDirect = b.finallyDirect := rfl
@[simp] theorem setLeavesFresh_pendingFinally (b : B) (s : List NodeId) : (b.setLeavesFresh s).pendingFinally = b.pendingFinally := rfl
@[simp] theorem setLeavesFresh_exits (b : B) (s : List NodeId) : (b.setLeavesFresh s).exits = b.exits := rfl
@[simp] theorem setLeavesFresh_sectionEntry (b : B) (s : List NodeId) : (b.setLeavesFresh s).sectionEntry = b.sectionEntry := rfl
@[simp] theorem setLeavesFresh_continues (b : B) (s : List NodeId) : (b.setLeavesFresh s).continues = b.continues := rfl
@[simp] theorem setLeavesFresh_raises (b : B) (s : List NodeId) : (b.setLeavesFresh s).raises = b.raises := rfl
@[simp] theorem setLeavesFresh_condEntry (b : B) (s : List NodeId) : (b.setLeavesFresh s).condEntry = b.condEntry := rfl
@[simp] theorem setLeavesFresh_condLeaves (b : B) (s : List NodeId) : (b.setLeavesFresh s).condLeaves = b.condLeaves := rfl
@[simp] theorem setLeavesFresh_roots (b : B) (s : List NodeId) : (b.setLeavesFresh s).roots = b.roots := rfl
@[simp] theorem setLeavesFresh_err (b : B) (s : List NodeId) : (b.setLeavesFresh s).err = b.err := rfl
@[simp] theorem leavesUnion_head (b : B) (s : List NodeId) : (b.leavesUnion s).head = b.head := rfl
@[simp] theorem leavesUnion_errors (b : B) (s : List NodeId) : (b.leavesUnion s).errors = b.errors := rfl
@[simp] theorem leavesUnion_nodes (b : B) (s : List NodeId) : (b.leavesUnion s).nodes = b.nodes := rfl
@[simp] theorem leavesUnion_leaves (b : B) (s : List NodeId) : (b.leavesUnion s).leaves = b.leaves := rfl
@[simp] theorem leavesUnion_activeStmts (b : B) (s : List NodeId) : (b.leavesUnion s).activeStmts = b.activeStmts := rfl
@[simp] theorem leavesUnion_owners (b : B) (s : List NodeId) : (b.leavesUnion s).owners = b.owners := rfl
@[simp] theorem leavesUnion_edges (b : B) (s : List NodeId) : (b.leavesUnion s).edges = b.edges := rfl
@[simp] theorem leavesUnion_finallySections (b : B) (s : List NodeId) : (b.leavesUnion s).finallySections = b.finallySections := rfl
@[simp] theorem leavesUnion_finallySub (b : B) (s : List NodeId) : (b.leavesUnion s).finallySub = b.finallySub := rfl
@[simp] theorem leavesUnion_finallyDirect (b : B) (s : List NodeId) : (b.leavesUnion s).finallyDirect = b.finallyDirect := rfl
@[simp] theorem leavesUnion_pendingFinally (b : B) (s : List NodeId) : (b.leavesUnion s).pendingFinally = b.pendingFinally := rfl
@[simp] theorem leavesUnion_exits (b : B) (s : List NodeId) : (b.leavesUnion s).exits = b.exits := rfl
@[simp] theorem leavesUnion_sectionEntry (b : B) (s : List NodeId) : (b.leavesUnion s).sectionEntry = b.sectionEntry := rfl
@[simp] theorem leavesUnion_continues (b : B) (s : List NodeId) : (b.leavesUnion s).continues = b.continues := rfl
@[simp] theorem leavesUnion_raises (b : B) (s : List NodeId) : (b.leavesUnion s).raises = b.raises := rfl
@[simp] theorem leavesUnion_condEntry (b : B) (s : List NodeId) : (b.leavesUnion s).condEntry = b.condEntry := rfl
@[simp] theorem leavesUnion_condLeaves (b : B) (s : List NodeId) : (b.leavesUnion s).condLeaves = b.condLeaves := rfl
@[simp] theorem leavesUnion_roots (b : B) (s : List NodeId) : (b.leavesUnion s).roots = b.roots := rfl
@[simp] theorem leavesUnion_err (b : B) (s : List NodeId) : (b.leavesUnion s).err = b.err := rfl
@[simp] theorem connect_head (b : B) (first : List NodeId) (second : NodeId) : (b.connect first second).head = b.head := rfl
@[simp] theorem connect_errors (b : B) (first : List NodeId) (second : NodeId) : (b.connect first second).errors = b.errors := rfl
@[simp] theorem connect_nodes (b : B) (first : List NodeId) (second : NodeId) : (b.connect first second).nodes = b.nodes := rfl
@[simp] theorem connect_heap (b : B) (first : List NodeId) (second : NodeId) : (b.connect first second).heap = b.heap := rfl
@[simp] theorem connect_leaves (b : B) (first : List NodeId) (second : NodeId) : (b.connect first second).leaves = b.leaves := rfl
@[simp] theorem connect_activeStmts (b : B) (first : List NodeId) (second : NodeId) : (b.connect first second).activeStmts = b.activeStmts := rfl
@[simp] theorem connect_owners (b : B) (first : List NodeId) (second : NodeId) : (b.connect first second).owners = b.owners := rfl
@[simp] theorem connect_finallySections (b : B) (first : List NodeId) (second : NodeId) : (b.connect first second).finallySections = b.finallySections := rfl
@[simp] theorem connect_finallySub (b : B) (first : List NodeId) (second : NodeId) : (b.connect first second).finallySub = b.finallySub := rfl
@[simp] theorem connect_finallyDirect (b : B) (first : List NodeId) (second : NodeId) : (b.connect first second).finallyDirect = b.finallyDirect := rfl
@[simp] theorem connect_pendingFinally (b : B) (first : List NodeId) (second : NodeId) : (b.connect first second).pendingFinally = b.pendingFinally := rfl
@[simp] theorem connect_exits (b : B) (first : List NodeId) (second : NodeId) : (b.connect first second).exits = b.exits := rfl
@[simp] theorem connect_sectionEntry (b : B) (first : List NodeId) (second : NodeId) : (b.connect first second).sectionEntry = b.sectionEntry := rfl
@[simp] theorem connect_continues (b : B) (first : List NodeId) (second : NodeId) : (b.connect first second).continues = b.continues := rfl
@[simp] theorem connect_raises (b : B) (first : List NodeId) (second : NodeId) : (b.connect first second).raises = b.raises := rfl
@[simp] theorem connect_condEntry (b : B) (first : List NodeId) (second : NodeId) : (b.connect first second).condEntry = b.condEntry := rfl
@[simp] theorem connect_condLeaves (b : B) (first : List NodeId) (second : NodeId) : (b.connect first second).condLeaves = b.condLeaves := rfl
@[simp] theorem connect_roots (b : B) (first : List NodeId) (second : NodeId) : (b.connect first second).roots = b.roots := rfl
@[simp] theorem connect_err (b : B) (first : List NodeId) (second : NodeId) : (b.connect first second).err = b.err := rfl
@[simp] theorem pushNode_errors (b : B) (n : NodeId) : (b.pushNode n).errors = b.errors := rfl
@[simp] theorem pushNode_heap (b : B) (n : NodeId) : (b.pushNode n).heap = b.heap := rfl
@[simp] theorem pushNode_leaves (b : B) (n : NodeId) : (b.pushNode n).leaves = b.leaves := rfl
@[simp] theorem pushNode_activeStmts (b : B) (n : NodeId) : (b.pushNode n).activeStmts = b.activeStmts := rfl
@[simp] theorem pushNode_edges (b : B) (n : NodeId) : (b.pushNode n).edges = b.edges := rfl
@[simp] theorem pushNode_finallySections (b : B) (n : NodeId) : (b.pushNode n).finallySections = b.finallySections := rfl
@[simp] theorem pushNode_finallyDirect (b : B) (n : NodeId) : (b.pushNode n).finallyDirect = b.finallyDirect := rfl
@[simp] theorem pushNode_exits (b : B) (n : NodeId) : (b.pushNode n).exits = b.exits := rfl
@[simp] theorem pushNode_sectionEntry (b : B) (n : NodeId) : (b.pushNode n).sectionEntry = b.sectionEntry := rfl
@[simp] theorem pushNode_continues (b : B) (n : NodeId) : (b.pushNode n).continues = b.continues := rfl
@[simp] theorem pushNode_raises (b : B) (n : NodeId) : (b.pushNode n).raises = b.raises := rfl
@[simp] theorem pushNode_condEntry (b : B) (n : NodeId) : (b.pushNode n).condEntry = b.condEntry := rfl
@[simp] theorem pushNode_condLeaves (b : B) (n : NodeId) : (b.pushNode n).condLeaves = b.condLeaves := rfl
@[simp] theorem pushNode_err (b : B) (n : NodeId) : (b.pushNode n).err = b.err := rfl
@[simp] theorem enterFinallySection_head (b : B) (i : Nat) : (b.enterFinallySection i).head = b.head := rfl
@[simp] theorem enterFinallySection_errors (b : B) (i : Nat) : (b.enterFinallySection i).errors = b.errors := rfl
@[simp] theorem enterFinallySection_nodes (b : B) (i : Nat) : (b.enterFinallySection i).nodes = b.nodes := rfl
@[simp] theorem enterFinallySection_heap (b : B) (i : Nat) : (b.enterFinallySection i).heap = b.heap := rfl
@[simp] theorem enterFinallySection_leaves (b : B) (i : Nat) : (b.enterFinallySection i).leaves = b.leaves := rfl
@[simp] theorem enterFinallySection_activeStmts (b : B) (i : Nat) : (b.enterFinallySection i).activeStmts = b.activeStmts := rfl
@[simp] theorem enterFinallySection_owners (b : B) (i : Nat) : (b.enterFinallySection i).owners = b.owners := rfl
@[simp] theorem enterFinallySection_edges (b : B) (i : Nat) : (b.enterFinallySection i).edges = b.edges := rfl
@[simp] theorem enterFinallySection_finallySections (b : B) (i : Nat) : (b.enterFinallySection i).finallySections = b.finallySections := rfl
@[simp] theorem enterFinallySection_exits (b : B) (i : Nat) : (b.enterFinallySection i).exits = b.exits := rfl
@[simp] theorem enterFinallySection_sectionEntry (b : B) (i : Nat) : (b.enterFinallySection i).sectionEntry = b.sectionEntry := rfl
@[simp] theorem enterFinallySection_continues (b : B) (i : Nat) : (b.enterFinallySection i).continues = b.continues := rfl
@[simp] theorem enterFinallySection_raises (b : B) (i : Nat) : (b.enterFinallySection i).raises = b.raises := rfl
@[simp] theorem enterFinallySection_condEntry (b : B) (i : Nat) : (b.enterFinallySection i).condEntry = b.condEntry := rfl
@[simp] theorem enterFinallySection_condLeaves (b : B) (i : Nat) : (b.enterFinallySection i).condLeaves = b.condLeaves := rfl
@[simp] theorem enterFinallySection_roots (b : B) (i : Nat) : (b.enterFinallySection i).roots = b.roots := rfl
@[simp] theorem enterFinallySection_err (b : B) (i : Nat) : (b.enterFinallySection i).err = b.err := rfl
@[simp] theorem closeFinally_head (b : B) (i : Nat) (beg : Option NodeId) : (b.closeFinally i beg).head = b.head := rfl
@[simp] theorem closeFinally_errors (b : B) (i : Nat) (beg : Option NodeId) : (b.closeFinally i beg).errors = b.errors := rfl
@[simp] theorem closeFinally_nodes (b : B) (i : Nat) (beg : Option NodeId) : (b.closeFinally i beg).nodes = b.nodes := rfl
@[simp] theorem closeFinally_heap (b : B) (i : Nat) (beg : Option NodeId) : (b.closeFinally i beg).heap = b.heap := rfl
@[simp] theorem closeFinally_leaves (b : B) (i : Nat) (beg : Option NodeId) : (b.closeFinally i beg).leaves = b.leaves := rfl
@[simp] theorem closeFinally_activeStmts (b : B) (i : Nat) (beg : Option NodeId) : (b.closeFinally i beg).activeStmts = b.activeStmts := rfl
@[simp] theorem closeFinally_owners (b : B) (i : Nat) (beg : Option NodeId) : (b.closeFinally i beg).owners = b.owners := rfl
@[simp] theorem closeFinally_edges (b : B) (i : Nat) (beg : Option NodeId) : (b.closeFinally i beg).edges = b.edges := rfl
@[simp] theorem closeFinally_finallySections (b : B) (i : Nat) (beg : Option NodeId) : (b.closeFinally i beg).finallySections = b.finallySections := rfl
@[simp] theorem closeFinally_pendingFinally (b : B) (i : Nat) (beg : Option NodeId) : (b.closeFinally i beg).pendingFinally = b.pendingFinally := rfl
@[simp] theorem closeFinally_exits (b : B) (i : Nat) (beg : Option NodeId) : (b.closeFinally i beg).exits = b.exits := rfl
@[simp] theorem closeFinally_sectionEntry (b : B) (i : Nat) (beg : Option NodeId) : (b.closeFinally i beg).sectionEntry = b.sectionEntry := rfl
@[simp] theorem closeFinally_continues (b : B) (i : Nat) (beg : Option NodeId) : (b.closeFinally i beg).continues = b.continues := rfl
@[simp] theorem closeFinally_raises (b : B) (i : Nat) (beg : Option NodeId) : (b.closeFinally i beg).raises = b.raises := rfl
@[simp] theorem closeFinally_condEntry (b : B) (i : Nat) (beg : Option NodeId) : (b.closeFinally i beg).condEntry = b.condEntry := rfl
@[simp] theorem closeFinally_condLeaves (b : B) (i : Nat) (beg : Option NodeId) : (b.closeFinally i beg).condLeaves = b.condLeaves := rfl
@[simp] theorem closeFinally_roots (b : B) (i : Nat) (beg : Option NodeId) : (b.closeFinally i beg).roots = b.roots := rfl
@[simp] theorem closeFinally_err (b : B) (i : Nat) (beg : Option NodeId) : (b.closeFinally i beg).err = b.err := rfl
@[simp] theorem addNewNode_errors (b : B) (n : NodeId) : (b.addNewNode n).errors = b.errors := (connect_errors ..).trans ((pushNode_errors ..).trans (check_errors ..))
@[simp] theorem addNewNode_heap (b : B) (n : NodeId) : (b.addNewNode n).heap = b.heap := (connect_heap ..).trans ((pushNode_heap ..).trans (check_heap ..))
@[simp] theorem addNewNode_leaves (b : B) (n : NodeId) : (b.addNewNode n).leaves = b.leaves := (connect_leaves ..).trans ((pushNode_leaves ..).trans (check_leaves ..))
@[simp] theorem addNewNode_activeStmts (b : B) (n : NodeId) : (b.addNewNode n).activeStmts = b.activeStmts := (connect_activeStmts ..).trans ((pushNode_activeStmts ..).trans (check_activeStmts ..))
@[simp] theorem addNewNode_finallySections (b : B) (n : NodeId) : (b.addNewNode n).finallySections = b.finallySections := (connect_finallySections ..).trans ((pushNode_finallySections ..).trans (check_finallySections ..))
@[simp] theorem addNewNode_finallyDirect (b : B) (n : NodeId) : (b.addNewNode n).finallyDirect = b.finallyDirect := (connect_finallyDirect ..).trans ((pushNode_finallyDirect ..).trans (check_finallyDirect ..))
@[simp] theorem addNewNode_exits (b : B) (n : NodeId) : (b.addNewNode n).exits = b.exits := (connect_exits ..).trans ((pushNode_exits ..).trans (check_exits ..))
@[simp] theorem addNewNode_sectionEntry (b : B) (n : NodeId) : (b.addNewNode n).sectionEntry = b.sectionEntry := (connect_sectionEntry ..).trans ((pushNode_sectionEntry ..).trans (check_sectionEntry ..))
@[simp] theorem addNewNode_continues (b : B) (n : NodeId) : (b.addNewNode n).continues = b.continues := (connect_continues ..).trans ((pushNode_continues ..).trans (check_continues ..))
@[simp] theorem addNewNode_raises (b : B) (n : NodeId) : (b.addNewNode n).raises = b.raises := (connect_raises ..).trans ((pushNode_raises ..).trans (check_raises ..))
@[simp] theorem addNewNode_condEntry (b : B) (n : NodeId) : (b.addNewNode n).condEntry = b.condEntry := (connect_condEntry ..).trans ((pushNode_condEntry ..).trans (check_condEntry ..))
@[simp] theorem addNewNode_condLeaves (b : B) (n : NodeId) : (b.addNewNode n).condLeaves = b.condLeaves := (connect_condLeaves ..).trans ((pushNode_condLeaves ..).trans (check_condLeaves ..))
@[simp] theorem addOrdinaryNode_errors (b : B) (n : NodeId) : (b.addOrdinaryNode n).errors = b.errors := (setLeavesFresh_errors ..).trans (addNewNode_errors ..)
@[simp] theorem addOrdinaryNode_activeStmts (b : B) (n : NodeId) : (b.addOrdinaryNode n).activeStmts = b.activeStmts := (setLeavesFresh_activeStmts ..).trans (addNewNode_activeStmts ..)
@[simp] theorem addOrdinaryNode_finallySections (b : B) (n : NodeId) : (b.addOrdinaryNode n).finallySections = b.finallySections := (setLeavesFresh_finallySections ..).trans (addNewNode_finallySections ..)
@[simp] theorem addOrdinaryNode_finallyDirect (b : B) (n : NodeId) : (b.addOrdinaryNode n).finallyDirect = b.finallyDirect := (setLeavesFresh_finallyDirect ..).trans (addNewNode_finallyDirect ..)
@[simp] theorem addOrdinaryNode_exits (b : B) (n : NodeId) : (b.addOrdinaryNode n).exits = b.exits := (setLeavesFresh_exits ..).trans (addNewNode_exits ..)
@[simp] theorem addOrdinaryNode_sectionEntry (b : B) (n : NodeId) : (b.addOrdinaryNode n).sectionEntry = b.sectionEntry := (setLeavesFresh_sectionEntry ..).trans (addNewNode_sectionEntry ..)
@[simp] theorem addOrdinaryNode_continues (b : B) (n : NodeId) : (b.addOrdinaryNode n).continues = b.continues := (setLeavesFresh_continues ..).trans (addNewNode_continues ..)
@[simp] theorem addOrdinaryNode_raises (b : B) (n : NodeId) : (b.addOrdinaryNode n).raises = b.raises := (setLeavesFresh_raises ..).trans (addNewNode_raises ..)
@[simp] theorem addOrdinaryNode_condEntry (b : B) (n : NodeId) : (b.addOrdinaryNode n).condEntry = b.condEntry := (setLeavesFresh_condEntry ..).trans (addNewNode_condEntry ..)
@[simp] theorem addOrdinaryNode_condLeaves (b : B) (n : NodeId) : (b.addOrdinaryNode n).condLeaves = b.condLeaves := (setLeavesFresh_condLeaves ..).trans (addNewNode_condLeaves ..)
@[simp] theorem addJumpNode_errors (b : B) (n : NodeId) (gs : List Nat) : (b.addJumpNode n gs).errors = b.errors := (putFinallySections_errors ..).trans ((setLeavesFresh_errors ..).trans (addNewNode_errors ..))
@[simp] theorem addJumpNode_activeStmts (b : B) (n : NodeId) (gs : List Nat) : (b.addJumpNode n gs).activeStmts = b.activeStmts := (putFinallySections_activeStmts ..).trans ((setLeavesFresh_activeStmts ..).trans (addNewNode_activeStmts ..))
@[simp] theorem addJumpNode_finallyDirect (b : B) (n : NodeId) (gs : List Nat) : (b.addJumpNode n gs).finallyDirect = b.finallyDirect := (putFinallySections_finallyDirect ..).trans ((setLeavesFresh_finallyDirect ..).trans (addNewNode_finallyDirect ..))
@[simp] theorem addJumpNode_exits (b : B) (n : NodeId) (gs : List Nat) : (b.addJumpNode n gs).exits = b.exits := (putFinallySections_exits ..).trans ((setLeavesFresh_exits ..).trans (addNewNode_exits ..))
@[simp] theorem addJumpNode_sectionEntry (b : B) (n : NodeId) (gs : List Nat) : (b.addJumpNode n gs).sectionEntry = b.sectionEntry := (putFinallySections_sectionEntry ..).trans ((setLeavesFresh_sectionEntry ..).trans (addNewNode_sectionEntry ..))
@[simp] theorem addJumpNode_continues (b : B) (n : NodeId) (gs : List Nat) : (b.addJumpNode n gs).continues = b.continues := (putFinallySections_continues ..).trans ((setLeavesFresh_continues ..).trans (addNewNode_continues ..))
@[simp] theorem addJumpNode_raises (b : B) (n : NodeId) (gs : List Nat) : (b.addJumpNode n gs).raises = b.raises := (putFinallySections_raises ..).trans ((setLeavesFresh_raises ..).trans (addNewNode_raises ..))
@[simp] theorem addJumpNode_condEntry (b : B) (n : NodeId) (gs : List Nat) : (b.addJumpNode n gs).condEntry = b.condEntry := (putFinallySections_condEntry ..).trans ((setLeavesFresh_condEntry ..).trans (addNewNode_condEntry ..))
@[simp] theorem addJumpNode_condLeaves (b : B) (n : NodeId) (gs : List Nat) : (b.addJumpNode n gs).condLeaves = b.condLeaves := (putFinallySections_condLeaves ..).trans ((setLeavesFresh_condLeaves ..).trans (addNewNode_condLeaves ..))
@[simp] theorem beginStatement_head (b : B) (i : Nat) : (b.beginStatement i).head = b.head := rfl
@[simp] theorem beginStatement_errors (b : B) (i : Nat) : (b.beginStatement i).errors = b.errors := rfl
@[simp] theorem beginStatement_nodes (b : B) (i : Nat) : (b.beginStatement i).nodes = b.nodes := rfl
@[simp] theorem beginStatement_heap (b : B) (i : Nat) : (b.beginStatement i).heap = b.heap := rfl
@[simp] theorem beginStatement_leaves (b : B) (i : Nat) : (b.beginStatement i).leaves = b.leaves := rfl
@[simp] theorem beginStatement_owners (b : B) (i : Nat) : (b.beginStatement i).owners = b.owners := rfl
@[simp] theorem beginStatement_edges (b : B) (i : Nat) : (b.beginStatement i).edges = b.edges := rfl
@[simp] theorem beginStatement_finallySections (b : B) (i : Nat) : (b.beginStatement i).finallySections = b.finallySections := rfl
@[simp] theorem beginStatement_finallySub (b : B) (i : Nat) : (b.beginStatement i).finallySub = b.finallySub := rfl
@[simp] theorem beginStatement_finallyDirect (b : B) (i : Nat) : (b.beginStatement i).finallyDirect = b.finallyDirect := rfl
@[simp] theorem beginStatement_pendingFinally (b : B) (i : Nat) : (b.beginStatement i).pendingFinally = b.pendingFinally := rfl
@[simp] theorem beginStatement_exits (b : B) (i : Nat) : (b.beginStatement i).exits = b.exits := rfl
@[simp] theorem beginStatement_sectionEntry (b : B) (i : Nat) : (b.beginStatement i).sectionEntry = b.sectionEntry := rfl
@[simp] theorem beginStatement_continues (b : B) (i : Nat) : (b.beginStatement i).continues = b.continues := rfl
@[simp] theorem beginStatement_raises (b : B) (i : Nat) : (b.beginStatement i).raises = b.raises := rfl
@[simp] theorem beginStatement_condEntry (b : B) (i : Nat) : (b.beginStatement i).condEntry = b.condEntry := rfl
@[simp] theorem beginStatement_condLeaves (b : B) (i : Nat) : (b.beginStatement i).condLeaves = b.condLeaves := rfl
@[simp] theorem beginStatement_roots (b : B) (i : Nat) : (b.beginStatement i).roots = b.roots := rfl
@[simp] theorem beginStatement_err (b : B) (i : Nat) : (b.beginStatement i).err = b.err := rfl
@[simp] theorem endStatement_head (b : B) (i : Nat) : (b.endStatement i).head = b.head := (setActive_head ..).trans (check_head ..)
@[simp] theorem endStatement_errors (b : B) (i : Nat) : (b.endStatement i).errors = b.errors := (setActive_errors ..).trans (check_errors ..)
@[simp] theorem endStatement_nodes (b : B) (i : Nat) : (b.endStatement i).nodes = b.nodes := (setActive_nodes ..).trans (check_nodes ..)
@[simp] theorem endStatement_heap (b : B) (i : Nat) : (b.endStatement i).heap = b.heap := (setActive_heap ..).trans (check_heap ..)
@[simp] theorem endStatement_leaves (b : B) (i : Nat) : (b.endStatement i).leaves = b.leaves := (setActive_leaves ..).trans (check_leaves ..)
@[simp] theorem endStatement_owners (b : B) (i : Nat) : (b.endStatement i).owners = b.owners := (setActive_owners ..).trans (check_owners ..)
@[simp] theorem endStatement_edges (b : B) (i : Nat) : (b.endStatement i).edges = b.edges := (setActive_edges ..).trans (check_edges ..)
@[simp] theorem endStatement_finallySections (b : B) (i : Nat) : (b.endStatement i).finallySections = b.finallySections := (setActive_finallySections ..).trans (check_finallySections ..)
@[simp] theorem endStatement_finallySub (b : B) (i : Nat) : (b.endStatement i).finallySub = b.finallySub := (setActive_finallySub ..).trans (check_finallySub ..)
@[simp] theorem endStatement_finallyDirect (b : B) (i : Nat) : (b.endStatement i).finallyDirect = b.finallyDirect := (setActive_finallyDirect ..).trans (check_finallyDirect ..)
@[simp] theorem endStatement_pendingFinally (b : B) (i : Nat) : (b.endStatement i).pendingFinally = b.pendingFinally := (setActive_pendingFinally ..).trans (check_pendingFinally ..)
@[simp] theorem endStatement_exits (b : B) (i : Nat) : (b.endStatement i).exits = b.exits := (setActive_exits ..).trans (check_exits ..)
@[simp] theorem endStatement_sectionEntry (b : B) (i : Nat) : (b.endStatement i).sectionEntry = b.sectionEntry := (setActive_sectionEntry ..).trans (check_sectionEntry ..)
@[simp] theorem endStatement_continues (b : B) (i : Nat) : (b.endStatement i).continues = b.continues := (setActive_continues ..).trans (check_continues ..)
@[simp] theorem endStatement_raises (b : B) (i : Nat) : (b.endStatement i).raises = b.raises := (setActive_raises ..).trans (check_raises ..)
@[simp] theorem endStatement_condEntry (b : B) (i : Nat) : (b.endStatement i).condEntry = b.condEntry := (setActive_condEntry ..).trans (check_condEntry ..)
@[simp] theorem endStatement_condLeaves (b : B) (i : Nat) : (b.endStatement i).condLeaves = b.condLeaves := (setActive_condLeaves ..).trans (check_condLeaves ..)
@[simp] theorem endStatement_roots (b : B) (i : Nat) : (b.endStatement i).roots = b.roots := (setActive_roots ..).trans (check_roots ..)

end Malt.Cfg.B
