import MaltModel.Cfg.Check
/-!
# Soundness of the C05 checkers

`walk_sound`: every pair of nodes a walk executes consecutively is in `flow.req`, and the node a walk ends in is in the flow
component of its outcome — by induction on fuel, the three mutually recursive walk functions together.
-/
namespace Malt.Cfg
open Malt.Py

def endOf (x : Nat) : List Nat → Nat
  | [] => x
  | y :: r => endOf y r

def ChainFrom (E : List (Nat × Nat)) (x : Nat) : List Nat → Prop
  | [] => True
  | y :: r => (x, y) ∈ E ∧ ChainFrom E y r

theorem endOf_append (x : Nat) (a b : List Nat) : endOf x (a ++ b) = endOf (endOf x a) b := by
  induction a generalizing x with
  | nil => rfl
  | cons y r ih => simp [endOf, ih]

theorem chainFrom_append (E : List (Nat × Nat)) (x : Nat) (a b : List Nat) :
    ChainFrom E x (a ++ b) ↔ ChainFrom E x a ∧ ChainFrom E (endOf x a) b := by
  induction a generalizing x with
  | nil => simp [ChainFrom, endOf]
  | cons y r ih => simp [ChainFrom, endOf, ih, and_assoc]

def Sub (l E : List (Nat × Nat)) : Prop := ∀ p, p ∈ l → p ∈ E

@[simp] theorem sub_nil (E) : Sub [] E := by intro p h; cases h
@[simp] theorem sub_append (a b E) : Sub (a ++ b) E ↔ Sub a E ∧ Sub b E := by
  simp only [Sub, List.mem_append]
  constructor
  · intro h; exact ⟨fun p hp => h p (Or.inl hp), fun p hp => h p (Or.inr hp)⟩
  · rintro ⟨h1, h2⟩ p (hp | hp); exact h1 p hp; exact h2 p hp

theorem sub_cross {cur n E x} (h : Sub (cross cur n) E) (hx : x ∈ cur) : (x, n) ∈ E :=
  h _ (List.mem_map.mpr ⟨x, hx, rfl⟩)

theorem emit_sound (E : List (Nat × Nat)) : ∀ (ns cur : List Nat) (x : Nat), x ∈ cur → Sub (emit cur ns).1 E →
    ChainFrom E x ns ∧ endOf x ns ∈ (emit cur ns).2 := by
  intro ns
  induction ns with
  | nil => intro cur x hx _; exact ⟨trivial, hx⟩
  | cons n r ih =>
    intro cur x hx h
    simp only [emit, sub_append] at h
    have := ih [n] n (by simp) h.2
    exact ⟨⟨sub_cross h.1 hx, this.1⟩, this.2⟩

def Flow.sel (R : Flow) : Outcome → List Nat
  | .normal => R.normal
  | .brk => R.brk
  | .cont => R.cont
  | .ret => R.ret
  | .raise => R.raise
  | .exempt => R.exempt
  | .fuel => []

/-- A walk result `(tr, o, _)` started after node `x` is described by the flow `R`. -/
def Good (E : List (Nat × Nat)) (R : Flow) (x : Nat) (res : WalkRes) : Prop :=
  ChainFrom E x res.1 ∧ (res.2.1 = .fuel ∨ endOf x res.1 ∈ R.sel res.2.1)

def Flow.le (R R' : Flow) : Prop := Sub R.req R'.req ∧ ∀ o n, n ∈ R.sel o → n ∈ R'.sel o

theorem Flow.le_refl (R : Flow) : R.le R := ⟨fun _ h => h, fun _ _ h => h⟩

theorem Flow.le_trans {A B C : Flow} (h1 : A.le B) (h2 : B.le C) : A.le C :=
  ⟨fun p h => h2.1 p (h1.1 p h), fun o n h => h2.2 o n (h1.2 o n h)⟩

theorem Good.mono {E R R' x res} (h : Good E R x res) (hle : ∀ o n, n ∈ R.sel o → n ∈ R'.sel o) : Good E R' x res :=
  ⟨h.1, h.2.imp id (hle _ _)⟩

theorem sub_of_le {R R' : Flow} {E} (hle : R.le R') (h : Sub R'.req E) : Sub R.req E :=
  fun p hp => h p (hle.1 p hp)

theorem Flow.sel_alt (A B : Flow) (o : Outcome) : (A.alt B).sel o = A.sel o ++ B.sel o := by
  cases o <;> rfl

theorem Flow.sel_seq (A B : Flow) {o : Outcome} (ho : o ≠ .normal) : (A.seq B).sel o = A.sel o ++ B.sel o := by
  cases o <;> first | rfl | exact absurd rfl ho

theorem le_alt_left (A B : Flow) : A.le (A.alt B) :=
  ⟨fun _ h => List.mem_append.mpr (Or.inl h), fun o _ h => A.sel_alt B o ▸ List.mem_append.mpr (Or.inl h)⟩

theorem le_alt_right (A B : Flow) : B.le (A.alt B) :=
  ⟨fun _ h => List.mem_append.mpr (Or.inr h), fun o _ h => A.sel_alt B o ▸ List.mem_append.mpr (Or.inr h)⟩

theorem le_seq_right (A B : Flow) : B.le (A.seq B) := by
  refine ⟨fun _ h => List.mem_append.mpr (Or.inr h), fun o n h => ?_⟩
  by_cases ho : o = .normal
  · subst ho; exact h
  · rw [A.sel_seq B ho]; exact List.mem_append.mpr (Or.inr h)

theorem seq_left_req (A B : Flow) : Sub A.req (A.seq B).req :=
  fun _ h => List.mem_append.mpr (Or.inl h)

theorem seq_left_sel (A B : Flow) (o : Outcome) (ho : o ≠ .normal) (n : Nat) (h : n ∈ A.sel o) : n ∈ (A.seq B).sel o := by
  rw [A.sel_seq B ho]; exact List.mem_append.mpr (Or.inl h)

theorem emit_good (E ns cur x) (ω : Oracle) (hx : x ∈ cur) (h : Sub (emit cur ns).1 E) :
    Good E { req := (emit cur ns).1, normal := (emit cur ns).2 } x (ns, .normal, ω) := by
  have := emit_sound E ns cur x hx h
  exact ⟨this.1, Or.inr this.2⟩

def StmtOk (E : List (Nat × Nat)) (f : Nat) : Prop :=
  ∀ (s : Stmt) (ω : Oracle) (x : Nat) (cur : List Nat), x ∈ cur → Sub (flowStmt s cur).req E →
    Good E (flowStmt s cur) x (walkStmt f s ω)

def BlockOk (E : List (Nat × Nat)) (f : Nat) : Prop :=
  ∀ (ss : List Stmt) (ω : Oracle) (x : Nat) (cur : List Nat), x ∈ cur → Sub (flowBlock ss cur).req E →
    Good E (flowBlock ss cur) x (walkBlock f ss ω)

def loopSum (hdr : Nat) (Rb Ro : Flow) : Flow :=
  { req := Rb.req ++ (cross Rb.normal hdr ++ (cross Rb.cont hdr ++ Ro.req)),
    normal := Ro.normal ++ Rb.brk, brk := Ro.brk, cont := Ro.cont, ret := Rb.ret ++ Ro.ret,
    raise := Rb.raise ++ Ro.raise, exempt := Rb.exempt ++ Ro.exempt }

/-- The summary of a loop with header `hdr`, iteration prefix `pre`. -/
def loopFlow (hdr : Nat) (pre : List Nat) (body orelse : List Stmt) : Flow :=
  Flow.seq { req := (emit [hdr] pre).1 } (loopSum hdr (flowBlock body (emit [hdr] pre).2) (flowBlock orelse [hdr]))

def LoopOk (E : List (Nat × Nat)) (f : Nat) : Prop :=
  ∀ (hdr : Nat) (pre : List Nat) (body orelse : List Stmt) (ω : Oracle) (x : Nat),
    (x, hdr) ∈ E → Sub (loopFlow hdr pre body orelse).req E →
    Good E (loopFlow hdr pre body orelse) x (walkLoop f hdr pre body orelse ω)

/-- however the `else` block of a loop ends, the loop ends that way -/
theorem loopFlow_orelse (hdr : Nat) (pre : List Nat) (body orelse : List Stmt) (o : Outcome) (n : Nat)
    (h : n ∈ (flowBlock orelse [hdr]).sel o) : n ∈ (loopFlow hdr pre body orelse).sel o := by
  refine (le_seq_right _ _).2 o n ?_
  cases o with
  | normal => exact List.mem_append_left _ h
  | brk | cont | fuel => exact h
  | _ => exact List.mem_append_right _ h

/-- a `return`/`raise` (or running out of fuel) in the body ends the loop that way -/
theorem loopFlow_body (hdr : Nat) (pre : List Nat) (body orelse : List Stmt) (o : Outcome) (h1 : o ≠ .normal) (h2 : o ≠ .cont)
    (h3 : o ≠ .brk) (n : Nat) (h : n ∈ (flowBlock body (emit [hdr] pre).2).sel o) : n ∈ (loopFlow hdr pre body orelse).sel o := by
  refine (le_seq_right _ _).2 o n ?_
  cases o with
  | normal => exact absurd rfl h1
  | cont => exact absurd rfl h2
  | brk => exact absurd rfl h3
  | fuel => exact h
  | _ => exact List.mem_append_left _ h

theorem good_fuel (E R x) (ω : Oracle) : Good E R x ([], .fuel, ω) := ⟨trivial, Or.inl rfl⟩

theorem good_prefix {E R x pre tr o} {ω : Oracle} (hpre : ChainFrom E x pre)
    (h : Good E R (endOf x pre) (tr, o, ω)) : Good E R x (pre ++ tr, o, ω) :=
  ⟨(chainFrom_append E x pre tr).mpr ⟨hpre, h.1⟩, by rw [endOf_append]; exact h.2⟩

theorem good_seq_emit {E : List (Nat × Nat)} {cur ns : List Nat} {x : Nat} {R : Flow} {tr : List Nat} {o : Outcome}
    {ω : Oracle} (hx : x ∈ cur) (hq : Sub (emit cur ns).1 E) (h : Good E R (endOf x ns) (tr, o, ω)) :
    Good E (Flow.seq { req := (emit cur ns).1 } R) x (ns ++ tr, o, ω) :=
  good_prefix (emit_sound E ns cur x hx hq).1 (h.mono (le_seq_right _ _).2)

theorem good_emit_only {E : List (Nat × Nat)} {cur ns : List Nat} {x : Nat} {R : Flow} {o : Outcome} {ω : Oracle}
    (hx : x ∈ cur) (hq : Sub (emit cur ns).1 E) (hsel : ∀ n, n ∈ (emit cur ns).2 → n ∈ R.sel o) :
    Good E R x (ns, o, ω) :=
  ⟨(emit_sound E ns cur x hx hq).1, Or.inr (hsel _ (emit_sound E ns cur x hx hq).2)⟩

theorem Good.mem {E R x tr o} {ω : Oracle} (h : Good E R x (tr, o, ω)) (ho : o ≠ .fuel) : endOf x tr ∈ R.sel o :=
  h.2.resolve_left ho

theorem isEmpty_false_of_mem {x : Nat} {l : List Nat} (h : x ∈ l) : l.isEmpty = false := by
  cases l with
  | nil => cases h
  | cons _ _ => rfl

theorem flowBlock_nil_normal (ss : List Stmt) : (flowBlock ss []).normal = [] := by
  cases ss <;> rfl

theorem flowBlock_nil_cur (ss : List Stmt) (hne : ss ≠ []) : flowBlock ss [] = {} := by
  cases ss with
  | nil => exact (hne rfl).elim
  | cons s ss => simp [flowBlock]

theorem blockOk_succ (E f) (hS : StmtOk E f) (hB : BlockOk E f) : BlockOk E (f+1) := by
  intro ss ω x cur hx hreq
  cases ss with
  | nil => exact ⟨trivial, Or.inr hx⟩
  | cons s ss =>
    have hne := isEmpty_false_of_mem hx
    simp only [flowBlock, hne] at hreq ⊢
    simp only [walkBlock]
    have g1 := hS s ω x cur hx (fun p hp => hreq p (seq_left_req _ _ p hp))
    rcases hw : walkStmt f s ω with ⟨t1, o1, ω1⟩
    rw [hw] at g1
    cases o1 with
    | normal =>
      have g2 := hB ss ω1 (endOf x t1) _ (g1.mem nofun) (sub_of_le (le_seq_right _ _) hreq)
      dsimp only
      exact good_prefix g1.1 (g2.mono (le_seq_right _ _).2)
    | _ => dsimp only; exact ⟨g1.1, g1.2.imp id (seq_left_sel _ _ _ (by nofun) _)⟩

theorem loopOk_succ (E f) (hB : BlockOk E f) (hL : LoopOk E f) : LoopOk E (f+1) := by
  intro hdr pre body orelse ω x hxh hreq
  have hreq' := hreq
  simp only [loopFlow, loopSum, Flow.seq, sub_append] at hreq'
  obtain ⟨hq_pre, hq_b, hq_n, hq_c, hq_o⟩ := hreq'
  simp only [walkLoop]
  rcases hpop : ω.pop with ⟨d, ω0⟩
  dsimp only
  by_cases hd : d = 0
  · rw [if_pos hd]
    have g := hB orelse ω0 hdr [hdr] (List.mem_singleton.mpr rfl) hq_o
    exact ⟨⟨hxh, g.1⟩, g.2.imp id (loopFlow_orelse hdr pre body orelse _ _)⟩
  · rw [if_neg hd]
    have hp := emit_sound E pre [hdr] hdr (List.mem_singleton.mpr rfl) hq_pre
    have g := hB body ω0 (endOf hdr pre) _ hp.2 hq_b
    rcases hw : walkBlock f body ω0 with ⟨t, o, ω1⟩
    rw [hw] at g
    have hchain : ChainFrom E x (hdr :: (pre ++ t)) := ⟨hxh, (chainFrom_append E hdr pre t).mpr ⟨hp.1, g.1⟩⟩
    have hend : endOf x (hdr :: (pre ++ t)) = endOf (endOf hdr pre) t := endOf_append hdr pre t
    -- the two outcomes that go round the loop again
    have again : (endOf (endOf hdr pre) t, hdr) ∈ E →
        Good E (loopFlow hdr pre body orelse) x
          (hdr :: (pre ++ (t ++ (walkLoop f hdr pre body orelse ω1).1)),
            (walkLoop f hdr pre body orelse ω1).2.1, (walkLoop f hdr pre body orelse ω1).2.2) := by
      intro hback
      have g2 := hL hdr pre body orelse ω1 _ hback hreq
      have := good_prefix (tr := (walkLoop f hdr pre body orelse ω1).1) (o := (walkLoop f hdr pre body orelse ω1).2.1)
        (ω := (walkLoop f hdr pre body orelse ω1).2.2) hchain (hend ▸ g2)
      rwa [List.cons_append, List.append_assoc] at this
    cases o with
    | normal => dsimp only; exact again (sub_cross hq_n (g.mem nofun))
    | cont => dsimp only; exact again (sub_cross hq_c (g.mem nofun))
    | brk => dsimp only; exact ⟨hchain, Or.inr (hend ▸ List.mem_append.mpr (Or.inr (g.mem nofun)))⟩
    | _ => dsimp only; exact ⟨hchain, g.2.imp id (fun h => hend ▸ loopFlow_body hdr pre body orelse _ (by nofun) (by nofun) (by nofun) _ h)⟩

theorem loop_stmt_good (E f) (hL : LoopOk E f) (hdr : Nat) (pre0 pre : List Nat) (body orelse : List Stmt) (ω : Oracle)
    (x : Nat) (cur : List Nat) (hx : x ∈ cur)
    (hreq : Sub (Flow.seq { req := (emit cur pre0).1 ++ cross (emit cur pre0).2 hdr } (loopFlow hdr pre body orelse)).req E) :
    Good E (Flow.seq { req := (emit cur pre0).1 ++ cross (emit cur pre0).2 hdr } (loopFlow hdr pre body orelse)) x
      (pre0 ++ (walkLoop f hdr pre body orelse ω).1, (walkLoop f hdr pre body orelse ω).2.1,
        (walkLoop f hdr pre body orelse ω).2.2) := by
  have hreq' := hreq
  simp only [Flow.seq, sub_append] at hreq'
  obtain ⟨⟨hq0, hqx⟩, hql⟩ := hreq'
  have he := emit_sound E pre0 cur x hx hq0
  exact good_prefix he.1 ((hL hdr pre body orelse ω _ (sub_cross hqx he.2) hql).mono (le_seq_right _ _).2)

theorem cons_eq_snoc_append (a : List Nat) (n : Nat) (t : List Nat) : a ++ (n :: t) = (a ++ [n]) ++ t := by simp

theorem flowHandlers_cons_le (h0 : Stmt) (hs : List Stmt) (rs : List Nat) : (flowHandlers hs rs).le (flowHandlers (h0 :: hs) rs) := by
  cases h0 <;> first | exact Flow.le_refl _ | exact le_alt_right _ _

theorem flowHandlers_get (rs : List Nat) (hrs : rs.isEmpty = false) : ∀ (hs : List Stmt)
    (k i : Nat) (ty : List Expr) (nm : List String) (hb : List Stmt), hs[k]? = some (.handler i ty nm hb) →
      (Flow.seq { req := (emit rs (lamsL ty)).1 } (flowBlock hb (emit rs (lamsL ty)).2)).le (flowHandlers hs rs)
  | [], k, _, _, _, _, h => by cases h
  | h0 :: hs, 0, i, ty, nm, hb, h => by
    cases h
    show Flow.le _ (Flow.alt (if rs.isEmpty = true then _ else _) _)
    rw [if_neg (by rw [hrs]; exact Bool.false_ne_true)]
    exact le_alt_left _ _
  | h0 :: hs, k+1, i, ty, nm, hb, h =>
    Flow.le_trans (flowHandlers_get rs hrs hs k i ty nm hb h) (flowHandlers_cons_le h0 hs rs)

/-- A flow whose normal exits are taken over by something else. -/
def Flow.noNormal (R : Flow) : Flow := { R with normal := [] }

theorem Flow.sel_noNormal (R : Flow) {o : Outcome} (ho : o ≠ .normal) : R.noNormal.sel o = R.sel o := by
  cases o <;> first | rfl | exact absurd rfl ho

/-- The protected part of a `try`: body, then the `else` block or a handler. -/
def tryPre (body handlers orelse : List Stmt) (cur : List Nat) : Flow :=
  (flowBlock body cur).noNormal.alt
    ((flowBlock orelse (flowBlock body cur).normal).alt (flowHandlers handlers (flowBlock body cur).raise))

def tryFinF (P : Flow) (F : List Nat → Flow) : Flow :=
  Flow.alt { req := P.req, exempt := P.raise ++ P.exempt }
    (Flow.alt ((F P.normal).resumeInto (fun l => { normal := l }))
      (Flow.alt ((F P.brk).resumeInto (fun l => { brk := l }))
        (Flow.alt ((F P.cont).resumeInto (fun l => { cont := l })) ((F P.ret).resumeInto (fun l => { ret := l })))))

def tryFin (P : Flow) (final : List Stmt) : Flow :=
  if final.isEmpty then P else tryFinF P (flowBlock final)

theorem tryFinF_le_before (P : Flow) (F : List Nat → Flow) : Flow.le { req := P.req, exempt := P.raise ++ P.exempt } (tryFinF P F) :=
  le_alt_left _ _
theorem tryFinF_le_normal (P : Flow) (F : List Nat → Flow) : ((F P.normal).resumeInto (fun l => { normal := l })).le (tryFinF P F) :=
  Flow.le_trans (le_alt_left _ _) (le_alt_right _ _)
theorem tryFinF_le_brk (P : Flow) (F : List Nat → Flow) : ((F P.brk).resumeInto (fun l => { brk := l })).le (tryFinF P F) :=
  Flow.le_trans (le_alt_left _ _) (Flow.le_trans (le_alt_right _ _) (le_alt_right _ _))
theorem tryFinF_le_cont (P : Flow) (F : List Nat → Flow) : ((F P.cont).resumeInto (fun l => { cont := l })).le (tryFinF P F) :=
  Flow.le_trans (le_alt_left _ _) (Flow.le_trans (le_alt_right _ _) (Flow.le_trans (le_alt_right _ _) (le_alt_right _ _)))
theorem tryFinF_le_ret (P : Flow) (F : List Nat → Flow) : ((F P.ret).resumeInto (fun l => { ret := l })).le (tryFinF P F) :=
  Flow.le_trans (le_alt_right _ _) (Flow.le_trans (le_alt_right _ _) (Flow.le_trans (le_alt_right _ _) (le_alt_right _ _)))

theorem tryFin_nonempty {P : Flow} {final : List Stmt} (h : final.isEmpty = false) : tryFin P final = tryFinF P (flowBlock final) := by
  simp only [tryFin, h, Bool.false_eq_true, if_false]

theorem resumeInto_req (F : Flow) (put : List Nat → Flow) : Sub F.req (F.resumeInto put).req := by
  intro p hp; simp only [Flow.resumeInto, Flow.alt, List.mem_append]; exact Or.inr hp

theorem flowStmt_try (i b h o fin cur) : flowStmt (.try_ i b h o fin) cur = tryFin (tryPre b h o cur) fin := rfl

theorem flowStmt_while (i : Nat) (test : Expr) (body orelse : List Stmt) (cur : List Nat) :
    flowStmt (.while_ i test body orelse) cur =
      Flow.seq { req := (emit cur test.kidLams).1 ++ cross (emit cur test.kidLams).2 test.id } (loopFlow test.id [] body orelse) := rfl

/-- the extra loop test of a `for` (never present in parsed code) is run between the header and the body -/
theorem flowStmt_for (i : Nat) (target iter : Expr) (body orelse : List Stmt) (extra : List Expr) (cur : List Nat) :
    flowStmt (.for_ i target iter body orelse extra false) cur =
      Flow.seq { req := (emit cur iter.kidLams).1 ++ cross (emit cur iter.kidLams).2 iter.id }
        (loopFlow iter.id (match extra with
          | [] => []
          | x :: _ => x.kidLams ++ [x.id]) body orelse) := rfl

def walkTryPre (f : Nat) (body handlers orelse : List Stmt) (ω : Oracle) : WalkRes :=
  let (t1, o1, ω) := walkBlock f body ω
  let (t2, o2, ω) := if o1 = .normal then walkBlock f orelse ω else ([], o1, ω)
  let (t3, o3, ω) :=
    if o1 = .raise && !handlers.isEmpty then
      let (k, ω) := ω.pop
      match handlers[k]? with
      | some (.handler _ ty _ hbody) =>
          let (t, o, ω) := walkBlock f hbody ω
          (lamsL ty ++ t, o, ω)
      | _ => ([], Outcome.raise, ω)
    else ([], o2, ω)
  (t1 ++ (t2 ++ t3), o3, ω)

def walkTryFin (f : Nat) (final : List Stmt) (r : WalkRes) : WalkRes :=
  if final.isEmpty then r
  else match r.2.1 with
    | .raise => (r.1, .exempt, r.2.2)
    | .exempt => (r.1, .exempt, r.2.2)
    | .fuel => (r.1, .fuel, r.2.2)
    | o =>
        let (t4, o4, ω) := walkBlock f final r.2.2
        (r.1 ++ t4, resume o o4, ω)

theorem walkStmt_try (f i b h o fin ω) :
    walkStmt (f+1) (.try_ i b h o fin) ω = walkTryFin f fin (walkTryPre f b h o ω) := by
  rfl

theorem tryPre_good (E f) (hB : BlockOk E f) (body handlers orelse : List Stmt) (ω : Oracle) (x : Nat) (cur : List Nat)
    (hx : x ∈ cur) (hreq : Sub (tryPre body handlers orelse cur).req E) :
    Good E (tryPre body handlers orelse cur) x (walkTryPre f body handlers orelse ω) := by
  -- the three parts of the summary
  have leB : ∀ o, o ≠ .normal → ∀ n, n ∈ (flowBlock body cur).sel o → n ∈ (tryPre body handlers orelse cur).sel o :=
    fun o ho n h => (le_alt_left _ _).2 o n ((flowBlock body cur).sel_noNormal ho ▸ h)
  have leO : (flowBlock orelse (flowBlock body cur).normal).le (tryPre body handlers orelse cur) :=
    Flow.le_trans (le_alt_left _ _) (le_alt_right _ _)
  have leH : (flowHandlers handlers (flowBlock body cur).raise).le (tryPre body handlers orelse cur) :=
    Flow.le_trans (le_alt_right _ _) (le_alt_right _ _)
  have g1 := hB body ω x cur hx (fun p hp => hreq p ((le_alt_left (flowBlock body cur).noNormal _).1 p hp))
  simp only [walkTryPre]
  rcases hw : walkBlock f body ω with ⟨t1, o1, ω1⟩
  rw [hw] at g1
  -- the body's own outcome stands (nothing continues it, nothing catches it)
  have stands : o1 ≠ .normal → Good E (tryPre body handlers orelse cur) x (t1 ++ ([] ++ []), o1, ω1) := fun hn =>
    ⟨by simpa using g1.1, g1.2.imp id (fun h => by simpa using leB o1 hn _ h)⟩
  by_cases hn : o1 = .normal
  · subst hn
    have g2 := hB orelse ω1 _ _ (g1.mem nofun) (sub_of_le leO hreq)
    simp only [if_true, Bool.false_and, if_false, decide_false, Bool.false_eq_true, reduceCtorEq, List.append_nil]
    exact good_prefix g1.1 (g2.mono leO.2)
  · by_cases hr : o1 = .raise
    · subst hr
      have hx1 := g1.mem nofun
      simp only [reduceCtorEq, if_false, decide_true, Bool.true_and]
      by_cases hh : handlers.isEmpty = true
      · simp only [hh, Bool.not_true, Bool.false_eq_true, if_false]
        exact stands nofun
      · simp only [hh, Bool.not_false, if_true]
        rcases hpop : ω1.pop with ⟨k, ω2⟩
        dsimp only
        split
        · rename_i hi ty nm hb hk
          have hle := Flow.le_trans (flowHandlers_get _ (isEmpty_false_of_mem hx1) handlers k hi ty nm hb hk) leH
          have hqe : Sub (emit (flowBlock body cur).raise (lamsL ty)).1 E := fun p hp => hreq p (hle.1 p (seq_left_req _ _ p hp))
          have g3 := hB hb ω2 _ _ (emit_sound E (lamsL ty) _ _ hx1 hqe).2 (sub_of_le (Flow.le_trans (le_seq_right _ _) hle) hreq)
          rw [List.nil_append]
          exact good_prefix g1.1 ((good_seq_emit hx1 hqe g3).mono hle.2)
        · exact stands nofun
    · simp only [hn, hr, if_false, decide_false, Bool.false_and, Bool.false_eq_true]
      exact stands hn

/-- Running the `finally` body with a pending outcome `o`, inside any summary `T` that contains the resumption. -/
theorem resume_good (E f) (hB : BlockOk E f) (final : List Stmt) (S : List Nat) (put : List Nat → Flow) (o : Outcome)
    (hput : ∀ l n, n ∈ l → n ∈ (put l).sel o) (T : Flow)
    (hle : ((flowBlock final S).resumeInto put).le T) (hT : Sub T.req E) (x : Nat) (pre : List Nat) (ω : Oracle)
    (hc : ChainFrom E x pre) (hend : endOf x pre ∈ S) :
    Good E T x (pre ++ (walkBlock f final ω).1, resume o (walkBlock f final ω).2.1, (walkBlock f final ω).2.2) := by
  have g := hB final ω _ S hend (fun p hp => hT p (hle.1 p (resumeInto_req _ put p hp)))
  rcases hw : walkBlock f final ω with ⟨t4, o4, ω4⟩
  rw [hw] at g
  refine ⟨(chainFrom_append E x pre t4).mpr ⟨hc, g.1⟩, ?_⟩
  dsimp only
  rw [endOf_append]
  rcases g.2 with g2 | g2
  · dsimp only at g2; subst g2; exact Or.inl rfl
  · dsimp only at g2
    refine Or.inr (hle.2 _ _ ?_)
    by_cases h4 : o4 = .normal
    · subst h4
      rw [show resume o Outcome.normal = o from if_pos rfl]
      exact (le_alt_left _ _).2 o _ (hput _ _ g2)
    · rw [show resume o o4 = o4 from if_neg h4]
      exact (le_alt_right _ _).2 o4 _ ((Flow.sel_noNormal _ h4).symm ▸ g2)

theorem tryFin_good (E f) (hB : BlockOk E f) (P : Flow) (final : List Stmt) (x : Nat) (r : WalkRes)
    (hg : Good E P x r) (hreq : Sub (tryFin P final).req E) : Good E (tryFin P final) x (walkTryFin f final r) := by
  rcases r with ⟨pre, o3, ω⟩
  by_cases hf : final.isEmpty = true
  · simp only [tryFin, walkTryFin, hf, if_true]; exact hg
  · have hf' : final.isEmpty = false := by simpa using hf
    rw [tryFin_nonempty hf'] at hreq ⊢
    simp only [walkTryFin, hf', if_false, Bool.false_eq_true]
    -- a raise is exempt; the other outcomes run the `finally` block, which resumes them
    cases o3 with
    | raise => exact ⟨hg.1, Or.inr ((tryFinF_le_before P _).2 .exempt _ (List.mem_append.mpr (Or.inl (hg.mem nofun))))⟩
    | exempt => exact ⟨hg.1, Or.inr ((tryFinF_le_before P _).2 .exempt _ (List.mem_append.mpr (Or.inr (hg.mem nofun))))⟩
    | fuel => exact ⟨hg.1, Or.inl rfl⟩
    | normal =>
      exact resume_good E f hB final P.normal (fun l => { normal := l }) .normal (fun l n h => h) _
        (tryFinF_le_normal P _) hreq x pre ω hg.1 (hg.mem nofun)
    | brk =>
      exact resume_good E f hB final P.brk (fun l => { brk := l }) .brk (fun l n h => h) _
        (tryFinF_le_brk P _) hreq x pre ω hg.1 (hg.mem nofun)
    | cont =>
      exact resume_good E f hB final P.cont (fun l => { cont := l }) .cont (fun l n h => h) _
        (tryFinF_le_cont P _) hreq x pre ω hg.1 (hg.mem nofun)
    | ret =>
      exact resume_good E f hB final P.ret (fun l => { ret := l }) .ret (fun l n h => h) _
        (tryFinF_le_ret P _) hreq x pre ω hg.1 (hg.mem nofun)

theorem stmtOk_succ (E f) (hB : BlockOk E f) (hL : LoopOk E f) : StmtOk E (f+1) := by
  intro s ω x cur hx hreq
  -- a construct outside the modelled language: no nodes
  have skip : Good E { normal := cur } x ([], .normal, ω) := ⟨trivial, Or.inr hx⟩
  cases s with
  | if_ i test body orelse =>
    have hq0 : Sub (emit cur (test.kidLams ++ [test.id])).1 E := fun p hp => hreq p (seq_left_req _ _ p hp)
    have hqr := sub_of_le (le_seq_right { req := (emit cur (test.kidLams ++ [test.id])).1 } _) hreq
    have he := emit_sound E _ cur x hx hq0
    -- whichever branch `X` is taken
    have branch : ∀ (X : List Stmt) (ω0 : Oracle), (flowBlock X (emit cur (test.kidLams ++ [test.id])).2).le
        ((flowBlock body (emit cur (test.kidLams ++ [test.id])).2).alt (flowBlock orelse (emit cur (test.kidLams ++ [test.id])).2)) →
        Good E (flowStmt (.if_ i test body orelse) cur) x
          (test.kidLams ++ test.id :: (walkBlock f X ω0).1, (walkBlock f X ω0).2.1, (walkBlock f X ω0).2.2) := by
      intro X ω0 hle
      have g := hB X ω0 _ _ he.2 (sub_of_le hle hqr)
      rw [cons_eq_snoc_append]
      exact good_seq_emit hx hq0 (g.mono hle.2)
    show Good E _ x (test.kidLams ++ test.id :: (if ω.pop.1 ≠ 0 then walkBlock f body ω.pop.2 else walkBlock f orelse ω.pop.2).1,
      (if ω.pop.1 ≠ 0 then walkBlock f body ω.pop.2 else walkBlock f orelse ω.pop.2).2.1,
      (if ω.pop.1 ≠ 0 then walkBlock f body ω.pop.2 else walkBlock f orelse ω.pop.2).2.2)
    by_cases hd : ω.pop.1 = 0
    · rw [if_neg (not_not_intro hd)]
      exact branch orelse _ (le_alt_right _ _)
    · rw [if_pos hd]
      exact branch body _ (le_alt_left _ _)
  | while_ i test body orelse =>
    rw [flowStmt_while] at hreq ⊢
    exact loop_stmt_good E f hL test.id test.kidLams [] body orelse ω x cur hx hreq
  | for_ i target iter body orelse extra isAsync =>
    cases isAsync with
    | true => exact skip
    | false =>
      rw [flowStmt_for] at hreq ⊢
      cases extra with
      | nil => exact loop_stmt_good E f hL iter.id iter.kidLams [] body orelse ω x cur hx hreq
      | cons ex exs => exact loop_stmt_good E f hL iter.id iter.kidLams (ex.kidLams ++ [ex.id]) body orelse ω x cur hx hreq
  | with_ i items body isAsync =>
    cases isAsync with
    | true => exact skip
    | false =>
      have hq0 : Sub (emit cur (withItemNodes items)).1 E := fun p hp => hreq p (seq_left_req _ _ p hp)
      have g := hB body ω _ _ (emit_sound E _ cur x hx hq0).2 (sub_of_le (le_seq_right _ _) hreq)
      exact good_seq_emit hx hq0 g
  | try_ i body handlers orelse final =>
    rw [flowStmt_try] at hreq ⊢
    rw [walkStmt_try]
    refine tryFin_good E f hB _ final x _ (tryPre_good E f hB body handlers orelse ω x cur hx ?_) hreq
    -- the requirements of the protected part are among those of the whole statement
    intro p hp
    refine hreq p ?_
    by_cases hf : final.isEmpty = true
    · simp only [tryFin, hf, if_true]; exact hp
    · have hf' : final.isEmpty = false := by simpa using hf
      rw [tryFin_nonempty hf']
      exact (tryFinF_le_before _ _).1 p hp
  | functionDef i name args body decs rets isAsync =>
    cases isAsync with
    | true => exact skip
    | false => exact good_emit_only hx hreq (fun _ h => h)
  | handler | other => exact skip
  -- a statement that is one run of nodes
  | ret | raise | break_ | continue_ | classDef | delete | assign | augAssign | annAssign | assert_ | import_ | importFrom
  | global | nonlocal | expr | pass =>
    exact good_emit_only hx hreq (fun _ h => h)

theorem walk_sound (E : List (Nat × Nat)) : ∀ f, StmtOk E f ∧ BlockOk E f ∧ LoopOk E f
  | 0 => ⟨fun _ ω x _ _ _ => good_fuel E _ x ω, fun _ ω x _ _ _ => good_fuel E _ x ω, fun _ _ _ _ ω x _ _ => good_fuel E _ x ω⟩
  | f+1 => ⟨stmtOk_succ E f (walk_sound E f).2.1 (walk_sound E f).2.2, blockOk_succ E f (walk_sound E f).1 (walk_sound E f).2.1,
      loopOk_succ E f (walk_sound E f).2.1 (walk_sound E f).2.2⟩

/-- The result of a walk is a path of `g`: it starts at the entry, consecutive nodes are edges, and a completed walk ends in an
exit or error node. -/
def IsPath (g : Graph) (res : WalkRes) : Prop :=
  match res.1 with
  | [] => False
  | x :: r => g.entry = some x ∧ ChainFrom g.edges x r ∧
      (res.2.1.completed = true → endOf x r ∈ g.exits ∨ endOf x r ∈ g.errors)

theorem Flow.mem_finals {R : Flow} {o : Outcome} {n : Nat} (hc : o.completed = true) (h : n ∈ R.sel o) : n ∈ R.finals := by
  cases o with
  | normal => exact List.mem_append_left _ h
  | ret => exact List.mem_append_right _ (List.mem_append_left _ h)
  | raise => exact List.mem_append_right _ (List.mem_append_right _ (List.mem_append_left _ h))
  | exempt => exact List.mem_append_right _ (List.mem_append_right _ (List.mem_append_right _ h))
  | _ => cases hc

theorem sub_of_all {l E : List (Nat × Nat)} (h : l.all (fun e => E.contains e) = true) : Sub l E := by
  intro p hp
  have := List.all_eq_true.mp h p hp
  simpa using this

theorem pathCheck_sound (i : Nat) (name : String) (args : Expr) (body : List Stmt) (decs rets : List Expr)
    (isAsync : Bool) (g : Graph)
    (h : pathCheck (.functionDef i name args body decs rets isAsync) g = true) (fuel : Nat) (ω : Oracle) :
    IsPath g (walkFn fuel (.functionDef i name args body decs rets isAsync) ω) := by
  simp only [pathCheck, Bool.and_eq_true, beq_iff_eq] at h
  obtain ⟨⟨hentry, hreq⟩, hfin⟩ := h
  have hreq := sub_of_all hreq
  simp only [flowFn] at hreq hfin
  simp only [entryNodes] at hentry
  -- the first node and the rest of the entry sequence
  obtain ⟨n0, rest0, hns⟩ : ∃ n0 rest0, args.kidLams ++ [args.id] = n0 :: rest0 := by
    cases args.kidLams with
    | nil => exact ⟨_, _, rfl⟩
    | cons a r => exact ⟨a, r ++ [args.id], rfl⟩
  rw [hns] at hreq hfin hentry
  have hq0 : Sub (emit [n0] rest0).1 g.edges := by
    intro p hp
    refine hreq p ?_
    simp only [Flow.seq, emit, cross, List.map_nil, List.nil_append, List.mem_append]
    exact Or.inl hp
  have he := emit_sound g.edges rest0 [n0] n0 (by simp) hq0
  have hqb : Sub (flowBlock body (emit [n0] rest0).2).req g.edges := by
    intro p hp
    refine hreq p ?_
    simp only [Flow.seq, emit, List.mem_append]
    exact Or.inr hp
  have gb := (walk_sound g.edges fuel).2.1 body ω _ _ he.2 hqb
  simp only [walkFn]
  rcases hw : walkBlock fuel body ω with ⟨t, o, ω1⟩
  rw [hw] at gb
  have htr : args.kidLams ++ args.id :: t = n0 :: (rest0 ++ t) := by
    have : args.kidLams ++ args.id :: t = (args.kidLams ++ [args.id]) ++ t := by simp
    rw [this, hns]; rfl
  show IsPath g (args.kidLams ++ args.id :: t, o, ω1)
  rw [htr]
  refine ⟨?_, (chainFrom_append _ _ _ _).mpr ⟨he.1, gb.1⟩, ?_⟩
  · simpa using hentry
  · intro hc
    dsimp only at hc
    rw [endOf_append]
    have hmem : endOf (endOf n0 rest0) t ∈ (Flow.seq { req := (emit [] (n0 :: rest0)).1 } (flowBlock body (emit [] (n0 :: rest0)).2)).finals :=
      Flow.mem_finals hc ((le_seq_right _ _).2 o _ (gb.mem (fun h => by subst h; cases hc)))
    have := List.all_eq_true.mp hfin _ hmem
    simpa using this

inductive Reach (E : List (Nat × Nat)) : Nat → Nat → Prop
  | refl (a : Nat) : Reach E a a
  | step {a b c : Nat} : Reach E a b → (b, c) ∈ E → Reach E a c

/-- Reachable from a root (the builder's roots: the entry and the starts of dead-code regions). -/
def Rooted (g : Graph) (n : Nat) : Prop := ∃ r, r ∈ g.roots ∧ Reach g.edges r n

structure WellFormed (g : Graph) : Prop where
  nodup : g.nodes.Nodup
  entry : ∃ e, g.entry = some e ∧ e ∈ g.nodes ∧ e ∈ g.roots
  noEntryPred : ∀ a e, g.entry = some e → (a, e) ∉ g.edges
  edges : ∀ a b, (a, b) ∈ g.edges → a ∈ g.nodes ∧ b ∈ g.nodes
  exits : ∀ x, x ∈ g.exits → x ∈ g.nodes
  errors : ∀ x, x ∈ g.errors → x ∈ g.nodes
  roots : ∀ x, x ∈ g.roots → x ∈ g.nodes
  rooted : ∀ n, n ∈ g.nodes → Rooted g n

theorem nodupB_sound : ∀ l : List Nat, nodupB l = true → l.Nodup := by
  intro l
  induction l with
  | nil => intro _; exact List.nodup_nil
  | cons x xs ih =>
    intro h
    simp only [nodupB, Bool.and_eq_true, Bool.not_eq_true', List.contains_eq_mem, decide_eq_false_iff_not] at h
    exact List.nodup_cons.mpr ⟨h.1, ih h.2⟩

theorem expand_sound (E : List (Nat × Nat)) (P : Nat → Prop) (hstep : ∀ a b, (a, b) ∈ E → P a → P b) :
    ∀ (l : List (Nat × Nat)), (∀ e, e ∈ l → e ∈ E) → ∀ seen : List Nat, (∀ n, n ∈ seen → P n) →
      ∀ n, n ∈ l.foldl (fun acc e => if acc.contains e.1 && !acc.contains e.2 then acc ++ [e.2] else acc) seen → P n := by
  intro l
  induction l with
  | nil => intro _ seen hs n hn; exact hs n hn
  | cons e l ih =>
    intro hl seen hs n hn
    simp only [List.foldl_cons] at hn
    refine ih (fun e' he' => hl e' (List.mem_cons_of_mem _ he')) _ ?_ n hn
    intro m hm
    by_cases hc : (seen.contains e.1 && !seen.contains e.2) = true
    · simp only [hc, if_true, List.mem_append, List.mem_singleton] at hm
      rcases hm with hm | hm
      · exact hs m hm
      · subst hm
        simp only [Bool.and_eq_true, List.contains_eq_mem, decide_eq_true_eq] at hc
        exact hstep e.1 e.2 (hl e (List.mem_cons_self ..)) (hs _ hc.1)
    · simp only [hc, if_false, Bool.false_eq_true] at hm
      exact hs m hm

theorem closure_sound (E : List (Nat × Nat)) (P : Nat → Prop) (hstep : ∀ a b, (a, b) ∈ E → P a → P b) :
    ∀ (k : Nat) (seen : List Nat), (∀ n, n ∈ seen → P n) → ∀ n, n ∈ closure E k seen → P n := by
  intro k
  induction k with
  | zero => intro seen hs n hn; exact hs n hn
  | succ k ih =>
    intro seen hs n hn
    exact ih _ (expand_sound E P hstep E (fun _ h => h) seen hs) n hn

theorem wellFormed_sound (g : Graph) (h : wellFormed g = true) : WellFormed g := by
  simp only [wellFormed, Bool.and_eq_true] at h
  obtain ⟨⟨⟨⟨⟨⟨hnd, hentry⟩, hedges⟩, hexits⟩, herrors⟩, hroots⟩, hreach⟩ := h
  have mem_of_all : ∀ (l : List Nat), l.all (fun x => g.nodes.contains x) = true → ∀ x, x ∈ l → x ∈ g.nodes := by
    intro l hl x hx
    have := List.all_eq_true.mp hl x hx
    simpa using this
  refine ⟨nodupB_sound _ hnd, ?_, ?_, ?_, mem_of_all _ hexits, mem_of_all _ herrors, mem_of_all _ hroots, ?_⟩
  · cases he : g.entry with
    | none => simp [he] at hentry
    | some e =>
      simp only [he, Bool.and_eq_true, List.contains_eq_mem, decide_eq_true_eq] at hentry
      exact ⟨e, rfl, hentry.1.1, hentry.1.2⟩
  · intro a e he hae
    simp only [he, Bool.and_eq_true] at hentry
    have := List.all_eq_true.mp hentry.2 (a, e) hae
    simp at this
  · intro a b hab
    have := List.all_eq_true.mp hedges (a, b) hab
    simpa using this
  · intro n hn
    have hn' := List.all_eq_true.mp hreach n hn
    simp only [List.contains_eq_mem, decide_eq_true_eq] at hn'
    refine closure_sound g.edges (Rooted g) ?_ _ g.roots ?_ n hn'
    · rintro a b hab ⟨r, hr, hra⟩
      exact ⟨r, hr, Reach.step hra hab⟩
    · intro r hr
      exact ⟨r, hr, Reach.refl r⟩

end Malt.Cfg
