import MaltModel.Proofs.C10Basic
namespace Malt.Cache

section
variable {Opts Factory : Type} [BEq Opts] [Hashable Opts]

/-- One constructor per branch of `action`: what a thread at `pc` serving `r` does (effect, continuation) and
what it has just read from the shared state. -/
inductive Act (T : Code → Opts → Nat → Option Factory) (s : State Opts Factory) (t : Tid) (r : Request Opts) :
    Pc Factory → Eff Opts Factory → Next Factory → Prop
  | idle : Act T s t r .idle .nop (.goto (.has1 false))
  | has1_hit {lk b} : ofind r.code s.outer = some b → Act T s t r (.has1 lk) .nop (.goto (.has2 lk b))
  | has1_miss : ofind r.code s.outer = none → Act T s t r (.has1 false) .nop (.goto .acq)
  | has1_miss_locked : ofind r.code s.outer = none → Act T s t r (.has1 true) .nop (.goto .xform)
  | has2_hit {lk b} : (bfind r.opts (bucketAt s b)).isSome = true → Act T s t r (.has2 lk b) .nop (.goto (.get1 lk))
  | has2_miss {b} : bfind r.opts (bucketAt s b) = none → Act T s t r (.has2 false b) .nop (.goto .acq)
  | has2_miss_locked {b} : bfind r.opts (bucketAt s b) = none → Act T s t r (.has2 true b) .nop (.goto .xform)
  | get1_hit {lk b} : ofind r.code s.outer = some b → Act T s t r (.get1 lk) .nop (.goto (.get2 lk b))
  | get1_miss {lk} : ofind r.code s.outer = none → Act T s t r (.get1 lk) .nop (.goto (.get1c lk))
  | get1c {lk} : Act T s t r (.get1c lk) (.create r.code) (.goto (.get2 lk s.heap.length))
  | get2_hit {b f} : bfind r.opts (bucketAt s b) = some f → Act T s t r (.get2 false b) .nop (.goto (.inst f false))
  | get2_hit_locked {b f} : bfind r.opts (bucketAt s b) = some f →
      Act T s t r (.get2 true b) .nop (.goto (.rel (some f) false))
  | get2_miss {b} : bfind r.opts (bucketAt s b) = none → Act T s t r (.get2 false b) .nop (.finish none)
  | get2_miss_locked {b} : bfind r.opts (bucketAt s b) = none →
      Act T s t r (.get2 true b) .nop (.goto (.rel none false))
  | acq_free : s.lock = none → Act T s t r .acq .acquire (.goto (.has1 true))
  | acq_again {n} : s.lock = some (t, n) → Act T s t r .acq .acquire (.goto (.has1 true))
  | acq_blocked {h n} : s.lock = some (h, n) → h ≠ t → Act T s t r .acq .nop .blocked
  | xform_ok {f} : T r.code r.opts r.env.sig = some f → Act T s t r .xform (.logx r.code r.opts) (.goto (.st1 f))
  | xform_raise : T r.code r.opts r.env.sig = none → Act T s t r .xform .nop (.goto (.rel none false))
  | st1_hit {f b} : ofind r.code s.outer = some b → Act T s t r (.st1 f) .nop (.goto (.st2 f b))
  | st1_miss {f} : ofind r.code s.outer = none → Act T s t r (.st1 f) .nop (.goto (.st1c f))
  | st1c {f} : Act T s t r (.st1c f) (.create r.code) (.goto (.st2 f s.heap.length))
  | st2 {f b} : Act T s t r (.st2 f b) (.store b r.opts f) (.goto (.rel (some f) true))
  | rel_some {f own} : Act T s t r (.rel (some f) own) .release (.goto (.inst f own))
  | rel_none {own} : Act T s t r (.rel none own) .release (.finish none)
  | inst {f own} : Act T s t r (.inst f own) .nop (.finish (some f))

theorem action_act (T : Code → Opts → Nat → Option Factory) (s : State Opts Factory) (t : Tid) (r : Request Opts)
    (pc : Pc Factory) : Act T s t r pc (action T s t r pc).1 (action T s t r pc).2 := by
  cases pc with
  | idle => exact .idle
  | has1 lk =>
    cases ho : ofind r.code s.outer with
    | some b => simp only [action, ho]; exact .has1_hit ho
    | none =>
      simp only [action, ho]
      cases lk
      · exact .has1_miss ho
      · exact .has1_miss_locked ho
  | has2 lk b =>
    cases hf : bfind r.opts (bucketAt s b) with
    | some f => simp only [action, hf]; exact .has2_hit (by rw [hf]; rfl)
    | none =>
      simp only [action, hf]
      cases lk
      · exact .has2_miss hf
      · exact .has2_miss_locked hf
  | get1 lk =>
    cases ho : ofind r.code s.outer with
    | some b => simp only [action, ho]; exact .get1_hit ho
    | none => simp only [action, ho]; exact .get1_miss ho
  | get1c lk => exact .get1c
  | get2 lk b =>
    cases hf : bfind r.opts (bucketAt s b) with
    | some f =>
      simp only [action, hf]
      cases lk
      · exact .get2_hit hf
      · exact .get2_hit_locked hf
    | none =>
      simp only [action, hf]
      cases lk
      · exact .get2_miss hf
      · exact .get2_miss_locked hf
  | acq =>
    cases hl : s.lock with
    | none => simp only [action, hl]; exact .acq_free hl
    | some hn =>
      obtain ⟨h, n⟩ := hn
      by_cases hh : h = t
      · subst hh; simp only [action, hl, if_true]; exact .acq_again hl
      · simp only [action, hl, hh, if_false]; exact .acq_blocked hl hh
  | xform =>
    cases hT : T r.code r.opts r.env.sig with
    | some f => simp only [action, hT]; exact .xform_ok hT
    | none => simp only [action, hT]; exact .xform_raise hT
  | st1 f =>
    cases ho : ofind r.code s.outer with
    | some b => simp only [action, ho]; exact .st1_hit ho
    | none => simp only [action, ho]; exact .st1_miss ho
  | st1c f => exact .st1c
  | st2 f b => exact .st2
  | rel res own =>
    cases res
    · exact .rel_none
    · exact .rel_some
  | inst f own => exact .inst

variable {s : State Opts Factory} {t : Tid} {th : Thread Opts Factory} {r : Request Opts}
  {rest : List (Request Opts)} {eff : Eff Opts Factory} {nxt : Next Factory}

/-- Only a thread waiting for a lock that *another* thread holds is blocked. -/
theorem Act.blocked {T : Code → Opts → Nat → Option Factory} {pc : Pc Factory} (hact : Act T s t r pc eff .blocked) :
    pc = .acq ∧ eff = .nop ∧ ∃ h n, s.lock = some (h, n) ∧ h ≠ t := by
  cases hact with
  | acq_blocked hl hh => exact ⟨rfl, rfl, _, _, hl, hh⟩

abbrev after (s : State Opts Factory) (t : Tid) (th : Thread Opts Factory) (r : Request Opts)
    (eff : Eff Opts Factory) (nxt : Next Factory) : State Opts Factory :=
  { applyEff s t eff with threads := s.threads.set t (applyNext th r nxt) }

theorem stepThread_act (T : Code → Opts → Nat → Option Factory) (hth : s.threads[t]? = some th)
    (htodo : th.todo = r :: rest) :
    ∃ eff nxt, Act T s t r th.pc eff nxt ∧ stepThread T s t = after s t th r eff nxt :=
  ⟨_, _, action_act T s t r th.pc, by simp [stepThread, hth, htodo]⟩

theorem stepThread_cases (T : Code → Opts → Nat → Option Factory) {I : State Opts Factory → Prop}
    (hnone : s.threads[t]? = none → I s) (hnil : ∀ {th}, s.threads[t]? = some th → th.todo = [] → I s)
    (hact : ∀ {th r rest eff nxt}, s.threads[t]? = some th → th.todo = r :: rest → Act T s t r th.pc eff nxt →
      I (after s t th r eff nxt)) : I (stepThread T s t) := by
  cases hth : s.threads[t]? with
  | none => simp only [stepThread, hth]; exact hnone hth
  | some th =>
    cases htodo : th.todo with
    | nil => simp only [stepThread, hth, htodo]; exact hnil hth htodo
    | cons r rest =>
      obtain ⟨eff, nxt, ha, h⟩ := stepThread_act T hth htodo
      rw [h]
      exact hact hth htodo ha

theorem gc_cases {T : Code → Opts → Nat → Option Factory} {I : State Opts Factory → Prop} {c : Code}
    (hlive : live s c = true → I s) (hdead : live s c = false → I { s with outer := ogc c s.outer }) :
    I (step T s (.gc c)) := by
  show I (if live s c = true then s else { s with outer := ogc c s.outer })
  cases hl : live s c with
  | true => exact hlive hl
  | false => exact hdead hl

theorem step_ind {T : Code → Opts → Nat → Option Factory} {I : Label → State Opts Factory → Prop} (h0 : ∀ l, I l s)
    (hthr : ∀ {t th r rest eff nxt}, s.threads[t]? = some th → th.todo = r :: rest → Act T s t r th.pc eff nxt →
      I (.thr t) (after s t th r eff nxt))
    (hgc : ∀ {c}, live s c = false → I (.gc c) { s with outer := ogc c s.outer }) (l : Label) :
    I l (step T s l) := by
  cases l with
  | thr t => exact stepThread_cases T (I := I (.thr t)) (fun _ => h0 _) (fun _ _ => h0 _) hthr
  | gc c => exact gc_cases (I := I (.gc c)) (fun _ => h0 _) hgc

theorem after_get_self (hth : s.threads[t]? = some th) :
    (after s t th r eff nxt).threads[t]? = some (applyNext th r nxt) := by
  simp [getElem?_set_of_some hth]

theorem after_get_other {t t' : Tid} (hth : s.threads[t]? = some th) (h : t' ≠ t) :
    (after s t th r eff nxt).threads[t']? = s.threads[t']? := by
  simp [getElem?_set_of_some hth, h]

theorem after_get {t t' : Tid} {th th' : Thread Opts Factory} (hth : s.threads[t]? = some th)
    (h : (after s t th r eff nxt).threads[t']? = some th') :
    (t' = t ∧ th' = applyNext th r nxt) ∨ (t' ≠ t ∧ s.threads[t']? = some th') := by
  by_cases htt : t' = t
  · subst htt
    rw [after_get_self hth] at h
    exact Or.inl ⟨rfl, (Option.some.inj h).symm⟩
  · rw [after_get_other hth htt] at h
    exact Or.inr ⟨htt, h⟩

theorem head_mem {P : List (Request Opts)} (h : ∀ th ∈ s.threads, ∀ r ∈ th.todo, r ∈ P)
    (hth : s.threads[t]? = some th) (htodo : th.todo = r :: rest) : r ∈ P :=
  h th (List.mem_of_getElem? hth) r (by rw [htodo]; exact List.mem_cons_self)

theorem after_todo_sub (hth : s.threads[t]? = some th) :
    ∀ th' ∈ (after s t th r eff nxt).threads, ∃ th0 ∈ s.threads, ∀ x ∈ th'.todo, x ∈ th0.todo := by
  intro th' hth'
  rcases List.mem_or_eq_of_mem_set hth' with h | h
  · exact ⟨th', h, fun x hx => hx⟩
  · subst h
    refine ⟨th, List.mem_of_getElem? hth, ?_⟩
    intro x hx
    cases nxt with
    | goto pc => exact hx
    | finish res => exact List.mem_of_mem_tail hx
    | blocked => exact hx

theorem after_todo {P : List (Request Opts)} (hth : s.threads[t]? = some th)
    (h : ∀ th' ∈ s.threads, ∀ x ∈ th'.todo, x ∈ P) :
    ∀ th' ∈ (after s t th r eff nxt).threads, ∀ x ∈ th'.todo, x ∈ P := by
  intro th' hth' x hx
  obtain ⟨th0, hth0, hsub⟩ := after_todo_sub (r := r) (eff := eff) (nxt := nxt) hth th' hth'
  exact h th0 hth0 x (hsub x hx)

theorem live_iff {c : Code} : live s c = true ↔ ∃ th ∈ s.threads, ∃ r ∈ th.todo, r.code = c := by
  simp only [live, List.any_eq_true, Thread.needs, decide_eq_true_eq]

theorem live_false_of_todo_sub {s s' : State Opts Factory}
    (h : ∀ th' ∈ s'.threads, ∃ th ∈ s.threads, ∀ x ∈ th'.todo, x ∈ th.todo) (c : Code)
    (hl : live s c = false) : live s' c = false := by
  cases hx : live s' c with
  | false => rfl
  | true =>
    obtain ⟨th', hth', x, hx, hc⟩ := live_iff.mp hx
    obtain ⟨th, hth, hsub⟩ := h th' hth'
    rw [live_iff.mpr ⟨th, hth, x, hsub x hx, hc⟩] at hl
    cases hl

theorem live_head (hth : s.threads[t]? = some th) (htodo : th.todo = r :: rest) : live s r.code = true :=
  live_iff.mpr ⟨th, List.mem_of_getElem? hth, r, by rw [htodo]; exact List.mem_cons_self, rfl⟩

def AtPc (Q : State Opts Factory → Request Opts → Pc Factory → Prop) (s : State Opts Factory) : Prop :=
  ∀ (t : Tid) (th : Thread Opts Factory) (r : Request Opts) (rest : List (Request Opts)),
    s.threads[t]? = some th → th.todo = r :: rest → Q s r th.pc

theorem after_pc {Q : State Opts Factory → Request Opts → Pc Factory → Prop} (hth : s.threads[t]? = some th)
    (htodo : th.todo = r :: rest) (hold : AtPc Q s)
    (hframe : ∀ (t' : Tid) (th' : Thread Opts Factory) r', t' ≠ t ∨ nxt = .blocked → s.threads[t']? = some th' →
      Q s r' th'.pc → Q (after s t th r eff nxt) r' th'.pc)
    (hgoto : ∀ pc', nxt = .goto pc' → Q (after s t th r eff nxt) r pc')
    (hidle : ∀ r', Q (after s t th r eff nxt) r' .idle) : AtPc Q (after s t th r eff nxt) := by
  intro t' th' r' rest' hth' htodo'
  rcases after_get hth hth' with ⟨rfl, rfl⟩ | ⟨htt, hth'⟩
  · cases nxt with
    | goto pc' => cases htodo.symm.trans htodo'; exact hgoto pc' rfl
    | finish res => exact hidle r'
    | blocked => exact hframe t' th r' (Or.inr rfl) hth (hold t' th r' rest' hth htodo')
  · exact hframe t' th' r' (Or.inl htt) hth' (hold t' th' r' rest' hth' htodo')

theorem mem_finished {e : Request Opts × Option Factory} : e ∈ finished s ↔ ∃ th ∈ s.threads, e ∈ th.results := by
  simp only [finished, List.mem_flatten, List.mem_map]
  constructor
  · rintro ⟨l, ⟨th, hth, rfl⟩, he⟩; exact ⟨th, hth, he⟩
  · rintro ⟨th, hth, he⟩; exact ⟨_, ⟨th, hth, rfl⟩, he⟩

theorem after_results {R : Request Opts × Option Factory → Prop} (hth : s.threads[t]? = some th)
    (hold : ∀ e ∈ finished s, R e) (hfin : ∀ res, nxt = .finish res → R (r, res)) :
    ∀ e ∈ finished (after s t th r eff nxt), R e := by
  intro e he
  obtain ⟨th', hth', he⟩ := mem_finished.mp he
  rcases List.mem_or_eq_of_mem_set hth' with h | rfl
  · exact hold e (mem_finished.mpr ⟨th', h, he⟩)
  · have hold' := fun he' => hold e (mem_finished.mpr ⟨th, List.mem_of_getElem? hth, he'⟩)
    cases nxt with
    | goto pc => exact hold' he
    | blocked => exact hold' he
    | finish res =>
      rcases List.mem_append.mp he with he | he
      · exact hold' he
      · cases List.mem_singleton.mp he; exact hfin res rfl

theorem init_mem {progs : List (List (Request Opts))} (h : th ∈ (init progs : State Opts Factory).threads) :
    ∃ p ∈ progs, th = ⟨.idle, p, []⟩ := by
  obtain ⟨p, hp, rfl⟩ := List.mem_map.mp h
  exact ⟨p, hp, rfl⟩

theorem init_pc {Q : State Opts Factory → Request Opts → Pc Factory → Prop} {progs : List (List (Request Opts))}
    (h : ∀ r, Q (init progs) r .idle) : AtPc Q (init progs) := by
  intro t th r rest hth _
  obtain ⟨p, _, rfl⟩ := init_mem (List.mem_of_getElem? hth)
  exact h r

theorem init_results {R : Request Opts × Option Factory → Prop} {progs : List (List (Request Opts))} :
    ∀ e ∈ finished (init progs : State Opts Factory), R e := by
  intro e he
  obtain ⟨th, hth, he⟩ := mem_finished.mp he
  obtain ⟨p, _, rfl⟩ := init_mem hth
  cases he

theorem init_todo {P : List (Request Opts)} {progs : List (List (Request Opts))}
    (hP : ∀ p ∈ progs, ∀ r ∈ p, r ∈ P) : ∀ th ∈ (init progs : State Opts Factory).threads, ∀ r ∈ th.todo, r ∈ P := by
  intro th hth r hr
  obtain ⟨p, hp, rfl⟩ := init_mem hth
  exact hP p hp r hr

end

end Malt.Cache
