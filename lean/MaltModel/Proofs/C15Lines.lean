import MaltModel.Rt.Dedent
/-
`matchLines` one physical line at a time: once an unfinished line has a non-space character (`Closed`), what `fixLine`
does with it no longer depends on what is appended (`Stable`).  The token level sees `MatchesFrom` and `Closing` only.
-/
namespace Malt.Dedent

theorem isBlank_iff {c : Char} : isBlank c = true ↔ c = ' ' ∨ c = '\t' := by
  simp only [isBlank, Bool.or_eq_true, decide_eq_true_eq]

theorem isBlank_isSpace {c : Char} (h : isBlank c = true) : isSpace c = true := by
  rcases isBlank_iff.mp h with rfl | rfl <;> decide

theorem all_blank_space (g : Str) (h : g.all isBlank = true) : g.all isSpace = true := by
  simp only [List.all_eq_true] at *
  intro c hc; exact isBlank_isSpace (h c hc)

theorem all_blank_noNl (g : Str) (h : g.all isBlank = true) : noNl g = true := by
  simp only [noNl, List.all_eq_true] at *
  intro c hc
  rcases isBlank_iff.mp (h c hc) with rfl | rfl <;> decide

theorem all_blank_drop {s : Str} (n : Nat) (h : s.all isBlank = true) : (s.drop n).all isBlank = true := by
  simp only [List.all_eq_true] at *
  intro c hc; exact h c (List.mem_of_mem_drop hc)

theorem noNl_append (a b : Str) : noNl (a ++ b) = (noNl a && noNl b) := by
  simp [noNl, List.all_append]

theorem noNl_append_of {a b : Str} (ha : noNl a = true) (hb : noNl b = true) : noNl (a ++ b) = true := by
  rw [noNl_append, ha, hb]; rfl

theorem noNl_cons_iff {c : Char} {a : Str} : noNl (c :: a) = true ↔ c ≠ '\n' ∧ noNl a = true := by
  simp [noNl]

theorem noNl_snoc {A : Str} {c : Char} (hA : noNl A = true) (hc : c ≠ '\n') : noNl (A ++ [c]) = true := by
  rw [noNl_append, hA]; simp [noNl, hc]

theorem escapeBraces_noNl (s : Str) (h : noNl s = true) : noNl (escapeBraces s) = true := by
  induction s with
  | nil => rfl
  | cons c r ih =>
    have h := noNl_cons_iff.mp h
    have ihr := ih h.2
    simp only [escapeBraces, List.flatMap_cons] at ihr ⊢
    rw [noNl_append, ihr]
    split <;> simp [noNl, h.1]

theorem splitNl_ne_nil (X : Str) : splitNl X ≠ [] := by
  induction X with
  | nil => simp [splitNl]
  | cons c r ih =>
    simp only [splitNl]
    split
    · simp
    · split <;> simp

theorem splitNl_of_noNl {l : Str} (h : noNl l = true) : splitNl l = [l] := by
  induction l with
  | nil => rfl
  | cons c r ih =>
    have h := noNl_cons_iff.mp h
    simp [splitNl, h.1, ih h.2]

theorem splitNl_line {l X : Str} (h : noNl l = true) : splitNl (l ++ '\n' :: X) = l :: splitNl X := by
  induction l with
  | nil => simp [splitNl]
  | cons c r ih =>
    have h := noNl_cons_iff.mp h
    simp [splitNl, h.1, ih h.2]

theorem joinNl_cons {a : Str} {l : List Str} (h : l ≠ []) : joinNl (a :: l) = a ++ '\n' :: joinNl l := by
  cases l with
  | nil => exact absurd rfl h
  | cons b r => rfl

theorem matchLines_of_noNl {l l' : Str} (h : noNl l = true) (h' : noNl l' = true) :
    matchLines l l' = fixLine l l' := by
  simp [matchLines, splitNl_of_noNl h, splitNl_of_noNl h', joinNl]

theorem matchLines_line {l l' X Y : Str} (h : noNl l = true) (h' : noNl l' = true) :
    matchLines (l ++ '\n' :: X) (l' ++ '\n' :: Y) = fixLine l l' ++ '\n' :: matchLines X Y := by
  simp only [matchLines, splitNl_line h, splitNl_line h', List.zipWith_cons_cons]
  rw [joinNl_cons fun h => (List.zipWith_eq_nil_iff.mp h).elim (splitNl_ne_nil X) (splitNl_ne_nil Y)]

theorem lead_ws_append (g a : Str) (hg : g.all isSpace = true) : lead (g ++ a) = g.length + lead a := by
  simp [lead, List.takeWhile_append_of_pos (List.all_eq_true.mp hg)]

theorem lead_le (l : Str) : lead l ≤ l.length := (List.takeWhile_sublist _).length_le

theorem lead_lt_of_mem {l : Str} {c : Char} (hc : c ∈ l) (hs : isSpace c = false) : lead l < l.length := by
  induction l with
  | nil => simp at hc
  | cons d r ih =>
    simp only [lead, List.takeWhile]
    by_cases hd : isSpace d = true
    · simp only [hd, List.length_cons]
      have : c ∈ r := by
        rcases List.mem_cons.mp hc with h | h
        · subst h; rw [hs] at hd; cases hd
        · exact h
      have := ih this
      simp only [lead] at this
      omega
    · simp only [Bool.not_eq_true] at hd
      simp [hd]

theorem lead_append {x a : Str} (hx : lead x < x.length) : lead (x ++ a) = lead x := by
  simp only [lead] at *
  rw [List.takeWhile_append]
  split
  · omega
  · rfl

theorem fixLine_eq (o n : Str) : fixLine o n = o.drop (lead o - lead n) := by
  unfold fixLine
  split
  · rfl
  · rw [Nat.sub_eq_zero_of_le (Nat.le_of_not_lt ‹_›)]; rfl

theorem trimTo_eq (k : Nat) (g : Str) : trimTo k g = g.drop (g.length - k) := by
  unfold trimTo
  split
  · rfl
  · rw [Nat.sub_eq_zero_of_le (Nat.le_of_not_lt ‹_›)]; rfl

theorem fixLine_append (xo yo a b : Str) (hx : lead xo < xo.length) (hy : lead yo < yo.length) :
    fixLine (xo ++ a) (yo ++ b) = fixLine xo yo ++ a := by
  have := lead_le xo
  rw [fixLine_eq, fixLine_eq, lead_append hx, lead_append hy, List.drop_append_of_le_length (by omega)]

theorem fixLine_self (l : Str) : fixLine l l = l := by
  rw [fixLine_eq, Nat.sub_self]; rfl

theorem fixLine_lead (g i a b : Str) (hg : g.all isSpace = true) (hi : i.all isSpace = true)
    (hab : lead a = lead b) : fixLine (g ++ a) (i ++ b) = trimTo i.length g ++ a := by
  rw [fixLine_eq, trimTo_eq, lead_ws_append _ _ hg, lead_ws_append _ _ hi, hab, Nat.add_sub_add_right,
    List.drop_append_of_le_length (Nat.sub_le _ _)]

theorem trimTo_append_right (p t : Str) : trimTo t.length (p ++ t) = t := by
  rw [trimTo_eq, List.length_append, Nat.add_sub_cancel, List.drop_left]

theorem trimTo_drop_prefix (p g : Str) (h : p.isPrefixOf g = true) :
    g = p ++ trimTo (g.drop p.length).length g := by
  obtain ⟨t, rfl⟩ := List.isPrefixOf_iff_prefix.mp h
  rw [List.drop_left, trimTo_append_right]

theorem trimTo_suffix (k : Nat) (g : Str) : trimTo k g = g.drop (g.length - (trimTo k g).length) := by
  rw [trimTo_eq, List.length_drop]
  congr 1
  omega

theorem headNonSpace_takeWhile (t : Str) (h : headNonSpace t = true) : t.takeWhile isSpace = [] := by
  cases t with
  | nil => simp [headNonSpace] at h
  | cons c r => simp only [headNonSpace, Bool.not_eq_true'] at h; simp [List.takeWhile, h]

theorem fixLine_fresh {g i t v : Str} (hg : g.all isSpace = true) (hi : i.all isSpace = true)
    (ht : headNonSpace t = true) (hv : headNonSpace v = true) :
    fixLine (g ++ t) (i ++ v) = trimTo i.length g ++ t :=
  fixLine_lead g i t v hg hi (by rw [lead, lead, headNonSpace_takeWhile _ ht, headNonSpace_takeWhile _ hv])

def lastLine : Str → Str → Str
  | A, [] => A
  | A, c :: r => if c = '\n' then lastLine [] r else lastLine (A ++ [c]) r

theorem noNl_lastLine {A : Str} (s : Str) (h : noNl A = true) : noNl (lastLine A s) = true := by
  fun_induction lastLine A s with
  | case1 => exact h
  | case2 A r ih => exact ih rfl
  | case3 A c r hc ih => exact ih (noNl_snoc h hc)

theorem lastLine_of_noNl (A : Str) {s : Str} (h : noNl s = true) : lastLine A s = A ++ s := by
  induction s generalizing A with
  | nil => simp [lastLine]
  | cons c r ih =>
    have h := noNl_cons_iff.mp h
    simp [lastLine, h.1, ih _ h.2]

theorem lastLine_mem_nonSpace (A : Str) {s : Str} (hs : lastNonSpace s = true) : ∃ c ∈ lastLine A s, isSpace c = false := by
  fun_induction lastLine A s with
  | case1 => cases hs
  | case2 A r ih =>
    cases r with
    | nil => cases hs
    | cons c' r' => exact ih hs
  | case3 A c r hc ih =>
    cases r with
    | nil => exact ⟨c, by simp [lastLine], by simpa [lastNonSpace] using hs⟩
    | cons c' r' => exact ih hs

/-- a physical line with a non-space character: appending text no longer changes its leading whitespace -/
def Closed (l : Str) : Prop := noNl l = true ∧ lead l < l.length

theorem Closed.append {x : Str} (h : Closed x) {a : Str} (ha : noNl a = true) : Closed (x ++ a) :=
  ⟨noNl_append_of h.1 ha, by have := h.2; rw [lead_append h.2, List.length_append]; omega⟩

theorem Closed.of_mem {l : Str} {c : Char} (hn : noNl l = true) (hc : c ∈ l) (hs : isSpace c = false) : Closed l :=
  ⟨hn, lead_lt_of_mem hc hs⟩

def Closing (s : Str) : Prop := ∀ A, noNl A = true → Closed (lastLine A s)

theorem Closing.of_lastNonSpace {s : Str} (hs : lastNonSpace s = true) : Closing s := by
  intro A hA
  obtain ⟨c, hc, hn⟩ := lastLine_mem_nonSpace A hs
  exact Closed.of_mem (noNl_lastLine s hA) hc hn

theorem Closing.of_wordLike {s : Str} (hs : wordLike s = true) : Closing s := by
  simp only [wordLike, Bool.and_eq_true] at hs
  intro A hA
  rw [lastLine_of_noNl A hs.1]
  cases s with
  | nil => cases hs.2
  | cons c r =>
    exact Closed.of_mem (noNl_append_of hA hs.1) (List.mem_append_right _ List.mem_cons_self)
      (by simpa [headNonSpace] using hs.2)

/-- line state on both sides (`xo` the original text, `yo` the untokenized one): at the start of a physical line;
or both lines closed; or (`am`: after the literal part of an f-string) still the same whitespace on both sides -/
inductive LineInv : Bool → Bool → Str → Str → Prop
  | fresh {am : Bool} : LineInv true am [] []
  | closed {am : Bool} {xo yo : Str} : Closed xo → Closed yo → LineInv false am xo yo
  | spaces {x : Str} : noNl x = true → x.all isSpace = true → LineInv false true x x

theorem LineInv.closed_of {xo yo : Str} (h : LineInv false false xo yo) : Closed xo ∧ Closed yo := by
  cases h with
  | closed hx hy => exact ⟨hx, hy⟩

theorem LineInv.weaken {am : Bool} {xo yo : Str} (h : LineInv false am xo yo) : LineInv false true xo yo := by
  cases h with
  | closed hx hy => exact .closed hx hy
  | spaces hn hs => exact .spaces hn hs

theorem LineInv.noNl {sl am : Bool} {xo yo : Str} (h : LineInv sl am xo yo) : noNl xo = true ∧ noNl yo = true := by
  cases h with
  | fresh => exact ⟨rfl, rfl⟩
  | closed hx hy => exact ⟨hx.1, hy.1⟩
  | spaces hn _ => exact ⟨hn, hn⟩

def Stable (A B F : Str) : Prop := ∀ a, fixLine (A ++ a) (B ++ a) = F ++ a

theorem LineInv.stable_gap {sl am : Bool} {xo yo : Str} (hinv : LineInv sl am xo yo) {g i sp : Str}
    (hg : g.all isBlank = true) (hgam : am = true → g = []) (hi : i.all isBlank = true)
    (hsp0 : sl = true ∨ am = true → sp = []) :
    Stable (xo ++ g) (yo ++ ((if sl = true then i else []) ++ sp))
      (fixLine xo yo ++ (if sl = true then trimTo i.length g else g)) := by
  intro a
  cases hinv with
  | fresh =>
    cases hsp0 (.inl rfl)
    have := fixLine_lead g i a a (all_blank_space g hg) (all_blank_space i hi) rfl
    simpa only [if_true, List.nil_append, List.append_nil, fixLine_self] using this
  | closed hx hy =>
    have := fixLine_append xo yo (g ++ a) (sp ++ a) hx.2 hy.2
    simpa only [Bool.false_eq_true, if_false, List.nil_append, List.append_assoc] using this
  | spaces hn hws =>
    -- the line so far is whitespace common to both sides, and neither gap nor separator follows
    cases hgam rfl
    cases hsp0 (.inr rfl)
    simp only [Bool.false_eq_true, if_false, List.append_nil, fixLine_self]

theorem LineInv.stable {am : Bool} {xo yo : Str} (h : LineInv false am xo yo) : Stable xo yo (fixLine xo yo) := by
  have := h.stable_gap (g := []) (i := []) (sp := []) rfl (fun _ => rfl) rfl (fun _ => rfl)
  simpa only [Bool.false_eq_true, if_false, List.append_nil] using this

theorem LineInv.fixLine_eol {sl am : Bool} {xo yo g : Str} (hinv : LineInv sl am xo yo) (hg : g.all isBlank = true)
    (hgam : am = true → g = []) :
    fixLine (xo ++ g) yo = fixLine xo yo ++ (if sl = true then [] else g) := by
  have := hinv.stable_gap (i := []) (sp := []) hg hgam rfl (fun _ => rfl) []
  simpa only [ite_self, List.append_nil, List.length_nil, trimTo_eq, Nat.sub_zero, List.drop_length] using this

theorem lastLine_lineInv (s : Str) {A B : Str} (h : LineInv false true A B) :
    LineInv false true (lastLine A s) (lastLine B s) := by
  induction s generalizing A B with
  | nil => exact h
  | cons c r ih =>
    by_cases hc : c = '\n'
    · subst hc
      simp only [lastLine, if_true]
      exact ih (.spaces rfl rfl)
    · simp only [lastLine, hc, if_false]
      apply ih
      have hcn : noNl [c] = true := by simp [noNl, hc]
      cases h with
      | closed hA hB => exact .closed (hA.append hcn) (hB.append hcn)
      | spaces hn hws =>
        by_cases hs : isSpace c = true
        · exact .spaces (noNl_snoc hn hc) (by simp [List.all_append, hws, hs])
        · have hcl : Closed (A ++ [c]) :=
            Closed.of_mem (noNl_snoc hn hc) (List.mem_append_right _ List.mem_cons_self) (by simpa using hs)
          exact .closed hcl hcl

/-- a text `s` common to both sides, after lines `A`, `B` whose fix is stable, comes out unchanged -/
theorem matchLines_common (s : Str) {A B F X Y Z : Str} (hA : noNl A = true) (hB : noNl B = true) (hst : Stable A B F)
    (H : matchLines (lastLine A s ++ X) (lastLine B s ++ Y) = fixLine (lastLine A s) (lastLine B s) ++ Z) :
    matchLines (A ++ s ++ X) (B ++ s ++ Y) = F ++ s ++ Z := by
  induction s generalizing A B F with
  | nil =>
    have h0 := hst []
    simp only [lastLine, List.append_nil] at H h0 ⊢
    rw [H, h0]
  | cons c r ih =>
    by_cases hc : c = '\n'
    · subst hc
      have h0 := hst []
      simp only [List.append_nil] at h0
      simp only [lastLine, if_true] at H
      have := ih (A := []) (B := []) (F := []) rfl rfl (fun a => by simp [fixLine_self]) H
      simp only [List.nil_append] at this
      simp only [List.append_assoc, List.cons_append]
      rw [matchLines_line hA hB, this, h0]
    · simp only [lastLine, hc, if_false] at H
      have := ih (noNl_snoc hA hc) (noNl_snoc hB hc) (F := F ++ [c])
        (fun a => by simpa [List.append_assoc] using hst (c :: a)) H
      simpa only [List.append_assoc, List.singleton_append] using this

/-- From any state of the two unfinished lines, the rest `X` of the source against the rest `Y` of the untokenized text
gives the rest `Z` of the result. -/
def MatchesFrom (sl am : Bool) (X Y Z : Str) : Prop :=
  ∀ xo yo, LineInv sl am xo yo → matchLines (xo ++ X) (yo ++ Y) = fixLine xo yo ++ Z

theorem MatchesFrom.start {am : Bool} {X Y Z : Str} (h : MatchesFrom true am X Y Z) : matchLines X Y = Z := by
  have := h [] [] .fresh
  rwa [List.nil_append, List.nil_append, fixLine_self, List.nil_append] at this

theorem MatchesFrom.nil {sl am : Bool} : MatchesFrom sl am [] [] [] := by
  intro xo yo hinv
  obtain ⟨h1, h2⟩ := hinv.noNl
  rw [List.append_nil, List.append_nil, List.append_nil, matchLines_of_noNl h1 h2]

theorem MatchesFrom.nl {sl am : Bool} {g X Y Z : Str} (hg : g.all isBlank = true) (hgam : am = true → g = [])
    (h : MatchesFrom true false X Y Z) :
    MatchesFrom sl am (g ++ '\n' :: X) ('\n' :: Y) ((if sl = true then [] else g) ++ '\n' :: Z) := by
  intro xo yo hinv
  obtain ⟨h1, h2⟩ := hinv.noNl
  have hx : noNl (xo ++ g) = true := noNl_append_of h1 (all_blank_noNl g hg)
  rw [← List.append_assoc, matchLines_line hx h2, h.start, LineInv.fixLine_eol hinv hg hgam, List.append_assoc]

theorem MatchesFrom.text {sl am : Bool} {g i sp s X Y Z : Str} (hg : g.all isBlank = true) (hgam : am = true → g = [])
    (hi : i.all isBlank = true) (hsp : sp.all isBlank = true) (hsp0 : sl = true ∨ am = true → sp = [])
    (hs : Closing s) (h : MatchesFrom false false X Y Z) :
    MatchesFrom sl am (g ++ (s ++ X)) ((if sl = true then i else []) ++ (sp ++ (s ++ Y)))
      ((if sl = true then trimTo i.length g else g) ++ (s ++ Z)) := by
  intro xo yo hinv
  obtain ⟨hxn, hyn⟩ := hinv.noNl
  have hA : noNl (xo ++ g) = true := noNl_append_of hxn (all_blank_noNl g hg)
  have hi' : noNl (if sl = true then i else []) = true := by
    split
    · exact all_blank_noNl i hi
    · rfl
  have hB : noNl (yo ++ ((if sl = true then i else []) ++ sp)) = true :=
    noNl_append_of hyn (noNl_append_of hi' (all_blank_noNl sp hsp))
  have := matchLines_common s hA hB (hinv.stable_gap hg hgam hi hsp0) (h _ _ (.closed (hs _ hA) (hs _ hB)))
  simp only [List.append_assoc] at this ⊢
  exact this

theorem MatchesFrom.common {am : Bool} (s : Str) {X Y Z : Str} (h : MatchesFrom false true X Y Z) :
    MatchesFrom false am (s ++ X) (s ++ Y) (s ++ Z) := by
  intro xo yo hinv
  obtain ⟨hx, hy⟩ := hinv.noNl
  have := matchLines_common s hx hy hinv.stable (h _ _ (lastLine_lineInv s hinv.weaken))
  simp only [List.append_assoc] at this
  exact this

/-- text without a newline on the untokenized side only, once both lines are closed, changes nothing -/
theorem MatchesFrom.pad {sq X Y Z : Str} (hsq : noNl sq = true) (h : MatchesFrom false false X Y Z) :
    MatchesFrom false false X (sq ++ Y) Z := by
  intro xo yo hinv
  obtain ⟨hx, hy⟩ := hinv.closed_of
  have := h xo (yo ++ sq) (.closed hx (hy.append hsq))
  have hfix := fixLine_append xo yo [] sq hx.2 hy.2
  rw [List.append_nil, List.append_nil] at hfix
  rw [List.append_assoc, hfix] at this
  exact this

end Malt.Dedent
