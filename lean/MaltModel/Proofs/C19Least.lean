import MaltModel.Proofs.C19
/-! Leastness of the work-list model: under a monotone transfer function, whatever `run` has computed so far
(finished or not) lies below every post-fixed point. -/
namespace Malt.TypeInf
open Malt.Py

theorem mem_dedupKeys {x : String} {l : List String} : x ∈ dedupKeys l ↔ x ∈ l := by
  induction l with
  | nil => rfl
  | cons k ks ih =>
    unfold dedupKeys
    split
    · rename_i hk
      have hk : k ∈ ks := by simpa using hk
      rw [ih, List.mem_cons]
      exact ⟨Or.inr, fun h => h.elim (fun e => e ▸ hk) id⟩
    · rw [List.mem_cons, List.mem_cons, ih]

theorem TMap.get_mapKeys (f : String → TySet) (l : List String) (x : String) :
    TMap.get (l.map fun k => (k, f k)) x = if x ∈ l then some (f x) else none := by
  induction l with
  | nil => rfl
  | cons k l ih =>
    rw [List.map_cons, TMap.get_cons, ih]
    by_cases hk : k = x
    · simp [hk]
    · simp [hk, Ne.symm hk]

theorem TMap.get_join (a b : TMap) (x : String) :
    (a.join b).get x =
      if x ∈ a.keys ∨ x ∈ b.keys then some (TySet.union ((a.get x).getD []) ((b.get x).getD [])) else none := by
  unfold TMap.join
  simp only [TMap.get_mapKeys, mem_dedupKeys, List.mem_append]

theorem TMap.get_filterMapKeys (m : TMap) (l : List String) (x : String) :
    TMap.get (l.filterMap fun k => (m.get k).map fun T => (k, T)) x = if x ∈ l then m.get x else none := by
  induction l with
  | nil => rfl
  | cons k l ih =>
    rw [List.filterMap_cons]
    cases hk : m.get k with
    | none =>
      rw [Option.map_none, ih]
      by_cases hkx : k = x
      · simp [← hkx, hk]
      · simp [Ne.symm hkx]
    | some Tk =>
      rw [Option.map_some, TMap.get_cons, ih]
      by_cases hkx : k = x
      · simp [← hkx, hk]
      · simp [hkx, Ne.symm hkx]

theorem TMap.get_norm (m : TMap) (x : String) : m.norm.get x = m.get x := by
  unfold TMap.norm
  rw [TMap.get_filterMapKeys]
  split
  · rfl
  next h =>
    cases hx : m.get x with
    | none => rfl
    | some T => exact absurd (mem_dedupKeys.mpr (TMap.mem_keys.mpr ⟨T, hx⟩)) h

theorem TMap.norm_le (m : TMap) : TMap.le m.norm m :=
  fun x T h => ⟨T, TMap.get_norm m x ▸ h, fun _ ht => ht⟩

theorem TySet.mem_or_of_mem_union {a b : TySet} {t : Ty} (h : t ∈ TySet.union a b) : t ∈ a ∨ t ∈ b := by
  simp only [TySet.union, List.mem_append, List.mem_filter] at h
  exact h.imp_right And.left

theorem TMap.le.mem_of_mem_getD {a c : TMap} (h : TMap.le a c) {x : String} {T' : TySet} (hc : c.get x = some T') {t : Ty}
    (ht : t ∈ (a.get x).getD []) : t ∈ T' := by
  cases hA : a.get x with
  | none => simp [hA] at ht
  | some A =>
    obtain ⟨T'', hc', hs⟩ := h x A hA
    rw [hA] at ht
    exact Option.some.inj (hc'.symm.trans hc) ▸ hs t ht

theorem TMap.join_le {a b c : TMap} (ha : TMap.le a c) (hb : TMap.le b c) : TMap.le (a.join b) c := by
  intro x T hx
  rw [TMap.get_join] at hx
  split at hx
  next hmem =>
    cases hx
    have above : ∀ {d : TMap}, TMap.le d c → x ∈ d.keys → ∃ T', c.get x = some T' := fun hd hk =>
      let ⟨D, hD⟩ := TMap.mem_keys.mp hk
      let ⟨T', hc, _⟩ := hd x D hD
      ⟨T', hc⟩
    obtain ⟨T', hc⟩ := hmem.elim (above ha) (above hb)
    exact ⟨T', hc, fun t ht => (TySet.mem_or_of_mem_union ht).elim (ha.mem_of_mem_getD hc) (hb.mem_of_mem_getD hc)⟩
  next => cases hx
theorem NMap.get_set (m : NMap) (i j : Nat) (v : TMap) : (m.set i v).get j = if i = j then v else m.get j := by
  simp [NMap.set, NMap.get]

theorem Graph.find_id {G : Graph} {i : Nat} {n : GNode} (h : G.find i = some n) : n.id = i ∧ n ∈ G.nodes := by
  simp only [Graph.find] at h
  have h1 := List.find?_some h
  have h2 := List.mem_of_find?_eq_some h
  exact ⟨by simpa using h1, h2⟩

/-- A post-fixed point of the analysis equations on ALL nodes of the graph (`IsTIFix` asks only for those in `reach`); `edge`
is over the listed nodes, as `Graph.preds` is. -/
structure PostFix (R : Resolver) (env : FnEnv) (G : Graph) (pins pouts : NMap) : Prop where
  ctx : TMap.le (contextTypes env) (pins.get G.entry)
  edge : ∀ m, m ∈ G.nodes → ∀ k, k ∈ m.succs → TMap.le (pouts.get m.id) (pins.get k)
  trans : ∀ i n, G.find i = some n → TMap.le (transfer R env n.node (pins.get i)) (pouts.get i)

/-- The node transfer functions are monotone (false of the pinned code in general: finding
`no_fixed_point_nonmonotone_transfer`). -/
def MonoTransfer (R : Resolver) (env : FnEnv) (G : Graph) : Prop :=
  ∀ i n a b, G.find i = some n → TMap.le a b → TMap.le (transfer R env n.node a) (transfer R env n.node b)

def Below (st : AState) (pins pouts : NMap) : Prop :=
  ∀ i, TMap.le (st.ins.get i) (pins.get i) ∧ TMap.le (st.outs.get i) (pouts.get i)

section
variable {R : Resolver} {env : FnEnv} {G : Graph} {pins pouts : NMap}

theorem joinPreds_le (hP : PostFix R env G pins pouts) {st : AState} (hB : Below st pins pouts) (i : Nat) :
    TMap.le (joinPreds G st.outs i) (pins.get i) := by
  simp only [joinPreds]
  have key : ∀ (ps : List Nat) (acc : TMap), TMap.le acc (pins.get i) → (∀ p, p ∈ ps → p ∈ G.preds i) →
      TMap.le (ps.foldl (fun acc p => acc.join (st.outs.get p)) acc) (pins.get i) := by
    intro ps
    induction ps with
    | nil => intro acc h _; simpa using h
    | cons p ps ih =>
      intro acc h hp
      simp only [List.foldl_cons]
      refine ih _ (TMap.join_le h ?_) (fun q hq => hp q (List.mem_cons_of_mem _ hq))
      have hpm := hp p List.mem_cons_self
      simp only [Graph.preds, List.mem_map, List.mem_filter] at hpm
      obtain ⟨m, ⟨hm, hk⟩, hid⟩ := hpm
      have hk' : i ∈ m.succs := by simpa using hk
      exact TMap.le_trans (hB p).2 (hid ▸ hP.edge m hm i hk')
  exact key _ _ (TMap.le_nil _) (fun _ h => h)

theorem nodeIn_le (hP : PostFix R env G pins pouts) {st : AState} (hB : Below st pins pouts) (i : Nat) :
    TMap.le (nodeIn G env st.outs i) (pins.get i) := by
  simp only [nodeIn]
  split
  · rename_i h
    exact TMap.join_le (joinPreds_le hP hB i) (h.1 ▸ hP.ctx)
  · exact joinPreds_le hP hB i

theorem visitNode_below (hP : PostFix R env G pins pouts) (hM : MonoTransfer R env G) {st : AState}
    (hB : Below st pins pouts) {i : Nat} {n : GNode} (hf : G.find i = some n) :
    Below (visitNode R env G st n).1 pins pouts := by
  obtain ⟨hid, _⟩ := Graph.find_id hf
  subst hid
  have hin := nodeIn_le hP hB n.id
  intro j
  simp only [visitNode, NMap.get_set]
  constructor
  · split
    · rename_i h; exact h ▸ hin
    · exact (hB j).1
  · split
    · rename_i h
      subst h
      exact TMap.le_trans (TMap.norm_le _) (TMap.le_trans (hM n.id n _ _ hf hin) (hP.trans n.id n hf))
    · exact (hB j).2

theorem run_below (hP : PostFix R env G pins pouts) (hM : MonoTransfer R env G) :
    ∀ (fuel : Nat) (open_ closed : List Nat) (st : AState), Below st pins pouts →
      Below (run R env G fuel open_ closed st).1 pins pouts
  | 0, _, _, st, hB => by simpa [run] using hB
  | _ + 1, [], _, st, hB => by simpa [run] using hB
  | fuel + 1, i :: rest, closed, st, hB => by
      simp only [run]
      cases hf : G.find i with
      | none => exact run_below hP hM fuel rest closed st hB
      | some n => exact run_below hP hM fuel _ _ _ (visitNode_below hP hM hB hf)

end
end Malt.TypeInf
