import MaltModel.Cfg.AstToCfg
import MaltModel.Cfg.Check
import MaltModel.Proofs.C05Check
import MaltModel.Proofs.C05Proj
/-!
# C05: what a builder step leaves alone

A primitive update proves the one clause of `Frame` it affects (and `valid`, which speaks of the new state) and takes the rest
from `Frame.refl`; methods compose by `Frame.trans`.
-/
namespace Malt.Cfg
open Malt.Py

theorem foldl_rel {α β} {R : β → β → Prop} (refl : ∀ s, R s s) (trans : ∀ {a b c}, R a b → R b c → R a c) (f : β → α → β) :
    ∀ (l : List α) (s : β), (∀ s' x, x ∈ l → R s' (f s' x)) → R s (l.foldl f s)
  | [], s, _ => refl s
  | x :: l, s, h => trans (h s x (List.mem_cons_self ..))
      (foldl_rel refl trans f l (f s x) (fun s' y hy => h s' y (List.mem_cons_of_mem _ hy)))

theorem aget_adel {β} (k k' : Nat) (m : List (Nat × β)) :
    aget k (adel k' m) = if k = k' then none else aget k m := by
  induction m with
  | nil => simp [aget, adel]
  | cons p m ih =>
    simp only [aget, adel] at ih ⊢
    by_cases hp : p.1 = k'
    · rw [List.filter_cons_of_neg (by simp [hp]), ih, List.lookup_cons]
      by_cases h : k = k'
      · simp [h]
      · simp [h, hp, beq_eq_false_iff_ne.mpr h]
    · rw [List.filter_cons_of_pos (by simp [hp]), List.lookup_cons, List.lookup_cons, ih]
      by_cases h : k = k'
      · simp [h, beq_eq_false_iff_ne.mpr (Ne.symm hp)]
      · simp [h]

theorem aget_aset {β} (k k' : Nat) (v : β) (m : List (Nat × β)) :
    aget k (aset k' v m) = if k = k' then some v else aget k m := by
  show List.lookup k ((k', v) :: adel k' m) = _
  rw [List.lookup_cons]
  by_cases h : k = k'
  · simp [h]
  · rw [beq_eq_false_iff_ne.mpr h, if_neg h]
    exact (aget_adel k k' m).trans (if_neg h)

theorem aget_aset_off {β} {tag : Nat → Nat} {K : List Nat} {i k : Nat} (hi : tag i ∈ K) (hk : tag k ∉ K) (v : β)
    (m : List (Nat × β)) : aget k (aset i v m) = aget k m := by
  rw [aget_aset, if_neg (fun e : k = i => hk (e ▸ hi))]

theorem aget_adel_off {β} {tag : Nat → Nat} {K : List Nat} {i k : Nat} (hi : tag i ∈ K) (hk : tag k ∉ K)
    (m : List (Nat × β)) : aget k (adel i m) = aget k m := by
  rw [aget_adel, if_neg (fun e : k = i => hk (e ▸ hi))]

theorem mem_aset {β} {k : Nat} {v : β} {m : List (Nat × β)} {p : Nat × β} (h : p ∈ aset k v m) : p = (k, v) ∨ p ∈ m := by
  simp only [aset, adel, List.mem_cons, List.mem_filter] at h
  exact h.imp id (fun h => h.1)

theorem mem_adel {β} {k : Nat} {m : List (Nat × β)} {p : Nat × β} (h : p ∈ adel k m) : p ∈ m := by
  simp only [adel, List.mem_filter] at h
  exact h.1

theorem aget_mem {β} {k : Nat} {v : β} : ∀ {m : List (Nat × β)}, aget k m = some v → (k, v) ∈ m := by
  intro m
  induction m with
  | nil => intro h; simp [aget] at h
  | cons p m ih =>
    intro h
    simp only [aget, List.lookup] at h
    split at h
    · rename_i heq
      simp only [Option.some.injEq] at h
      have : k = p.1 := by simpa using heq
      subst h; subst this
      exact List.mem_cons_self ..
    · exact List.mem_cons_of_mem _ (ih h)

theorem aget_adel_some {β} {m : List (Nat × β)} {k k' : Nat} {v : β} (h : aget k' (adel k m) = some v) : aget k' m = some v := by
  rw [aget_adel] at h
  by_cases hk : k' = k
  · rw [if_pos hk] at h; cases h
  · rw [if_neg hk] at h; exact h

theorem ahas_iff {β} (k : Nat) (m : List (Nat × β)) : ahas k m = true ↔ ∃ v, aget k m = some v := by
  simp [ahas, aget, Option.isSome_iff_exists]

theorem ahas_false_iff {β} (k : Nat) (m : List (Nat × β)) : ahas k m = false ↔ aget k m = none := by
  simp [ahas, aget]

theorem mem_sunion (a b : List Nat) (x : Nat) : x ∈ sunion a b ↔ x ∈ a ∨ x ∈ b := by
  simp only [sunion, List.mem_append, List.mem_filter, Bool.not_eq_true', List.contains_eq_mem, decide_eq_false_iff_not]
  constructor
  · rintro (h | h); exact Or.inl h; exact Or.inr h.1
  · rintro (h | h)
    · exact Or.inl h
    · by_cases ha : x ∈ a
      · exact Or.inl ha
      · exact Or.inr ⟨h, ha⟩

theorem deref_append_new (h : List (List Nat)) (s : List Nat) : (h ++ [s]).getD h.length [] = s := by
  simp [List.getD]

theorem deref_set (h : List (List Nat)) (r r' : Nat) (s : List Nat) :
    (h.set r' s).getD r [] = if r = r' ∧ r' < h.length then s else h.getD r [] := by
  simp only [List.getD, List.getElem?_set]
  by_cases h1 : r' = r
  · subst h1
    by_cases h2 : r' < h.length
    · simp [h2]
    · simp [h2]
  · have : ¬ r = r' := fun e => h1 e.symm
    simp [h1, this]

namespace B

@[simp] theorem leafSet_setLeavesFresh (b : B) (s : List Nat) : (b.setLeavesFresh s).leafSet = s := by
  simp [leafSet, setLeavesFresh, deref]

theorem mem_deref_setLeavesFresh (b : B) (s : List Nat) (r x : Nat) :
    x ∈ (b.setLeavesFresh s).deref r ↔ x ∈ b.deref r ∨ (r = b.heap.length ∧ x ∈ s) := by
  show x ∈ (b.heap ++ [s]).getD r [] ↔ x ∈ b.heap.getD r [] ∨ _
  rw [List.getD_eq_getElem?_getD, List.getD_eq_getElem?_getD, List.getElem?_append]
  split
  · rename_i h
    exact ⟨Or.inl, fun h' => h'.elim id (fun e => absurd e.1 (Nat.ne_of_lt h))⟩
  · rename_i h
    rw [List.getElem?_eq_none (Nat.le_of_not_lt h)]
    by_cases e : r = b.heap.length
    · subst e; simp
    · have : r - b.heap.length ≠ 0 := by omega
      simp [e, this]

theorem deref_setLeavesFresh (b : B) (s : List Nat) (r x : Nat) (h : x ∈ b.deref r) : x ∈ (b.setLeavesFresh s).deref r :=
  (mem_deref_setLeavesFresh b s r x).mpr (Or.inl h)

theorem deref_leavesUnion (b : B) (s : List Nat) (r : Nat) :
    (b.leavesUnion s).deref r = if r = b.leaves ∧ b.leaves < b.heap.length then sunion b.leafSet s else b.deref r := by
  show (b.heap.set b.leaves (sunion b.leafSet s)).getD r [] = _
  rw [deref_set]; rfl

theorem mem_leafSet_leavesUnion (b : B) (s : List Nat) (hv : b.leaves < b.heap.length) (x : Nat) :
    x ∈ (b.leavesUnion s).leafSet ↔ x ∈ b.leafSet ∨ x ∈ s := by
  have : (b.leavesUnion s).leafSet = (b.leavesUnion s).deref b.leaves := rfl
  rw [this, deref_leavesUnion]
  simp [hv, mem_sunion]

theorem deref_leavesUnion_mono (b : B) (s : List Nat) (r x : Nat) (h : x ∈ b.deref r) : x ∈ (b.leavesUnion s).deref r := by
  rw [deref_leavesUnion]
  split
  · rename_i hc
    rw [mem_sunion]; left
    rw [hc.1] at h; exact h
  · exact h

end B

structure Mono (b b' : B) : Prop where
  err : b'.err = none → b.err = none
  edges : ∀ e, e ∈ b.edges → e ∈ b'.edges
  heapLen : b.heap.length ≤ b'.heap.length
  deref : ∀ r x, x ∈ b.deref r → x ∈ b'.deref r
  head : ∀ x, b.head = some x → b'.head = some x
  nodes : ∀ x, x ∈ b.nodes → x ∈ b'.nodes

theorem Mono.refl (b : B) : Mono b b := ⟨id, fun _ h => h, Nat.le_refl _, fun _ _ h => h, fun _ h => h, fun _ h => h⟩

theorem Mono.trans {a b c : B} (h1 : Mono a b) (h2 : Mono b c) : Mono a c :=
  ⟨fun h => h1.err (h2.err h), fun e h => h2.edges e (h1.edges e h), Nat.le_trans h1.heapLen h2.heapLen,
   fun r x h => h2.deref r x (h1.deref r x h), fun x h => h2.head x (h1.head x h), fun x h => h2.nodes x (h1.nodes x h)⟩

/-- `leavesUnion` on a dangling reference would silently do nothing. -/
structure Valid (b : B) : Prop where
  leaves : b.leaves < b.heap.length
  condEntry : ∀ k r, aget k b.condEntry = some r → r < b.heap.length

theorem sk_ne_ck (i j : Nat) : sk i ≠ ck j := by unfold sk ck; omega
theorem sk_inj {i j : Nat} (h : sk i = sk j) : i = j := by unfold sk at h; omega
theorem ck_inj {i j : Nat} (h : ck i = ck j) : i = j := by unfold ck at h; omega

/-- The monotone parts only grow; outside `K` an entry of `exits`/`continues`/`raises` stays and only gains members (an absent key
may appear), the other dictionaries are the same. -/
structure Frame (K : List Nat) (b b' : B) : Prop extends Mono b b' where
  exits : ∀ k, sk k ∉ K → ∀ l, aget k b.exits = some l → ∃ l', aget k b'.exits = some l' ∧ ∀ x, x ∈ l → x ∈ l'
  continues : ∀ k, sk k ∉ K → ∀ l, aget k b.continues = some l → ∃ l', aget k b'.continues = some l' ∧ ∀ x, x ∈ l → x ∈ l'
  raises : ∀ k, sk k ∉ K → ∀ l, aget k b.raises = some l → ∃ l', aget k b'.raises = some l' ∧ ∀ x, x ∈ l → x ∈ l'
  sectionEntry : ∀ k, sk k ∉ K → aget k b'.sectionEntry = aget k b.sectionEntry
  condEntry : ∀ k, ck k ∉ K → aget k b'.condEntry = aget k b.condEntry
  condLeaves : ∀ k, ck k ∉ K → aget k b'.condLeaves = aget k b.condLeaves
  valid : Valid b → Valid b'

theorem Frame.refl (K : List Nat) (b : B) : Frame K b b :=
  ⟨Mono.refl b, fun _ _ l h => ⟨l, h, fun _ h => h⟩, fun _ _ l h => ⟨l, h, fun _ h => h⟩,
   fun _ _ l h => ⟨l, h, fun _ h => h⟩, fun _ _ => rfl, fun _ _ => rfl, fun _ _ => rfl, id⟩

theorem Frame.weaken {K K' : List Nat} {b b' : B} (h : Frame K b b') (hs : ∀ k, k ∈ K → k ∈ K') : Frame K' b b' :=
  ⟨h.toMono, fun k hk => h.exits k (fun h' => hk (hs _ h')), fun k hk => h.continues k (fun h' => hk (hs _ h')),
   fun k hk => h.raises k (fun h' => hk (hs _ h')), fun k hk => h.sectionEntry k (fun h' => hk (hs _ h')),
   fun k hk => h.condEntry k (fun h' => hk (hs _ h')), fun k hk => h.condLeaves k (fun h' => hk (hs _ h')), h.valid⟩

theorem grows_trans {m1 m2 m3 : List (Nat × List Nat)} {k : Nat}
    (h1 : ∀ l, aget k m1 = some l → ∃ l', aget k m2 = some l' ∧ ∀ x, x ∈ l → x ∈ l')
    (h2 : ∀ l, aget k m2 = some l → ∃ l', aget k m3 = some l' ∧ ∀ x, x ∈ l → x ∈ l') :
    ∀ l, aget k m1 = some l → ∃ l', aget k m3 = some l' ∧ ∀ x, x ∈ l → x ∈ l' := fun l hl =>
  let ⟨l1, hl1, s1⟩ := h1 l hl
  let ⟨l2, hl2, s2⟩ := h2 l1 hl1
  ⟨l2, hl2, fun x hx => s2 x (s1 x hx)⟩

theorem Frame.trans {K : List Nat} {a b c : B} (h1 : Frame K a b) (h2 : Frame K b c) : Frame K a c :=
  ⟨h1.toMono.trans h2.toMono, fun k hk => grows_trans (h1.exits k hk) (h2.exits k hk),
    fun k hk => grows_trans (h1.continues k hk) (h2.continues k hk), fun k hk => grows_trans (h1.raises k hk) (h2.raises k hk),
    fun k hk => by rw [h2.sectionEntry k hk, h1.sectionEntry k hk], fun k hk => by rw [h2.condEntry k hk, h1.condEntry k hk],
    fun k hk => by rw [h2.condLeaves k hk, h1.condLeaves k hk], fun h => h2.valid (h1.valid h)⟩

theorem Frame.raises_mem {K : List Nat} {b b' : B} (f : Frame K b b') {k x : Nat} (hk : sk k ∉ K)
    (h : ∃ l, aget k b.raises = some l ∧ x ∈ l) : ∃ l, aget k b'.raises = some l ∧ x ∈ l :=
  let ⟨l, hl, hx⟩ := h
  let ⟨l', hl', hsub⟩ := f.raises k hk l hl
  ⟨l', hl', hsub x hx⟩

theorem Frame.inert (K : List Nat) (b : B) (es : List NodeId) (act : List Nat) (ow fs : List (NodeId × List Nat))
    (fsub : List (Nat × (Option NodeId × Option Ref))) (fd : List (Nat × Bool)) (pf : List Nat) (rt : List NodeId) :
    Frame K b { b with errors := es, activeStmts := act, owners := ow, finallySections := fs, finallySub := fsub,
                       finallyDirect := fd, pendingFinally := pf, roots := rt } :=
  { Frame.refl K b with valid := fun v => ⟨v.leaves, v.condEntry⟩ }

namespace B

theorem err_fail (b : B) (msg : String) (h : (b.fail msg).err = none) : False := by
  simp only [fail] at h
  cases hb : b.err <;> simp [hb, Option.or] at h

theorem frame_fail (K) (b : B) (msg : String) : Frame K b (b.fail msg) :=
  { Frame.refl K b with err := fun h => (err_fail b msg h).elim, valid := fun v => ⟨v.leaves, v.condEntry⟩ }

theorem frame_check (K) (b : B) (c : Bool) (msg : String) : Frame K b (b.check c msg) := by
  cases c
  · exact Frame.refl K b
  · exact frame_fail K b msg

theorem frame_connect (K) (b : B) (first : List Nat) (second : Nat) : Frame K b (b.connect first second) :=
  { Frame.refl K b with edges := fun _ h => List.mem_append.mpr (Or.inl h), valid := fun v => ⟨v.leaves, v.condEntry⟩ }

theorem frame_setLeavesFresh (K) (b : B) (s : List Nat) : Frame K b (b.setLeavesFresh s) :=
  { Frame.refl K b with
    heapLen := by simp [setLeavesFresh]
    deref := fun r x h => deref_setLeavesFresh b s r x h
    valid := fun v => ⟨by simp [setLeavesFresh], fun k r hr => Nat.lt_of_lt_of_le (v.condEntry k r hr) (by simp [setLeavesFresh])⟩ }

theorem frame_leavesUnion (K) (b : B) (s : List Nat) : Frame K b (b.leavesUnion s) :=
  { Frame.refl K b with
    heapLen := by simp [leavesUnion]
    deref := fun r x h => deref_leavesUnion_mono b s r x h
    valid := fun v => ⟨by simpa [leavesUnion] using v.leaves, fun k r hr => by simpa [leavesUnion] using v.condEntry k r hr⟩ }

theorem frame_setLeavesRef (K) (b : B) (r : Nat) (hr : Valid b → r < b.heap.length) : Frame K b (b.setLeavesRef r) :=
  { Frame.refl K b with valid := fun v => ⟨hr v, v.condEntry⟩ }

theorem frame_pushNode (K) (b : B) (n : Nat) : Frame K b (b.pushNode n) :=
  { Frame.refl K b with
    head := fun x h => by show b.head.or (some n) = some x; rw [h]; rfl
    nodes := fun _ h => List.mem_append.mpr (Or.inl h)
    valid := fun v => ⟨v.leaves, v.condEntry⟩ }

theorem frame_putFinallySections (K) (b : B) (n : Nat) (gs : List Nat) : Frame K b (b.putFinallySections n gs) := Frame.inert ..
theorem frame_delFinallySections (K) (b : B) (n : Nat) : Frame K b (b.delFinallySections n) := Frame.inert ..
theorem frame_setActive (K) (b : B) (l : List Nat) : Frame K b (b.setActive l) := Frame.inert ..
theorem frame_pushError (K) (b : B) (n : Nat) : Frame K b (b.pushError n) := Frame.inert ..

theorem frame_addNewNode (K) (b : B) (n : Nat) : Frame K b (b.addNewNode n) :=
  Frame.trans (frame_check K b _ _) (Frame.trans (frame_pushNode K _ n) (frame_connect K _ _ _))

theorem frame_addOrdinaryNode (K) (b : B) (n : Nat) : Frame K b (b.addOrdinaryNode n) :=
  Frame.trans (frame_addNewNode K b n) (frame_setLeavesFresh K _ _)

theorem frame_addJumpNode (K) (b : B) (n : Nat) (gs : List Nat) : Frame K b (b.addJumpNode n gs) :=
  Frame.trans (Frame.trans (frame_addNewNode K b n) (frame_setLeavesFresh K _ _)) (frame_putFinallySections K _ _ _)

theorem frame_beginStatement (K) (b : B) (i : Nat) : Frame K b (b.beginStatement i) := frame_setActive K b _

theorem frame_endStatement (K) (b : B) (i : Nat) : Frame K b (b.endStatement i) :=
  Frame.trans (frame_check K b _ _) (frame_setActive K _ _)

theorem grow_clause (m : List (Nat × List Nat)) (j : Nat) (old new : List Nat) (hj : aget j m = some old)
    (hsub : ∀ x, x ∈ old → x ∈ new) (k : Nat) (l : List Nat) (hl : aget k m = some l) :
    ∃ l', aget k (aset j new m) = some l' ∧ ∀ x, x ∈ l → x ∈ l' := by
  rw [aget_aset]
  by_cases h : k = j
  · subst h
    rw [hj] at hl; cases hl
    exact ⟨new, by simp, hsub⟩
  · exact ⟨l, by simp [h, hl], fun _ h => h⟩

theorem frame_putExits_grow (K) (b : B) (j : Nat) (old new : List Nat) (hj : aget j b.exits = some old)
    (hsub : ∀ x, x ∈ old → x ∈ new) : Frame K b (b.putExits j new) :=
  { Frame.refl K b with
    exits := fun k _ l hl => grow_clause _ j old new hj hsub k l hl
    valid := fun v => ⟨v.leaves, v.condEntry⟩ }

theorem frame_putContinues_grow (K) (b : B) (j : Nat) (old new : List Nat) (hj : aget j b.continues = some old)
    (hsub : ∀ x, x ∈ old → x ∈ new) : Frame K b (b.putContinues j new) :=
  { Frame.refl K b with
    continues := fun k _ l hl => grow_clause _ j old new hj hsub k l hl
    valid := fun v => ⟨v.leaves, v.condEntry⟩ }

/-! setters at a key of `K`: only the clause of the dictionary concerned needs an argument -/

theorem frame_putExits (K) (b : B) (i : Nat) (l0 : List Nat) (hi : sk i ∈ K) : Frame K b (b.putExits i l0) :=
  { Frame.refl K b with
    exits := fun k hk l hl => ⟨l, (aget_aset_off hi hk l0 b.exits).trans hl, fun _ h => h⟩
    valid := fun v => ⟨v.leaves, v.condEntry⟩ }

theorem frame_delExits (K) (b : B) (i : Nat) (hi : sk i ∈ K) : Frame K b (b.delExits i) :=
  { Frame.refl K b with
    exits := fun k hk l hl => ⟨l, (aget_adel_off hi hk b.exits).trans hl, fun _ h => h⟩
    valid := fun v => ⟨v.leaves, v.condEntry⟩ }

theorem frame_putContinues (K) (b : B) (i : Nat) (l0 : List Nat) (hi : sk i ∈ K) : Frame K b (b.putContinues i l0) :=
  { Frame.refl K b with
    continues := fun k hk l hl => ⟨l, (aget_aset_off hi hk l0 b.continues).trans hl, fun _ h => h⟩
    valid := fun v => ⟨v.leaves, v.condEntry⟩ }

theorem frame_putSectionEntry (K) (b : B) (i e : Nat) (hi : sk i ∈ K) : Frame K b (b.putSectionEntry i e) :=
  { Frame.refl K b with
    sectionEntry := fun k hk => aget_aset_off hi hk e b.sectionEntry
    valid := fun v => ⟨v.leaves, v.condEntry⟩ }

theorem frame_delLoopKeys (K) (b : B) (i : Nat) (hi : sk i ∈ K) : Frame K b (b.delLoopKeys i) :=
  { Frame.refl K b with
    continues := fun k hk l hl => ⟨l, (aget_adel_off hi hk b.continues).trans hl, fun _ h => h⟩
    sectionEntry := fun k hk => aget_adel_off hi hk b.sectionEntry
    valid := fun v => ⟨v.leaves, v.condEntry⟩ }

theorem frame_putCondLeaves (K) (b : B) (i : Nat) (l0 : List Nat) (hi : ck i ∈ K) : Frame K b (b.putCondLeaves i l0) :=
  { Frame.refl K b with
    condLeaves := fun k hk => aget_aset_off hi hk l0 b.condLeaves
    valid := fun v => ⟨v.leaves, v.condEntry⟩ }

theorem frame_putCondEntry (K) (b : B) (i r : Nat) (hi : ck i ∈ K) (hr : Valid b → r < b.heap.length) : Frame K b (b.putCondEntry i r) :=
  { Frame.refl K b with
    condEntry := fun k hk => aget_aset_off hi hk r b.condEntry
    valid := fun v => ⟨v.leaves, fun k r' hk => by
      have hk' : aget k (aset i r b.condEntry) = some r' := hk
      rw [aget_aset] at hk'
      by_cases h : k = i
      · rw [if_pos h] at hk'; cases hk'; exact hr v
      · rw [if_neg h] at hk'; exact v.condEntry k r' hk'⟩ }

theorem frame_delCondKeys (K) (b : B) (i : Nat) (hi : ck i ∈ K) : Frame K b (b.delCondKeys i) :=
  { Frame.refl K b with
    condEntry := fun k hk => aget_adel_off hi hk b.condEntry
    condLeaves := fun k hk => aget_adel_off hi hk b.condLeaves
    valid := fun v => ⟨v.leaves, fun k r' hk => by
      have hk' : aget k (adel i b.condEntry) = some r' := hk
      rw [aget_adel] at hk'
      by_cases h : k = i
      · rw [if_pos h] at hk'; cases hk'
      · rw [if_neg h] at hk'; exact v.condEntry k r' hk'⟩ }

theorem frame_addExitNode (K) (b : B) (n sec : Nat) (gs : List Nat) : Frame K b (b.addExitNode n sec gs) := by
  have h0 := frame_addJumpNode K b n gs
  unfold addExitNode
  split
  · rename_i ex hx
    refine Frame.trans h0 (frame_putExits_grow K _ sec ex _ ?_ (fun x h => List.mem_append.mpr (Or.inl h)))
    simpa using hx
  · exact Frame.trans h0 (frame_fail K _ _)

theorem frame_addContinueNode (K) (b : B) (n sec : Nat) (gs : List Nat) : Frame K b (b.addContinueNode n sec gs) := by
  have h0 := frame_addJumpNode K b n gs
  unfold addContinueNode
  split
  · rename_i ex hx
    refine Frame.trans h0 (frame_putContinues_grow K _ sec ex _ ?_ (fun x h => List.mem_append.mpr (Or.inl h)))
    simpa using hx
  · exact Frame.trans h0 (frame_fail K _ _)

theorem raiseStep_grow (node : Nat) (rs : List (Nat × List Nat)) (g : Nat) (k : Nat) (l : List Nat)
    (hl : aget k rs = some l) : ∃ l', aget k (raiseStep node rs g) = some l' ∧ ∀ x, x ∈ l → x ∈ l' := by
  unfold raiseStep
  split
  · rename_i old hg
    exact grow_clause rs g old _ hg (fun x h => List.mem_append.mpr (Or.inl h)) k l hl
  · rename_i hg
    rw [aget_aset]
    by_cases h : k = g
    · subst h; rw [hg] at hl; cases hl
    · exact ⟨l, by simp [h, hl], fun _ h => h⟩

theorem raises_foldl_grow (node : Nat) (gs : List Nat) : ∀ (rs : List (Nat × List Nat)) (k : Nat) (l : List Nat),
    aget k rs = some l → ∃ l', aget k (gs.foldl (raiseStep node) rs) = some l' ∧ ∀ x, x ∈ l → x ∈ l' := by
  induction gs with
  | nil => intro rs k l hl; exact ⟨l, hl, fun _ h => h⟩
  | cons g gs ih =>
    intro rs k l hl
    obtain ⟨l1, h1, s1⟩ := raiseStep_grow node rs g k l hl
    obtain ⟨l2, h2, s2⟩ := ih _ k l1 h1
    exact ⟨l2, h2, fun x hx => s2 x (s1 x hx)⟩

theorem frame_connectRaiseNode (K) (b : B) (node : Nat) (gs : List Nat) : Frame K b (b.connectRaiseNode node gs) :=
  { Frame.refl K b with
    raises := fun k _ l hl => raises_foldl_grow node gs b.raises k l hl
    valid := fun v => ⟨v.leaves, v.condEntry⟩ }

theorem frame_guardStep (K) (acc : B × List Nat) (g : Nat) : Frame K acc.1 (guardStep acc g).1 := by
  unfold guardStep
  split
  · exact frame_connect K _ _ _
  · exact frame_fail K _ _

theorem frame_guardFold (K) (gs : List Nat) (acc : B × List Nat) : Frame K acc.1 (gs.foldl guardStep acc).1 :=
  foldl_rel (R := fun a a' => Frame K a.1 a'.1) (fun a => Frame.refl K a.1) Frame.trans guardStep gs acc
    (fun a g _ => frame_guardStep K a g)

theorem frame_connectJump (K) (b : B) (n : Nat) : Frame K b (b.connectJump n).1 := by
  unfold connectJump
  split
  · exact Frame.refl K b
  · rename_i gs _
    exact Frame.trans (frame_guardFold K gs (b, [n])) (frame_delFinallySections K _ _)

theorem frame_exitStep (K) (b : B) (e : Nat) : Frame K b (b.exitStep e) :=
  Frame.trans (frame_connectJump K b e) (frame_leavesUnion K _ _)

theorem frame_foldl {α} (K) (f : B → α → B) (hf : ∀ b x, Frame K b (f b x)) (l : List α) (b : B) : Frame K b (l.foldl f b) :=
  foldl_rel (Frame.refl K) Frame.trans f l b (fun b x _ => hf b x)

theorem frame_enterSection (K) (b : B) (i : Nat) (hi : sk i ∈ K) : Frame K b (b.enterSection i) :=
  Frame.trans (frame_check K b _ _) (frame_putExits K _ i [] hi)

theorem frame_exitSection (K) (b : B) (i : Nat) (hi : sk i ∈ K) : Frame K b (b.exitSection i) := by
  unfold exitSection
  split
  · exact frame_fail K b _
  · rename_i ex _
    exact Frame.trans (frame_foldl K exitStep (frame_exitStep K) ex b) (frame_delExits K _ i hi)

theorem frame_reentryStep (K) (entry : Nat) (b : B) (c : Nat) : Frame K b (reentryStep entry b c) :=
  Frame.trans (frame_connectJump K b c) (frame_connect K _ _ _)

theorem frame_exitLoopSection (K) (b : B) (i : Nat) (hi : sk i ∈ K) : Frame K b (b.exitLoopSection i) := by
  unfold exitLoopSection
  split
  · rename_i entry cs _ _
    exact Frame.trans (Frame.trans (Frame.trans (frame_connect K b _ entry)
      (frame_foldl K (reentryStep entry) (frame_reentryStep K entry) cs _)) (frame_setLeavesFresh K _ [entry]))
      (frame_delLoopKeys K _ i hi)
  · exact frame_fail K b _

theorem frame_enterCondSection (K) (b : B) (i : Nat) (hi : ck i ∈ K) : Frame K b (b.enterCondSection i) :=
  Frame.trans (frame_check K b _ _) (frame_putCondLeaves K _ i [] hi)

theorem frame_newCondBranch (K) (b : B) (i : Nat) (hi : ck i ∈ K) : Frame K b (b.newCondBranch i) := by
  unfold newCondBranch
  split
  · exact frame_fail K b _
  · split
    · rename_i entry he
      exact Frame.trans (frame_putCondLeaves K b i _ hi) (frame_setLeavesRef K _ _ (fun v => v.condEntry i entry he))
    · exact frame_putCondEntry K b i _ hi (fun v => v.leaves)

theorem frame_unionStep (K) (b : B) (r : Nat) : Frame K b (b.unionStep r) := frame_leavesUnion K b _

theorem frame_exitCondSection (K) (b : B) (i : Nat) (hi : ck i ∈ K) : Frame K b (b.exitCondSection i) := by
  unfold exitCondSection
  split
  · exact frame_fail K b _
  · rename_i splits _
    exact Frame.trans (Frame.trans (frame_foldl K unionStep (frame_unionStep K) splits b) (frame_check K _ _ _))
      (frame_delCondKeys K _ i hi)

theorem frame_enterExceptSection (K) (b : B) (i : Nat) : Frame K b (b.enterExceptSection i) := by
  unfold enterExceptSection
  split
  · exact frame_leavesUnion K b _
  · exact Frame.refl K b

theorem frame_enterFinallySection (K) (b : B) (i : Nat) : Frame K b (b.enterFinallySection i) := Frame.inert ..

theorem frame_closeFinally (K) (b : B) (i : Nat) (beg : Option Nat) : Frame K b (b.closeFinally i beg) := Frame.inert ..

theorem frame_exitFinallySection (K) (b : B) (i : Nat) : Frame K b (b.exitFinallySection i) := by
  unfold exitFinallySection
  split
  · rename_i beg _ direct _ _
    have h1 := Frame.trans (frame_check K b (b.pendingFinally.contains i) "assert: Empty finally?") (frame_closeFinally K _ i beg)
    cases direct
    · exact Frame.trans h1 (frame_setLeavesFresh K _ _)
    · exact h1
  · exact frame_fail K b _

end B

theorem frame_addOrdinaryNodes (K) (ns : List Nat) : ∀ b : B, Frame K b (addOrdinaryNodes b ns) :=
  B.frame_foldl K B.addOrdinaryNode (B.frame_addOrdinaryNode K) ns

def InLeaves (b : B) (l : List Nat) : Prop := ∀ x, x ∈ l → x ∈ b.leafSet

namespace B

theorem leafSet_eq_of (b b' : B) (h1 : b'.heap = b.heap) (h2 : b'.leaves = b.leaves) : b'.leafSet = b.leafSet := by
  simp [leafSet, deref, h1, h2]

@[simp] theorem leafSet_check (b : B) (c : Bool) (m : String) : (b.check c m).leafSet = b.leafSet :=
  leafSet_eq_of _ _ (by simp) (by simp)
@[simp] theorem leafSet_pushNode (b : B) (n : Nat) : (b.pushNode n).leafSet = b.leafSet := rfl
@[simp] theorem leafSet_connect (b : B) (f : List Nat) (n : Nat) : (b.connect f n).leafSet = b.leafSet := rfl
@[simp] theorem leafSet_putExits (b : B) (k : Nat) (l : List Nat) : (b.putExits k l).leafSet = b.leafSet := rfl
@[simp] theorem leafSet_delExits (b : B) (k : Nat) : (b.delExits k).leafSet = b.leafSet := rfl
@[simp] theorem leafSet_putContinues (b : B) (k : Nat) (l : List Nat) : (b.putContinues k l).leafSet = b.leafSet := rfl
@[simp] theorem leafSet_putSectionEntry (b : B) (k e : Nat) : (b.putSectionEntry k e).leafSet = b.leafSet := rfl
@[simp] theorem leafSet_delLoopKeys (b : B) (k : Nat) : (b.delLoopKeys k).leafSet = b.leafSet := rfl
@[simp] theorem leafSet_putCondLeaves (b : B) (k : Nat) (l : List Nat) : (b.putCondLeaves k l).leafSet = b.leafSet := rfl
@[simp] theorem leafSet_putCondEntry (b : B) (k r : Nat) : (b.putCondEntry k r).leafSet = b.leafSet := rfl
@[simp] theorem leafSet_delCondKeys (b : B) (k : Nat) : (b.delCondKeys k).leafSet = b.leafSet := rfl
@[simp] theorem leafSet_putFinallySections (b : B) (n : Nat) (g : List Nat) : (b.putFinallySections n g).leafSet = b.leafSet := rfl
@[simp] theorem leafSet_delFinallySections (b : B) (n : Nat) : (b.delFinallySections n).leafSet = b.leafSet := rfl
@[simp] theorem leafSet_setRaises (b : B) (r : List (Nat × List Nat)) : (b.setRaises r).leafSet = b.leafSet := rfl
@[simp] theorem leafSet_setActive (b : B) (l : List Nat) : (b.setActive l).leafSet = b.leafSet := rfl
@[simp] theorem leafSet_pushError (b : B) (n : Nat) : (b.pushError n).leafSet = b.leafSet := rfl
@[simp] theorem leafSet_beginStatement (b : B) (i : Nat) : (b.beginStatement i).leafSet = b.leafSet := rfl
@[simp] theorem leafSet_endStatement (b : B) (i : Nat) : (b.endStatement i).leafSet = b.leafSet :=
  leafSet_eq_of _ _ (by simp) (by simp)
@[simp] theorem leafSet_fail (b : B) (m : String) : (b.fail m).leafSet = b.leafSet := rfl

theorem edges_addNewNode (b : B) (n : Nat) : (b.addNewNode n).edges = b.edges ++ b.leafSet.map (fun x => (x, n)) := by
  simp [addNewNode, connect]

@[simp] theorem leafSet_addOrdinaryNode (b : B) (n : Nat) : (b.addOrdinaryNode n).leafSet = [n] := by
  simp [addOrdinaryNode]

theorem edges_addOrdinaryNode (b : B) (n : Nat) : (b.addOrdinaryNode n).edges = b.edges ++ b.leafSet.map (fun x => (x, n)) := by
  simp [addOrdinaryNode, edges_addNewNode]

@[simp] theorem leafSet_addJumpNode (b : B) (n : Nat) (g : List Nat) : (b.addJumpNode n g).leafSet = [] := by
  simp [addJumpNode]

theorem edges_addJumpNode (b : B) (n : Nat) (g : List Nat) : (b.addJumpNode n g).edges = b.edges ++ b.leafSet.map (fun x => (x, n)) := by
  simp [addJumpNode, edges_addNewNode]

theorem finallySections_addJumpNode (b : B) (n : Nat) (g : List Nat) : (b.addJumpNode n g).finallySections = aset n g b.finallySections := by
  simp [addJumpNode, putFinallySections]

theorem cross_sub_addOrdinaryNode (b : B) (n : Nat) (cur : List Nat) (h : InLeaves b cur) :
    Sub (cross cur n) (b.addOrdinaryNode n).edges := by
  intro p hp
  rw [edges_addOrdinaryNode]
  simp only [cross, List.mem_map] at hp
  obtain ⟨c, hc, rfl⟩ := hp
  exact List.mem_append.mpr (Or.inr (List.mem_map.mpr ⟨c, h c hc, rfl⟩))

end B

theorem nodes_addNewNode (b : B) (n : Nat) : (b.addNewNode n).nodes = b.nodes ++ [n] := by
  simp [B.addNewNode, B.pushNode]

theorem mem_nodes_addNewNode (b : B) (n : Nat) : n ∈ (b.addNewNode n).nodes := by
  rw [nodes_addNewNode]; exact List.mem_append.mpr (Or.inr (List.mem_singleton.mpr rfl))

theorem nodes_addOrdinaryNode (b : B) (n : Nat) : (b.addOrdinaryNode n).nodes = b.nodes ++ [n] :=
  (B.setLeavesFresh_nodes _ _).trans (nodes_addNewNode b n)

theorem mem_nodes_addJumpNode (b : B) (n : Nat) (gs : List Nat) : n ∈ (b.addJumpNode n gs).nodes :=
  mem_nodes_addNewNode b n

theorem enterSection_exits (b : B) (i : Nat) : aget i (b.enterSection i).exits = some [] := by
  show aget i (aset i [] _) = _
  rw [aget_aset]; simp

theorem enterSection_leafSet (b : B) (i : Nat) : (b.enterSection i).leafSet = b.leafSet := by simp [B.enterSection]

theorem enterLoopSection_continues (b : B) (i h : Nat) : aget i (b.enterLoopSection i h).continues = some [] := by
  simp only [B.enterLoopSection, B.putSectionEntry_continues, B.addOrdinaryNode_continues]
  show aget i (aset i [] _) = _
  rw [aget_aset]; simp

theorem enterLoopSection_sectionEntry (b : B) (i h : Nat) : aget i (b.enterLoopSection i h).sectionEntry = some h := by
  show aget i (aset i h _) = _
  rw [aget_aset]; simp

theorem enterLoopSection_exits (b : B) (i h : Nat) : (b.enterLoopSection i h).exits = b.exits := by simp [B.enterLoopSection]

theorem enterLoopSection_leafSet (b : B) (i h : Nat) : (b.enterLoopSection i h).leafSet = [h] := by simp [B.enterLoopSection]

theorem enterCondSection_condLeaves (b : B) (i : Nat) : aget i (b.enterCondSection i).condLeaves = some [] := by
  show aget i (aset i [] _) = _
  rw [aget_aset]; simp

theorem enterCondSection_condEntry (b : B) (i : Nat) : (b.enterCondSection i).condEntry = b.condEntry := by
  simp [B.enterCondSection]

theorem enterCondSection_leafSet (b : B) (i : Nat) : (b.enterCondSection i).leafSet = b.leafSet := by simp [B.enterCondSection]

/-- first `new_cond_branch`: remember the split point -/
theorem newCondBranch_first (b : B) (i : Nat) (splits : List Nat) (h1 : aget i b.condLeaves = some splits)
    (h2 : aget i b.condEntry = none) : b.newCondBranch i = b.putCondEntry i b.leaves := by
  simp [B.newCondBranch, h1, h2]

/-- subsequent `new_cond_branch`: memorise the leaves, move back to the split point -/
theorem newCondBranch_next (b : B) (i : Nat) (splits : List Nat) (entry : Nat) (h1 : aget i b.condLeaves = some splits)
    (h2 : aget i b.condEntry = some entry) :
    b.newCondBranch i = (b.putCondLeaves i (splits ++ [b.leaves])).setLeavesRef entry := by
  simp [B.newCondBranch, h1, h2]

theorem unionFold_effect (splits : List Nat) : ∀ (b : B), Valid b →
    (∀ x, x ∈ b.leafSet → x ∈ (splits.foldl B.unionStep b).leafSet) ∧
    (∀ r, r ∈ splits → ∀ x, x ∈ b.deref r → x ∈ (splits.foldl B.unionStep b).leafSet) ∧
    (splits.foldl B.unionStep b).finallySections = b.finallySections := by
  induction splits with
  | nil => intro b _; exact ⟨fun _ h => h, fun r hr => (List.not_mem_nil hr).elim, rfl⟩
  | cons r0 rs ih =>
    intro b hv
    have hv1 : Valid (b.unionStep r0) := (B.frame_unionStep [] b r0).valid hv
    obtain ⟨i1, i2, i3⟩ := ih (b.unionStep r0) hv1
    have hl : ∀ x, (x ∈ b.leafSet ∨ x ∈ b.deref r0) → x ∈ (b.unionStep r0).leafSet := by
      intro x hx
      show x ∈ (b.leavesUnion (b.deref r0)).leafSet
      rw [B.mem_leafSet_leavesUnion _ _ hv.leaves]; exact hx
    refine ⟨fun x hx => i1 x (hl x (Or.inl hx)), ?_, by simp only [List.foldl_cons]; rw [i3]; rfl⟩
    intro r hr x hx
    rcases List.mem_cons.mp hr with hr | hr
    · subst hr; exact i1 x (hl x (Or.inr hx))
    · exact i2 r hr x ((B.frame_unionStep [] b r0).deref r x hx)

theorem exitCondSection_effect (b : B) (i : Nat) (splits : List Nat) (h1 : aget i b.condLeaves = some splits) (hv : Valid b) :
    (∀ x, x ∈ b.leafSet → x ∈ (b.exitCondSection i).leafSet) ∧
    (∀ r, r ∈ splits → ∀ x, x ∈ b.deref r → x ∈ (b.exitCondSection i).leafSet) ∧
    (b.exitCondSection i).finallySections = b.finallySections := by
  simp only [B.exitCondSection, h1]
  obtain ⟨u1, u2, u3⟩ := unionFold_effect splits b hv
  exact ⟨fun x hx => by simpa using u1 x hx, fun r hr x hx => by simpa using u2 r hr x hx, by simpa using u3⟩

/-! ### the conditional-section protocol: `enter; …; (new_cond_branch; branch)*; exit` -/

/-- While a branch of the conditional section `rep` is visited: the split point is the set object `L0`, which holds the nodes
`E` the section was entered from, and the normal ends `N` of the branches visited before are in memorised leaf sets. -/
structure CondIn (b : B) (rep L0 : Nat) (E N : List Nat) : Prop where
  entry : aget rep b.condEntry = some L0
  ent : ∀ x, x ∈ E → x ∈ b.deref L0
  stored : ∃ splits, aget rep b.condLeaves = some splits ∧ ∀ x, x ∈ N → ∃ r, r ∈ splits ∧ x ∈ b.deref r

theorem CondIn.first {b : B} {rep : Nat} {E : List Nat} (h1 : aget rep b.condLeaves = some []) (h2 : aget rep b.condEntry = none)
    (hE : InLeaves b E) : CondIn (b.newCondBranch rep) rep b.leaves E [] ∧ (b.newCondBranch rep).leafSet = b.leafSet := by
  rw [newCondBranch_first b rep [] h1 h2]
  exact ⟨⟨(aget_aset rep rep _ _).trans (if_pos rfl), hE, [], h1, fun x hx => (List.not_mem_nil hx).elim⟩, rfl⟩

theorem CondIn.frame {K : List Nat} {b b' : B} {rep L0 : Nat} {E N : List Nat} (h : CondIn b rep L0 E N) (hf : Frame K b b')
    (hk : ck rep ∉ K) : CondIn b' rep L0 E N :=
  let ⟨sp, h1, h2⟩ := h.stored
  ⟨(hf.condEntry rep hk).trans h.entry, fun x hx => hf.deref _ x (h.ent x hx), sp, (hf.condLeaves rep hk).trans h1,
    fun x hx => let ⟨r, hr, hxr⟩ := h2 x hx; ⟨r, hr, hf.deref r x hxr⟩⟩

theorem CondIn.next {b : B} {rep L0 : Nat} {E N N' : List Nat} (h : CondIn b rep L0 E N) (hN : InLeaves b N') :
    CondIn (b.newCondBranch rep) rep L0 E (N ++ N') ∧ InLeaves (b.newCondBranch rep) E := by
  obtain ⟨sp, h1, h2⟩ := h.stored
  rw [newCondBranch_next b rep sp L0 h1 h.entry]
  refine ⟨⟨h.entry, h.ent, sp ++ [b.leaves], (aget_aset rep rep _ _).trans (if_pos rfl), fun x hx => ?_⟩, h.ent⟩
  rcases List.mem_append.mp hx with hx | hx
  · obtain ⟨r, hr, hxr⟩ := h2 x hx
    exact ⟨r, List.mem_append.mpr (Or.inl hr), hxr⟩
  · exact ⟨b.leaves, List.mem_append.mpr (Or.inr (List.mem_singleton.mpr rfl)), hN x hx⟩

theorem CondIn.exit {b : B} {rep L0 : Nat} {E N N' : List Nat} (h : CondIn b rep L0 E N) (hv : Valid b) (hN : InLeaves b N') :
    InLeaves (b.exitCondSection rep) (N ++ N') := by
  obtain ⟨sp, h1, h2⟩ := h.stored
  obtain ⟨x1, x2, _⟩ := exitCondSection_effect b rep sp h1 hv
  intro x hx
  rcases List.mem_append.mp hx with hx | hx
  · obtain ⟨r, hr, hxr⟩ := h2 x hx
    exact x2 r hr x hxr
  · exact x1 x (hN x hx)

/-- Jump targets exist: `return`/`raise` are inside a function, `break`/`continue` (when allowed) inside a loop. -/
structure OwnPre (σ : List Scope) (inLoop : Bool) : Prop where
  fn : ∃ F, (enclosingFinally .fn σ).1 = some F
  loop : inLoop = true → ∃ L, (enclosingFinally .loop σ).1 = some L

theorem OwnPre.loop_scope {σ : List Scope} {inLoop : Bool} (h : OwnPre σ inLoop) (i : Nat) : OwnPre (Scope.loop i :: σ) true :=
  ⟨h.fn, fun _ => ⟨i, rfl⟩⟩

theorem OwnPre.try_scope {σ : List Scope} {inLoop : Bool} (h : OwnPre σ inLoop) (i : Nat) (f : Bool) (hs : List Nat) :
    OwnPre (Scope.try_ i f hs :: σ) inLoop :=
  ⟨h.fn, h.loop⟩

end Malt.Cfg
