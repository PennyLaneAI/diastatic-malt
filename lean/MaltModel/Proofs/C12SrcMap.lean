import MaltModel.Rt.Errors
/-!
C12, source map: seen from one key, `create_source_map` is a fold (`pick`) over the nodes of that line alone.
-/
namespace Malt.Errors

theorem get_set_same (m : SourceMap) (k : LineLoc) (o : Origin) : get (set m k o) k = some o := by
  fun_induction set m k o <;> simp_all [get]

theorem get_set_ne (m : SourceMap) (k k' : LineLoc) (o : Origin) (h : k ≠ k') :
    get (set m k o) k' = get m k' := by
  fun_induction set m k o <;> simp_all [get]

theorem mem_of_get {m : SourceMap} {k : LineLoc} {o : Origin} (h : get m k = some o) : (k, o) ∈ m := by
  fun_induction get m k <;> simp_all

theorem step_some (m : SourceMap) {it : WalkItem} {k : LineLoc} {o : Origin} (hk : it.key = some k)
    (ho : it.origin = some o) :
    (step m it = m ∧ pickStep (get m k) o = get m k) ∨ (step m it = set m k o ∧ pickStep (get m k) o = some o) := by
  unfold step pickStep
  rw [hk, ho]
  dsimp only
  cases get m k with
  | none => exact .inr ⟨rfl, rfl⟩
  | some ex =>
    by_cases h : keep ex o = true
    · exact .inl ⟨if_pos h, if_pos h⟩
    · exact .inr ⟨if_neg h, if_neg h⟩

theorem originsAt_cons (it : WalkItem) (items : List WalkItem) (k : LineLoc) :
    originsAt (it :: items) k = originsAt [it] k ++ originsAt items k :=
  List.filterMap_append (l := [it])

theorem mem_originsAt {items : List WalkItem} {k : LineLoc} {o : Origin} :
    o ∈ originsAt items k ↔ ∃ it ∈ items, it.key = some k ∧ it.origin = some o := by
  unfold originsAt
  rw [List.mem_filterMap]
  constructor
  · rintro ⟨it, hit, hf⟩
    by_cases hk : it.key = some k
    · exact ⟨it, hit, hk, by simpa [hk] using hf⟩
    · simp [hk] at hf
  · rintro ⟨it, hit, hk, ho⟩
    exact ⟨it, hit, by simp [hk, ho]⟩

theorem get_step (m : SourceMap) (it : WalkItem) (k : LineLoc) :
    get (step m it) k = (originsAt [it] k).foldl pickStep (get m k) := by
  cases hk : it.key with
  | none => simp [step, originsAt, hk]
  | some k' =>
    cases ho : it.origin with
    | none => simp [step, originsAt, hk, ho]
    | some o =>
      by_cases hkk : k' = k
      · subst hkk
        have : originsAt [it] k' = [o] := by simp [originsAt, hk, ho]
        rw [this]
        rcases step_some m hk ho with ⟨e, hp⟩ | ⟨e, hp⟩ <;> rw [e]
        · exact hp.symm
        · rw [get_set_same]; exact hp.symm
      · have : originsAt [it] k = [] := by simp [originsAt, hk, hkk]
        rw [this]
        rcases step_some m hk ho with ⟨e, -⟩ | ⟨e, -⟩ <;> rw [e]
        · rfl
        · exact get_set_ne _ _ _ _ hkk

theorem get_foldl (items : List WalkItem) (m : SourceMap) (k : LineLoc) :
    get (items.foldl step m) k = (originsAt items k).foldl pickStep (get m k) := by
  induction items generalizing m with
  | nil => rfl
  | cons it items ih => rw [List.foldl_cons, ih, get_step, originsAt_cons it items, List.foldl_append]

theorem get_createSourceMap (items : List WalkItem) (k : LineLoc) :
    get (createSourceMap items) k = pick (originsAt items k) := by
  unfold createSourceMap pick
  rw [get_foldl]; simp [get]

theorem foldl_pickStep_some (os : List Origin) (x : Origin) : ∃ y, os.foldl pickStep (some x) = some y := by
  induction os generalizing x with
  | nil => exact ⟨x, rfl⟩
  | cons o os ih =>
    simp only [List.foldl_cons, pickStep]
    split <;> exact ih _

theorem foldl_pickStep_mem (os : List Origin) (cur : Option Origin) (o : Origin)
    (h : os.foldl pickStep cur = some o) : o ∈ os ∨ cur = some o := by
  induction os generalizing cur with
  | nil => right; simpa using h
  | cons x os ih =>
    simp only [List.foldl_cons] at h
    rcases ih _ h with hin | hcur
    · left; exact List.mem_cons_of_mem _ hin
    · cases cur with
      | none => simp [pickStep] at hcur; left; simp [hcur]
      | some ex =>
        simp only [pickStep] at hcur
        split at hcur
        · right; exact hcur
        · left; simp at hcur; simp [hcur]

theorem pick_mem {os : List Origin} {o : Origin} (h : pick os = some o) : o ∈ os := by
  rcases foldl_pickStep_mem os none o h with h | h
  · exact h
  · cases h

theorem pick_eq_some {os : List Origin} (h : os ≠ []) : ∃ o, pick os = some o := by
  cases os with
  | nil => exact absurd rfl h
  | cons x os => simpa [pick, pickStep] using foldl_pickStep_some os x

theorem keep_of_same_lineLoc {ex o : Origin} (h : ex.lineLoc = o.lineLoc) : keep ex o = true := by
  have hl : ex.line = o.line := by
    have := congrArg LineLoc.line h
    simpa [Origin.lineLoc] using this
  simp [keep, h, hl]

theorem pick_first (o : Origin) (os : List Origin) (h : ∀ o' ∈ os, o'.lineLoc = o.lineLoc) :
    pick (o :: os) = some o := by
  simp only [pick, List.foldl_cons, pickStep]
  induction os with
  | nil => rfl
  | cons x os ih =>
    have hx := h x (List.mem_cons_self)
    simp only [List.foldl_cons, pickStep, keep_of_same_lineLoc hx.symm, if_true]
    exact ih (fun o' ho' => h o' (List.mem_cons_of_mem _ ho'))

theorem keys_set (m : SourceMap) (k : LineLoc) (o : Origin) :
    (set m k o).map Prod.fst = if k ∈ m.map Prod.fst then m.map Prod.fst else m.map Prod.fst ++ [k] := by
  fun_induction set m k o with
  | case1 => rfl
  | case2 => exact (if_pos List.mem_cons_self).symm
  | case3 k' o' m k o h0 ih =>
    rw [List.map_cons, ih, List.map_cons]
    by_cases hm : k ∈ m.map Prod.fst
    · rw [if_pos hm, if_pos (List.mem_cons_of_mem _ hm)]
    · rw [if_neg hm, if_neg (fun h => (List.mem_cons.mp h).elim (fun e => h0 e.symm) hm)]; rfl

/-- `(k, o) ∈ m → get m k = some o` needs distinct keys. -/
def NodupKeys (m : SourceMap) : Prop := (m.map Prod.fst).Nodup

theorem nodupKeys_set {m : SourceMap} (h : NodupKeys m) (k : LineLoc) (o : Origin) : NodupKeys (set m k o) := by
  unfold NodupKeys at *
  rw [keys_set]
  split
  · exact h
  · rename_i hk
    rw [List.nodup_append]
    refine ⟨h, by simp, ?_⟩
    intro a ha b hb
    simp at hb
    subst hb
    intro hab
    exact hk (hab ▸ ha)

theorem nodupKeys_step {m : SourceMap} (h : NodupKeys m) (it : WalkItem) : NodupKeys (step m it) := by
  cases hk : it.key with
  | none => simpa [step, hk] using h
  | some k =>
    cases ho : it.origin with
    | none => simpa [step, hk, ho] using h
    | some o =>
      rcases step_some m hk ho with ⟨e, -⟩ | ⟨e, -⟩ <;> rw [e]
      · exact h
      · exact nodupKeys_set h _ _

theorem nodupKeys_foldl (items : List WalkItem) {m : SourceMap} (h : NodupKeys m) :
    NodupKeys (items.foldl step m) := by
  induction items generalizing m with
  | nil => exact h
  | cons it items ih => exact ih (nodupKeys_step h it)

theorem nodupKeys_createSourceMap (items : List WalkItem) : NodupKeys (createSourceMap items) :=
  nodupKeys_foldl items (by simp [NodupKeys])

theorem get_of_mem {m : SourceMap} (h : NodupKeys m) {k : LineLoc} {o : Origin} (hm : (k, o) ∈ m) :
    get m k = some o := by
  fun_induction get m k with
  | case1 => cases hm
  | case2 o' m k =>
    rcases List.mem_cons.mp hm with heq | hin
    · cases heq; rfl
    · exact absurd (List.mem_map.mpr ⟨(k, o), hin, rfl⟩) (List.nodup_cons.mp h).1
  | case3 k' o' m k hk ih =>
    exact ih (List.nodup_cons.mp h).2 ((List.mem_cons.mp hm).resolve_left fun e => hk (Prod.mk.inj e).1.symm)

/-- Class predicate of finding `C12-srcmap-foreign-key` (negation of `hkeys`), evaluated by the driver. -/
def hasForeignKey (G : String) (items : List WalkItem) : Bool :=
  items.any fun it => match it.key, it.origin with
    | some k, some _ => decide (k.file ≠ G)
    | _, _ => false

theorem hasForeignKey_false_iff (G : String) (items : List WalkItem) :
    hasForeignKey G items = false ↔ ∀ it ∈ items, ∀ k, it.key = some k → it.origin ≠ none → k.file = G := by
  unfold hasForeignKey
  rw [List.any_eq_false]
  refine forall₂_congr fun it _ => ?_
  cases it.key <;> cases it.origin <;> simp

/-- The origin hypothesis of `C12_srcmap` for one walk item, as a Boolean (used to exhibit instances). -/
def originOk (G U : String) (src : Nat → Nat) (it : WalkItem) : Bool :=
  match it.key, it.origin with
  | some k, some o => decide (k.file = G → o.file = U ∧ o.line = src k.line)
  | _, _ => true

theorem origin_of_originOk {G U : String} {src : Nat → Nat} {items : List WalkItem}
    (h : items.all (originOk G U src) = true) :
    ∀ it ∈ items, ∀ k o, it.key = some k → it.origin = some o → k.file = G → o.file = U ∧ o.line = src k.line := by
  intro it hit k o hk ho hf
  have := List.all_eq_true.mp h it hit
  simp only [originOk, hk, ho, decide_eq_true_eq] at this
  exact this hf

/-! Origin inheritance: `copy_origin` overwrites every node under its targets. -/

mutual
theorem copyOriginNode_all (o : Origin) : ∀ (n : ONode) (x : Option Origin), x ∈ allOrigins (copyOriginNode o n) → x = some o
  | .mk _ cs, x, hx => by
    simp only [copyOriginNode, allOrigins, List.mem_cons] at hx
    rcases hx with rfl | hx
    · rfl
    · exact copyOriginList_all o cs x hx
theorem copyOriginList_all (o : Origin) : ∀ (ns : List ONode) (x : Option Origin), x ∈ allOriginsList (copyOriginList o ns) → x = some o
  | [], x, hx => by simp [copyOriginList, allOriginsList] at hx
  | n :: ns, x, hx => by
    simp only [copyOriginList, allOriginsList, List.mem_append] at hx
    rcases hx with hx | hx
    · exact copyOriginNode_all o n x hx
    · exact copyOriginList_all o ns x hx
end

end Malt.Errors
