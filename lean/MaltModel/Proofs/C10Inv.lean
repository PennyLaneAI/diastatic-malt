import MaltModel.Proofs.C10Result
/-!
C10: the invariant `Inv` of the double-checked locking protocol, in the manner of Owicki and Gries: `PcInv` is the
assertion at each program point; outside the critical section it is monotone in the cache, which thread steps only
make grow; inside there is one thread.  `Inv` is preserved by every thread step and by every *safe* `gc` step
(`StepSafe`); `ValInj` makes all steps safe.
-/
namespace Malt.Cache

section
variable {Opts Factory : Type} [BEq Opts] [Hashable Opts]

theorem heap_length_applyEff (s : State Opts Factory) (t : Tid) (e : Eff Opts Factory) :
    s.heap.length ≤ (applyEff s t e).heap.length := by
  cases e <;> simp [applyEff, hstore_length]

end

section
variable {Opts Factory : Type} [BEq Opts] [Hashable Opts] [LawfulBEq Opts]
variable (P : List (Request Opts))

def codes : List Code := P.map (fun r => r.code)

/-- Facts a thread at `pc` (executing request `r`) may rely on. -/
def PcInv (s : State Opts Factory) (r : Request Opts) : Pc Factory → Prop
  | .has2 _ b => ofind r.code s.outer = some b
  | .get1 _ => (table s r.code r.opts).isSome = true
  -- after `has` succeeded the bucket is still there: the fetch never creates one, so never raises `KeyError`
  | .get1c _ => False
  | .get2 _ b => ofind r.code s.outer = some b ∧ (bfind r.opts (bucketAt s b)).isSome = true
  | .xform => table s r.code r.opts = none
  | .st1 _ => table s r.code r.opts = none
  | .st1c _ => ofind r.code s.outer = none
  | .st2 _ b => ofind r.code s.outer = some b ∧ bfind r.opts (bucketAt s b) = none
  | .rel res _ => table s r.code r.opts = res
  | .inst f _ => table s r.code r.opts = some f
  | _ => True

/-- Some thread has run `transform_ast` for `(c, o)` and is about to store the factory. -/
def Storing (s : State Opts Factory) (c : Code) (o : Opts) : Prop :=
  ∃ (t : Tid) (th : Thread Opts Factory) (r : Request Opts) (rest : List (Request Opts)),
    s.threads[t]? = some th ∧ th.todo = r :: rest ∧ r.code = c ∧ r.opts = o ∧
    (∃ f, th.pc = .st1 f ∨ th.pc = .st1c f ∨ ∃ b, th.pc = .st2 f b)

def pending : Pc Factory → Option Factory
  | .st1 f | .st1c f | .st2 f _ => some f
  | _ => none

theorem pending_eq_some {pc : Pc Factory} {f : Factory} :
    pending pc = some f ↔ (pc = .st1 f ∨ pc = .st1c f ∨ ∃ b, pc = .st2 f b) := by
  cases pc <;> simp [pending]

theorem pending_locked {pc : Pc Factory} {f : Factory} (h : pending pc = some f) : pc.locked = true := by
  rcases pending_eq_some.mp h with h | h | ⟨b, h⟩ <;> rw [h] <;> rfl

theorem storing_of_pending {s : State Opts Factory} {t : Tid} {th : Thread Opts Factory} {r : Request Opts}
    {rest : List (Request Opts)} {f : Factory} (hth : s.threads[t]? = some th) (htodo : th.todo = r :: rest)
    (hp : pending th.pc = some f) : Storing s r.code r.opts :=
  ⟨t, th, r, rest, hth, htodo, rfl, rfl, f, pending_eq_some.mp hp⟩

theorem Storing.thread {s : State Opts Factory} {c : Code} {o : Opts} (h : Storing s c o) :
    ∃ (t : Tid) (th : Thread Opts Factory) (r : Request Opts) (rest : List (Request Opts)) (f : Factory),
      s.threads[t]? = some th ∧ th.todo = r :: rest ∧ r.code = c ∧ r.opts = o ∧ pending th.pc = some f := by
  obtain ⟨t, th, r, rest, hth, htodo, hc, ho, f, hpc⟩ := h
  exact ⟨t, th, r, rest, f, hth, htodo, hc, ho, pending_eq_some.mpr hpc⟩

def Kept (s : State Opts Factory) (c : Code) (o : Opts) : Prop :=
  (table s c o).isSome = true ∨ Storing s c o ∨ live s c = false

structure Inv (s : State Opts Factory) : Prop where
  todo : ∀ th ∈ s.threads, ∀ r ∈ th.todo, r ∈ P
  idle : ∀ (t : Tid) (th : Thread Opts Factory), s.threads[t]? = some th → th.todo = [] → th.pc = .idle
  keys : ∀ e ∈ s.outer, e.1 ∈ codes P ∧ e.2 < s.heap.length
  -- the recursion depth is always 1: the re-entrant acquisition of the `RLock` never happens
  lock1 : ∀ (t : Tid) (n : Nat), s.lock = some (t, n) →
            n = 1 ∧ ∃ th, s.threads[t]? = some th ∧ th.pc.locked = true
  lock2 : ∀ (t : Tid) (th : Thread Opts Factory), s.threads[t]? = some th → th.pc.locked = true →
            ∃ n, s.lock = some (t, n)
  pc : ∀ (t : Tid) (th : Thread Opts Factory) (r : Request Opts) (rest : List (Request Opts)),
    s.threads[t]? = some th → th.todo = r :: rest → PcInv s r th.pc
  xl : ∀ e ∈ s.xlog, e.1 ∈ codes P
  -- converts once: a pair that has been converted is in the cache, or about to be stored by the lock holder
  -- (so nobody else can convert it), or its code object is dead
  once : ∀ (c : Code) (o : Opts), xcount s c o ≤ 1 ∧
    (0 < xcount s c o → (table s c o).isSome = true ∨ Storing s c o ∨ live s c = false)

variable {P}

theorem mem_codes {r : Request Opts} (h : r ∈ P) : r.code ∈ codes P :=
  List.mem_map.mpr ⟨r, h, rfl⟩

theorem valInj_codes (V : ValInj P) {c c' : Code} (hc : c ∈ codes P) (hc' : c' ∈ codes P)
    (h : c.val = c'.val) : c = c' := by
  obtain ⟨r, hr, rfl⟩ := List.mem_map.mp hc
  obtain ⟨r', hr', rfl⟩ := List.mem_map.mp hc'
  exact V r hr r' hr' h

/-- Thread steps only ever extend the dictionaries (`ActOK.grows`); entries disappear through `gc` alone. -/
structure Grows (s s' : State Opts Factory) : Prop where
  outer : ∀ c b, ofind c s.outer = some b → ofind c s'.outer = some b
  bucket : ∀ b o f, bfind o (bucketAt s b) = some f → bfind o (bucketAt s' b) = some f

theorem Grows.table_some {s s' : State Opts Factory} (h : Grows s s') {c : Code} {o : Opts} {f : Factory}
    (ht : table s c o = some f) : table s' c o = some f := by
  cases ho : ofind c s.outer with
  | none => rw [table_of_ofind_none ho] at ht; cases ht
  | some b =>
    rw [table_of_ofind ho] at ht
    rw [table_of_ofind (h.outer c b ho)]
    exact h.bucket b o f ht

theorem Grows.bucket_isSome {s s' : State Opts Factory} (h : Grows s s') {b : Nat} {o : Opts}
    (hb : (bfind o (bucketAt s b)).isSome = true) : (bfind o (bucketAt s' b)).isSome = true := by
  obtain ⟨f, hf⟩ := Option.isSome_iff_exists.mp hb
  rw [h.bucket b o f hf]
  rfl

theorem Grows.table_isSome {s s' : State Opts Factory} (h : Grows s s') {c : Code} {o : Opts}
    (ht : (table s c o).isSome = true) : (table s' c o).isSome = true := by
  obtain ⟨f, hf⟩ := Option.isSome_iff_exists.mp ht
  rw [h.table_some hf]
  rfl

theorem grows_create {s : State Opts Factory} {t : Tid} {c : Code} (hc : ofind c s.outer = none) :
    Grows s (applyEff s t (.create c)) where
  outer c' b h := by
    rw [ofind_create]
    by_cases hv : c.val = c'.val
    · rw [← ofind_congr hv, hc] at h; cases h
    · rw [if_neg hv]; exact h
  bucket b o f h := by rw [bucketAt_create]; exact h

theorem grows_store {s : State Opts Factory} {t : Tid} {b : Nat} {o : Opts} {f : Factory}
    (hnone : bfind o (bucketAt s b) = none) : Grows s (applyEff s t (.store b o f)) where
  outer _ _ h := h
  bucket b' o' f' h := by
    rw [bfind_store, if_neg]
    · exact h
    · rintro ⟨⟨rfl, _⟩, ho⟩
      cases eq_of_beq ho
      rw [hnone] at h
      cases h

theorem table_ogc {s : State Opts Factory} {c c' : Code} (h : ∀ e ∈ s.outer, e.1 = c' → e.1.val ≠ c.val) (o : Opts) :
    table ({ s with outer := ogc c' s.outer } : State Opts Factory) c o = table s c o := by
  simp only [table, ofind_ogc h]
  rfl

theorem table_create {s : State Opts Factory} {t : Tid} {c : Code} (hc : ofind c s.outer = none) (c' : Code)
    (o : Opts) : table (applyEff s t (.create c)) c' o = table s c' o := by
  have ho := ofind_create s t c c'
  by_cases hv : c.val = c'.val
  · rw [if_pos hv] at ho
    rw [table_of_ofind ho, bucketAt_create, bucketAt_beyond (Nat.lt_irrefl _),
      table_of_ofind_none ((ofind_congr hv s.outer).symm.trans hc)]
    rfl
  · rw [if_neg hv] at ho
    cases h : ofind c' s.outer with
    | none => rw [table_of_ofind_none (ho.trans h), table_of_ofind_none h]
    | some b => rw [table_of_ofind (ho.trans h), table_of_ofind h, bucketAt_create]

@[simp] theorem table_logx (s : State Opts Factory) (t : Tid) (c' : Code) (o' : Opts) (c : Code) (o : Opts) :
    table (applyEff s t (.logx c' o')) c o = table s c o := rfl
@[simp] theorem table_release (s : State Opts Factory) (t : Tid) (c : Code) (o : Opts) :
    table (applyEff s t .release) c o = table s c o := rfl
@[simp] theorem table_acquire (s : State Opts Factory) (t : Tid) (c : Code) (o : Opts) :
    table (applyEff s t .acquire) c o = table s c o := rfl
@[simp] theorem table_nop (s : State Opts Factory) (t : Tid) (c : Code) (o : Opts) :
    table (applyEff s t .nop) c o = table s c o := rfl

variable {T : Code → Opts → Nat → Option Factory}

/-- `PcInv` only looks at the lookup of the request's own code object and at the heap. -/
theorem PcInv_congr {s s' : State Opts Factory} {r : Request Opts}
    (ho : ofind r.code s'.outer = ofind r.code s.outer) (hh : s'.heap = s.heap) (pc : Pc Factory) :
    PcInv s' r pc ↔ PcInv s r pc := by
  have hb : ∀ b, bucketAt s' b = bucketAt s b := by intro b; simp [bucketAt, hh]
  have ht : ∀ o, table s' r.code o = table s r.code o := by
    intro o; simp [table, ho, hb]
  cases pc <;> simp [PcInv, ho, hb, ht]

/-- No `KeyError`: a thread that saw the entry in `has` finds it when it fetches it. -/
theorem PcInv.get2_found {s : State Opts Factory} {r : Request Opts} {lk : Bool} {b : Nat}
    (h : PcInv s r (.get2 lk b)) : bfind r.opts (bucketAt s b) ≠ none := by
  intro hf
  have := h.2
  rw [hf] at this
  cases this

theorem PcInv_mono {s s' : State Opts Factory} (h : Grows s s') {r : Request Opts} {pc : Pc Factory}
    (hunl : pc.locked = false) (hp : PcInv s r pc) : PcInv s' r pc := by
  cases pc with
  | has2 lk b => exact h.outer _ _ hp
  | get1 lk => exact h.table_isSome hp
  | get1c lk => exact hp
  | get2 lk b => exact ⟨h.outer _ _ hp.1, h.bucket_isSome hp.2⟩
  | inst f own => exact h.table_some hp
  | xform | st1 f | st1c f | st2 f b | rel res own => cases hunl
  | _ => trivial

def EffPre (s : State Opts Factory) (r : Request Opts) (pc : Pc Factory) : Eff Opts Factory → Prop
  | .nop => True
  | .create c => c = r.code ∧ ofind c s.outer = none ∧ ∃ f, pc = .st1c f
  | .store b o f => o = r.opts ∧ ofind r.code s.outer = some b ∧ bfind o (bucketAt s b) = none ∧ pc = .st2 f b
  | .logx c o => c = r.code ∧ o = r.opts ∧ pc = .xform
  | .acquire => pc = .acq ∧ s.lock = none
  | .release => ∃ res own, pc = .rel res own

theorem Act.effPre {s : State Opts Factory} {t : Tid} {r : Request Opts} {pc : Pc Factory}
    {eff : Eff Opts Factory} {nxt : Next Factory} (hact : Act T s t r pc eff nxt)
    (hpc : eff.writes = true → PcInv s r pc) (hlk : ∀ n, s.lock = some (t, n) → pc.locked = true) :
    EffPre s r pc eff := by
  cases hact with
  | get1c => exact (hpc rfl).elim
  | acq_free hl => exact ⟨rfl, hl⟩
  | acq_again hl => cases hlk _ hl  -- the holder is inside the critical section, not waiting for the lock
  | xform_ok => exact ⟨rfl, rfl, rfl⟩
  | st1c => exact ⟨rfl, hpc rfl, _, rfl⟩
  | st2 => exact ⟨rfl, (hpc rfl).1, (hpc rfl).2, rfl⟩
  | rel_some | rel_none => exact ⟨_, _, rfl⟩
  | _ => trivial

structure ActOK (T : Code → Opts → Nat → Option Factory) (s : State Opts Factory) (t : Tid) (th : Thread Opts Factory) (r : Request Opts)
    (eff : Eff Opts Factory) (nxt : Next Factory) : Prop where
  create : ∀ c, eff = .create c → c = r.code ∧ ofind c s.outer = none ∧ ∃ f, th.pc = .st1c f
  store : ∀ b o f, eff = .store b o f →
    o = r.opts ∧ ofind r.code s.outer = some b ∧ bfind o (bucketAt s b) = none ∧ th.pc = .st2 f b
  logx : ∀ c o, eff = .logx c o → c = r.code ∧ o = r.opts ∧ th.pc = .xform
  acquire : eff = .acquire → th.pc = .acq ∧ s.lock = none
  release : eff = .release → ∃ res own, th.pc = .rel res own
  goto : ∀ pc', nxt = .goto pc' → PcInv (applyEff s t eff) r pc' ∧
    (pc'.locked = true ↔ (eff = .acquire ∨ (th.pc.locked = true ∧ eff ≠ .release)))
  finish : ∀ res, nxt = .finish res →
    ((∃ f, res = some f) ∧ th.pc.locked = false ∧ eff = .nop) ∨
    (res = none ∧ eff = .release ∧ ∃ own, th.pc = .rel none own)
  relnone : ∀ own, nxt = .goto (.rel none own) → th.pc = .xform ∧ T r.code r.opts r.env.sig = none
  blocked : nxt = .blocked → eff = .nop
  st1 : ∀ f, th.pc = .st1 f → eff = .nop ∧ (nxt = .goto (.st1c f) ∨ ∃ b, nxt = .goto (.st2 f b))
  st1c : ∀ f, th.pc = .st1c f → ∃ b, nxt = .goto (.st2 f b)
  xform : th.pc = .xform →
    (∃ f, nxt = .goto (.st1 f) ∧ eff = .logx r.code r.opts) ∨ (nxt = .goto (.rel none false) ∧ eff = .nop)
  st2 : ∀ f b, th.pc = .st2 f b → eff = .store b r.opts f ∧ nxt = .goto (.rel (some f) true)

variable {s : State Opts Factory} {t : Tid} {th : Thread Opts Factory} {r : Request Opts}
  {rest : List (Request Opts)} {eff : Eff Opts Factory} {nxt : Next Factory}

theorem Act.goto_PcInv (hk : ∀ e ∈ s.outer, e.2 < s.heap.length) {pc pc' : Pc Factory}
    (hact : Act T s t r pc eff (.goto pc')) (hpc : PcInv s r pc) : PcInv (applyEff s t eff) r pc' := by
  cases hact with
  | has1_hit ho => exact ho
  | has1_miss_locked ho => exact table_of_ofind_none ho _
  | has2_hit hf => exact (congrArg Option.isSome (table_of_ofind hpc _)).trans hf
  | has2_miss_locked hf => exact (table_of_ofind hpc _).trans hf
  | get1_hit ho => exact ⟨ho, table_of_ofind ho r.opts ▸ hpc⟩
  | get1_miss ho => rw [PcInv, table_of_ofind_none ho] at hpc; cases hpc
  | get1c => exact hpc.elim
  | get2_hit hf => exact (table_of_ofind hpc.1 _).trans hf
  | get2_hit_locked hf => exact (table_of_ofind hpc.1 _).trans hf
  | get2_miss_locked hf => exact (table_of_ofind hpc.1 _).trans hf
  | xform_ok => exact hpc
  | xform_raise => exact hpc
  | st1_hit ho => exact ⟨ho, table_of_ofind ho r.opts ▸ hpc⟩
  | st1_miss ho => exact ho
  | st1c =>
    refine ⟨(ofind_create s t r.code r.code).trans (if_pos rfl), ?_⟩
    rw [bucketAt_create, bucketAt_beyond (Nat.lt_irrefl _)]
    rfl
  | @st2 f b =>
    have ho : ofind r.code (applyEff s t (.store b r.opts f)).outer = some b := hpc.1
    show table (applyEff s t (.store b r.opts f)) r.code r.opts = some f
    rw [table_of_ofind ho, bfind_store, if_pos ⟨⟨rfl, ofind_lt hk hpc.1⟩, beq_self_eq_true _⟩]
  | rel_some => exact hpc
  | _ => trivial

def lockAfter (b : Bool) : Eff Opts Factory → Bool
  | .acquire => true
  | .release => false
  | _ => b

theorem Act.locked_after (hact : Act T s t r th.pc eff nxt) :
    (applyNext th r nxt).pc.locked = lockAfter th.pc.locked eff := by
  obtain ⟨pc, todo, results⟩ := th
  cases hact <;> rfl

theorem lockAfter_eq_true {b : Bool} : lockAfter b eff = true ↔ (eff = .acquire ∨ (b = true ∧ eff ≠ .release)) := by
  cases eff <;> simp [lockAfter]

theorem Act.goto_locked {pc pc' : Pc Factory} (hact : Act T s t r pc eff (.goto pc')) :
    pc'.locked = true ↔ (eff = .acquire ∨ (pc.locked = true ∧ eff ≠ .release)) := by
  have h : pc'.locked = lockAfter pc.locked eff := Act.locked_after (th := ⟨pc, [], []⟩) hact
  rw [h]
  exact lockAfter_eq_true

theorem Act.ok (hact : Act T s t r th.pc eff nxt) (hpc : PcInv s r th.pc) (hk : ∀ e ∈ s.outer, e.2 < s.heap.length)
    (hlk : ∀ n, s.lock = some (t, n) → th.pc.locked = true) : ActOK T s t th r eff nxt := by
  obtain ⟨pc, todo, results⟩ := th
  dsimp only at hact hpc hlk
  have pre : EffPre s r pc eff := hact.effPre (fun _ => hpc) hlk
  exact {
    create := by rintro c rfl; exact pre
    store := by rintro b o f rfl; exact pre
    logx := by rintro c o rfl; exact pre
    acquire := by rintro rfl; exact pre
    release := by rintro rfl; exact pre
    goto := by
      rintro pc' rfl
      exact ⟨hact.goto_PcInv hk hpc, hact.goto_locked⟩
    finish := by
      rintro res rfl
      cases hact with
      | get2_miss hf => exact absurd hf hpc.get2_found
      | rel_none => exact Or.inr ⟨rfl, rfl, _, rfl⟩
      | inst => exact Or.inl ⟨⟨_, rfl⟩, rfl, rfl⟩
    relnone := by
      rintro own rfl
      cases hact with
      | get2_miss_locked hf => exact absurd hf hpc.get2_found
      | xform_raise hT => exact ⟨rfl, hT⟩
    blocked := by
      rintro rfl
      exact hact.blocked.2.1
    st1 := by
      rintro f rfl
      cases hact with
      | st1_hit => exact ⟨rfl, Or.inr ⟨_, rfl⟩⟩
      | st1_miss => exact ⟨rfl, Or.inl rfl⟩
    st1c := by
      rintro f rfl
      cases hact
      exact ⟨_, rfl⟩
    xform := by
      rintro rfl
      cases hact with
      | xform_ok => exact Or.inl ⟨_, rfl, rfl⟩
      | xform_raise => exact Or.inr ⟨rfl, rfl⟩
    st2 := by
      rintro f b rfl
      cases hact
      exact ⟨rfl, rfl⟩ }

/-- `Inv.lock1`, `Inv.lock2`, `Inv.idle`: they need neither the rest of `Inv` nor a safe schedule. -/
structure LockInv (s : State Opts Factory) : Prop where
  lock1 : ∀ (t : Tid) (n : Nat), s.lock = some (t, n) →
    n = 1 ∧ ∃ th, s.threads[t]? = some th ∧ th.pc.locked = true
  lock2 : ∀ (t : Tid) (th : Thread Opts Factory), s.threads[t]? = some th → th.pc.locked = true →
    ∃ n, s.lock = some (t, n)
  idle : ∀ (t : Tid) (th : Thread Opts Factory), s.threads[t]? = some th → th.todo = [] → th.pc = .idle

theorem Inv.lockInv (inv : Inv P s) : LockInv s := ⟨inv.lock1, inv.lock2, inv.idle⟩

theorem LockInv.holder_unique (li : LockInv s) {t t' : Tid} {th th' : Thread Opts Factory} (h1 : s.threads[t]? = some th)
    (l1 : th.pc.locked = true) (h2 : s.threads[t']? = some th') (l2 : th'.pc.locked = true) : t = t' := by
  obtain ⟨n, hn⟩ := li.lock2 t th h1 l1
  obtain ⟨n', hn'⟩ := li.lock2 t' th' h2 l2
  rw [hn] at hn'
  exact congrArg Prod.fst (Option.some.inj hn')

theorem LockInv.holder_locked (li : LockInv s) (hth : s.threads[t]? = some th) (n : Nat)
    (hl : s.lock = some (t, n)) : th.pc.locked = true := by
  obtain ⟨_, th', hth', h⟩ := li.lock1 t n hl
  cases hth.symm.trans hth'
  exact h

theorem LockInv_init (progs : List (List (Request Opts))) : LockInv (init progs : State Opts Factory) where
  lock1 := nofun
  lock2 t th hth hl := by
    obtain ⟨p, _, rfl⟩ := init_mem (List.mem_of_getElem? hth)
    cases hl
  idle t th hth _ := by
    obtain ⟨p, _, rfl⟩ := init_mem (List.mem_of_getElem? hth)
    rfl

theorem LockInv_after (li : LockInv s) (hth : s.threads[t]? = some th) (htodo : th.todo = r :: rest)
    (hact : Act T s t r th.pc eff nxt) : LockInv (after s t th r eff nxt) := by
  have hla := hact.locked_after
  have hlk := li.holder_locked hth
  have hidle : ∀ (t' : Tid) (th' : Thread Opts Factory), (after s t th r eff nxt).threads[t']? = some th' →
      th'.todo = [] → th'.pc = .idle := by
    intro t' th' hth' hnil
    rcases after_get hth hth' with ⟨rfl, rfl⟩ | ⟨_, hth'⟩
    · cases nxt with
      | goto pc' => simp [applyNext, htodo] at hnil
      | finish res => rfl
      | blocked => simp [applyNext, htodo] at hnil
    · exact li.idle t' th' hth' hnil
  have untouched : (applyEff s t eff).lock = s.lock → lockAfter th.pc.locked eff = th.pc.locked →
      LockInv (after s t th r eff nxt) := by
    intro hlock hsame
    rw [hsame] at hla
    refine ⟨?_, ?_, hidle⟩
    · intro t0 n h
      obtain ⟨hn, th0, hth0, hlk0⟩ := li.lock1 t0 n (hlock ▸ h)
      refine ⟨hn, ?_⟩
      by_cases htt : t0 = t
      · subst htt
        rw [hth] at hth0
        cases hth0
        exact ⟨_, after_get_self hth, hla.trans hlk0⟩
      · exact ⟨th0, (after_get_other hth htt).trans hth0, hlk0⟩
    · intro t' th' hth' hlk'
      show ∃ n, (applyEff s t eff).lock = some (t', n)
      rw [hlock]
      rcases after_get hth hth' with ⟨rfl, rfl⟩ | ⟨_, hth'⟩
      · exact li.lock2 t' th hth (hla.symm.trans hlk')
      · exact li.lock2 t' th' hth' hlk'
  cases eff with
  | acquire =>
    obtain ⟨_, hnone⟩ := hact.effPre nofun hlk
    have hl : (after s t th r .acquire nxt).lock = some (t, 1) := applyEff_acquire_lock t hnone
    refine ⟨?_, ?_, hidle⟩
    · intro t0 n h
      rw [hl] at h
      cases h
      exact ⟨rfl, _, after_get_self hth, hla⟩
    · intro t' th' hth' hlk'
      rcases after_get hth hth' with ⟨rfl, _⟩ | ⟨_, hth'⟩
      · exact ⟨1, hl⟩
      · obtain ⟨n, hn⟩ := li.lock2 t' th' hth' hlk'
        rw [hnone] at hn
        cases hn
  | release =>
    obtain ⟨res, own, hpc⟩ := hact.effPre nofun hlk
    have hin : th.pc.locked = true := by rw [hpc]; rfl
    obtain ⟨n0, hn0⟩ := li.lock2 t th hth hin
    obtain ⟨rfl, _⟩ := li.lock1 t n0 hn0
    have hl : (after s t th r .release nxt).lock = none := applyEff_release_lock t hn0
    refine ⟨?_, ?_, hidle⟩
    · intro t0 n h
      rw [hl] at h
      cases h
    · intro t' th' hth' hlk'
      rcases after_get hth hth' with ⟨rfl, rfl⟩ | ⟨htt, hth'⟩
      · rw [hla] at hlk'
        cases hlk'
      · exact absurd (li.holder_unique hth hin hth' hlk').symm htt
  | _ => exact untouched rfl rfl

theorem LockInv_step (li : LockInv s) (l : Label) : LockInv (step T s l) :=
  step_ind (I := fun _ s' => LockInv s') (fun _ => li) (LockInv_after li)
    (fun _ => ⟨li.lock1, li.lock2, li.idle⟩) l

theorem LockInv_run (li : LockInv s) (sched : List Label) : LockInv (run T s sched) := by
  induction sched generalizing s with
  | nil => exact li
  | cons l ls ih => exact ih (LockInv_step li l)

theorem Act.ok_of_inv (inv : Inv P s) (hact : Act T s t r th.pc eff nxt) (hth : s.threads[t]? = some th)
    (htodo : th.todo = r :: rest) : ActOK T s t th r eff nxt :=
  hact.ok (inv.pc t th r rest hth htodo) (fun e he => (inv.keys e he).2) (inv.lockInv.holder_locked hth)

theorem ActOK.grows (ok : ActOK T s t th r eff nxt) : Grows s (applyEff s t eff) := by
  cases eff with
  | create c => obtain ⟨_, hnone, _⟩ := ok.create c rfl; exact grows_create hnone
  | store b o f => obtain ⟨_, _, hnone, _⟩ := ok.store b o f rfl; exact grows_store hnone
  | _ => exact ⟨fun _ _ h => h, fun _ _ _ h => h⟩

theorem ActOK.locked_of_write (ok : ActOK T s t th r eff nxt) (h : eff.writes = true) : th.pc.locked = true := by
  cases eff with
  | create c => obtain ⟨_, _, f, hf⟩ := ok.create c rfl; rw [hf]; rfl
  | store b o f => obtain ⟨_, _, _, hf⟩ := ok.store b o f rfl; rw [hf]; rfl
  | _ => cases h

/-- Interference freedom: outside the critical section knowledge is monotone in the cache; the thread inside is
the only writer. -/
theorem PcInv_other (li : LockInv s) (hth : s.threads[t]? = some th) (ok : ActOK T s t th r eff nxt) {t' : Tid}
    {th' : Thread Opts Factory} {r' : Request Opts} (hne : t' ≠ t ∨ nxt = .blocked)
    (hth' : s.threads[t']? = some th') (h : PcInv s r' th'.pc) : PcInv (applyEff s t eff) r' th'.pc := by
  cases hl' : th'.pc.locked with
  | false => exact PcInv_mono ok.grows hl' h
  | true =>
    have hnw : eff.writes = false := by
      cases hw : eff.writes with
      | false => rfl
      | true =>
        rcases hne with htt | hb
        · exact absurd (li.holder_unique hth (ok.locked_of_write hw) hth' hl').symm htt
        · rw [ok.blocked hb] at hw; cases hw
    obtain ⟨ho, hh⟩ := applyEff_of_not_writes s t hnw
    exact (PcInv_congr (by rw [ho]) hh _).mpr h

theorem ActOK.pending_next (ok : ActOK T s t th r eff nxt) {f : Factory} (h : pending th.pc = some f) :
    (∃ pc', nxt = .goto pc' ∧ pending pc' = some f) ∨ ∃ b, th.pc = .st2 f b := by
  rcases pending_eq_some.mp h with hpc | hpc | hpc
  · rcases (ok.st1 f hpc).2 with hn | ⟨b, hn⟩ <;> exact Or.inl ⟨_, hn, rfl⟩
  · obtain ⟨b, hn⟩ := ok.st1c f hpc
    exact Or.inl ⟨_, hn, rfl⟩
  · exact Or.inr hpc

theorem Kept.step (hth : s.threads[t]? = some th) (htodo : th.todo = r :: rest)
    (ok : ActOK T s t th r eff nxt) {c : Code} {o : Opts} (h : Kept s c o) : Kept (after s t th r eff nxt) c o := by
  rcases h with h | h | h
  · exact Or.inl (ok.grows.table_isSome h)
  · obtain ⟨t2, th2, r2, rest2, f, hth2, htodo2, rfl, rfl, hp⟩ := h.thread
    by_cases htt : t2 = t
    · subst htt
      cases hth.symm.trans hth2
      cases htodo.symm.trans htodo2
      rcases ok.pending_next hp with ⟨pc', rfl, hp'⟩ | ⟨b, hpc⟩
      · exact Or.inr (Or.inl (storing_of_pending (after_get_self hth) htodo hp'))
      · -- the factory is stored: the thread arrives at `rel (some f) true` knowing the lookup finds it
        obtain ⟨rfl, rfl⟩ := ok.st2 f b hpc
        exact Or.inl (Option.isSome_iff_exists.mpr ⟨f, (ok.goto _ rfl).1⟩)
    · exact Or.inr (Or.inl (storing_of_pending ((after_get_other hth htt).trans hth2) htodo2 hp))
  · exact Or.inr (Or.inr (live_false_of_todo_sub (after_todo_sub hth) c h))

theorem Kept.gc {c' : Code} (hdead : live s c' = false)
    (hsafe : ∀ th ∈ s.threads, ∀ r ∈ th.todo, r.code.val = c'.val → r.code ≠ c' → ∀ e ∈ s.xlog, e.1 ≠ r.code)
    {c : Code} {o : Opts} (hpos : 0 < xcount s c o) (h : Kept s c o) :
    Kept ({ s with outer := ogc c' s.outer } : State Opts Factory) c o := by
  by_cases hc : c = c'
  · subst hc; exact Or.inr (Or.inr hdead)
  · cases hlive : live s c with
    | false => exact Or.inr (Or.inr hlive)
    | true =>
      -- a live, converted function on an equal-valued code object would lose its factory
      have hv : c.val ≠ c'.val := by
        intro hv
        obtain ⟨th, hth, r, hr, hrc⟩ := live_iff.mp hlive
        simp only [xcount, List.length_pos_iff_exists_mem, List.mem_filter, Bool.and_eq_true,
          decide_eq_true_eq] at hpos
        obtain ⟨e, he, hec, _⟩ := hpos
        exact hsafe th hth r hr (by rw [hrc]; exact hv) (by rw [hrc]; exact hc) e he (by rw [hrc]; exact hec)
      rcases h with h | h | h
      · left; rw [table_ogc (fun _ _ hec h => hv (by rw [← h, hec])) o]; exact h
      · exact Or.inr (Or.inl h)
      · exact Or.inr (Or.inr h)

/-- Converts once: a thread at `xform` is inside the critical section and has seen no entry. -/
theorem xcount_zero_at_xform (inv : Inv P s) (hth : s.threads[t]? = some th) (htodo : th.todo = r :: rest)
    (hpc : th.pc = .xform) : xcount s r.code r.opts = 0 := by
  rcases Nat.eq_zero_or_pos (xcount s r.code r.opts) with h | hpos
  · exact h
  · exfalso
    rcases (inv.once r.code r.opts).2 hpos with h | h | h
    · have hnone : table s r.code r.opts = none := by
        have := inv.pc t th r rest hth htodo
        rwa [hpc] at this
      rw [hnone] at h; cases h
    · obtain ⟨t2, th2, r2, rest2, f2, hth2, _, _, _, hp2⟩ := h.thread
      have := inv.lockInv.holder_unique hth (by rw [hpc]; rfl) hth2 (pending_locked hp2)
      subst this
      cases hth.symm.trans hth2
      rw [hpc] at hp2; cases hp2
    · rw [live_head hth htodo] at h; cases h

theorem once_after (inv : Inv P s) (hth : s.threads[t]? = some th) (htodo : th.todo = r :: rest)
    (ok : ActOK T s t th r eff nxt) (c : Code) (o : Opts) :
    xcount (after s t th r eff nxt) c o ≤ 1 ∧
    (0 < xcount (after s t th r eff nxt) c o → Kept (after s t th r eff nxt) c o) := by
  obtain ⟨h1, h2⟩ := inv.once c o
  have keep : 0 < xcount s c o → Kept (after s t th r eff nxt) c o :=
    fun hpos => Kept.step hth htodo ok (h2 hpos)
  cases eff with
  | logx c1 o1 =>
    obtain ⟨rfl, rfl, hpc⟩ := ok.logx c1 o1 rfl
    show xcount (applyEff s t (.logx r.code r.opts)) c o ≤ 1 ∧ (0 < xcount (applyEff s t (.logx r.code r.opts)) c o → _)
    rw [xcount_logx]
    by_cases hm : r.code = c ∧ (r.opts == o) = true
    · obtain ⟨rfl, ho⟩ := hm
      cases eq_of_beq ho
      obtain ⟨f, rfl⟩ : ∃ f, nxt = .goto (.st1 f) := by
        rcases ok.xform hpc with ⟨f, h, _⟩ | ⟨_, h⟩
        · exact ⟨f, h⟩
        · cases h
      rw [xcount_zero_at_xform inv hth htodo hpc, if_pos ⟨rfl, ho⟩]
      exact ⟨Nat.le_refl 1, fun _ => Or.inr (Or.inl (storing_of_pending (after_get_self hth) htodo rfl))⟩
    · rw [if_neg hm]
      exact ⟨h1, keep⟩
  | _ => exact ⟨h1, keep⟩

theorem Inv_init (progs : List (List (Request Opts))) (hP : ∀ p ∈ progs, ∀ r ∈ p, r ∈ P) :
    Inv P (init progs : State Opts Factory) where
  todo := init_todo hP
  idle := (LockInv_init progs).idle
  keys := nofun
  lock1 := (LockInv_init progs).lock1
  lock2 := (LockInv_init progs).lock2
  pc := init_pc (fun _ => trivial)
  xl := nofun
  once _ _ := ⟨Nat.zero_le _, fun h => absurd h (Nat.lt_irrefl _)⟩

theorem Inv_after (inv : Inv P s) (hth : s.threads[t]? = some th) (htodo : th.todo = r :: rest)
    (hact : Act T s t r th.pc eff nxt) : Inv P (after s t th r eff nxt) := by
  have ok : ActOK T s t th r eff nxt := hact.ok_of_inv inv hth htodo
  have hrP : r ∈ P := head_mem inv.todo hth htodo
  have li := LockInv_after inv.lockInv hth htodo hact
  exact {
    todo := after_todo hth inv.todo
    idle := li.idle
    keys := by
      cases eff with
      | create c =>
        obtain ⟨rfl, hnone, _⟩ := ok.create c rfl
        intro e he
        have hlen := heap_length_applyEff s t (.create r.code)
        rcases (mem_outer_create t hnone).mp he with h | rfl
        · exact ⟨(inv.keys e h).1, Nat.lt_of_lt_of_le (inv.keys e h).2 hlen⟩
        · exact ⟨mem_codes hrP, by show s.heap.length < _; rw [applyEff_create_heap]; simp⟩
      | store b o f =>
        intro e he
        exact ⟨(inv.keys e he).1, Nat.lt_of_lt_of_le (inv.keys e he).2 (heap_length_applyEff s t _)⟩
      | _ => exact inv.keys
    lock1 := li.lock1
    lock2 := li.lock2
    pc := after_pc (Q := PcInv) hth htodo inv.pc (fun _ _ _ hne hth' hold => PcInv_other inv.lockInv hth ok hne hth' hold)
      (fun pc' h => (ok.goto pc' h).1) (fun _ => trivial)
    xl := by
      intro e he
      cases eff with
      | logx c o =>
        obtain ⟨rfl, rfl, _⟩ := ok.logx c o rfl
        rcases List.mem_append.mp (show e ∈ s.xlog ++ [(r.code, r.opts)] from he) with h | h
        · exact inv.xl e h
        · cases List.mem_singleton.mp h
          exact mem_codes hrP
      | _ => exact inv.xl e he
    once := once_after inv hth htodo ok }

theorem Inv_gc (inv : Inv P s) {c' : Code} (hnl' : live s c' = false) (hsafe : GcSafe s c') :
    Inv P ({ s with outer := ogc c' s.outer } : State Opts Factory) := by
  rcases hsafe with hnokey | hsafe
  · -- no entry hangs on c': nothing changes
    rw [ogc_eq_self hnokey]
    exact inv
  exact {
    todo := inv.todo
    idle := inv.idle
    keys := fun e he => inv.keys e (mem_ogc.mp he).1
    lock1 := inv.lock1
    lock2 := inv.lock2
    xl := inv.xl
    pc := by
      -- a thread in the middle of a request on an equal-valued code object would share the entry
      intro t th r rest hth htodo
      have hth0 : s.threads[t]? = some th := hth
      have hne : r.code ≠ c' := by
        intro h
        have := live_head hth0 htodo
        rw [h, hnl'] at this; cases this
      have hsth := (hsafe th (List.mem_of_getElem? hth0)).1
      rw [htodo] at hsth
      by_cases hv : r.code.val = c'.val
      · cases hidle : th.pc.isIdle with
        | true => rw [isIdle_eq hidle]; trivial
        | false => exact absurd (hsth hidle hv) hne
      · exact (PcInv_congr (s := s) (s' := { s with outer := ogc c' s.outer })
          (ofind_ogc_of_val_ne hv _) rfl th.pc).mpr (inv.pc t th r rest hth htodo)
    once := fun c o =>
      ⟨(inv.once c o).1, fun hpos => Kept.gc hnl' (fun th hth => (hsafe th hth).2) hpos ((inv.once c o).2 hpos)⟩ }

theorem Inv_step (inv : Inv P s) (l : Label) (hs : StepSafe s l) : Inv P (step T s l) :=
  step_ind (I := fun l s' => StepSafe s l → Inv P s') (fun _ _ => inv) (fun hth htodo hact _ => Inv_after inv hth htodo hact)
    (fun hnl hs => Inv_gc inv hnl (hs.resolve_left (by rw [hnl]; nofun))) l hs

theorem stepSafe_of_valInj (V : ValInj P) (inv : Inv P s) (l : Label) : StepSafe s l := by
  cases l with
  | thr t => trivial
  | gc c' =>
    right
    by_cases hk : ∃ e ∈ s.outer, e.1 = c'
    · right
      obtain ⟨e, he, hec⟩ := hk
      have hc' : c' ∈ codes P := hec ▸ (inv.keys e he).1
      intro th hth
      have hcode : ∀ r ∈ th.todo, r.code.val = c'.val → r.code = c' := by
        intro r hr hv
        exact valInj_codes V (mem_codes (inv.todo th hth r hr)) hc' hv
      constructor
      · cases htodo : th.todo with
        | nil => trivial
        | cons r rest =>
          intro _ hv
          exact hcode r (by rw [htodo]; exact List.mem_cons_self) hv
      · intro r hr hv hne
        exact absurd (hcode r hr hv) hne
    · exact Or.inl fun e he hec => hk ⟨e, he, hec⟩

theorem schedSafe_of_valInj (V : ValInj P) (inv : Inv P s) (sched : List Label) : SchedSafe T s sched := by
  induction sched generalizing s with
  | nil => trivial
  | cons l ls ih =>
    have hl := stepSafe_of_valInj V inv l
    exact ⟨hl, ih (Inv_step inv l hl)⟩

def PcErr (T : Code → Opts → Nat → Option Factory) (_ : State Opts Factory) (r : Request Opts) : Pc Factory → Prop
  | .rel none _ => T r.code r.opts r.env.sig = none
  | _ => True

/-- A finished request that raised is one whose own conversion raised (never a `KeyError` from the
cache); a thread that leaves the critical section with an error is in that situation. -/
structure ErrInv (T : Code → Opts → Nat → Option Factory) (s : State Opts Factory) : Prop where
  res : ∀ e ∈ finished s, e.2 = none → T e.1.code e.1.opts e.1.env.sig = none
  pc : AtPc (PcErr T) s

theorem ErrInv_init (T : Code → Opts → Nat → Option Factory) (progs : List (List (Request Opts))) : ErrInv T (init progs : State Opts Factory) where
  res := init_results
  pc := init_pc (fun _ => trivial)

theorem ErrInv_step (inv : Inv P s) (h : ErrInv T s) (l : Label) : ErrInv T (step T s l) := by
  refine step_ind (I := fun _ s' => ErrInv T s') (fun _ => h) ?_ (fun _ => ⟨h.res, h.pc⟩) l
  intro t th r rest eff nxt hth htodo hact
  have ok : ActOK T s t th r eff nxt := hact.ok_of_inv inv hth htodo
  exact {
    res := by
      refine after_results (R := fun e => e.2 = none → T e.1.code e.1.opts e.1.env.sig = none) hth h.res ?_
      rintro res hres (rfl : res = none)
      rcases ok.finish none hres with ⟨⟨f, hf⟩, _⟩ | ⟨_, _, own, hpc⟩
      · cases hf
      · have := h.pc t th r rest hth htodo
        rwa [hpc] at this
    pc := by
      refine after_pc (Q := PcErr T) hth htodo h.pc (fun _ _ _ _ _ hold => hold) (fun pc' hn => ?_) (fun _ => trivial)
      cases pc' with
      | rel res own =>
        cases res with
        | none => exact (ok.relnone own hn).2
        | some f => trivial
      | _ => trivial }

structure Reach (T : Code → Opts → Nat → Option Factory) (P : List (Request Opts)) (s : State Opts Factory) :
    Prop where
  inv : Inv P s
  g : G T P s
  err : ErrInv T s

theorem Reach_init (T : Code → Opts → Nat → Option Factory) (progs : List (List (Request Opts))) (hP : ∀ p ∈ progs, ∀ r ∈ p, r ∈ P) :
    Reach T P (init progs : State Opts Factory) where
  inv := Inv_init progs hP
  g := G_init T progs hP
  err := ErrInv_init T progs

theorem Reach_step (h : Reach T P s) (l : Label) (hs : StepSafe s l) : Reach T P (step T s l) :=
  ⟨Inv_step h.inv l hs, G_step h.g l, ErrInv_step h.inv h.err l⟩

theorem Reach_run (h : Reach T P s) (sched : List Label) (hs : SchedSafe T s sched) :
    Reach T P (run T s sched) := by
  induction sched generalizing s with
  | nil => exact h
  | cons l ls ih => exact ih (Reach_step h l hs.1) hs.2

end

end Malt.Cache
