import MaltModel.Conv.Template
/- Labels: `copy_clean` hands out exactly the next ones (`Fresh`), the `ContextAdjuster` touches none, those of the bindings lie below `startLabel`. -/
namespace Malt.Conv.Template
open Malt.Py

def Fresh (a : Nat) (l : List Nat) (b : Nat) : Prop := a ≤ b ∧ l = List.range' a (b - a)

theorem Fresh.nil (a : Nat) : Fresh a [] a := by simp [Fresh]

theorem Fresh.cons {a b : Nat} {l : List Nat} (h : Fresh (a + 1) l b) : Fresh a (a :: l) b := by
  obtain ⟨h1, h2⟩ := h
  refine ⟨by omega, ?_⟩
  have : b - a = (b - (a + 1)) + 1 := by omega
  rw [this, List.range'_succ, h2]

theorem Fresh.single (a : Nat) : Fresh a [a] (a + 1) := Fresh.cons (Fresh.nil _)

theorem range'_append_sub {a b c : Nat} (ha : a ≤ b) (hb : b ≤ c) :
    List.range' a (b - a) ++ List.range' b (c - b) = List.range' a (c - a) := by
  have e : c - a = (b - a) + (c - b) := by omega
  rw [e, ← List.range'_append_1, Nat.add_sub_cancel' ha]

theorem Fresh.append {a b c : Nat} {l1 l2 : List Nat} (h1 : Fresh a l1 b) (h2 : Fresh b l2 c) : Fresh a (l1 ++ l2) c := by
  obtain ⟨ha, rfl⟩ := h1
  obtain ⟨hb, rfl⟩ := h2
  exact ⟨Nat.le_trans ha hb, range'_append_sub ha hb⟩

theorem Fresh.le {a b : Nat} {l : List Nat} (h : Fresh a l b) : a ≤ b := h.1

theorem Fresh.bounds {a b : Nat} {l : List Nat} (h : Fresh a l b) : ∀ x ∈ l, a ≤ x ∧ x < b := by
  intro x hx
  rw [h.2, List.mem_range'_1] at hx
  omega


theorem copy_freshE (e : Expr) : ∀ (n : Nat), Fresh n (labelsE (copyE e n).1) (copyE e n).2 := by
  induction e using Expr.rec (motive_2 := fun es => ∀ (n : Nat), Fresh n (labelsEs (copyEs es n).1) (copyEs es n).2) with
  | noneMarker => exact fun n => Fresh.nil n
  | name | const => intro n; unfold copyE; exact Fresh.single n
  | attr _ _ _ _ ih0 | keyword _ _ _ _ ih0 | arg _ _ _ ih0 | seq _ _ _ _ ih0 | starred _ _ _ ih0 | boolop _ _ _ ih0
  | unary _ _ _ ih0 | other _ _ _ _ ih0 =>
      intro n; unfold copyE; exact Fresh.cons (ih0 _)
  | subscript _ _ _ _ ih0 ih1 | binop _ _ _ _ ih0 ih1 | compare _ _ _ _ ih0 ih1 | lambda _ _ _ ih0 ih1
  | namedexpr _ _ _ ih0 ih1 | comp _ _ _ _ ih0 ih1 | withitem _ _ _ ih0 ih1 =>
      intro n; unfold copyE; exact Fresh.cons (Fresh.append (ih0 _) (ih1 _))
  | call _ _ _ _ ih0 ih1 ih2 | ifexp _ _ _ _ ih0 ih1 ih2 | comprehension _ _ _ _ _ ih0 ih1 ih2 =>
      intro n; unfold copyE; exact Fresh.cons (Fresh.append (ih0 _) (Fresh.append (ih1 _) (ih2 _)))
  | arguments _ _ _ _ _ _ _ _ ih0 ih1 ih2 ih3 ih4 ih5 ih6 =>
      intro n; unfold copyE
      exact Fresh.cons (Fresh.append (ih0 _) (Fresh.append (ih1 _) (Fresh.append (ih2 _) (Fresh.append (ih3 _)
        (Fresh.append (ih4 _) (Fresh.append (ih5 _) (ih6 _)))))))
  | nil n => exact Fresh.nil n
  | cons e es ih0 ih1 n => exact Fresh.append (ih0 _) (ih1 _)

theorem copy_freshEs : ∀ (es : List Expr) (n : Nat), Fresh n (labelsEs (copyEs es n).1) (copyEs es n).2
  | [], n => Fresh.nil n
  | e :: es, _ => Fresh.append (copy_freshE e _) (copy_freshEs es _)

theorem copy_freshS (s : Stmt) : ∀ (n : Nat), Fresh n (labelsS (copyS s n).1) (copyS s n).2 := by
  induction s using Stmt.rec (motive_2 := fun ss => ∀ (n : Nat), Fresh n (labelsSs (copySs ss n).1) (copySs ss n).2) with
  | functionDef _ _ _ _ _ _ _ ih1 =>
      intro n; unfold copyS; exact Fresh.cons (Fresh.append (copy_freshE _ _) (Fresh.append (ih1 _) (Fresh.append (copy_freshEs _ _) (copy_freshEs _ _))))
  | expr => intro n; unfold copyS; exact Fresh.cons (copy_freshE _ _)
  | classDef _ _ _ _ _ _ ih2 =>
      intro n; unfold copyS; exact Fresh.cons (Fresh.append (copy_freshEs _ _) (Fresh.append (copy_freshEs _ _) (Fresh.append (ih2 _) (copy_freshEs _ _))))
  | ret | delete => intro n; unfold copyS; exact Fresh.cons (copy_freshEs _ _)
  | assign => intro n; unfold copyS; exact Fresh.cons (Fresh.append (copy_freshEs _ _) (copy_freshE _ _))
  | augAssign => intro n; unfold copyS; exact Fresh.cons (Fresh.append (copy_freshE _ _) (copy_freshE _ _))
  | annAssign =>
      intro n; unfold copyS; exact Fresh.cons (Fresh.append (copy_freshE _ _) (Fresh.append (copy_freshE _ _) (copy_freshEs _ _)))
  | for_ _ _ _ _ _ _ _ ih2 ih3 =>
      intro n; unfold copyS; exact Fresh.cons (Fresh.append (copy_freshE _ _) (Fresh.append (copy_freshE _ _) (Fresh.append (ih2 _) (Fresh.append (ih3 _) (copy_freshEs _ _)))))
  | while_ _ _ _ _ ih1 ih2 | if_ _ _ _ _ ih1 ih2 =>
      intro n; unfold copyS; exact Fresh.cons (Fresh.append (copy_freshE _ _) (Fresh.append (ih1 _) (ih2 _)))
  | with_ _ _ _ _ ih1 | handler _ _ _ _ ih1 | other _ _ _ _ ih1 =>
      intro n; unfold copyS; exact Fresh.cons (Fresh.append (copy_freshEs _ _) (ih1 _))
  | raise => intro n; unfold copyS; exact Fresh.cons (Fresh.append (copy_freshEs _ _) (copy_freshEs _ _))
  | try_ _ _ _ _ _ ih0 ih1 ih2 ih3 =>
      intro n; unfold copyS; exact Fresh.cons (Fresh.append (ih0 _) (Fresh.append (ih1 _) (Fresh.append (ih2 _) (ih3 _))))
  | assert_ => intro n; unfold copyS; exact Fresh.cons (Fresh.append (copy_freshE _ _) (copy_freshEs _ _))
  | import_ | importFrom | global | nonlocal | pass | break_ | continue_ =>
      intro n; unfold copyS; exact Fresh.cons (Fresh.nil _)
  | nil n => exact Fresh.nil n
  | cons s ss ih0 ih1 n => exact Fresh.append (ih0 _) (ih1 _)

theorem copy_freshSs : ∀ (ss : List Stmt) (n : Nat), Fresh n (labelsSs (copySs ss n).1) (copySs ss n).2
  | [], n => Fresh.nil n
  | s :: ss, _ => Fresh.append (copy_freshS s _) (copy_freshSs ss _)

theorem adjust_labels (c : Ctx) (e : Expr) : labelsE (adjust c e) = labelsE e := by
  induction e using Expr.rec (motive_2 := fun es => ∀ c, labelsEs (adjustEs c es) = labelsEs es) generalizing c with
  | other i k ats kids ih => by_cases hk : k = "Dict" <;> simp [adjust, hk, labelsE, ih]
  | nil => rfl
  | cons e es ih0 ih1 c => simp [adjustEs, labelsEs, ih0, ih1]
  | _ => unfold adjust labelsE; simp_all

theorem adjustEs_labels : ∀ (c : Ctx) (es : List Expr), labelsEs (adjustEs c es) = labelsEs es
  | c, [] => rfl
  | c, e :: es => by simp [adjustEs, labelsEs, adjust_labels c e, adjustEs_labels c es]

theorem map_adjTop_labelsEs (c : Ctx) : ∀ (es : List Expr), labelsEs (es.map (adjTop c)) = labelsEs es
  | [] => rfl
  | e :: es => by
      have he : labelsE (adjTop c e) = labelsE e := by
        unfold adjTop
        split
        · exact adjust_labels c e
        · rfl
      simp [labelsEs, he, map_adjTop_labelsEs c es]

theorem le_foldl_max (l : List Nat) : ∀ (init x : Nat), x ≤ init ∨ x ∈ l → x ≤ l.foldl max init := by
  induction l with
  | nil => exact fun init x h => h.elim id (fun h => nomatch h)
  | cons a l ih =>
      intro init x h
      refine ih (max init a) x ?_
      rcases h with h | h
      · exact Or.inl (Nat.le_trans h (Nat.le_max_left _ _))
      · rcases List.mem_cons.1 h with rfl | h
        · exact Or.inl (Nat.le_max_right _ _)
        · exact Or.inr h

theorem lt_startLabel (b : Bindings) : ∀ l ∈ bindingLabels b, l < startLabel b :=
  fun l hl => Nat.lt_succ_of_le (le_foldl_max _ 0 l (Or.inr hl))

end Malt.Conv.Template
