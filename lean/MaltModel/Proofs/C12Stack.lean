import MaltModel.Proofs.C12SrcMap
/-!
C12, stack: the scan of `_stack_trace_inside_mapped_code` on a traceback of the shape  A ++ site :: B  (B not mapped),
and the call-chain model the stack theorems are stated on.
-/
namespace Malt.Errors

abbrev Loc3 := String × Option String × Nat

def FrameInfo.loc (fi : FrameInfo) : Loc3 := (fi.file, fi.fn, fi.line)
def Frame.loc (f : Frame) : Loc3 := (f.file, some f.fn, f.line)
def Origin.loc (o : Origin) : Loc3 := (o.file, o.fn, o.line)

theorem markAllow_map_loc (acc : List FrameInfo) : (markAllow acc).map FrameInfo.loc = acc.map FrameInfo.loc := by
  fun_induction markAllow acc <;> simp_all [FrameInfo.loc]

theorem markAllow_not_converted (acc : List FrameInfo) (h : ∀ fi ∈ acc, fi.converted = false) :
    ∀ fi ∈ markAllow acc, fi.converted = false := by
  fun_induction markAllow acc
  · simp
  · simp
  · rename_i ih
    intro fi hfi
    rcases List.mem_cons.mp hfi with rfl | hfi
    · exact h _ List.mem_cons_self
    · exact ih (fun fi hfi => h fi (List.mem_cons_of_mem _ hfi)) fi hfi

theorem scan_unmapped (m : SourceMap) (conv : String) (B rest : List Frame) (acc : List FrameInfo)
    (hB : ∀ f ∈ B, get m ⟨f.file, f.line⟩ = none) :
    scan m conv (B ++ rest) acc = scan m conv rest (elide conv B acc) := by
  induction B generalizing acc with
  | nil => rfl
  | cons f B ih =>
    have hf := hB f (by simp)
    have hB' : ∀ f ∈ B, get m ⟨f.file, f.line⟩ = none := fun g hg => hB g (List.mem_cons_of_mem _ hg)
    simp only [List.cons_append, scan, hf, elide]
    split
    · exact ih _ hB'
    · exact ih _ hB'

/-- `site` is the innermost mapped frame; the scan stops there, so `A` is arbitrary. -/
theorem stackInside_site (m : SourceMap) (conv : String) (A B : List Frame) (site : Frame) (o : Origin)
    (hsite : get m ⟨site.file, site.line⟩ = some o)
    (hB : ∀ f ∈ B, get m ⟨f.file, f.line⟩ = none) :
    stackInsideMappedCode (A ++ site :: B) m conv = elide conv B.reverse [] ++ [FrameInfo.ofOrigin o] := by
  unfold stackInsideMappedCode
  have : (A ++ site :: B).reverse = B.reverse ++ (site :: A.reverse) := by simp
  rw [this, scan_unmapped m conv B.reverse _ [] (fun f hf => hB f (List.mem_reverse.mp hf))]
  simp [scan, hsite]

theorem stackInside_unmapped (m : SourceMap) (conv : String) (B : List Frame)
    (hB : ∀ f ∈ B, get m ⟨f.file, f.line⟩ = none) :
    stackInsideMappedCode B m conv = elide conv B.reverse [] := by
  unfold stackInsideMappedCode
  have := scan_unmapped m conv B.reverse [] [] (fun f hf => hB f (List.mem_reverse.mp hf))
  simpa [scan] using this

theorem init_site (m : SourceMap) (conv msg : String) (A B : List Frame) (site : Frame) (o : Origin)
    (hsite : get m ⟨site.file, site.line⟩ = some o) (hB : ∀ f ∈ B, get m ⟨f.file, f.line⟩ = none)
    (prev : Option Metadata) :
    Metadata.init (A ++ site :: B) prev msg m conv =
      match prev with
      | none => some ⟨elide conv B.reverse [] ++ [FrameInfo.ofOrigin o], msg⟩
      | some c => some ⟨c.stack ++ [FrameInfo.ofOrigin o], c.cause⟩ := by
  cases prev <;> simp [Metadata.init, stackInside_site m conv A B site o hsite hB]

theorem elide_map_loc (conv : String) (B : List Frame) (acc : List FrameInfo) :
    (elide conv B acc).map FrameInfo.loc
      = acc.map FrameInfo.loc ++ (B.filter (fun f => decide (f.file ≠ conv))).map Frame.loc := by
  -- the one place that opens the frame test read from the source: only a frame whose path EQUALS the converter's is elided
  fun_induction elide conv B acc <;>
    simp_all [markAllow_map_loc, FrameInfo.plain, FrameInfo.loc, Frame.loc, Gen.Errors.converterFrameTest]

theorem elide_not_converted (conv : String) (B : List Frame) (acc : List FrameInfo)
    (h : ∀ fi ∈ acc, fi.converted = false) : ∀ fi ∈ elide conv B acc, fi.converted = false := by
  fun_induction elide conv B acc
  · exact h
  · rename_i ih
    exact ih (markAllow_not_converted _ h)
  · rename_i ih
    refine ih fun fi hfi => ?_
    rcases List.mem_append.mp hfi with hfi | hfi
    · exact h fi hfi
    · rw [List.mem_singleton.mp hfi]; rfl

theorem filter_converted_elide (conv : String) (B : List Frame) : (elide conv B []).filter (·.converted) = [] := by
  rw [List.filter_eq_nil_iff]
  intro fi hfi
  simp [elide_not_converted conv B [] (by simp) fi hfi]

theorem filter_converted_ofOrigin {α : Type} (f : α → Origin) (l : List α) :
    (l.map (fun a => FrameInfo.ofOrigin (f a))).filter (·.converted) = l.map (fun a => FrameInfo.ofOrigin (f a)) := by
  rw [List.filter_eq_self]
  intro fi hfi
  obtain ⟨a, _, rfl⟩ := List.mem_map.mp hfi
  rfl

theorem elide_append (conv : String) (X Y : List Frame) (acc : List FrameInfo) :
    elide conv (X ++ Y) acc = elide conv Y (elide conv X acc) := by
  fun_induction elide conv X acc <;> simp_all [elide]

/-- One separately converted function on the call path, as it appears in the traceback of the converted run. -/
structure ConvLevel where
  /-- file the conversion was loaded from -/
  genFile : String
  /-- its source map -/
  map : SourceMap
  /-- frames of this conversion above the site frame (function entry, enclosing `if_body`/`loop_body`
      closures, the operators that call them): arbitrary -/
  pre : List Frame
  /-- the innermost frame of this conversion: it executes the generated line of the call site
      (or, in the last level, of the failing statement) -/
  site : Frame
  /-- frames between the site and the next converted function: operator / builtin-overload / api.py machinery -/
  post : List Frame
  /-- what the source map says about the site's generated line -/
  siteOrigin : Origin
  /-- the frame executing the same statement when the function runs unconverted -/
  orig : Frame
  /-- further frames of the unconverted run inside this function, above `orig`
      (the enclosing function when the statement sits in a nested def or lambda) -/
  outer : List Frame

/-- The traceback from the first frame of the first level down to the raise; `T`: everything below the last converted
function (unconverted callees, builtins calling back, machinery). -/
def tbFrom : List ConvLevel → List Frame → List Frame
  | [], T => T
  | l :: ls, T => l.pre ++ l.site :: (l.post ++ tbFrom ls T)

/-- The exception travels outward through the `converted_call` of every level, innermost first;
each runs `_attach_error_metadata` with the traceback from its callee's first frame (so the `[1:]` slice is already
taken; `ag_pass_through` plays no part here, see `attachState` for both). -/
def runChain (api msg : String) : List ConvLevel → List Frame → Option Metadata
  | [], _ => none
  | [l], T => Metadata.init (tbFrom [l] T) none msg l.map api
  | l :: l' :: ls, T =>
    match runChain api msg (l' :: ls) T with
    | none => none
    | some c => Metadata.init (tbFrom (l :: l' :: ls) T) (some c) msg l.map api

def lastBelow : List ConvLevel → List Frame → List Frame
  | [], T => T
  | [l], T => l.post ++ T
  | _ :: l' :: ls, T => lastBelow (l' :: ls) T

theorem lastBelow_cons_cons (l l' : ConvLevel) (ls : List ConvLevel) (T : List Frame) :
    lastBelow (l :: l' :: ls) T = lastBelow (l' :: ls) T := rfl

theorem lastBelow_eq (L : List ConvLevel) (T : List Frame) (hne : L ≠ []) :
    lastBelow L T = (L.getLast hne).post ++ T := by
  induction L with
  | nil => exact absurd rfl hne
  | cons l ls ih =>
    cases ls with
    | nil => rfl
    | cons l' ls' => rw [lastBelow_cons_cons, ih (by simp)]; simp [List.getLast_cons]

def SiteMapped (l : ConvLevel) : Prop := get l.map ⟨l.site.file, l.site.line⟩ = some l.siteOrigin

def KeysInGen (l : ConvLevel) : Prop := ∀ k o, (k, o) ∈ l.map → k.file = l.genFile

theorem KeysInGen.get_none {l : ConvLevel} (h : KeysInGen l) {file : String} (line : Nat) (hf : file ≠ l.genFile) :
    get l.map ⟨file, line⟩ = none := by
  cases hg : get l.map ⟨file, line⟩ with
  | none => rfl
  | some o => exact absurd (h _ _ (mem_of_get hg)) hf

/-- Fails exactly when the same conversion is entered again further down (recursion). -/
def BelowForeign : List ConvLevel → List Frame → Prop
  | [], _ => True
  | l :: ls, T => (∀ f ∈ l.post ++ tbFrom ls T, f.file ≠ l.genFile) ∧ BelowForeign ls T

instance (l : ConvLevel) : Decidable (SiteMapped l) := by unfold SiteMapped; infer_instance

theorem keysInGen_iff (l : ConvLevel) : KeysInGen l ↔ (l.map.all fun p => decide (p.1.file = l.genFile)) = true := by
  unfold KeysInGen
  rw [List.all_eq_true]
  constructor
  · intro h p hp; obtain ⟨k, o⟩ := p; simpa using h k o hp
  · intro h k o hko; simpa using h (k, o) hko

instance (l : ConvLevel) : Decidable (KeysInGen l) := decidable_of_iff _ (keysInGen_iff l).symm

instance instDecidableBelowForeign : (L : List ConvLevel) → (T : List Frame) → Decidable (BelowForeign L T)
  | [], _ => isTrue trivial
  | l :: ls, T =>
    have := instDecidableBelowForeign ls T
    by unfold BelowForeign; infer_instance

/-- Innermost first, as the stack is listed. -/
def userLocs (U : String) (st : List FrameInfo) : List Loc3 :=
  (st.map FrameInfo.loc).filter (fun p => decide (p.1 = U))

/-- User frames of the traceback of the *unconverted* run, outermost first: per converted function the
frames it contributes (`outer`, then the frame executing the statement), then the unconverted tail. -/
def origTraceback (U : String) (L : List ConvLevel) (T : List Frame) : List Frame :=
  L.flatMap (fun l => l.outer ++ [l.orig]) ++ T.filter (fun f => decide (f.file = U))

/-- Provided by origin inheritance and `OriginResolver`; the function part fails for lambdas, which the resolver does
not track. -/
def SiteResolved (U : String) (l : ConvLevel) : Prop :=
  l.orig.file = U ∧ l.siteOrigin.file = l.orig.file ∧ l.siteOrigin.line = l.orig.line ∧ l.siteOrigin.fn = some l.orig.fn

instance (U : String) (l : ConvLevel) : Decidable (SiteResolved U l) := by unfold SiteResolved; infer_instance

theorem runChain_closed (api msg : String) (L : List ConvLevel) (T : List Frame) (hne : L ≠ [])
    (hS : ∀ l ∈ L, SiteMapped l) (hK : ∀ l ∈ L, KeysInGen l) (hB : BelowForeign L T) :
    runChain api msg L T =
      some ⟨elide api (lastBelow L T).reverse [] ++ L.reverse.map (fun l => FrameInfo.ofOrigin l.siteOrigin), msg⟩ := by
  induction L with
  | nil => exact absurd rfl hne
  | cons l ls ih =>
    have hSl := hS l (by simp)
    have hKl := hK l (by simp)
    obtain ⟨hBl, hBls⟩ := hB
    -- below the site nothing is mapped: all keys are in the generated file and none of these frames is
    have hunm : ∀ f ∈ l.post ++ tbFrom ls T, get l.map ⟨f.file, f.line⟩ = none :=
      fun f hf => hKl.get_none f.line (hBl f hf)
    have hinit := init_site l.map api msg l.pre _ l.site l.siteOrigin hSl hunm
    cases ls with
    | nil => exact hinit none
    | cons l' ls' =>
      have ih' := ih (by simp) (fun x hx => hS x (List.mem_cons_of_mem _ hx))
        (fun x hx => hK x (List.mem_cons_of_mem _ hx)) hBls
      unfold runChain
      rw [ih']
      refine (hinit (some _)).trans ?_
      simp [lastBelow_cons_cons]

/-- The documented meaning of the `**` marker (g3doc/reference/error_handling.md), outermost frame first: a frame outside
`api.py` is marked allow-listed exactly when its caller is an `api.py` frame (`_call_unconverted`). -/
def markSpec (conv : String) : Bool → List Frame → List FrameInfo
  | _, [] => []
  | callerIsApi, f :: rest =>
    if Gen.Errors.converterFrameTest f.file conv then markSpec conv true rest
    else { FrameInfo.plain f with allowlisted := callerIsApi } :: markSpec conv false rest

def markHead : List FrameInfo → List FrameInfo
  | [] => []
  | x :: r => { x with converted := false, allowlisted := true } :: r

theorem markAllow_append_singleton (l : List FrameInfo) (x : FrameInfo) :
    markAllow (l ++ [x]) = l ++ [{ x with converted := false, allowlisted := true }] := by
  induction l with
  | nil => rfl
  | cons y r ih => cases r <;> simp_all [markAllow]

theorem markAllow_reverse (l : List FrameInfo) : markAllow l.reverse = (markHead l).reverse := by
  cases l with
  | nil => rfl
  | cons x r => simp [markHead, markAllow_append_singleton]

/- The flag `callerIsApi` only ever reaches the first frame outside `api.py`, so marking the head is starting with `true`. -/
theorem markHead_markSpec (conv : String) (b : Bool) (B : List Frame) :
    markHead (markSpec conv b B) = markSpec conv true B := by
  fun_induction markSpec conv b B <;> simp_all [markSpec, markHead, FrameInfo.plain]

theorem elide_eq_markSpec (conv : String) (B : List Frame) :
    elide conv B.reverse [] = (markSpec conv false B).reverse := by
  induction B with
  | nil => rfl
  | cons f B ih =>
    rw [List.reverse_cons, elide_append, ih]
    simp only [elide, markSpec]
    split
    · rw [markAllow_reverse, markHead_markSpec]
    · -- f is listed as the outermost frame; B's head was called by f, not by api: no mark
      simp [FrameInfo.plain]

end Malt.Errors
