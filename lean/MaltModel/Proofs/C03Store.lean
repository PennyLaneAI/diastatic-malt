import MaltModel.Proofs.C03Model
/-! Store algebra of the generated state functions (`Conv.Contract`: `evalGetter`, `getS`, `assignSeq`, `setS`). -/
namespace Malt.Conv.Contract
open Malt Malt.Py Malt.Conv.ControlFlow

theorem mapM_cons_eq_some {α β : Type} {f : α → Option β} {a : α} {l : List α} {r : List β}
    (h : (a :: l).mapM f = some r) : ∃ b r', f a = some b ∧ l.mapM f = some r' ∧ r = b :: r' := by
  simp only [List.mapM_cons, Option.bind_eq_bind, Option.pure_def, Option.bind_eq_some_iff, Option.some.injEq] at h
  obtain ⟨b, hb, r', hr', rfl⟩ := h
  exact ⟨b, r', hb, hr', rfl⟩

theorem mapM_cons_of {α β : Type} {f : α → Option β} {a : α} {l : List α} {b : β} {r : List β}
    (ha : f a = some b) (hl : l.mapM f = some r) : (a :: l).mapM f = some (b :: r) := by
  rw [List.mapM_cons, ha, hl]; rfl

theorem mapM_some_rec {α β : Type} {f : α → Option β} {motive : List α → List β → Prop} (nil : motive [] [])
    (cons : ∀ a b l r, f a = some b → l.mapM f = some r → motive l r → motive (a :: l) (b :: r)) :
    ∀ {l r}, l.mapM f = some r → motive l r
  | [], r, h => by cases h; exact nil
  | a :: l, r, h => by
      obtain ⟨b, r', ha, hl, rfl⟩ := mapM_cons_eq_some h
      exact cons a b l r' ha hl (mapM_some_rec nil cons hl)

theorem mapM_some_length {α β : Type} {f : α → Option β} {l : List α} {r : List β} (h : l.mapM f = some r) :
    r.length = l.length := by
  refine mapM_some_rec (f := f) (motive := fun l r => r.length = l.length) rfl ?_ h
  intro _ _ _ _ _ _ ih
  exact congrArg Nat.succ ih

theorem mapM_mem {α β : Type} {f : α → Option β} : ∀ {l : List α} {r : List β}, l.mapM f = some r →
    ∀ y ∈ r, ∃ x ∈ l, f x = some y := by
  intro l r h
  refine mapM_some_rec (motive := fun l r => ∀ y ∈ r, ∃ x ∈ l, f x = some y) (fun _ hy => nomatch hy) ?_ h
  intro a b l r ha _ ih y hy
  rcases List.mem_cons.mp hy with rfl | hy
  · exact ⟨a, List.mem_cons_self .., ha⟩
  · obtain ⟨x, hx, hfx⟩ := ih y hy
    exact ⟨x, List.mem_cons_of_mem _ hx, hfx⟩

theorem mapM_congr_opt {α β : Type} {f g : α → Option β} : ∀ (l : List α), (∀ x ∈ l, f x = g x) →
    l.mapM f = l.mapM g
  | [], _ => rfl
  | a :: l, h => by
      simp only [List.mapM_cons, h a (List.mem_cons_self ..),
        mapM_congr_opt l (fun x hx => h x (List.mem_cons_of_mem _ hx))]

theorem evalGetter_eq (gs : List Expr) (es : List Entry) (w : World) (h : entriesOf gs = some es) :
    evalGetter gs w = (getS es w.store, w) := by
  refine mapM_some_rec (motive := fun gs es => evalGetter gs w = (getS es w.store, w)) rfl ?_ h
  intro g en gs es hd _ ih
  unfold evalGetter
  simp only [hd, getS, List.mapM_cons, Option.bind_eq_bind, Option.pure_def]
  cases hr : readEntry w.store en with
  | none => rfl
  | some v =>
    simp only [Option.bind_some]
    rw [← getS, ih]
    cases getS es w.store <;> rfl

theorem update_same (σ : Store) (q : QN) (v : Val) : update σ q v q = some v := if_pos rfl
theorem update_other {σ : Store} {q q' : QN} {v : Val} (h : q' ≠ q) : update σ q v q' = σ q' := if_neg h

theorem assignAll_notin {qs : List QN} (vs : List Val) (σ : Store) {q : QN} (h : q ∉ qs) :
    assignAll qs vs σ q = σ q := by
  fun_induction assignAll qs vs σ with
  | case1 p qs v vs σ ih =>
    rw [List.mem_cons, not_or] at h
    rw [ih h.2, update_other h.1]
  | case2 => rfl

theorem assignAll_read (ls : List QN) (vs : List Val) (σ : Store) (hn : ls.Nodup) (hl : ls.length = vs.length) :
    ls.mapM (assignAll ls vs σ) = some vs := by
  fun_induction assignAll ls vs σ with
  | case1 l ls v vs σ ih =>
    rw [List.nodup_cons] at hn
    refine mapM_cons_of ?_ (ih hn.2 (Nat.succ.inj hl))
    rw [assignAll_notin _ _ hn.1, update_same]
  | case2 ls vs σ hne =>
    cases ls with
    | nil => cases vs with
      | nil => rfl
      | cons => cases hl
    | cons l ls => cases vs with
      | nil => cases hl
      | cons v vs => exact (hne l ls v vs rfl rfl).elim

theorem resolveIdx_congr {σ τ : Store} (i : QN)
    (h : ∀ k, i = .sym k → τ (.sym k) = σ (.sym k)) : resolveIdx τ i = resolveIdx σ i := by
  cases i with
  | sym k => simp [resolveIdx, h k rfl]
  | lit _ _ => rfl
  | attr _ _ => rfl
  | sub _ _ => rfl

theorem read_congr {σ τ : Store} (r : Res) (h : ∀ l ∈ r.slots, τ l = σ l) : r.read τ = r.read σ := by
  cases r with
  | slot l => exact h l (by simp [Res.slots])
  | undefBase v => rfl
  | fail => rfl

theorem resolve_congr {σ τ : Store} : ∀ (q : QN), (∀ l ∈ reads σ q, τ l = σ l) →
    resolve τ q = resolve σ q ∧ reads τ q = reads σ q
  | .sym _ => fun _ => ⟨rfl, rfl⟩
  | .lit _ _ => fun _ => ⟨rfl, rfl⟩
  | .attr b a => by
      intro h
      have ih := resolve_congr b (fun l hl => h l (by simp [reads, hl]))
      have hr : (resolve σ b).read τ = (resolve σ b).read σ :=
        read_congr _ (fun l hl => h l (by simp [reads, hl]))
      simp only [resolve, reads, ih.1, ih.2, hr, and_self]
  | .sub b i => by
      intro h
      have ih := resolve_congr b (fun l hl => h l (by simp [reads, hl]))
      have hr : (resolve σ b).read τ = (resolve σ b).read σ :=
        read_congr _ (fun l hl => h l (by simp [reads, hl]))
      have hi : resolveIdx τ i = resolveIdx σ i := by
        apply resolveIdx_congr
        intro k hk
        subst hk
        exact h _ (by simp [reads])
      simp only [resolve, reads, ih.1, ih.2, hr, hi, and_self]

theorem loc_eq_some {σ : Store} {q l : QN} : loc σ q = some l ↔ resolve σ q = .slot l := by
  unfold loc
  cases resolve σ q <;> simp

theorem loc_congr {σ τ : Store} (q : QN) (h : ∀ l ∈ reads σ q, τ l = σ l) : loc τ q = loc σ q := by
  unfold loc; rw [(resolve_congr q h).1]

/-- Under independence the sequential assignment is the assignment of the locations resolved up front.  The written
set `W` is a parameter of its own so that it stays fixed along the recursion. -/
theorem assignSeq_eq_assignAll (W : List QN) : ∀ (qs : List QN) (vs : List Val) (ls : List QN) (τ : Store),
    qs.mapM (loc τ) = some ls → (∀ q ∈ qs, ∀ l ∈ reads τ q, l ∉ W) → (∀ l ∈ ls, l ∈ W) →
    assignSeq qs vs τ = some (assignAll ls vs τ)
  | [], vs => by
      intro ls τ h _ _
      cases h
      cases vs <;> rfl
  | q :: qs, [] => by
      intro ls τ _ _ _
      cases ls <;> rfl
  | q :: qs, v :: vs => by
      intro ls τ h hR hW
      obtain ⟨l, ls', hq, hm, rfl⟩ := mapM_cons_eq_some h
      have hlW : l ∈ W := hW l (List.mem_cons_self ..)
      have hagree : ∀ q' ∈ qs, ∀ x ∈ reads τ q', update τ l v x = τ x := by
        intro q' hq' x hx
        exact update_other (fun hxl => hR q' (List.mem_cons_of_mem _ hq') x hx (hxl ▸ hlW))
      have hm' : qs.mapM (loc (update τ l v)) = some ls' := by
        rw [← hm]
        exact mapM_congr_opt _ fun q' hq' => loc_congr q' (hagree q' hq')
      have hR' : ∀ q' ∈ qs, ∀ x ∈ reads (update τ l v) q', x ∉ W := by
        intro q' hq' x hx
        rw [(resolve_congr q' (hagree q' hq')).2] at hx
        exact hR q' (List.mem_cons_of_mem _ hq') x hx
      simp only [assignSeq, loc_eq_some.mp hq, assignAll]
      exact assignSeq_eq_assignAll W qs vs ls' (update τ l v) hm' hR' (fun l' hl' => hW l' (List.mem_cons_of_mem _ hl'))

theorem getS_of_locs : ∀ (es : List Entry) (ls : List QN) (vs : List Val) (τ : Store),
    (es.map (·.qn)).mapM (loc τ) = some ls → ls.mapM τ = some vs → getS es τ = some vs
  | [] => by
      intro ls vs τ h1 h2
      cases h1
      cases h2
      rfl
  | e :: es => by
      intro ls vs τ h1 h2
      obtain ⟨l, ls', hq, hm, rfl⟩ := mapM_cons_eq_some h1
      obtain ⟨v, vs', hl, hm2, rfl⟩ := mapM_cons_eq_some h2
      refine mapM_cons_of ?_ (getS_of_locs es ls' vs' τ hm hm2)
      simp only [readEntry, loc_eq_some.mp hq, Res.read, hl]

theorem getS_assignSeq {es : List Entry} {vs : List Val} {σ : Store} {ls : List QN}
    (hloc : (es.map (·.qn)).mapM (loc σ) = some ls)
    (hind : ∀ q ∈ es.map (·.qn), ∀ l ∈ reads σ q, l ∉ ls)
    (hnd : ls.Nodup) (hlen : es.length = vs.length) :
    ∃ σ', assignSeq (es.map (·.qn)) vs σ = some σ' ∧ getS es σ' = some vs := by
  refine ⟨assignAll ls vs σ, assignSeq_eq_assignAll ls _ vs ls σ hloc hind (fun _ h => h), ?_⟩
  have hlen' : ls.length = vs.length := by
    have := mapM_some_length hloc
    simp only [List.length_map] at this
    rw [this, hlen]
  apply getS_of_locs es ls vs _ _ (assignAll_read ls vs σ hnd hlen')
  rw [← hloc]
  apply mapM_congr_opt
  intro q hq
  apply loc_congr
  intro l hl
  exact assignAll_notin _ _ (hind q hq l hl)

theorem any_cons_false {α : Type} {p : α → Bool} {a : α} {l : List α} (h : (a :: l).any p = false) :
    p a = false ∧ l.any p = false := by
  simpa [List.any_cons, Bool.or_eq_false_iff] using h

theorem assignSeq_getS : ∀ (es : List Entry) (vs : List Val) (σ : Store),
    undefBaseAt σ es = false → missingAt σ es = false → getS es σ = some vs →
    assignSeq (es.map (·.qn)) vs σ = some σ
  | [] => by
      intro vs σ _ _ h
      cases h
      rfl
  | e :: es => by
      intro vs σ hu hm h
      obtain ⟨hu1, hu2⟩ := any_cons_false hu
      obtain ⟨hm1, hm2⟩ := any_cons_false hm
      obtain ⟨v, vs', hre, hmm, rfl⟩ := mapM_cons_eq_some h
      cases hr : resolve σ e.qn with
      | undefBase v => simp [hr] at hu1
      | fail => simp [hr] at hm1
      | slot l =>
        have hs : σ l = some v := by
          cases hs : σ l with
          | some v' => simpa [readEntry, hr, Res.read, hs] using hre
          | none =>
            cases hg : e.guarded with
            | true => simp [hr, hg, hs] at hm1
            | false => simp [readEntry, hr, Res.read, hs, hg] at hre
        have hupd : update σ l v = σ := by
          funext q
          by_cases hql : q = l
          · subst hql; rw [update_same, hs]
          · rw [update_other hql]
        simp only [List.map_cons, assignSeq, hr, hupd]
        exact assignSeq_getS es vs' σ hu2 hm2 hmm

theorem entries_of_all3 {ns gs ts : List Expr} (h : All3 PosOk ns gs ts) :
    ∃ es, entriesOf gs = some es ∧ ts.mapM exprQN = some (es.map (·.qn)) := by
  induction h with
  | nil => exact ⟨[], rfl, rfl⟩
  | cons hp _ ih =>
    obtain ⟨es, h1, h2⟩ := ih
    obtain ⟨s, en, _, hg, hq, ht, _, _⟩ := hp
    exact ⟨en :: es, mapM_cons_of hg h1, mapM_cons_of (b := en.qn) (by rw [ht, hq]) h2⟩

theorem classify_lawful_iff (σ : Store) (es : List Entry) :
    classify σ es = .lawful ↔
      (undefBaseAt σ es = false ∧ missingAt σ es = false ∧ dependentAt σ es = false ∧ aliasedAt σ es = false) := by
  unfold classify
  cases undefBaseAt σ es <;> cases missingAt σ es <;> cases dependentAt σ es <;> cases aliasedAt σ es <;> simp

theorem locs_of_located : ∀ (es : List Entry) (σ : Store), undefBaseAt σ es = false → missingAt σ es = false →
    (es.map (·.qn)).mapM (loc σ) = some (slotsOf σ es)
  | [] => fun _ _ _ => rfl
  | e :: es => by
      intro σ hu hm
      obtain ⟨hu1, hu2⟩ := any_cons_false hu
      obtain ⟨hm1, hm2⟩ := any_cons_false hm
      have ih := locs_of_located es σ hu2 hm2
      cases hr : resolve σ e.qn with
      | undefBase v => simp [hr] at hu1
      | fail => simp [hr] at hm1
      | slot l =>
        have hl : slotsOf σ (e :: es) = l :: slotsOf σ es := by simp [slotsOf, hr, Res.slots]
        rw [hl]
        exact mapM_cons_of (loc_eq_some.mpr hr) ih

theorem independent_of_not_dependent {σ : Store} {es : List Entry} (h : dependentAt σ es = false) :
    ∀ q ∈ es.map (·.qn), ∀ l ∈ reads σ q, l ∉ slotsOf σ es := by
  intro q hq l hl hmem
  obtain ⟨e, he, rfl⟩ := List.mem_map.mp hq
  have h1 := List.any_eq_false.mp h e he
  have h2 : ∀ x ∈ reads σ e.qn, ¬ x ∈ slotsOf σ es := by simpa using h1
  exact h2 l hl hmem

theorem nodup_of_not_aliased {σ : Store} {es : List Entry} (h : aliasedAt σ es = false) : (slotsOf σ es).Nodup := by
  apply nodupB_sound
  simpa [aliasedAt] using h

theorem exprQN_sym {t : Expr} {s : String} (h : exprQN t = some (.sym s)) : ∃ i ctx, t = .name i s ctx := by
  unfold exprQN at h
  split at h
  · cases h; exact ⟨_, _, rfl⟩
  · cases h
  · rename_i v a _
    cases hv : exprQN v <;> rw [hv] at h <;> cases h
  · rename_i v sl _
    cases hv : exprQN v <;> cases hs : exprQN sl <;> rw [hv, hs] at h <;> cases h
  · cases h

theorem setterTarget_id {c : OpCall} {ts : List Expr} {qs : List QN} (hd : SetterDeclares c)
    (hts : setterTargets c = some ts) (hq : ts.mapM exprQN = some qs) :
    qs.map (setterTarget (declaredNames c.setter.body)) = qs := by
  obtain ⟨ts', hts', hdecl⟩ := hd
  rw [hts] at hts'
  cases hts'
  refine (List.map_congr_left fun q hqm => ?_).trans (List.map_id' _)
  obtain ⟨t, ht, hqt⟩ := mapM_mem hq q hqm
  cases q with
  | sym s =>
    obtain ⟨i, ctx, rfl⟩ := exprQN_sym hqt
    unfold setterTarget
    cases hc : BlockVars.isComposite s
    · have := hdecl _ ht i s ctx rfl hc
      simp [this]
    · simp [hc]
  | lit _ _ => rfl
  | attr _ _ => rfl
  | sub _ _ => rfl

theorem runGetter_eq {c : OpCall} {gs : List Expr} {es : List Entry} (hgs : getterTuple c = some gs)
    (he : entriesOf gs = some es) (w : World) : runGetter c w = (getS es w.store, w) := by
  simp only [runGetter, hgs]
  exact evalGetter_eq gs es w he

theorem runSetter_eq {c : OpCall} {ts : List Expr} {qs : List QN} (hd : SetterDeclares c)
    (hts : setterTargets c = some ts) (hq : ts.mapM exprQN = some qs) (vs : List Val) (σ : Store) :
    runSetter c vs σ = setS qs vs σ := by
  simp only [runSetter, hts, hq, setterTarget_id hd hts hq]

/-- `Distinct` plays no part: whether two entries denote one location depends on the store (`aliasedAt`). -/
theorem good_algebra {c : OpCall} (hg : Good c) :
    ∃ es, entries c = some es ∧ (∀ w : World, (runGetter c w).2 = w) ∧
      (∀ (σ : Store) (vs : List Val) (n : Nat), classify σ es = .lawful →
        vs.length = c.names.length → ∃ σ', runSetter c vs σ = some σ' ∧ (runGetter c ⟨σ', n⟩).1 = some vs) ∧
      (∀ (σ : Store) (vs : List Val) (n : Nat), undefBaseAt σ es = false → missingAt σ es = false →
        (runGetter c ⟨σ, n⟩).1 = some vs → runSetter c vs σ = some σ) := by
  obtain ⟨_, ⟨gs, ts, hgs, hts, h3⟩, _, _, _, _, hdecl⟩ := hg
  obtain ⟨es, he, hq⟩ := entries_of_all3 h3
  have hlen : es.length = c.names.length := by rw [mapM_some_length he, (All3.lengths h3).1]
  have hget := runGetter_eq hgs he
  have hset := runSetter_eq hdecl hts hq
  refine ⟨es, by simp [entries, hgs, he], fun w => by rw [hget], ?_, ?_⟩
  · intro σ vs n hcl hv
    obtain ⟨hu, hm, hdep, hal⟩ := (classify_lawful_iff σ es).mp hcl
    obtain ⟨σ', hs, hgv⟩ := getS_assignSeq (locs_of_located es σ hu hm) (independent_of_not_dependent hdep)
      (nodup_of_not_aliased hal) (by rw [hlen, hv])
    refine ⟨σ', ?_, by rw [hget]; exact hgv⟩
    rw [hset, setS, if_pos (by rw [List.length_map, hlen, hv]), hs]
  · intro σ vs n hu hm hr
    rw [hget] at hr
    rw [hset, setS, if_pos (by rw [List.length_map, mapM_some_length hr])]
    exact assignSeq_getS es vs σ hu hm hr

end Malt.Conv.Contract
