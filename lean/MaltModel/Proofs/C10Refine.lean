import MaltModel.Proofs.C10Inv
import MaltModel.Proofs.C10Spec
/-!
C10: the interleaved system refines the atomic specification "lookup-or-convert"
(`Malt.Cache.Spec`), for histories in which distinct code objects have distinct values.

Linearisation points (`serves`): a request that converts takes effect when it stores the factory (`st2`); a
request that finds the factory (lock-free or under the lock) takes effect when it returns (`inst`);
a request whose conversion raises takes effect when it leaves the critical section (`rel none`).
-/
namespace Malt.Cache
open Spec

section
variable {Opts Factory : Type} [BEq Opts] [Hashable Opts] [LawfulBEq Opts]
variable {T : Code → Opts → Nat → Option Factory} {P : List (Request Opts)}

variable {s : State Opts Factory} {t : Tid} {th : Thread Opts Factory} {r : Request Opts}
  {rest : List (Request Opts)} {eff : Eff Opts Factory} {nxt : Next Factory}

def linearised : Pc Factory → Option Factory
  | .rel (some f) true => some f
  | .inst f true => some f
  | _ => none

def absThread (th : Thread Opts Factory) : SThread Opts Factory :=
  match linearised th.pc, th.todo with
  | some f, r :: rest => { todo := rest, results := th.results ++ [(r, some f)] }
  | _, _ => { todo := th.todo, results := th.results }

/-- The abstraction function.  The table is restricted to the code objects of the history: the specification is
keyed by identity, whereas a foreign code object of equal value would hit the implementation's entry. -/
def abs (P : List (Request Opts)) (s : State Opts Factory) : SState Opts Factory :=
  { table := fun c o => if c ∈ codes P then table s c o else none,
    threads := s.threads.map absThread }

def serves : Pc Factory → Option (Option Factory)
  | .st2 f _ | .inst f false => some (some f)
  | .rel none _ => some none
  | _ => none

/-- Which atomic step of the specification an implementation step corresponds to (none = stutter). -/
def lin (s : State Opts Factory) : Label → Option SLabel
  | .gc c => if live s c then none else some (.gc c)
  | .thr t =>
    match s.threads[t]? with
    | none => none
    | some th =>
      match th.todo with
      | [] => none
      | _ :: _ => if (serves th.pc).isSome then some (.serve t) else none

theorem lin_thr {s : State Opts Factory} {t : Tid} {th : Thread Opts Factory} {r : Request Opts}
    {rest : List (Request Opts)} (hth : s.threads[t]? = some th) (htodo : th.todo = r :: rest) :
    lin s (.thr t) = if (serves th.pc).isSome then some (.serve t) else none := by
  simp only [lin, hth, htodo]

theorem absThread_of_serves {th : Thread Opts Factory} {res : Option Factory} (h : serves th.pc = some res) :
    absThread th = { todo := th.todo, results := th.results } := by
  obtain ⟨pc, todo, results⟩ := th
  have : linearised pc = none := by
    cases pc with
    | st2 f b => rfl
    | inst f own => cases own <;> first | rfl | cases h
    | rel res own => cases res <;> first | rfl | cases h
    | _ => cases h
  simp only [absThread, this]

theorem absThread_todo_sub (th : Thread Opts Factory) : ∀ x ∈ (absThread th).todo, x ∈ th.todo := by
  intro x hx
  unfold absThread at hx
  split at hx
  · rename_i f r rest _ htodo
    rw [htodo]; exact List.mem_cons_of_mem _ hx
  · exact hx

theorem Act.absThread_after (hact : Act T s t r th.pc eff nxt) (hpc : PcInv s r th.pc) (htodo : th.todo = r :: rest) :
    absThread (applyNext th r nxt) =
      match serves th.pc with
      | some res => { todo := rest, results := th.results ++ [(r, res)] }
      | none => absThread th := by
  obtain ⟨pc, todo, results⟩ := th
  cases htodo
  cases hact with
  | get1c => exact hpc.elim
  | get2_miss hf => exact absurd hf hpc.get2_found
  | @rel_some f own => cases own <;> rfl
  | @inst f own => cases own <;> rfl
  | _ => rfl

theorem table_eff_same (ok : ActOK T s t th r eff nxt) (hns : ∀ b o f, eff ≠ .store b o f)
    (c : Code) (o : Opts) : table (applyEff s t eff) c o = table s c o := by
  cases eff with
  | create c' => obtain ⟨_, hnone, _⟩ := ok.create c' rfl; exact table_create hnone c o
  | store b o' f => exact absurd rfl (hns b o' f)
  | _ => rfl

theorem table_store_eq (V : ValInj P) (g : G T P s) (hrP : r ∈ P) {b : Nat} {f : Factory}
    (ho : ofind r.code s.outer = some b) {c : Code} (hc : c ∈ codes P) (o : Opts) :
    table (applyEff s t (.store b r.opts f)) c o = tput (table s) r.code r.opts f c o := by
  show _ = if c = r.code ∧ (o == r.opts) = true then some f else table s c o
  have hb : b < s.heap.length := tagAt_lt (g.find ho)
  cases hoc : ofind c s.outer with
  | none =>
    have hne : c ≠ r.code := by rintro rfl; rw [ho] at hoc; cases hoc
    rw [table_of_ofind_none (s := applyEff s t (.store b r.opts f)) hoc, table_of_ofind_none hoc,
      if_neg (fun h => hne h.1)]
  | some b' =>
    rw [table_of_ofind (s := applyEff s t (.store b r.opts f)) hoc, table_of_ofind hoc, bfind_store]
    -- the store hits this lookup exactly when it is the lookup of its own key
    have hiff : ((b' = b ∧ b < s.heap.length) ∧ (r.opts == o) = true) ↔ (c = r.code ∧ (o == r.opts) = true) := by
      refine ⟨fun h => ⟨?_, ?_⟩, fun h => ⟨⟨?_, hb⟩, ?_⟩⟩
      · -- the bucket object remembers the code value it was created under
        exact valInj_codes V hc (mem_codes hrP) (Option.some.inj ((g.find (h.1.1 ▸ hoc)).symm.trans (g.find ho)))
      · rw [eq_of_beq h.2]; exact beq_self_eq_true o
      · rw [h.1, ho] at hoc; exact (Option.some.inj hoc).symm
      · rw [eq_of_beq h.2]; exact beq_self_eq_true _
    by_cases h : c = r.code ∧ (o == r.opts) = true
    · rw [if_pos h, if_pos (hiff.mpr h)]
    · rw [if_neg h, if_neg (fun h' => h (hiff.mp h'))]

def stored : Pc Factory → Option Factory
  | .st2 f _ => some f
  | _ => none

theorem stored_eq_some {pc : Pc Factory} {f : Factory} : stored pc = some f ↔ ∃ b, pc = .st2 f b := by
  cases pc <;> simp [stored]

theorem stored_of_serves_none {pc : Pc Factory} (h : serves pc = none) : stored pc = none := by
  cases pc <;> first | rfl | cases h

theorem table_after (V : ValInj P) (h : Reach T P s) (hth : s.threads[t]? = some th)
    (htodo : th.todo = r :: rest) (ok : ActOK T s t th r eff nxt) {c : Code} (hc : c ∈ codes P) (o : Opts) :
    table (after s t th r eff nxt) c o =
      (match stored th.pc with
       | some f => tput (table s) r.code r.opts f
       | none => table s) c o := by
  show table (applyEff s t eff) c o = _
  cases hst : stored th.pc with
  | none =>
    refine table_eff_same ok (fun b o' f he => ?_) c o
    obtain ⟨_, _, _, hpc⟩ := ok.store b o' f he
    rw [hpc] at hst
    cases hst
  | some f =>
    obtain ⟨b, hpc⟩ := stored_eq_some.mp hst
    obtain ⟨rfl, -⟩ := ok.st2 f b hpc
    have hpi := h.inv.pc t th r rest hth htodo
    rw [hpc] at hpi
    exact table_store_eq V h.g (head_mem h.inv.todo hth htodo) hpi.1 hc o

theorem table_frame (V : ValInj P) (hs : Reach T P s) (t : Tid) {c : Code} (hc : c ∈ codes P) (o : Opts)
    (h : table (step T s (.thr t)) c o ≠ table s c o) :
    ∃ th r rest, s.threads[t]? = some th ∧ th.todo = r :: rest ∧ r.code = c ∧ r.opts = o := by
  revert h
  refine stepThread_cases T (I := fun s' => table s' c o ≠ table s c o → _) (fun _ h => absurd rfl h)
    (fun _ _ h => absurd rfl h) (fun {th r rest eff nxt} hth htodo hact h => ⟨th, r, rest, hth, htodo, ?_⟩)
  have ok := hact.ok_of_inv hs.inv hth htodo
  rw [table_after V hs hth htodo ok hc o] at h
  cases hst : stored th.pc with
  | none => rw [hst] at h; exact absurd rfl h
  | some f =>
    rw [hst] at h
    obtain ⟨hc', ho', -⟩ := tput_ne h
    exact ⟨hc'.symm, ho'.symm⟩

theorem ofind_ogc_self (V : ValInj P) {m : List (Code × Nat)} (hk : ∀ e ∈ m, e.1 ∈ codes P) {c : Code}
    (hc : c ∈ codes P) : ofind c (ogc c m) = none := by
  cases h : ofind c (ogc c m) with
  | none => rfl
  | some b =>
    obtain ⟨k, hm, hv⟩ := ofind_mem h
    obtain ⟨hm', hne⟩ := mem_ogc.mp hm
    exact absurd (valInj_codes V (hk _ hm') hc hv) hne

theorem table_ogc_valInj (V : ValInj P) (hkeys : ∀ e ∈ s.outer, e.1 ∈ codes P) {c c' : Code} (hc' : c' ∈ codes P) (o : Opts) :
    table ({ s with outer := ogc c s.outer } : State Opts Factory) c' o = if c' = c then none else table s c' o := by
  by_cases hcc : c' = c
  · subst hcc
    rw [if_pos rfl]
    exact table_of_ofind_none (s := { s with outer := ogc c' s.outer }) (ofind_ogc_self V hkeys hc') o
  · rw [if_neg hcc]
    refine table_ogc (fun e he hec hv => hcc ?_) o
    exact (valInj_codes V (hkeys e he) hc' hv).symm.trans hec

theorem abs_after_threads (s : State Opts Factory) (t : Tid) (th : Thread Opts Factory) (r : Request Opts)
    (eff : Eff Opts Factory) (nxt : Next Factory) :
    (abs P (after s t th r eff nxt)).threads =
      (s.threads.map absThread).set t (absThread (applyNext th r nxt)) := by
  simp [abs, List.map_set]

theorem abs_get (hth : s.threads[t]? = some th) : (s.threads.map absThread)[t]? = some (absThread th) := by
  simp [hth]

theorem abs_stutter (hth : s.threads[t]? = some th)
    (htab : (abs P (after s t th r eff nxt)).table = (abs P s).table)
    (hthr : absThread (applyNext th r nxt) = absThread th) : abs P (after s t th r eff nxt) = abs P s := by
  refine SState_ext htab ?_
  rw [abs_after_threads, hthr]
  exact set_same (abs_get hth)

theorem abs_table_after (V : ValInj P) (h : Reach T P s) (hth : s.threads[t]? = some th) (htodo : th.todo = r :: rest)
    (ok : ActOK T s t th r eff nxt) :
    (abs P (after s t th r eff nxt)).table =
      match stored th.pc with
      | some f => tput (abs P s).table r.code r.opts f
      | none => (abs P s).table := by
  have hcP : r.code ∈ codes P := mem_codes (head_mem h.inv.todo hth htodo)
  cases hst : stored th.pc with
  | none =>
    funext c o
    show (if c ∈ codes P then table (after s t th r eff nxt) c o else none) = if c ∈ codes P then table s c o else none
    by_cases hc : c ∈ codes P
    · rw [if_pos hc, if_pos hc, table_after V h hth htodo ok hc o, hst]
    · rw [if_neg hc, if_neg hc]
  | some f =>
    funext c o
    show (if c ∈ codes P then table (after s t th r eff nxt) c o else none) =
      if c = r.code ∧ (o == r.opts) = true then some f else if c ∈ codes P then table s c o else none
    by_cases hc : c ∈ codes P
    · rw [if_pos hc, if_pos hc, table_after V h hth htodo ok hc o, hst]
      rfl
    · rw [if_neg hc, if_neg hc, if_neg (fun hk : c = r.code ∧ _ => hc (hk.1 ▸ hcP))]

theorem sim_gc (V : ValInj P) (inv : Inv P s) (c : Code) :
    abs P (step T s (.gc c)) = sstepOpt T (abs P s) (lin s (.gc c)) := by
  refine gc_cases (I := fun s' => abs P s' = sstepOpt T (abs P s) (lin s (.gc c))) (fun hl => ?_) (fun hl => ?_)
  · simp [lin, hl, sstepOpt]
  · have hlin : lin s (.gc c) = some (.gc c) := by simp [lin, hl]
    rw [hlin]
    -- the specification's own guard: its threads have no more left to do than the implementation's
    have hguard : ((abs P s).threads.any fun th => th.todo.any fun r => decide (r.code = c)) = false := by
      cases hx : ((abs P s).threads.any fun th => th.todo.any fun r => decide (r.code = c)) with
      | false => rfl
      | true =>
        simp only [abs, List.any_map, List.any_eq_true, Function.comp, decide_eq_true_eq] at hx
        obtain ⟨th, hth, x, hx, hxc⟩ := hx
        rw [live_iff.mpr ⟨th, hth, x, absThread_todo_sub th x hx, hxc⟩] at hl
        cases hl
    show _ = sstep T (abs P s) (.gc c)
    simp only [sstep, hguard, Bool.false_eq_true, if_false]
    refine SState_ext ?_ rfl
    funext c' o
    simp only [abs]
    by_cases hc' : c' ∈ codes P
    · rw [if_pos hc', if_pos hc', table_ogc_valInj V (fun e he => (inv.keys e he).1) hc']
    · rw [if_neg hc', if_neg hc']
      split <;> rfl

/-- At a linearisation point the implementation has taken the atomic step's decision already. -/
theorem serves_spec (V : ValInj P) (h : Reach T P s) (hth : s.threads[t]? = some th) (htodo : th.todo = r :: rest)
    (ok : ActOK T s t th r eff nxt) {res : Option Factory} (hs : serves th.pc = some res) :
    answer T (abs P s) r = res ∧ (abs P (after s t th r eff nxt)).table = remember T (abs P s) r := by
  have htab := abs_table_after V h hth htodo ok
  obtain ⟨inv, g, herr⟩ := h
  have hpc := inv.pc t th r rest hth htodo
  have habs_tab : (abs P s).table r.code r.opts = table s r.code r.opts :=
    if_pos (mem_codes (head_mem inv.todo hth htodo))
  obtain ⟨pc, todo, results⟩ := th
  cases pc with
  | st2 f b =>
    -- the factory just converted is stored
    cases hs
    have htab0 : (abs P s).table r.code r.opts = none := habs_tab.trans ((table_of_ofind hpc.1 _).trans hpc.2)
    obtain ⟨ha, hr⟩ := serve_convert htab0 (g.pc t _ r rest hth htodo).2
    rw [ha, hr]
    exact ⟨rfl, htab⟩
  | inst f own =>
    -- the factory was found
    cases own <;> cases hs
    obtain ⟨ha, hr⟩ := serve_hit T (habs_tab.trans hpc)
    rw [ha, hr]
    exact ⟨rfl, htab⟩
  | rel res' own =>
    -- the conversion raised: nothing is remembered
    cases res' <;> cases hs
    obtain ⟨ha, hr⟩ := serve_raise (habs_tab.trans hpc) (herr.pc t _ r rest hth htodo)
    rw [ha, hr]
    exact ⟨rfl, htab⟩
  | _ => cases hs

/-- Forward simulation: every implementation step is a stutter or one atomic step. -/
theorem sim_step (V : ValInj P) (h : Reach T P s) (l : Label) :
    abs P (step T s l) = sstepOpt T (abs P s) (lin s l) := by
  cases l with
  | gc c => exact sim_gc V h.inv c
  | thr t =>
    refine stepThread_cases T (I := fun s' => abs P s' = sstepOpt T (abs P s) (lin s (.thr t)))
      (fun hth => by simp [lin, hth, sstepOpt]) (fun hth htodo => by simp [lin, hth, htodo, sstepOpt]) ?_
    intro th r rest eff nxt hth htodo hact
    rw [lin_thr hth htodo]
    have ok := hact.ok_of_inv h.inv hth htodo
    have hthr := hact.absThread_after (h.inv.pc t th r rest hth htodo) htodo
    cases hs : serves th.pc with
    | none =>
      rw [hs] at hthr
      refine abs_stutter hth ?_ hthr
      rw [abs_table_after V h hth htodo ok, stored_of_serves_none hs]
    | some res =>
      rw [hs] at hthr
      obtain ⟨hans, htab⟩ := serves_spec V h hth htodo ok hs
      show _ = sstep T (abs P s) (.serve t)
      rw [sstep_serve ((abs_get hth).trans (congrArg some (absThread_of_serves hs))) htodo, hans]
      exact SState_ext htab ((abs_after_threads ..).trans (by rw [hthr]; rfl))

theorem abs_init (progs : List (List (Request Opts))) :
    abs P (init progs : State Opts Factory) = sinit progs := by
  apply SState_ext
  · funext c o
    simp [abs, init, sinit, table, ofind]
  · simp [abs, init, sinit, absThread, linearised, Function.comp_def]

theorem refines_from (V : ValInj P) (sched : List Label) :
    ∀ {s : State Opts Factory}, Reach T P s → ∃ ls : List SLabel, srun T (abs P s) ls = abs P (run T s sched) := by
  induction sched with
  | nil => intro s _; exact ⟨[], rfl⟩
  | cons l rest ih =>
    intro s h
    obtain ⟨ls, hls⟩ := ih (Reach_step h l (stepSafe_of_valInj V h.inv l))
    rw [sim_step V h l] at hls
    cases hl : lin s l with
    | none =>
      rw [hl] at hls
      exact ⟨ls, hls⟩
    | some x =>
      rw [hl] at hls
      exact ⟨x :: ls, hls⟩

open Ideal in
theorem refines_ideal_from (V : ValInj P) (hS : SigCoherent P) (sched : List Label)
    {s : State Opts Factory} (h : Reach T P s) (htab : TabOK T P (abs P s)) :
    ∃ ts : List Tid, irun T (abs P s).threads ts = (abs P (run T s sched)).threads := by
  obtain ⟨ls, hls⟩ := refines_from V sched h
  exact ⟨ls.filterMap serveTid, by rw [← srun_ideal hS ls htab, hls]⟩

end

end Malt.Cache
