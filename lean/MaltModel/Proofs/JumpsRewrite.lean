import MaltModel.Sem.CoreLemmas
import MaltModel.Conv.JumpsSem
/- `rwS/rwB/rwH`: the semantic counterpart of `ConditionalReturnRewriter` (return_statements.py); no generated names are
involved, so the final states are equal. -/
namespace Malt.Sem.Jumps
open Malt.Sem

theorem rwB_cons_other (s : Stmt) (rest : List Stmt) (h : ∀ c t e, s ≠ .ifS c t e) :
    rwB (s :: rest) = ((rwS s).1 :: (rwB rest).1, (rwS s).2 || (rwB rest).2) := by
  cases s with
  | ifS c t e => exact absurd rfl (h c t e)
  | _ => simp [rwB]

theorem rwB_cons_returns (s : Stmt) (rest : List Stmt) : (rwB (s :: rest)).2 = ((rwS s).2 || (rwB rest).2) := by
  cases s with
  | ifS c t e =>
    simp only [rwB, rwS]
    split
    · rfl
    · split <;> rfl
  | _ => simp [rwB]

/-- All the block step needs of "definitely returns": what follows is never run. -/
theorem noNormal_all (X : Ext) : ∀ n,
    (∀ s σ, (rwS s).2 = true → Post (fun o _ => o ≠ .normal) (exec X n s σ)) ∧
    (∀ b σ, (rwB b).2 = true → Post (fun o _ => o ≠ .normal) (execB X n b σ))
  | 0 => ⟨fun _ _ _ => .none, fun _ _ _ => .none⟩
  | n+1 => by
    obtain ⟨ihS, ihB⟩ := noNormal_all X n
    refine ⟨fun s σ hd => ?_, fun b σ hd => ?_⟩
    · cases s with
      | ret e =>
        cases e with
        | none => exact .pure nofun
        | some e => rw [exec_ret]; exact valThen_post (fun _ _ => .pure nofun) fun _ _ => nofun
      | ifS c t e =>
        simp only [rwS, Bool.and_eq_true] at hd
        rw [exec_if]
        exact valThen_post (fun _ _ => ite_post (fun _ => ihB _ _ hd.1) fun _ => ihB _ _ hd.2) fun _ _ => nofun
      | withS tag b =>
        simp only [rwS] at hd
        rw [exec_with]
        exact bind_post (ihB _ _ hd) fun _ _ ho => .pure ho
      | _ => exact nomatch hd
    · cases b with
      | nil => exact nomatch hd
      | cons s rest =>
        rw [rwB_cons_returns, Bool.or_eq_true] at hd
        rw [execB_cons]
        rcases hd with hd | hd
        · exact andThen_post (ihS _ _ hd) (fun _ h => absurd rfl h) fun _ _ _ h => h
        · exact andThen_post (Q := fun _ _ => True) (fun _ _ _ => trivial) (fun τ _ => ihB _ τ hd) fun _ _ h _ => h

theorem noNormal_block (X : Ext) {n : Nat} {b : Block} {σ σ1 : St} {o : Out}
    (hd : (rwB b).2 = true) (h : execB X n b σ = some (o, σ1)) : o ≠ .normal :=
  (noNormal_all X n).2 b σ hd o σ1 h

theorem rwH_find (ex : Exc) (hs : List (Nat × Block)) :
    (findHandler hs ex = none → findHandler (rwH hs) ex = none) ∧
    (∀ hb, findHandler hs ex = some hb → ∃ hb', findHandler (rwH hs) ex = some hb' ∧ hb' = (rwB hb).1) :=
  findHandler_lower (f := rwH) (R := fun b b' => b' = (rwB b).1) rfl (fun t b hs => ⟨_, by simp only [rwH], rfl⟩) ex hs

section
variable (X : Ext)

def SameRunS (n : Nat) : Prop := ∀ s σ r, exec X n s σ = some r → ∃ m, exec X m (rwS s).1 σ = some r
def SameRunB (n : Nat) : Prop := ∀ b σ r, execB X n b σ = some r → ∃ m, execB X m (rwB b).1 σ = some r
def SameRunF (n : Nat) : Prop := ∀ x ex b items σ r, execFor X n x ex b items σ = some r →
  ∃ m, execFor X m x ex (rwB b).1 items σ = some r

theorem sameRunB_step (n : Nat) (hS : SameRunS X n) (hB : SameRunB X n) : SameRunB X (n+1) := by
  intro b σ r h
  cases b with
  | nil => exact ⟨n + 1, by simpa [rwB] using h⟩
  | cons s rest =>
    obtain ⟨os, σs, hs, hcase⟩ := execB_cons_inv h
    have hplain : ∃ m, execB X m ((rwS s).1 :: (rwB rest).1) σ = some r := by
      obtain ⟨m1, hx1⟩ := hS s σ _ hs
      rcases hcase with ⟨hn, hr⟩ | ⟨hn, hr⟩
      · subst hn
        obtain ⟨m2, hx2⟩ := hB rest σs r hr
        refine ⟨max m1 m2 + 1, ?_⟩
        rw [execB_cons_normal (exec_mono X hx1 (Nat.le_max_left _ _))]
        exact execB_mono X hx2 (Nat.le_max_right _ _)
      · subst hr
        exact ⟨m1 + 1, execB_cons_abrupt hx1 hn⟩
    by_cases hif : ∃ c t e, s = .ifS c t e
    · obtain ⟨c, t, e, rfl⟩ := hif
      by_cases hd : (rwB t).2 = true ∨ (rwB e).2 = true
      · -- one branch definitely returns: the rest of the block moves into the other one
        cases n with
        | zero => exact nomatch hs
        | succ n' =>
          have happ : ∀ (A : Block) (τ : St), execB X n' A τ = some (os, σs) →
              ∃ m, execB X m ((rwB A).1 ++ (rwB rest).1) τ = some r := by
            intro A τ hA
            obtain ⟨m1, hx1⟩ := hB A τ _ (execB_mono X hA (Nat.le_succ _))
            rcases hcase with ⟨rfl, hr'⟩ | ⟨hn, rfl⟩
            · obtain ⟨m2, hx2⟩ := hB rest σs r hr'
              exact ⟨m1 + m2, execB_append hx1 hx2⟩
            · exact ⟨m1, execB_append_abrupt _ hx1 hn⟩
          have hret : ∀ (A : Block) (τ : St), (rwB A).2 = true → execB X n' A τ = some (os, σs) →
              ∃ m, execB X m (rwB A).1 τ = some r := by
            intro A τ hdA hA
            rcases hcase with ⟨rfl, _⟩ | ⟨_, rfl⟩
            · exact absurd rfl (noNormal_block X hdA hA)
            · exact hB A τ _ (execB_mono X hA (Nat.le_succ _))
          have hrun : ∀ (A' B' : Block), (∀ τ, execB X n' t τ = some (os, σs) → ∃ m, execB X m A' τ = some r) →
              (∀ τ, execB X n' e τ = some (os, σs) → ∃ m, execB X m B' τ = some r) →
              ∃ m, execB X m [.ifS c A' B'] σ = some r := by
            intro A' B' hA hE
            refine exec_if_cases hs (fun ex τ hv he => ?_) (fun v τ hv htv hk => ?_) (fun v τ hv htv hk => ?_)
            · cases he
              rcases hcase with ⟨hn, _⟩ | ⟨_, rfl⟩
              · cases hn
              · exact ⟨2, execB_singleton (n := 1) (exec_if_err hv)⟩
            · obtain ⟨m, hx⟩ := hA τ hk
              exact ⟨m + 2, execB_singleton (n := m + 1) ((exec_if_true hv htv).trans hx)⟩
            · obtain ⟨m, hx⟩ := hE τ hk
              exact ⟨m + 2, execB_singleton (n := m + 1) ((exec_if_false hv htv).trans hx)⟩
          simp only [rwB]
          by_cases hdt : (rwB t).2 = true
          · rw [if_pos hdt]
            exact hrun _ _ (fun τ => hret t τ hdt) (fun τ => happ e τ)
          · rw [if_neg hdt, if_pos (hd.resolve_left hdt)]
            exact hrun _ _ (fun τ => happ t τ) (fun τ => hret e τ (hd.resolve_left hdt))
      · have hdt : ¬ (rwB t).2 = true := fun h => hd (.inl h)
        have hde : ¬ (rwB e).2 = true := fun h => hd (.inr h)
        simp only [rwB]
        rw [if_neg hdt, if_neg hde]
        simpa [rwS] using hplain
    · rw [rwB_cons_other s rest (fun c t e he => hif ⟨c, t, e, he⟩)]
      exact hplain

theorem sameRun_extra (n : Nat) (hF : SameRunF X n) (x : Name) (ex : Option Expr) (b : Block) (items : List Val)
    (τ : St) (r : Out × St) (hw : extraThen (evalE X) ex (execFor X n x ex b items) τ = some r) :
    ∃ m2, extraThen (evalE X) ex (execFor X m2 x ex (rwB b).1 items) τ = some r := by
  cases ex with
  | none => exact hF x none b items τ r hw
  | some t =>
    refine valThen_cases hw (fun tv υ hr2 hk => ?_) (fun e υ hr2 he => ⟨0, by rw [extraThen, valThen_err hr2, he]⟩)
    by_cases htv : truthy tv = true
    · rw [if_pos htv] at hk
      obtain ⟨m2, hx2⟩ := hF x (some t) b items υ r hk
      exact ⟨m2, by rw [extraThen, valThen_ok hr2, if_pos htv]; exact hx2⟩
    · rw [if_neg htv] at hk
      exact ⟨0, by rw [extraThen, valThen_ok hr2, if_neg htv]; exact hk⟩

theorem sameRunF_step (n : Nat) (hB : SameRunB X n) (hF : SameRunF X n) : SameRunF X (n+1) := by
  intro x ex b items σ r h
  cases items with
  | nil => exact ⟨1, by simpa [execFor] using h⟩
  | cons v items =>
    rw [execFor_cons] at h
    obtain ⟨ob, τ, hb, h⟩ := loopThen_inv h
    obtain ⟨m1, hx1⟩ := hB b _ _ hb
    obtain ⟨o, σ1⟩ := r
    refine loopThen_cases h (fun hk hgo => ?_) (fun hs hstop => ⟨m1 + 1, by rw [execFor_step hx1, hstop, hs]⟩)
    obtain ⟨m2, hx2⟩ := sameRun_extra X n hF x ex b items τ (o, σ1) hk
    refine ⟨max m1 m2 + 1, ?_⟩
    rw [execFor_step (execB_mono X hx1 (Nat.le_max_left _ _)), hgo]
    exact extraThen_mono X hx2 (Nat.le_max_right _ _)

theorem sameRunS_step (n : Nat) (hS : SameRunS X n) (hB : SameRunB X n) (hF : SameRunF X n) : SameRunS X (n+1) := by
  intro s σ r h
  cases s with
  | assign _ _ | expr _ | brk | cont | pass | raise _ | ret _ => exact ⟨n + 1, h⟩
  | ifS c t e =>
    simp only [rwS]
    refine exec_if_cases h (fun ex τ hv he => ⟨1, by rw [exec_if_err hv, he]⟩) (fun v τ hv htv hk => ?_)
      (fun v τ hv htv hk => ?_)
    · obtain ⟨m, hx⟩ := hB t τ r hk
      exact ⟨m + 1, (exec_if_true hv htv).trans hx⟩
    · obtain ⟨m, hx⟩ := hB e τ r hk
      exact ⟨m + 1, (exec_if_false hv htv).trans hx⟩
  | whileS c b =>
    simp only [rwS]
    obtain ⟨o, σ1⟩ := r
    refine exec_while_cases h (fun ex τ hr he => ⟨1, by rw [exec_while_err hr, he]⟩)
      (fun v τ hr hv he => ⟨1, by rw [exec_while_false hr hv, he]⟩) (fun v τ ob τ1 hr hv hb hl => ?_)
    obtain ⟨m1, hx1⟩ := hB b τ _ hb
    refine loopThen_cases hl (fun hk hgo => ?_) (fun hs hstop => ⟨m1 + 1, by rw [exec_while_step hr hv hx1, hstop, hs]⟩)
    obtain ⟨m2, hx2⟩ := hS (.whileS c b) τ1 (o, σ1) hk
    refine ⟨max m1 m2 + 1, ?_⟩
    rw [exec_while_step hr hv (execB_mono X hx1 (Nat.le_max_left _ _)), hgo]
    exact exec_mono X hx2 (Nat.le_max_right _ _)
  | forS x it ex b =>
    simp only [rwS]
    refine exec_for_cases h (fun e τ hr he => ⟨1, by rw [exec_for_err hr, he]⟩)
      (fun v τ e hr hit he => ⟨1, by rw [exec_for_bad hr hit, he]⟩) (fun v τ items hr hit hk => ?_)
    obtain ⟨m2, hx2⟩ := sameRun_extra X n hF x ex b items τ r hk
    exact ⟨m2 + 1, (exec_for_go hr hit).trans hx2⟩
  | tryS body hs fin =>
    simp only [rwS]
    obtain ⟨⟨ob, τ⟩, ⟨oa, τa⟩, hb, ha, hfin⟩ := exec_try_inv h
    obtain ⟨m1, hx1⟩ := hB body σ _ hb
    have ha' : ∃ m2, handleThen (findHandler (rwH hs)) (execB X m2) (ob, τ) = some (oa, τa) := by
      refine handleThen_cases ha (fun ex hbk he hf hx => ?_) (fun hn hr => ?_)
      · obtain ⟨_, hfind, rfl⟩ := (rwH_find ex hs).2 hbk hf
        obtain ⟨m2, hx2⟩ := hB hbk τ _ hx
        exact ⟨m2, by rw [he, handleThen_caught _ hfind]; exact hx2⟩
      · exact ⟨0, by rw [hr, handleThen_pass _ fun ex he => (rwH_find ex hs).1 (hn ex he)]⟩
    obtain ⟨m2, hx2⟩ := ha'
    obtain ⟨of, σf, hf, hcase⟩ := finallyThen_inv hfin
    obtain ⟨m3, hx3⟩ := hB fin τa _ hf
    have hfin' : finallyThen (execB X m3 (rwB fin).1) (oa, τa) = some r := by
      rcases hcase with ⟨hn, rfl⟩ | ⟨hn, rfl⟩
      · subst hn; exact finallyThen_of_normal hx3
      · exact finallyThen_of_abrupt hx3 hn
    exact ⟨_, exec_try_of X hx1 hx2 hfin'⟩
  | withS tag body =>
    simp only [rwS]
    rw [exec_with] at h
    obtain ⟨rb, hb, hr⟩ := Option.bind_eq_some_iff.mp h
    obtain ⟨m, hx⟩ := hB body _ _ hb
    exact ⟨m + 1, by rw [exec_with, hx]; exact hr⟩

theorem sameRun_all : ∀ n, SameRunS X n ∧ SameRunB X n ∧ SameRunF X n := by
  intro n
  induction n with
  | zero =>
    exact ⟨fun _ _ _ h => (nomatch h), fun _ _ _ h => (nomatch h), fun _ _ _ _ _ _ h => (nomatch h)⟩
  | succ n ih =>
    obtain ⟨hS, hB, hF⟩ := ih
    exact ⟨sameRunS_step X n hS hB hF, sameRunB_step X n hS hB, sameRunF_step X n hB hF⟩

theorem rewriteReturns_correct (body : Block) (n : Nat) (σ : St) (r : Out × St)
    (h : execB X n body σ = some r) : ∃ m, execB X m (rewriteReturns body) σ = some r :=
  (sameRun_all X n).2.1 body σ r h

end

end Malt.Sem.Jumps
