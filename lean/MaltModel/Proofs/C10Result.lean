import MaltModel.Proofs.C10Step
/-!
The invariant `G`, which needs no hypothesis on the request history: every factory that sits in a bucket, is carried
by a thread, or was returned, is the conversion `T c o sig` of a code object `c` of the value it is filed under / was
requested for, under the options `o` it is filed under / was requested with, computed against the namespace view
`sig` of a requester of `c` (`Served`).
-/
namespace Malt.Cache

section
variable {Opts Factory : Type} [BEq Opts] [Hashable Opts] [LawfulBEq Opts]

variable (T : Code → Opts → Nat → Option Factory) (P : List (Request Opts))

/-- `f` is the conversion of code value `v` under options `o`, computed against the namespace view of
some requester (in the history `P`) of an equal code object with equal options. -/
def Served (v : Nat) (o : Opts) (f : Factory) : Prop :=
  ∃ r0 ∈ P, r0.code.val = v ∧ r0.opts = o ∧ T r0.code o r0.env.sig = some f

/-- A factory converted and not yet stored is the thread's own conversion; one about to be returned may come from the
cache. -/
def PcG (s : State Opts Factory) (r : Request Opts) : Pc Factory → Prop
  | .get2 _ b => tagAt s b = some r.code.val
  | .st2 f b => tagAt s b = some r.code.val ∧ T r.code r.opts r.env.sig = some f
  | .st1 f => T r.code r.opts r.env.sig = some f
  | .st1c f => T r.code r.opts r.env.sig = some f
  | .inst f _ => Served T P r.code.val r.opts f
  | .rel (some f) _ => Served T P r.code.val r.opts f
  | _ => True

structure G (s : State Opts Factory) : Prop where
  todo : ∀ th ∈ s.threads, ∀ r ∈ th.todo, r ∈ P
  outer : ∀ e ∈ s.outer, tagAt s e.2 = some e.1.val
  heap : ∀ (b v : Nat), tagAt s b = some v → ∀ e ∈ bucketAt s b, Served T P v e.1 e.2
  pc : AtPc (PcG T P) s
  res : ∀ e ∈ finished s, ∀ f, e.2 = some f → Served T P e.1.code.val e.1.opts f
  resP : ∀ e ∈ finished s, e.1 ∈ P

variable {T P}

variable {s : State Opts Factory} {t : Tid} {th : Thread Opts Factory} {r : Request Opts}
  {rest : List (Request Opts)} {eff : Eff Opts Factory} {nxt : Next Factory}

theorem PcG_applyEff (t : Tid) (eff : Eff Opts Factory) {pc : Pc Factory} (hp : PcG T P s r pc) :
    PcG T P (applyEff s t eff) r pc := by
  cases pc with
  | get2 lk b => exact tagAt_mono t eff hp
  | st2 f b => exact ⟨tagAt_mono t eff hp.1, hp.2⟩
  | rel res own => cases res <;> exact hp
  | _ => exact hp

theorem G.find (g : G T P s) {c : Code} {b : Nat} (h : ofind c s.outer = some b) : tagAt s b = some c.val := by
  obtain ⟨k, hm, hv⟩ := ofind_mem h
  rw [← hv]
  exact g.outer _ hm

theorem Act.goto_PcG (g : G T P s) (hrP : r ∈ P) {pc pc' : Pc Factory} (hact : Act T s t r pc eff (.goto pc'))
    (hpc : PcG T P s r pc) : PcG T P (applyEff s t eff) r pc' := by
  cases hact with
  | get1_hit ho => exact g.find ho
  | get1c => exact tagAt_create_new s t r.code
  | get2_hit hf => exact g.heap _ _ hpc _ (bfind_mem hf)
  | get2_hit_locked hf => exact g.heap _ _ hpc _ (bfind_mem hf)
  | xform_ok hT => exact hT
  | st1_hit ho => exact ⟨g.find ho, hpc⟩
  | st1_miss => exact hpc
  | st1c => exact ⟨tagAt_create_new s t r.code, hpc⟩
  | st2 => exact ⟨r, hrP, rfl, rfl, hpc.2⟩
  | rel_some => exact hpc
  | _ => trivial

theorem Act.finish_PcG {pc : Pc Factory} {f : Factory} (hact : Act T s t r pc eff (.finish (some f)))
    (hpc : PcG T P s r pc) : Served T P r.code.val r.opts f := by
  cases hact; exact hpc

theorem Act.store_PcG (hrP : r ∈ P) {pc : Pc Factory} {b : Nat} {o : Opts} {f : Factory}
    (hact : Act T s t r pc (.store b o f) nxt) (hpc : PcG T P s r pc) :
    Served T P r.code.val o f ∧ tagAt s b = some r.code.val := by
  cases hact; exact ⟨⟨r, hrP, rfl, rfl, hpc.2⟩, hpc.1⟩

theorem G_init (T : Code → Opts → Nat → Option Factory) (progs : List (List (Request Opts))) (hP : ∀ p ∈ progs, ∀ r ∈ p, r ∈ P) :
    G T P (init progs : State Opts Factory) where
  todo := init_todo hP
  outer := nofun
  heap _ _ _ _ := nofun
  pc := init_pc (fun _ => trivial)
  res := init_results
  resP := init_results

theorem G_after (g : G T P s) (hth : s.threads[t]? = some th) (htodo : th.todo = r :: rest)
    (hact : Act T s t r th.pc eff nxt) : G T P (after s t th r eff nxt) := by
  have hpc := g.pc t th r rest hth htodo
  have hrP : r ∈ P := head_mem g.todo hth htodo
  exact {
    todo := after_todo hth g.todo
    outer := by
      intro e he
      cases eff with
      | create c =>
        rcases mem_oset he with h | ⟨h2, hv⟩
        · exact tagAt_mono t _ (g.outer e h)
        · rw [h2, hv]; exact tagAt_create_new s t c
      | _ => exact tagAt_mono t _ (g.outer e he)
    heap := by
      intro b v hb e he
      rcases mem_bucketAt_applyEff he with h | rfl
      · exact g.heap b v ((tagAt_applyEff t _ (lt_of_mem_bucketAt h)).symm.trans hb) e h
      · -- the entry just stored: the thread's own conversion, filed in the bucket of its own code value
        obtain ⟨hs, h1⟩ := hact.store_PcG hrP hpc
        cases (tagAt_mono t _ h1).symm.trans hb
        exact hs
    pc := after_pc (Q := PcG T P) hth htodo g.pc (fun _ _ _ _ _ => PcG_applyEff t eff)
      (fun pc' h => (h ▸ hact).goto_PcG g hrP hpc) (fun _ => trivial)
    res := by
      refine after_results hth g.res ?_
      rintro res rfl f (rfl : res = some f)
      exact hact.finish_PcG hpc
    resP := after_results (R := fun e => e.1 ∈ P) hth g.resP (fun _ _ => hrP) }

theorem G_step (g : G T P s) (l : Label) : G T P (step T s l) :=
  step_ind (I := fun _ s' => G T P s') (fun _ => g) (G_after g)
    (fun _ => ⟨g.todo, fun e he => g.outer e (mem_ogc.mp he).1, g.heap, g.pc, g.res, g.resP⟩) l

theorem G_run (g : G T P s) (sched : List Label) : G T P (run T s sched) := by
  induction sched generalizing s with
  | nil => exact g
  | cons l ls ih => exact ih (G_step g l)

end

end Malt.Cache
