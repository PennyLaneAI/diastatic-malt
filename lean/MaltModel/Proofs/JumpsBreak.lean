import MaltModel.Proofs.JumpsCommon
/-
The break lowering `brkS/brkB/brkH` (Conv/JumpsSem.lean), by induction on the statement along its definition.  Specific to
this pass are `break` itself, the initialisation of a loop's flag in front of the loop, and the no-op `(flag,)` at the head
of a lowered `for` body; the guarded loops are `while_guarded` / `exec_for_guarded`.
-/
namespace Malt.Sem.Jumps
open Malt.Sem

/-- `break` becomes `flag = True; continue`, `flag` being that of the loop at `pc`. -/
def brkJ (gen : Gen) (pc : List Nat) : Jump := flagJ gen pc .brk .cont (.inl rfl) (.inr rfl)

theorem brkS_jumpFree (gen : Gen) (cur : Name) : ∀ (p : List Nat) (s : Stmt), jumpFreeS s = true →
    (brkS gen cur p s).2 = false :=
  fun p s h => (brkS_hit gen cur p s).trans (jumpFreeS_esc s h).1

theorem brkB_jumpFree (gen : Gen) (cur : Name) (p : List Nat) (b : List Stmt) (h : jumpFreeB b = true) :
    (brkB gen cur p b).2 = false :=
  (brkB_hit gen cur p b).trans (jumpFreeB_esc b h).1

theorem brkH_jumpFree (gen : Gen) (cur : Name) (p : List Nat) (hs : List (Nat × List Stmt))
    (h : jumpFreeH hs = true) : (brkH gen cur p hs).2 = false :=
  (brkH_hit gen cur p hs).trans (jumpFreeH_esc hs h).1

section
variable (gen : Gen) (X : Ext) (inj : ∀ p q : List Nat, gen p = gen q → p = q)
include inj

/-- The lowered loop `l'` at `p`, after the initialisation of its flag if it is guarded (`gd`), seen from the loop at `pc`
around it: nothing has happened to the flag of that loop or to the flags around it. -/
theorem brk_loop {l l' : Stmt} {pc p : List Nat} {hit : Bool} (gd : Bool) (hpc : pc.length < p.length)
    (hm : mayBrkS l = false)
    (hl : ∀ n, LoopSim (brkJ gen p) hit gd (exec X · l') (exec X n l)) :
    Sim X (brkJ gen pc) false false ((if gd then [.assign (gen p) cFalse] else []) ++ [l']) (exec X · l) := by
  intro n σ σ' o σ1 hag _ h
  have hob : o ≠ .brk := exec_ne_brk X h hm
  have hF : ∀ x, (brkJ gen pc).F x → OuterFlags gen p x := fun x hx => ⟨pc, hpc, hx⟩
  cases gd with
  | true =>
    obtain ⟨m, σ1', o', hx, hag1, hp, hfr⟩ := hl n σ (σ'.set (gen p) (.int 0)) o σ1
      (hag.setHidden (Hid.gen gen p) _) (fun _ => St.set_env_eq _ _ _) h
    rw [hp.out_eq (fun _ h => h) hob] at hx
    exact SimTo.same ((execB_cons_normal (exec_assign_const X (gen p) (.int 0) σ' m)).trans (execB_singleton hx))
      hag1 hob ((OuterFlags.set inj (Nat.le_refl _) σ' _).trans hfr) hF fun _ => OuterFlags.mono (Nat.le_of_lt hpc)
  | false =>
    obtain ⟨m, σ1', o', hx, hag1, hp, hfr⟩ := hl n σ σ' o σ1 hag nofun h
    rw [hp.out_eq (fun _ h => h) hob] at hx
    exact SimTo.same (execB_singleton hx) hag1 hob hfr hF fun _ => OuterFlags.mono (Nat.le_of_lt hpc)

/-- `pc`: path of the enclosing loop, whose flag `gen pc` is the current one; `p`: path of the statement, longer than `pc`
(the body of the loop is a block with `p = pc`, hence `≤` for blocks). -/
theorem brk_sim :
    (∀ (s : Stmt) (pc p : List Nat), CleanS (Hid gen) s → finOKS s = true → noExtraS s = true → pc.length < p.length →
      Sim X (brkJ gen pc) (brkS gen (gen pc) p s).2 false (brkS gen (gen pc) p s).1
        (exec X · s)) ∧
    (∀ (b : Block) (pc p : List Nat), CleanB (Hid gen) b → finOKB b = true → noExtraB b = true → pc.length ≤ p.length →
      Sim X (brkJ gen pc) (brkB gen (gen pc) p b).2 false (brkB gen (gen pc) p b).1
        (execB X · b)) ∧
    (∀ (hs : List (Nat × Block)) (pc p : List Nat), CleanH (Hid gen) hs → finOKH hs = true → noExtraH hs = true →
      pc.length ≤ p.length →
      SimH X (brkJ gen pc) (brkH gen (gen pc) p hs).2 false (brkH gen (gen pc) p hs).1 hs) := by
  have hatom : ∀ {s : Stmt} {pc : List Nat}, CleanS (Hid gen) s → mayBrkS s = false →
      Sim X (brkJ gen pc) false false [s] (exec X · s) :=
    fun hc hm => Sim.atomic hc fun h => exec_ne_brk X h hm
  have hcont : ∀ {p : List Nat}, ¬ (brkJ gen p).is .cont := nofun
  apply stmt_induct
  case brk => exact fun _ _ _ _ _ _ => flagJ_jump X inj (k := 3) (fun _ _ => rfl) fun _ => rfl
  case assign => exact fun _ _ _ _ hc _ _ _ => hatom hc rfl
  case expr | ret | raise => exact fun _ _ _ hc _ _ _ => hatom hc rfl
  case pass | cont => exact fun _ _ hc _ _ _ => hatom hc rfl
  case ifS =>
    intro c t e iht ihe pc p hc hf hnx hpc
    simp only [finOKS, noExtraS, Bool.and_eq_true] at hf hnx
    exact Sim.if_ hc.1 (iht pc (0 :: p) hc.2.1 hf.1 hnx.1 (le_subpath hpc _))
      (ihe pc (1 :: p) hc.2.2 hf.2 hnx.2 (le_subpath hpc _))
  case whileS =>
    intro c b ih pc p hc hf hnx hpc
    have hlow : brkS gen (gen pc) p (.whileS c b) =
        ((if (brkB gen (gen p) p b).2 then [.assign (gen p) cFalse] else []) ++
          [.whileS (retTest (gen p) (brkB gen (gen p) p b).2 c) (brkB gen (gen p) p b).1], false) := by
      rw [brkS]; cases (brkB gen (gen p) p b).2 <;> rfl
    rw [hlow]
    exact brk_loop gen X inj _ hpc rfl
      (while_guarded ((ih p p hc.2 hf hnx (Nat.le_refl _)).mono id nofun) hc.1 id hcont)
  case forS =>
    intro x it ex b ih pc p hc hf hnx hpc
    obtain ⟨hx, hcit, hcex, hcb⟩ := hc
    simp only [noExtraS, Bool.and_eq_true, Option.isNone_iff_eq_none] at hnx
    have hB : Sim X (brkJ gen p) (brkB gen (gen p) p b).2 (brkB gen (gen p) p b).2 (brkB gen (gen p) p b).1
        (execB X · b) := (ih p p hcb hf hnx.2 (Nat.le_refl _)).mono id nofun
    by_cases hu : (brkB gen (gen p) p b).2 = true
    · have hlow : brkS gen (gen pc) p (.forS x it ex b) = ([.assign (gen p) cFalse,
          .forS x it (some (.not (.var (gen p)))) (.expr (.var (gen p)) :: (brkB gen (gen p) p b).1)], false) := by
        rw [brkS, if_pos hu]
      rw [hlow]
      -- `(flag,)` in front of the lowered body evaluates without effect: the flag is bound
      have hB' : Sim X (brkJ gen p) (brkB gen (gen p) p b).2 (brkB gen (gen p) p b).2
          (.expr (.var (gen p)) :: (brkB gen (gen p) p b).1) (execB X · b) := by
        intro n σ σ' o σ1 hag hpre h
        obtain ⟨m, σ1', o', hx1, rest⟩ := hB n σ σ' o σ1 hag hpre h
        have hflag : σ'.env (gen p) = some (.int 0) := hpre hu
        have he : exec X (m + 1) (.expr (.var (gen p))) σ' = some (.normal, σ') := by
          rw [exec_expr, evalE_var, hflag]; rfl
        exact ⟨m + 2, σ1', o', (execB_cons_normal he).trans (execB_mono X hx1 (Nat.le_succ _)), rest⟩
      exact brk_loop gen X inj true hpc rfl fun n σ σ' o σ1 hag hpre h =>
        exec_for_guarded (gd := true) (ex := none) hB' hx hcit trivial (fun _ => rfl) hcont n σ σ' o σ1 hag hpre
          (hnx.1 ▸ h)  -- the lowering replaces the extra test by `not flag`: there must be none
    · have hlow : brkS gen (gen pc) p (.forS x it ex b) = ([.forS x it ex (brkB gen (gen p) p b).1], false) := by
        rw [brkS, if_neg hu]
      rw [hlow]
      exact brk_loop gen X inj false hpc rfl
        (exec_for_guarded (gd := false) hB hx hcit hcex (fun h => absurd h hu) hcont)
  case tryS =>
    intro body hs fin ihb ihh ihf pc p hc hf hnx hpc
    simp only [noExtraS, Bool.and_eq_true] at hnx
    obtain ⟨hfb, hfh, hff, hesc, hq⟩ := finOKS_try.mp hf
    exact Sim.try_ (ihb pc (0 :: p) hc.1 hfb hnx.1.1 (le_subpath hpc 0)) (ihh pc (1 :: p) hc.2.1 hfh hnx.1.2 (le_subpath hpc 1))
      (ihf pc (2 :: p) hc.2.2 hff hnx.2 (le_subpath hpc 2))
      ((brkB_hit gen (gen pc) (2 :: p) fin).trans (escFreeB_iff.mp hesc).1) rfl hq
      (brkB_jumpFree gen (gen pc) _ body) (brkH_jumpFree gen (gen pc) _ hs)
  case withS =>
    intro tag body ih pc p hc hf hnx hpc
    exact Sim.with_ (ih pc (0 :: p) hc hf hnx (le_subpath hpc _))
  case nil => exact fun _ _ _ _ _ _ => Sim.nil
  case cons =>
    intro s r ihs ihr pc p hc hf hnx hpc
    simp only [finOKB, noExtraB, Bool.and_eq_true] at hf hnx
    exact Sim.seq (ihs pc (r.length :: p) hc.1 hf.1 hnx.1 (Nat.lt_succ_of_le hpc)) (ihr pc p hc.2 hf.2 hnx.2 hpc) id id
      nofun
  case hnil => exact fun _ _ _ _ _ _ => SimH.nil
  case hcons =>
    intro t b r ihb ihr pc p hc hf hnx hpc
    simp only [finOKH, noExtraH, Bool.and_eq_true] at hf hnx
    exact SimH.cons (ihb pc (r.length :: p) hc.1 hf.1 hnx.1 (Nat.le_succ_of_le hpc)) (ihr pc p hc.2 hf.2 hnx.2 hpc)

end

/-- Differs from the identity only for a `break` outside a loop. -/
def brkOut : Out → Out
  | .brk => .cont
  | o => o

theorem brkOut_of_ne {o : Out} (h : o ≠ .brk) : brkOut o = o := by
  cases o <;> first | rfl | exact absurd rfl h

/-- `gen []` with path `[0]` stands for the (non-existent) loop around a function body. -/
theorem lowerBreak_correct (gen : Gen) (X : Ext) (inj : ∀ p q : List Nat, gen p = gen q → p = q) (body : Block)
    (hclean : CleanB (Hid gen) body) (hfrag : finOKB body = true) (hnx : noExtraB body = true)
    (n : Nat) (σ : St) (o : Out) (σ1 : St) (h : execB X n body σ = some (o, σ1)) :
    ∃ m σ1', execB X m (lowerBreak gen body) σ = some (brkOut o, σ1') ∧ Agree (Hid gen) σ1 σ1' := by
  obtain ⟨m, σ1', o', hx, hag, hp, _⟩ :=
    (brk_sim gen X inj).2.1 body [] [0] hclean hfrag hnx (Nat.zero_le _) n σ σ o σ1 (Agree.refl _ σ) nofun h
  refine ⟨m, σ1', ?_, hag⟩
  have : o' = brkOut o := by
    by_cases hb : o = .brk
    · subst hb; exact (hp.of_is rfl).2.1
    · rw [(hp.of_not hb).1, brkOut_of_ne hb]
  rw [← this]; exact hx

end Malt.Sem.Jumps
