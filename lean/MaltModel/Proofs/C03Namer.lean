import MaltModel.Props.C11
/-! `namer_fresh` and `namer_distinct` of Props/C11.lean in projection form. -/
namespace Malt.Naming
open Malt.Props.C11

theorem newSymbol_globalNs (nm : Namer) (root : String) (reserved : List String) :
    (newSymbol nm root reserved).2.globalNs = nm.globalNs :=
  (namer_monotone nm (newSymbol nm root reserved).2 root reserved (newSymbol nm root reserved).1 (Prod.eta _).symm).2.1

-- keeps unification from unfolding the namer's search
attribute [local irreducible] newSymbol

/-- `runCalls` with projections: it unfolds to the very terms `emitIf`, `emitWhile`, `emitFor` contain. -/
def draws (res : List String) : Namer → List String → List String
  | _, [] => []
  | nm, r :: rs => (newSymbol nm r res).1 :: draws res (newSymbol nm r res).2 rs

theorem draws_eq_runCalls (res : List String) : ∀ (roots : List String) (nm : Namer),
    draws res nm roots = (runCalls nm (roots.map fun r => ⟨r, res⟩)).1
  | [], _ => rfl
  | _ :: rs, _ => congrArg (_ :: ·) (draws_eq_runCalls res rs _)

theorem draws_nodup (res : List String) (nm : Namer) (roots : List String) : (draws res nm roots).Nodup :=
  draws_eq_runCalls res roots nm ▸ (namer_distinct nm _).1

theorem draws_avoid (res : List String) : ∀ (roots : List String) (nm : Namer), ∀ x ∈ draws res nm roots, x ∉ res
  | r :: rs, nm, x, hx => by
      rcases List.mem_cons.mp hx with rfl | hx
      · exact (namer_fresh nm _ r res _ (Prod.eta _).symm).2.1
      · exact draws_avoid res rs _ x hx

end Malt.Naming
