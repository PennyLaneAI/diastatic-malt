import MaltModel.Conv.DirectivesSpec
/-! Invariant of the model of `DirectivesTransformer` (`Conv/Directives.lean`): while visiting, the loop on top of the
`_LoopScope` stack stays the same and every annotation added comes from a `set_loop_options` statement placed in the
innermost enclosing loop. -/
namespace Malt.Conv.DirectivesSpec
open Malt.Py Malt.Conv Malt.Conv.Directives

theorem FromSource.mono {p q : List Placed} (h : ∀ x ∈ p, x ∈ q) {a} (ha : FromSource p a) : FromSource q a := by
  obtain ⟨h1, as, ks, hm, he⟩ := ha
  exact ⟨h1, as, ks, h _ hm, he⟩

def Inv (top : Nat) (rest : List (Nat × Nat)) (placed : List Placed) (st st' : St) : Prop :=
  (∃ c', st'.stack = (top, c') :: rest) ∧ ∀ a ∈ st'.annos, a ∈ st.annos ∨ FromSource placed a

theorem Inv.refl {top c rest placed} {st : St} (h : st.stack = (top, c) :: rest) : Inv top rest placed st st :=
  ⟨⟨c, h⟩, fun _ ha => .inl ha⟩

theorem Inv.of_eq {top rest p} {st st' : St} {c} (hs : st.stack = (top, c) :: rest) (h : st' = st) : Inv top rest p st st' := by
  subst h; exact Inv.refl hs

theorem Inv.weaken {top rest p q} {st st' : St} (h : Inv top rest p st st') (hpq : ∀ x ∈ p, x ∈ q) : Inv top rest q st st' :=
  ⟨h.1, fun a ha => (h.2 a ha).imp id (fun x => x.mono hpq)⟩

theorem Inv.seq {top rest p q} {st st1 st2 : St} (h1 : Inv top rest p st st1)
    (h2 : ∀ c1, st1.stack = (top, c1) :: rest → Inv top rest q st1 st2) : Inv top rest (p ++ q) st st2 := by
  obtain ⟨c1, hs1⟩ := h1.1
  have h1 := h1.weaken (q := p ++ q) fun x hx => List.mem_append_left _ hx
  have h2 := (h2 c1 hs1).weaken (q := p ++ q) fun x hx => List.mem_append_right _ hx
  exact ⟨h2.1, fun a ha => (h2.2 a ha).elim (h1.2 a) .inr⟩

theorem Inv.loop {top c rest i p q} {st st1 st2 : St}
    (h1 : Inv i ((top, c) :: rest) p { st with stack := (i, 0) :: st.stack } st1)
    (h2 : ∀ c1, st1.stack = (i, c1) :: (top, c) :: rest → Inv i ((top, c) :: rest) q st1 st2) :
    Inv top rest (p ++ q) st { st2 with stack := st2.stack.tail } := by
  obtain ⟨⟨c2, hs2⟩, ha⟩ := h1.seq h2
  exact ⟨⟨c, by rw [hs2]; rfl⟩, ha⟩

theorem Inv.of_bump {top c rest p} {st st' : St} (hs : st.stack = (top, c) :: rest)
    (h : st.bump.stack = (top, c + 1) :: rest → Inv top rest p st.bump st') : Inv top rest p st st' := by
  unfold St.bump at h; rw [hs] at h; exact h rfl

theorem directive_inv {env : Env} {i : Nat} {v : Expr} {st st' : St} {top c : Nat} {rest : List (Nat × Nat)}
    (hs : st.stack = (top, c) :: rest) (h : directive env st v = some (.ok st')) :
    Inv top rest (placedS env top (.expr i v)) st st' := by
  unfold directive at h
  split at h
  next ci f as ks =>
    split at h
    · have h := Option.some.inj h
      exact .of_eq hs (by (repeat' split at h) <;> cases h <;> rfl)
    · -- `set_loop_options`
      rename_i hstat
      have h := Option.some.inj h
      rw [hs] at h
      cases rest with
      | nil => simp at h
      | cons r0 rs =>
        simp only at h
        split at h
        · cases h
        · split at h
          · cases h
          · rename_i m hm
            cases h
            refine ⟨⟨c, rfl⟩, fun a ha => ?_⟩
            rcases List.mem_append.mp ha with ha | ha
            · exact .inl (List.mem_filter.mp ha).1
            · rw [List.mem_singleton.mp ha]
              refine .inr ⟨rfl, as, ks, ?_, hm⟩
              simp only [placedS, hstat, if_true, List.mem_singleton]
    · cases h
  · cases h

theorem ok_of_match {X : Except String (List Stmt × St)} {k : List Stmt → St → Except String (List Stmt × St)}
    {r : List Stmt × St}
    (h : (match X with
          | .error x => .error x
          | .ok (b, st) => k b st) = Except.ok r) : ∃ b st, X = .ok (b, st) ∧ k b st = .ok r := by
  cases X with
  | error x => cases h
  | ok p => exact ⟨p.1, p.2, rfl, h⟩

mutual
theorem visitS_inv (env : Env) : ∀ (s : Stmt) (st : St) (r : List Stmt) (st' : St) (top c : Nat) (rest : List (Nat × Nat)),
    st.stack = (top, c) :: rest → visitS env s st = .ok (r, st') → Inv top rest (placedS env top s) st st'
  | .expr i v => by
      intro st r st' top c rest hs h
      unfold visitS at h
      dsimp only at h
      cases hd : directive env st.bump v with
      | none =>
        rw [hd] at h
        cases h
        exact .of_bump hs .refl
      | some res =>
        rw [hd] at h
        cases res with
        | error e => cases h
        | ok st2 =>
          cases h
          exact .of_bump hs fun hs1 => directive_inv hs1 hd
  | .assign .. | .augAssign .. => by
      intro st r st' top c rest hs h
      cases h
      exact .of_bump hs .refl
  -- `visitS` on a literal `isAsync` reduces through its `if`: `ok_of_match` applies as for `while_` / `if_`
  | .while_ i _ b e | .for_ i _ _ b e _ false => by
      intro st r st' top c rest hs h
      obtain ⟨b', st1, hb, h⟩ := ok_of_match h
      obtain ⟨e', st2, he, h⟩ := ok_of_match h
      cases h
      exact (visitB_inv env b _ b' st1 i 0 ((top, c) :: rest) (by rw [hs]) hb).loop fun c1 hs1 =>
        visitB_inv env e st1 e' st2 i c1 ((top, c) :: rest) hs1 he
  | .functionDef .. | .classDef .. | .with_ .. | .handler .. | .other .. => by
      intro st r st' top c rest hs h
      obtain ⟨b', st1, hb, h⟩ := ok_of_match h
      cases h
      exact visitB_inv env _ st b' st' top c rest hs hb
  | .if_ _ _ b e | .for_ _ _ _ b e _ true => by
      intro st r st' top c rest hs h
      obtain ⟨b', st1, hb, h⟩ := ok_of_match h
      obtain ⟨e', st2, he, h⟩ := ok_of_match h
      cases h
      exact (visitB_inv env b st b' st1 top c rest hs hb).seq fun c1 hs1 =>
        visitB_inv env e st1 e' st' top c1 rest hs1 he
  | .try_ i b hd e f => by
      intro st r st' top c rest hs h
      obtain ⟨b', s1, h1, h⟩ := ok_of_match h
      obtain ⟨hd', s2, h2, h⟩ := ok_of_match h
      obtain ⟨e', s3, h3, h⟩ := ok_of_match h
      obtain ⟨f', s4, h4, h⟩ := ok_of_match h
      cases h
      exact (((visitB_inv env b st b' s1 top c rest hs h1).seq fun c1 hs1 =>
        visitB_inv env hd s1 hd' s2 top c1 rest hs1 h2).seq fun c2 hs2 =>
        visitB_inv env e s2 e' s3 top c2 rest hs2 h3).seq fun c3 hs3 =>
        visitB_inv env f s3 f' st' top c3 rest hs3 h4
  | .ret .. | .delete .. | .annAssign .. | .raise .. | .assert_ .. | .import_ .. | .importFrom .. | .global ..
  | .nonlocal .. | .pass .. | .break_ .. | .continue_ .. => by
      intro st r st' top c rest hs h
      cases h
      exact Inv.refl hs
theorem visitB_inv (env : Env) : ∀ (ss : List Stmt) (st : St) (r : List Stmt) (st' : St) (top c : Nat) (rest : List (Nat × Nat)),
    st.stack = (top, c) :: rest → visitB env ss st = .ok (r, st') → Inv top rest (placedL env top ss) st st'
  | [] => by
      intro st r st' top c rest hs h
      cases h
      exact Inv.refl hs
  | s :: ss => by
      intro st r st' top c rest hs h
      obtain ⟨r1, s1, h1, h⟩ := ok_of_match h
      obtain ⟨r2, s2, h2, h⟩ := ok_of_match h
      cases h
      exact (visitS_inv env s st r1 s1 top c rest hs h1).seq fun c1 hs1 =>
        visitB_inv env ss s1 r2 st' top c1 rest hs1 h2
end

end Malt.Conv.DirectivesSpec
