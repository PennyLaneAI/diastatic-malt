import MaltModel.Conv.CtxWf
/- Checker and predicate have the same recursion, `&&`/`==` against `∧`/`=`; the iff lemmas give the `Decidable` instances.
Statements about nodes and about lists come in pairs throughout C17: `Expr.rec` proves both but yields only the node one. -/
namespace Malt.Conv
open Malt.Py

theorem okE_iff : ∀ (e : Expr) (c : Ctx), okE c e = true ↔ WfE c e := by
  intro e
  induction e using Expr.rec (motive_2 := fun es => ∀ c, okEs c es = true ↔ WfEs c es) with
  | nil => simp [okEs, WfEs]
  | cons e es ih0 ih1 c => simp [okEs, WfEs, ih0, ih1]
  | _ => intro c; unfold okE WfE; simp_all [and_assoc]

theorem okEs_iff : ∀ (es : List Expr) (c : Ctx), okEs c es = true ↔ WfEs c es
  | [], c => by simp [okEs, WfEs]
  | e :: es, c => by simp [okEs, WfEs, okE_iff e, okEs_iff es]

theorem okS_iff : ∀ (s : Stmt), okS s = true ↔ WfS s := by
  intro s
  induction s using Stmt.rec (motive_2 := fun ss => okSs ss = true ↔ WfSs ss) with
  | nil => simp [okSs, WfSs]
  | cons s ss ih0 ih1 => simp [okSs, WfSs, ih0, ih1]
  | _ => unfold okS WfS; simp_all [okE_iff, okEs_iff, and_assoc]

theorem okSs_iff : ∀ (ss : List Stmt), okSs ss = true ↔ WfSs ss
  | [] => by simp [okSs, WfSs]
  | s :: ss => by simp [okSs, WfSs, okS_iff s, okSs_iff ss]

instance (c : Ctx) (e : Expr) : Decidable (WfE c e) := decidable_of_iff _ (okE_iff e c)
instance (s : Stmt) : Decidable (WfS s) := decidable_of_iff _ (okS_iff s)
instance (ss : List Stmt) : Decidable (WfSs ss) := decidable_of_iff _ (okSs_iff ss)
instance (c : Ctx) (es : List Expr) : Decidable (WfEs c es) := decidable_of_iff _ (okEs_iff es c)
instance (t : List Stmt) : Decidable (CtxWellFormed t) := decidable_of_iff _ (okSs_iff t)

end Malt.Conv
