import MaltModel.Rt.Cache
namespace Malt.Cache
open Spec

section
variable {Opts Factory : Type} [BEq Opts]

theorem SState_ext {σ σ' : SState Opts Factory} (h1 : σ.table = σ'.table) (h2 : σ.threads = σ'.threads) :
    σ = σ' := by
  cases σ; cases σ'; simp_all

def sstepOpt (T : Code → Opts → Nat → Option Factory) (σ : SState Opts Factory) : Option SLabel → SState Opts Factory
  | none => σ
  | some l => sstep T σ l

end

namespace Spec
variable {Opts Factory : Type} [BEq Opts] {T : Code → Opts → Nat → Option Factory} {σ : SState Opts Factory}
  {t : Tid} {th : SThread Opts Factory} {r : Request Opts} {rest : List (Request Opts)}

/-- `tb` with the key `(c, o)` mapped to `f`: what `sstep` remembers on a miss, what the store of `st2` does to `table`. -/
def tput (tb : Code → Opts → Option Factory) (c : Code) (o : Opts) (f : Factory) : Code → Opts → Option Factory :=
  fun c' o' => if c' = c ∧ (o' == o) = true then some f else tb c' o'

theorem tput_ne [LawfulBEq Opts] {tb : Code → Opts → Option Factory} {c c' : Code} {o o' : Opts} {f : Factory}
    (h : tput tb c o f c' o' ≠ tb c' o') : c' = c ∧ o' = o ∧ tput tb c o f c' o' = some f := by
  by_cases hk : c' = c ∧ (o' == o) = true
  · exact ⟨hk.1, eq_of_beq hk.2, if_pos hk⟩
  · exact absurd (if_neg hk) h

def answer (T : Code → Opts → Nat → Option Factory) (σ : SState Opts Factory) (r : Request Opts) : Option Factory :=
  match σ.table r.code r.opts with
  | some f => some f
  | none => T r.code r.opts r.env.sig

def remember (T : Code → Opts → Nat → Option Factory) (σ : SState Opts Factory) (r : Request Opts) :
    Code → Opts → Option Factory :=
  match σ.table r.code r.opts, T r.code r.opts r.env.sig with
  | none, some f => tput σ.table r.code r.opts f
  | _, _ => σ.table

theorem sstep_serve_none (hth : σ.threads[t]? = none) : sstep T σ (.serve t) = σ := by
  simp only [sstep, hth]

theorem sstep_serve_nil (hth : σ.threads[t]? = some th) (htodo : th.todo = []) : sstep T σ (.serve t) = σ := by
  simp only [sstep, hth, htodo]

theorem sstep_serve (hth : σ.threads[t]? = some th) (htodo : th.todo = r :: rest) :
    sstep T σ (.serve t) =
      { table := remember T σ r,
        threads := σ.threads.set t { todo := rest, results := th.results ++ [(r, answer T σ r)] } } := by
  simp only [sstep, hth, htodo, answer, remember]
  cases σ.table r.code r.opts with
  | some f => rfl
  | none => cases T r.code r.opts r.env.sig <;> rfl

theorem serve_hit (T : Code → Opts → Nat → Option Factory) {f : Factory} (h : σ.table r.code r.opts = some f) :
    answer T σ r = some f ∧ remember T σ r = σ.table := by
  simp only [answer, remember, h, and_self]

theorem answer_miss (h : σ.table r.code r.opts = none) : answer T σ r = T r.code r.opts r.env.sig := by
  simp only [answer, h]

theorem serve_convert {f : Factory} (h : σ.table r.code r.opts = none) (hT : T r.code r.opts r.env.sig = some f) :
    answer T σ r = some f ∧ remember T σ r = tput σ.table r.code r.opts f := by
  simp only [answer, remember, h, hT, and_self]

theorem serve_raise (h : σ.table r.code r.opts = none) (hT : T r.code r.opts r.env.sig = none) :
    answer T σ r = none ∧ remember T σ r = σ.table := by
  simp only [answer, remember, h, hT, and_self]

theorem remember_ne [LawfulBEq Opts] {c : Code} {o : Opts} (h : remember T σ r c o ≠ σ.table c o) :
    c = r.code ∧ o = r.opts ∧ remember T σ r c o = T r.code r.opts r.env.sig := by
  revert h
  unfold remember
  cases σ.table r.code r.opts with
  | some f => exact fun h => absurd rfl h
  | none =>
    cases T r.code r.opts r.env.sig with
    | none => exact fun h => absurd rfl h
    | some f => exact tput_ne

end Spec

section
open Ideal
variable {Opts Factory : Type} [BEq Opts] [LawfulBEq Opts]
variable {T : Code → Opts → Nat → Option Factory} {P : List (Request Opts)}

/-- The table of the lookup-or-convert specification holds, for every requester of a key, the fresh
conversion of that requester; and every pending request is one of the history. -/
structure TabOK (T : Code → Opts → Nat → Option Factory) (P : List (Request Opts)) (σ : SState Opts Factory) :
    Prop where
  own : ∀ c o f, σ.table c o = some f → ∀ r ∈ P, r.code = c → r.opts = o → T r.code r.opts r.env.sig = some f
  todo : ∀ th ∈ σ.threads, ∀ r ∈ th.todo, r ∈ P

def serveTid : SLabel → Option Tid
  | .serve t => some t
  | .gc _ => none

theorem sstep_ideal (hS : SigCoherent P)
    {σ : SState Opts Factory} (h : TabOK T P σ) (l : SLabel) :
    TabOK T P (sstep T σ l) ∧
    (sstep T σ l).threads = (match serveTid l with | some t => istep T σ.threads t | none => σ.threads) := by
  cases l with
  | gc c =>
    simp only [sstep, serveTid]
    split
    · exact ⟨h, rfl⟩
    · refine ⟨⟨?_, h.todo⟩, rfl⟩
      intro c' o f hf r hr hc ho
      by_cases hcc : c' = c
      · simp [hcc] at hf
      · simp only [hcc, if_false] at hf
        exact h.own c' o f hf r hr hc ho
  | serve t =>
    show _ ∧ _ = istep T σ.threads t
    cases hth : σ.threads[t]? with
    | none =>
      rw [sstep_serve_none hth]
      exact ⟨h, by simp [istep, hth]⟩
    | some th =>
      cases hto : th.todo with
      | nil =>
        rw [sstep_serve_nil hth hto]
        exact ⟨h, by simp [istep, hth, hto]⟩
      | cons r rest =>
        have hthm : th ∈ σ.threads := List.mem_of_getElem? hth
        have hrP : r ∈ P := h.todo th hthm r (by rw [hto]; exact List.mem_cons_self)
        -- a remembered factory is the requester's own fresh conversion already
        have hans : answer T σ r = T r.code r.opts r.env.sig := by
          cases htb : σ.table r.code r.opts with
          | some f => exact (serve_hit T htb).1.trans (h.own _ _ f htb r hrP rfl rfl).symm
          | none => exact answer_miss htb
        rw [sstep_serve hth hto, hans]
        refine ⟨⟨?_, ?_⟩, by simp [istep, hth, hto]⟩
        · intro c o f' hf r' hr' hc ho
          by_cases hne : remember T σ r c o = σ.table c o
          · exact h.own c o f' (hne ▸ hf) r' hr' hc ho
          · -- the entry just remembered: `r'` has the key of `r`, hence its namespace view
            obtain ⟨rfl, rfl, hval⟩ := remember_ne hne
            rw [hc, ho, hS r' hr' r hrP (by rw [hc])]
            exact hval.symm.trans hf
        · intro th' hth' r' hr'
          rcases List.mem_or_eq_of_mem_set hth' with hm | rfl
          · exact h.todo th' hm r' hr'
          · exact h.todo th hthm r' (by rw [hto]; exact List.mem_cons_of_mem _ hr')

theorem srun_ideal (hS : SigCoherent P)
    (ls : List SLabel) : ∀ {σ : SState Opts Factory}, TabOK T P σ →
    (srun T σ ls).threads = irun T σ.threads (ls.filterMap serveTid) := by
  induction ls with
  | nil => intro σ _; rfl
  | cons l rest ih =>
    intro σ h
    obtain ⟨h', hth⟩ := sstep_ideal (T := T) hS h l
    show (srun T (sstep T σ l) rest).threads = _
    rw [ih h']
    cases hl : serveTid l with
    | none => simp [hl] at hth; simp [hl, hth]
    | some t => simp [hl] at hth; simp [hl, hth, irun]

theorem TabOK_sinit (progs : List (List (Request Opts))) (hP : ∀ p ∈ progs, ∀ r ∈ p, r ∈ P) :
    TabOK T P (sinit progs : SState Opts Factory) := by
  refine ⟨nofun, ?_⟩
  intro th hth r hr
  obtain ⟨p, hp, rfl⟩ := List.mem_map.mp hth
  exact hP p hp r hr

end

end Malt.Cache
