import MaltModel.Proofs.JumpsSyntax
/-
How a run can end, read off the syntax: a statement ends with `break` / `continue` / `return` / a user exception only if one
occurs in it (`Occurs.outcome`; `May` is four instances).  The fragment conditions of the jump-lowering theorems (`escFreeB`,
`quietB`, `jumpFreeB`) are read through it.
-/
namespace Malt.Sem.Jumps
open Malt.Sem

def May (brk cont ret rs : Bool) (o : Out) : Prop :=
  (o = .brk → brk = true) ∧ (o = .cont → cont = true) ∧ (∀ v, o = .ret v → ret = true) ∧
  (∀ t, o = .exc (.user t) → rs = true)

theorem May.normal (a b c d : Bool) : May a b c d .normal := ⟨by simp, by simp, by simp, by simp⟩

theorem May.mono {a b c d a' b' c' d' : Bool} {o : Out} (h : May a b c d o)
    (ha : a = true → a' = true) (hb : b = true → b' = true) (hc : c = true → c' = true)
    (hd : d = true → d' = true) : May a' b' c' d' o :=
  ⟨fun he => ha (h.1 he), fun he => hb (h.2.1 he), fun v he => hc (h.2.2.1 v he), fun t he => hd (h.2.2.2 t he)⟩

def MayS (s : Stmt) (o : Out) : Prop := May (mayBrkS s) (topContS s) (hasRetS s) (hasRaiseS s) o
def MayB (b : Block) (o : Out) : Prop := May (mayBrkB b) (topContB b) (hasRetB b) (hasRaiseB b) o

namespace Occurs
variable {d : Bool} {PS : Stmt → Bool} {PB : List Stmt → Bool} {PH : List (Nat × List Stmt) → Bool}
  (h : Occurs d PS PB PH)
include h

theorem of_findHandler {hs : List (Nat × Block)} {ex : Exc} {hb : Block} (hf : findHandler hs ex = some hb)
    (hp : PB hb = true) : PH hs = true :=
  findHandler_ind (P := fun hb => PB hb = true → PH hs = true) (Q := fun hs' => PH hs' = true → PH hs = true)
    (fun t b r hq hb => hq (by rw [h.hcons, hb]; rfl)) (fun t b r hq hr => hq (by rw [h.hcons, hr, Bool.or_true]))
    hs ex hb id hf hp

variable (X : Ext) {C : Out → Prop} (hn : ¬ C .normal) (hf : ∀ {o : Out}, Out.fatal o → ¬ C o)
  (hbrk : C .brk → PS .brk = true) (hcont : C .cont → PS .cont = true)
  (hret : ∀ v e, C (.ret v) → PS (.ret e) = true) (hraise : ∀ t, C (.exc (.user t)) → PS (.raise t) = true)
  (hloop : d = false → ∀ o, C o → o = .brk ∨ o = .cont)
include hn hf hbrk hcont hret hraise hloop

/-- `hloop`: a predicate that does not look into loops is about `break` / `continue`, which no loop passes on.  For the
iterations of a `for` the conclusion is what the predicate says of the loop, `d && PB b`. -/
theorem outcome : ∀ n,
    (∀ s σ, Post (fun o _ => C o → PS s = true) (exec X n s σ)) ∧
    (∀ b σ, Post (fun o _ => C o → PB b = true) (execB X n b σ)) ∧
    (∀ x ex b items σ, Post (fun o _ => C o → (d && PB b) = true) (execFor X n x ex b items σ))
  | 0 => ⟨fun _ _ => .none, fun _ _ => .none, fun _ _ _ _ _ => .none⟩
  | n+1 => by
    obtain ⟨ihS, ihB, ihF⟩ := outcome n
    have hev : ∀ {e : Expr} {σ : St} {k : Val → St → Option (Out × St)} {Q : Prop},
        (∀ v τ, Post (fun o _ => C o → Q) (k v τ)) → Post (fun o _ => C o → Q) (valThen (evalE X e σ) k) := fun hk =>
      valThen_post (fun v _ => hk v _) fun ex hex hC => absurd hC (hf (evalE_err_fatal X _ _ _ ex (Prod.ext hex rfl)))
    have hnext : ∀ x ex b items τ,
        Post (fun o _ => C o → (d && PB b) = true) (extraThen (evalE X) ex (execFor X n x ex b items) τ) :=
      fun x ex b items τ => extraThen_post (I := fun _ => True) trivial (fun _ _ _ => trivial)
        (fun τ _ => ihF x ex b items τ) (fun _ _ hC => absurd hC hn)
        fun t e hex _ hC => absurd hC (hf (evalE_err_fatal X t τ _ e (Prod.ext hex rfl)))
    have hiter : ∀ {k : St → Option (Out × St)} {b : Block} {τ : St},
        (∀ τ', Post (fun o _ => C o → (d && PB b) = true) (k τ')) →
        Post (fun o _ => C o → (d && PB b) = true) (loopThen (execB X n b τ) k) := fun hk =>
      loopThen_post (ihB _ _) (fun _ τ' _ _ => hk τ') (fun _ _ hC => absurd hC hn) fun ob _ _ h2 h3 hq hC => by
        -- an outcome the loop passes on is no `break` or `continue`, so the predicate looks into loops
        rw [hq hC, Bool.and_true]
        cases d with
        | true => rfl
        | false => exact (hloop rfl _ hC).elim (absurd · h3) (absurd · h2)
    have no : ∀ {Q : Prop}, C .normal → Q := fun hC => absurd hC hn
    refine ⟨fun s σ => ?_, fun b σ => ?_, fun x ex b items σ => ?_⟩
    · cases s with
      | brk => exact .pure hbrk
      | cont => exact .pure hcont
      | pass => exact .pure no
      | raise t => exact .pure (hraise t)
      | ret e =>
        cases e with
        | none => exact .pure (hret _ _)
        | some e => rw [exec_ret]; exact hev fun v τ => .pure (hret _ _)
      | assign x e => rw [exec_assign]; exact hev fun v τ => .pure no
      | expr e => rw [exec_expr]; exact hev fun v τ => .pure no
      | ifS c t e =>
        rw [exec_if, h.ifS]
        exact hev fun v τ => ite_post (fun _ => (ihB t τ).mono fun _ _ hq hC => orL (hq hC))
          fun _ => (ihB e τ).mono fun _ _ hq hC => orR (hq hC)
      | whileS c b =>
        rw [exec_while, h.whileS]
        exact hev fun v τ => ite_post (fun _ => hiter fun τ' => h.whileS c b ▸ ihS (.whileS c b) τ') fun _ => .pure no
      | forS x it extra b =>
        rw [exec_for, h.forS]
        refine hev fun v τ => ?_
        cases hit : iterItems v with
        | error ex => exact .pure fun hC => absurd hC (hf (iterItems_err_fatal hit))
        | ok items => exact hnext _ _ _ _ _
      | tryS body hs fin =>
        rw [exec_try, h.tryS]
        exact bind_post (ihB body σ) fun ob τ hb =>
          bind_post (Q := fun o _ => C o → (PB body || PH hs) = true)
            (handleThen_post (fun _ hbk _ hfd => (ihB hbk τ).mono fun _ _ hq hC => orR (h.of_findHandler hfd (hq hC)))
              fun _ hC => orL (hb hC))
            fun oa τa ha => finallyThen_post (ihB fin τa) (fun _ _ hC => orL (ha hC)) fun _ _ _ hq hC => orR (hq hC)
      | withS tag body =>
        rw [exec_with]
        exact bind_post (ihB body _) fun o τ hq => .pure fun hC => (h.withS tag body).trans (hq hC)
    · cases b with
      | nil => exact .pure no
      | cons s rest =>
        rw [execB_cons, h.cons]
        exact andThen_post (ihS s σ) (fun τ _ => (ihB rest τ).mono fun _ _ hq hC => orR (hq hC))
          fun _ _ _ hq hC => orL (hq hC)
    · cases items with
      | nil => exact .pure no
      | cons v items => rw [execFor_cons]; exact hiter fun τ' => hnext _ _ _ _ τ'

end Occurs

theorem may_outcome (X : Ext) (n : Nat) :
    (∀ s σ o σ1, exec X n s σ = some (o, σ1) → MayS s o) ∧ (∀ b σ o σ1, execB X n b σ = some (o, σ1) → MayB b o) := by
  have hb := occurs_mayBrk.outcome X (C := (· = .brk)) (hn := nofun) (hf := fun hf he => fatal_ne_brk hf he)
    (hbrk := fun _ => rfl) (hcont := nofun) (hret := fun _ _ => nofun) (hraise := fun _ => nofun)
    (hloop := fun _ _ he => .inl he) n
  have hc := occurs_topCont.outcome X (C := (· = .cont)) (hn := nofun) (hf := fun hf he => fatal_ne_cont hf he)
    (hbrk := nofun) (hcont := fun _ => rfl) (hret := fun _ _ => nofun) (hraise := fun _ => nofun)
    (hloop := fun _ _ he => .inr he) n
  have hr := occurs_hasRet.outcome X (C := fun o => ∃ v, o = .ret v) (hn := fun ⟨_, he⟩ => nomatch he)
    (hf := fun hf ⟨v, he⟩ => fatal_ne_ret hf v he) (hbrk := fun ⟨_, he⟩ => nomatch he) (hcont := fun ⟨_, he⟩ => nomatch he)
    (hret := fun _ _ _ => rfl) (hraise := fun _ ⟨_, he⟩ => nomatch he) (hloop := nofun) n
  have hx := occurs_hasRaise.outcome X (C := fun o => ∃ t, o = .exc (.user t)) (hn := fun ⟨_, he⟩ => nomatch he)
    (hf := fun hf ⟨_, he⟩ => by subst he; exact hf) (hbrk := fun ⟨_, he⟩ => nomatch he)
    (hcont := fun ⟨_, he⟩ => nomatch he) (hret := fun _ _ ⟨_, he⟩ => nomatch he) (hraise := fun _ _ => rfl)
    (hloop := nofun) n
  exact ⟨fun s σ o σ1 h => ⟨hb.1 s σ o σ1 h, hc.1 s σ o σ1 h, fun v he => hr.1 s σ o σ1 h ⟨v, he⟩,
      fun t he => hx.1 s σ o σ1 h ⟨t, he⟩⟩,
    fun b σ o σ1 h => ⟨hb.2.1 b σ o σ1 h, hc.2.1 b σ o σ1 h, fun v he => hr.2.1 b σ o σ1 h ⟨v, he⟩,
      fun t he => hx.2.1 b σ o σ1 h ⟨t, he⟩⟩⟩

theorem mayS_outcome (X : Ext) {n : Nat} {s : Stmt} {σ σ1 : St} {o : Out}
    (h : exec X n s σ = some (o, σ1)) : MayS s o :=
  (may_outcome X n).1 s σ o σ1 h

theorem mayB_outcome (X : Ext) {n : Nat} {b : Block} {σ σ1 : St} {o : Out}
    (h : execB X n b σ = some (o, σ1)) : MayB b o :=
  (may_outcome X n).2 b σ o σ1 h

theorem exec_ne_brk (X : Ext) {n : Nat} {s : Stmt} {σ σ1 : St} {o : Out} (h : exec X n s σ = some (o, σ1))
    (hm : mayBrkS s = false) : o ≠ .brk := fun he => by rw [(mayS_outcome X h).1 he] at hm; cases hm

theorem exec_ne_cont (X : Ext) {n : Nat} {s : Stmt} {σ σ1 : St} {o : Out} (h : exec X n s σ = some (o, σ1))
    (hm : topContS s = false) : o ≠ .cont := fun he => by rw [(mayS_outcome X h).2.1 he] at hm; cases hm

theorem exec_ne_ret (X : Ext) {n : Nat} {s : Stmt} {σ σ1 : St} {o : Out} (h : exec X n s σ = some (o, σ1))
    (hm : hasRetS s = false) (v : Val) : o ≠ .ret v := fun he => by rw [(mayS_outcome X h).2.2.1 v he] at hm; cases hm

theorem execB_ne_brk (X : Ext) {n : Nat} {b : Block} {σ σ1 : St} {o : Out} (h : execB X n b σ = some (o, σ1))
    (hm : mayBrkB b = false) : o ≠ .brk := fun he => by rw [(mayB_outcome X h).1 he] at hm; cases hm

theorem execB_ne_cont (X : Ext) {n : Nat} {b : Block} {σ σ1 : St} {o : Out} (h : execB X n b σ = some (o, σ1))
    (hm : topContB b = false) : o ≠ .cont := fun he => by rw [(mayB_outcome X h).2.1 he] at hm; cases hm

theorem escFreeB_outcome (X : Ext) {n : Nat} {b : Block} {σ σ1 : St} {o : Out}
    (hq : escFreeB b = true) (h : execB X n b σ = some (o, σ1)) : o = .normal ∨ ∃ e, o = .exc e := by
  have hm := mayB_outcome X h
  obtain ⟨h1, h2, h3⟩ := escFreeB_iff.mp hq
  cases o with
  | normal => exact Or.inl rfl
  | exc e => exact Or.inr ⟨e, rfl⟩
  | brk => exact absurd rfl (execB_ne_brk X h h1)
  | cont => exact absurd rfl (execB_ne_cont X h h2)
  | ret v => have := hm.2.2.1 v rfl; rw [h3] at this; cases this

theorem quietB_outcome (X : Ext) {n : Nat} {b : Block} {σ σ1 : St} {o : Out}
    (hq : quietB b = true) (h : execB X n b σ = some (o, σ1)) : o = .normal ∨ Out.fatal o := by
  have hm := mayB_outcome X h
  simp only [quietB, Bool.and_eq_true, Bool.not_eq_true'] at hq
  rcases escFreeB_outcome X hq.1 h with hn | ⟨e, he⟩
  · exact Or.inl hn
  · subst he
    cases e with
    | user t => have := hm.2.2.2 t rfl; rw [hq.2] at this; cases this
    | nameError x => exact Or.inr trivial
    | typeError => exact Or.inr trivial

theorem jumpFreeB_outcome (X : Ext) {n : Nat} {b : Block} {σ σ1 : St} {o : Out}
    (hq : jumpFreeB b = true) (h : execB X n b σ = some (o, σ1)) : o = .normal ∨ ∃ e, o = .exc e :=
  escFreeB_outcome X (escFreeB_iff.mpr (jumpFreeB_esc b hq)) h

end Malt.Sem.Jumps
