import MaltModel.Proofs.FuncRestrict
import MaltModel.Sem.CoreLemmas
namespace Malt.Func
open Malt.Sem

theorem subB_iff {A B : List Name} : subB A B = true ↔ A ⊆ B := by
  simp [subB, List.all_eq_true, List.subset_def]

theorem disjB_iff {A B : List Name} : disjB A B = true ↔ ∀ u ∈ A, u ∉ B := by
  simp [disjB, List.all_eq_true]

theorem raiseOKb_iff {K : ExcCtx} {i : Info} {ts : List Nat} : raiseOKb K i ts = true ↔ raiseOK K i ts := by
  simp only [raiseOKb, raiseOK, List.all_eq_true, subB_iff]

theorem live_sound : (∀ s K, liveS K s = true → LiveS K s) ∧ (∀ b K O, liveB K b O = true → LiveB K b O) ∧
    (∀ hs K O, liveH K hs O = true → LiveH K hs O) := by
  apply astmt_induct
  case ifS =>
    intro i c t e iht ihe K h
    simp only [liveS, Bool.and_eq_true, subB_iff, raiseOKb_iff] at h
    exact ⟨h.1.1.1.1.1.1, h.1.1.1.1.1.2, h.1.1.1.1.2, iht K _ h.1.1.1.2, ihe K _ h.1.1.2, h.1.2, h.2⟩
  case whileS =>
    intro i c b ih K h
    simp only [liveS, Bool.and_eq_true, subB_iff, raiseOKb_iff] at h
    exact ⟨h.1.1.1.1.1, h.1.1.1.1.2, h.1.1.1.2, ih K _ h.1.1.2, h.1.2, h.2⟩
  case forS =>
    intro i x it extra b ih K h
    simp only [liveS, Bool.and_eq_true, subB_iff, raiseOKb_iff] at h
    exact ⟨h.1.1.1.1.1.1, h.1.1.1.1.1.2, h.1.1.1.1.2, h.1.1.1.2, ih K _ h.1.1.2, h.1.2, h.2⟩
  case withS =>
    intro i tag b ih K h
    simp only [liveS, Bool.and_eq_true, subB_iff] at h
    exact ⟨h.1, ih K _ h.2⟩
  case tryS =>
    intro i b hs f ihb ihh ihf K h
    simp only [liveS, Bool.and_eq_true, subB_iff] at h
    exact ⟨ihf K _ h.1.1.1, ihh _ _ h.1.1.2, ihb _ _ h.1.2, h.2⟩
  case cons =>
    intro s r ihs ihr K O h
    simp only [liveB, Bool.and_eq_true, subB_iff] at h
    exact ⟨ihs K h.1.1, h.1.2, ihr K O h.2⟩
  case hcons =>
    intro t b r ihb ihr K O h
    simp only [liveH, Bool.and_eq_true] at h
    exact ⟨ihb K O h.1, ihr K O h.2⟩
  case assign | expr | pass | ret | raise => intros; rename_i h; simpa [liveS, LiveS, subB_iff, and_assoc] using h
  all_goals intros; trivial

theorem liveB_sound : ∀ (K : ExcCtx) (b : List AStmt) (O : List Name), liveB K b O = true → LiveB K b O :=
  fun K b => live_sound.2.1 b K
theorem liveH_sound : ∀ (K : ExcCtx) (hs : List (Nat × List AStmt)) (O : List Name), liveH K hs O = true → LiveH K hs O :=
  fun K hs => live_sound.2.2 hs K

theorem liveConsistent_sound (p : ABlock) (O : List Name) (h : liveConsistent p O = true) : LiveConsistent p O :=
  liveB_sound ExcCtx.top p O h

theorem decl_sound : (∀ s, declS s = true → DeclS s) ∧ (∀ b, declB b = true → DeclB b) ∧
    (∀ hs, declH hs = true → DeclH hs) := by
  apply astmt_induct
  case ifS =>
    intro i c t e iht ihe h
    simp only [declS, Bool.and_eq_true, subB_iff] at h
    exact ⟨h.1.1.1, h.1.1.2, iht h.1.2, ihe h.2⟩
  case whileS =>
    intro i c b ih h
    simp only [declS, Bool.and_eq_true, subB_iff] at h
    exact ⟨h.1.1, h.1.2, ih h.2⟩
  case forS =>
    intro i x it extra b ih h
    simp only [declS, Bool.and_eq_true, subB_iff] at h
    exact ⟨h.1.1, h.1.2, ih h.2⟩
  case withS => exact fun i tag b ih => ih
  case tryS =>
    intro i b hs f ihb ihh ihf h
    simp only [declS, Bool.and_eq_true] at h
    exact ⟨ihb h.1.1, ihh h.1.2, ihf h.2⟩
  case cons =>
    intro s r ihs ihr h
    simp only [declB, Bool.and_eq_true] at h
    exact ⟨ihs h.1, ihr h.2⟩
  case hcons =>
    intro t b r ihb ihr h
    simp only [declH, Bool.and_eq_true] at h
    exact ⟨ihb h.1, ihr h.2⟩
  all_goals intros; trivial

theorem declS_sound : ∀ (s : AStmt), declS s = true → DeclS s := decl_sound.1
theorem declB_sound : ∀ (b : List AStmt), declB b = true → DeclB b := decl_sound.2.1
theorem declH_sound : ∀ (hs : List (Nat × List AStmt)), declH hs = true → DeclH hs := decl_sound.2.2

theorem def_sound : (∀ s D, defS D s = true → DefS D s) ∧ (∀ b D, defB D b = true → DefB D b) ∧
    (∀ hs D, defH D hs = true → DefH D hs) := by
  apply astmt_induct
  case ifS =>
    intro i c t e iht ihe D h
    simp only [defS, Bool.and_eq_true, subB_iff, disjB_iff] at h
    exact ⟨h.1.1.1, h.1.1.2, iht D h.1.2, ihe D h.2⟩
  case whileS =>
    intro i c b ih D h
    simp only [defS, Bool.and_eq_true, subB_iff, disjB_iff] at h
    exact ⟨h.1.1, h.1.2, ih _ h.2⟩
  case forS =>
    intro i x it extra b ih D h
    simp only [defS, Bool.and_eq_true, subB_iff, disjB_iff] at h
    exact ⟨h.1.1, h.1.2, ih _ h.2⟩
  case withS => exact fun i tag b ih => ih
  case tryS =>
    intro i b hs f ihb ihh ihf D h
    simp only [defS, Bool.and_eq_true] at h
    exact ⟨ihb D h.1.1, ihh _ h.1.2, ihf _ h.2⟩
  case cons =>
    intro s r ihs ihr D h
    simp only [defB, Bool.and_eq_true] at h
    exact ⟨ihs D h.1, ihr _ h.2⟩
  case hcons =>
    intro t b r ihb ihr D h
    simp only [defH, Bool.and_eq_true] at h
    exact ⟨ihb D h.1, ihr D h.2⟩
  all_goals intros; trivial

theorem defB_sound : ∀ (D : List Name) (b : List AStmt), defB D b = true → DefB D b := fun D b => def_sound.2.1 b D
theorem defH_sound : ∀ (D : List Name) (hs : List (Nat × List AStmt)), defH D hs = true → DefH D hs :=
  fun D hs => def_sound.2.2 hs D

theorem funcHyp_sound (D : List Name) (p : ABlock) (O : List Name) (h : funcHyp D p O = true) : FuncHyp D p O := by
  simp only [funcHyp, Bool.and_eq_true] at h
  exact ⟨liveConsistent_sound p O h.1.1.1, declB_sound p h.1.1.2, defB_sound D p h.1.2, h.2⟩

theorem subB_contains {A B : List Name} (h : A ⊆ B) {x : Name} (hx : A.contains x = true) : B.contains x = true := by
  have : x ∈ A := by simpa using hx
  simpa using h this

/-- A consistent liveness annotation is outside the finding class `for_target_live_across_zero_trip`. -/
theorem live_not_zeroTrip : (∀ s K, LiveS K s → forTargetZeroTripS s = false) ∧
    (∀ b K O, LiveB K b O → forTargetZeroTripB b = false) ∧ (∀ hs K O, LiveH K hs O → forTargetZeroTripH hs = false) := by
  apply astmt_induct
  case ifS => exact fun i c t e iht ihe K h => by simp [forTargetZeroTripS, iht K _ h.2.2.2.1, ihe K _ h.2.2.2.2.1]
  case whileS => exact fun i c b ih K h => by simp [forTargetZeroTripS, ih K _ h.2.2.2.1]
  case forS =>
    intro i x it extra b ih K h
    simp only [forTargetZeroTripS, ih K _ h.2.2.2.2.1, Bool.or_false]
    cases hc : i.liveOut.contains x with
    | false => rfl
    | true => simp; exact h.2.2.1 (by simpa using hc)
  case withS => exact fun i tag b ih K h => by simp [forTargetZeroTripS, ih K _ h.2]
  case tryS =>
    exact fun i b hs f ihb ihh ihf K h => by simp [forTargetZeroTripS, ihb _ _ h.2.2.1, ihh _ _ h.2.1, ihf K _ h.1]
  case cons => exact fun s r ihs ihr K O h => by simp [forTargetZeroTripB, ihs K h.1, ihr K O h.2.2]
  case hcons => exact fun t b r ihb ihr K O h => by simp [forTargetZeroTripH, ihb K O h.1, ihr K O h.2]
  all_goals intros; rfl

theorem live_not_zeroTripS : ∀ (K : ExcCtx) (s : AStmt), LiveS K s → forTargetZeroTripS s = false :=
  fun K s => live_not_zeroTrip.1 s K
theorem live_not_zeroTripB : ∀ (K : ExcCtx) (b : List AStmt) (O : List Name), LiveB K b O → forTargetZeroTripB b = false :=
  fun K b => live_not_zeroTrip.2.1 b K
theorem live_not_zeroTripH : ∀ (K : ExcCtx) (hs : List (Nat × List AStmt)) (O : List Name), LiveH K hs O →
    forTargetZeroTripH hs = false :=
  fun K hs => live_not_zeroTrip.2.2 hs K

theorem nodupB_sound : ∀ (l : List Name), nodupB l = true → l.Nodup
  | [], _ => List.nodup_nil
  | x :: xs, h => by
      simp only [nodupB, Bool.and_eq_true, Bool.not_eq_eq_eq_not, Bool.not_true] at h
      refine List.nodup_cons.mpr ⟨fun hx => ?_, nodupB_sound xs h.2⟩
      have : xs.contains x = true := by simpa using hx
      rw [h.1] at this; cases this

theorem hypF_sound : (∀ s, hypFS s = true → HypFS s) ∧ (∀ b, hypFB b = true → HypFB b) ∧
    (∀ hs, hypFH hs = true → HypFH hs) := by
  apply astmt_induct
  case ifS =>
    intro i c t e iht ihe h
    simp only [hypFS, Bool.and_eq_true, subB_iff, disjB_iff] at h
    exact ⟨nodupB_sound _ h.1.1.1.1, h.1.1.1.2, h.1.1.2, iht h.1.2, ihe h.2⟩
  case whileS =>
    intro i c b ih h
    simp only [hypFS, Bool.and_eq_true, subB_iff] at h
    exact ⟨h.1, ih h.2⟩
  case forS =>
    intro i x it extra b ih h
    simp only [hypFS, Bool.and_eq_true, subB_iff] at h
    exact ⟨h.1, ih h.2⟩
  case withS => exact fun i tag b ih => ih
  case tryS =>
    intro i b hs f ihb ihh ihf h
    simp only [hypFS, Bool.and_eq_true] at h
    exact ⟨ihb h.1.1, ihh h.1.2, ihf h.2⟩
  case cons =>
    intro s r ihs ihr h
    simp only [hypFB, Bool.and_eq_true] at h
    exact ⟨ihs h.1, ihr h.2⟩
  case hcons =>
    intro t b r ihb ihr h
    simp only [hypFH, Bool.and_eq_true] at h
    exact ⟨ihb h.1, ihr h.2⟩
  all_goals intros; trivial

theorem hypFS_sound : ∀ (s : AStmt), hypFS s = true → HypFS s := hypF_sound.1
theorem hypFB_sound : ∀ (b : List AStmt), hypFB b = true → HypFB b := hypF_sound.2.1
theorem hypFH_sound : ∀ (hs : List (Nat × List AStmt)), hypFH hs = true → HypFH hs := hypF_sound.2.2

theorem annot_erase : (∀ s a s', annotS a s = some s' → eraseS s' = s) ∧
    (∀ b A k b', annotB A k b = some b' → eraseB b' = b) ∧ (∀ hs a j hs', annotH a j hs = some hs' → eraseH hs' = hs) := by
  apply stmt_induct
  case tryS =>
    intro b hs f ihb ihh ihf a s' h
    simp only [annotS] at h
    split at h
    · rename_i b' hs' f' hb hh hf
      cases h
      simp only [eraseS, ihb _ 0 b' hb, ihh a 2 hs' hh, ihf _ 0 f' hf]
    · cases h
  case ifS =>
    intro c t e iht ihe a s' h
    simp only [annotS] at h
    split at h
    · rename_i t' e' ht he
      cases h
      simp only [eraseS, iht _ 0 t' ht, ihe _ 0 e' he]
    · cases h
  case withS | whileS | forS =>
    intros
    rename_i b ih a s' h
    simp only [annotS] at h
    split at h
    · rename_i b' hb
      cases h
      simp only [eraseS, ih _ 0 b' hb]
    · cases h
  case cons =>
    intro s r ihs ihr A k b' h
    simp only [annotB] at h
    split at h
    · rename_i s' r' hs hr
      cases h
      simp only [eraseB, ihs _ s' hs, ihr A (k+1) r' hr]
    · cases h
  case hcons =>
    intro t b r ihb ihr a j hs' h
    simp only [annotH] at h
    split at h
    · rename_i b' r' hb hr
      cases h
      simp only [eraseH, ihb _ 0 b' hb, ihr a (j+1) r' hr]
    · cases h
  case brk | cont => exact fun _ _ h => nomatch h
  all_goals intros; rename_i h; cases h; rfl

theorem annotS_erase : ∀ (s : Stmt) (a : Ann) (s' : AStmt), annotS a s = some s' → eraseS s' = s := annot_erase.1
theorem annotB_erase : ∀ (b : Block) (A : Ann) (k : Nat) (b' : List AStmt), annotB A k b = some b' → eraseB b' = b :=
  annot_erase.2.1
theorem annotH_erase : ∀ (hs : List (Nat × Block)) (a : Ann) (j : Nat) (hs' : List (Nat × List AStmt)),
    annotH a j hs = some hs' → eraseH hs' = hs :=
  annot_erase.2.2

mutual
/-- Enough for `annotB` to succeed; every output of the jump passes has it. -/
def noJumpS : Stmt → Bool
  | .brk => false
  | .cont => false
  | .ifS _ t e => noJumpB t && noJumpB e
  | .whileS _ b => noJumpB b
  | .forS _ _ _ b => noJumpB b
  | .withS _ b => noJumpB b
  | .tryS b hs f => noJumpB b && noJumpH hs && noJumpB f
  | _ => true
def noJumpB : List Stmt → Bool
  | [] => true
  | s :: r => noJumpS s && noJumpB r
def noJumpH : List (Nat × List Stmt) → Bool
  | [] => true
  | (_, b) :: r => noJumpB b && noJumpH r
end

theorem annot_total : (∀ s a, noJumpS s = true → ∃ q, annotS a s = some q) ∧
    (∀ b A k, noJumpB b = true → ∃ q, annotB A k b = some q) ∧ (∀ hs a j, noJumpH hs = true → ∃ q, annotH a j hs = some q) := by
  apply stmt_induct
  case brk | cont => exact fun _ h => nomatch h
  case ifS =>
    intro c t e iht ihe a h
    simp only [noJumpS, Bool.and_eq_true] at h
    obtain ⟨t', ht⟩ := iht (fun p => a (0 :: p)) 0 h.1
    obtain ⟨e', he⟩ := ihe (fun p => a (1 :: p)) 0 h.2
    exact ⟨.ifS (a []) c t' e', by simp only [annotS, ht, he]⟩
  case whileS =>
    intro c b ih a h
    obtain ⟨b', hb'⟩ := ih (fun p => a (0 :: p)) 0 h
    exact ⟨.whileS (a []) c b', by simp only [annotS, hb']⟩
  case forS =>
    intro x it ex b ih a h
    obtain ⟨b', hb'⟩ := ih (fun p => a (0 :: p)) 0 h
    exact ⟨.forS (a []) x it ex b', by simp only [annotS, hb']⟩
  case withS =>
    intro tag b ih a h
    obtain ⟨b', hb'⟩ := ih (fun p => a (0 :: p)) 0 h
    exact ⟨.withS (a []) tag b', by simp only [annotS, hb']⟩
  case tryS =>
    intro b hs f ihb ihh ihf a h
    simp only [noJumpS, Bool.and_eq_true] at h
    obtain ⟨b', hb'⟩ := ihb (fun p => a (0 :: p)) 0 h.1.1
    obtain ⟨hs', hh'⟩ := ihh a 2 h.1.2
    obtain ⟨f', hf'⟩ := ihf (fun p => a (1 :: p)) 0 h.2
    exact ⟨.tryS (a []) b' hs' f', by simp only [annotS, hb', hh', hf']⟩
  case cons =>
    intro s rest ihs ihr A k h
    simp only [noJumpB, Bool.and_eq_true] at h
    obtain ⟨s', hs'⟩ := ihs (fun p => A (k :: p)) h.1
    obtain ⟨r', hr'⟩ := ihr A (k + 1) h.2
    exact ⟨s' :: r', by simp only [annotB, hs', hr']⟩
  case hcons =>
    intro t b r ihb ihr a j h
    simp only [noJumpH, Bool.and_eq_true] at h
    obtain ⟨b', hb'⟩ := ihb (fun p => a (j :: p)) 0 h.1
    obtain ⟨r', hr'⟩ := ihr a (j + 1) h.2
    exact ⟨(t, b') :: r', by simp only [annotH, hb', hr']⟩
  all_goals intros; exact ⟨_, rfl⟩

theorem annotS_total : ∀ (s : Stmt) (a : Ann), noJumpS s = true → ∃ q, annotS a s = some q := annot_total.1
theorem annotB_total : ∀ (b : List Stmt) (A : Ann) (k : Nat), noJumpB b = true → ∃ q, annotB A k b = some q :=
  annot_total.2.1
theorem annotH_total : ∀ (hs : List (Nat × List Stmt)) (a : Ann) (j : Nat), noJumpH hs = true → ∃ q, annotH a j hs = some q :=
  annot_total.2.2

end Malt.Func
