import MaltModel.Conv.Arity
/- Checker and predicate have the same recursion, `&&` against `∧` and `decide` against the proposition: each case is
the two unfoldings and the hypotheses for the fields. -/
namespace Malt.Conv
open Malt.Py

theorem arE_iff : ∀ (e : Expr), arE e = true ↔ ArE e := by
  intro e
  induction e using Expr.rec (motive_2 := fun es => arEs es = true ↔ ArEs es) with
  | nil => simp [arEs, ArEs]
  | cons e es ih0 ih1 => simp [arEs, ArEs, ih0, ih1]
  | _ => unfold arE ArE; simp_all [and_assoc]

theorem arEs_iff : ∀ (es : List Expr), arEs es = true ↔ ArEs es
  | [] => by simp [arEs, ArEs]
  | e :: es => by simp [arEs, ArEs, arE_iff e, arEs_iff es]

theorem arS_iff : ∀ (s : Stmt), arS s = true ↔ ArS s := by
  intro s
  induction s using Stmt.rec (motive_2 := fun ss => arSs ss = true ↔ ArSs ss) with
  | nil => simp [arSs, ArSs]
  | cons s ss ih0 ih1 => simp [arSs, ArSs, ih0, ih1]
  | _ => unfold arS ArS; simp_all [arE_iff, arEs_iff, and_assoc]

theorem arSs_iff : ∀ (ss : List Stmt), arSs ss = true ↔ ArSs ss
  | [] => by simp [arSs, ArSs]
  | s :: ss => by simp [arSs, ArSs, arS_iff s, arSs_iff ss]

instance (t : List Stmt) : Decidable (ArityWellFormed t) := decidable_of_iff _ (arSs_iff t)

end Malt.Conv
