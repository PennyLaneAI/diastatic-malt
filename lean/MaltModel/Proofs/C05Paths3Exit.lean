import MaltModel.Proofs.C05Paths3
/-!
# C05: what `_connect_jump_to_finally_sections` does when a section is left

Every pending pair (`PPat`) of a jump of that section becomes an edge, every pending outcome (`PJ`) with no guard left ends in
the cursor set (which becomes leaves, or is connected to the loop entry); what belongs to other sections is untouched.
-/
namespace Malt.Cfg
open Malt.Py

structure SRel (b b' : B) : Prop where
  edges : ∀ p, p ∈ b.edges → p ∈ b'.edges
  deref : ∀ r x, x ∈ b.deref r → x ∈ b'.deref r
  finallySub : b'.finallySub = b.finallySub
  pendingFinally : b'.pendingFinally = b.pendingFinally
  errors : b'.errors = b.errors
  raises : b'.raises = b.raises

theorem SRel.refl (b : B) : SRel b b := ⟨fun _ h => h, fun _ _ h => h, rfl, rfl, rfl, rfl⟩
theorem SRel.trans {a b c : B} (h1 : SRel a b) (h2 : SRel b c) : SRel a c :=
  ⟨fun p h => h2.edges p (h1.edges p h), fun r x h => h2.deref r x (h1.deref r x h), by rw [h2.finallySub, h1.finallySub],
   by rw [h2.pendingFinally, h1.pendingFinally], by rw [h2.errors, h1.errors], by rw [h2.raises, h1.raises]⟩

/-- of `finallySub` only the closed records are kept: all that `PPd`, `PJ`, `Stage` read -/
structure WRel (b b' : B) : Prop where
  edges : ∀ p, p ∈ b.edges → p ∈ b'.edges
  deref : ∀ r x, x ∈ b.deref r → x ∈ b'.deref r
  fsubC : ∀ g beg ends, aget g b.finallySub = some (some beg, some ends) → aget g b'.finallySub = some (some beg, some ends)
  pendingFinally : b'.pendingFinally = b.pendingFinally

theorem SRel.w {b b' : B} (h : SRel b b') : WRel b b' :=
  ⟨h.edges, h.deref, fun g beg ends hg => by rw [h.finallySub]; exact hg, h.pendingFinally⟩

/-- `ex`: the jumps whose guard lists may be dropped -/
structure JRel (ex : List Nat) (b b' : B) : Prop extends SRel b b' where
  fsec : ∀ j, j ∉ ex → aget j b'.finallySections = aget j b.finallySections
  exits : b'.exits = b.exits
  continues : b'.continues = b.continues
  nodes : b'.nodes = b.nodes

theorem JRel.refl (ex : List Nat) (b : B) : JRel ex b b := ⟨SRel.refl b, fun _ _ => rfl, rfl, rfl, rfl⟩

theorem JRel.trans {ex : List Nat} {a b c : B} (h1 : JRel ex a b) (h2 : JRel ex b c) : JRel ex a c :=
  ⟨h1.toSRel.trans h2.toSRel, fun j hj => by rw [h2.fsec j hj, h1.fsec j hj],
   by rw [h2.exits, h1.exits], by rw [h2.continues, h1.continues], by rw [h2.nodes, h1.nodes]⟩

theorem JRel.weaken {ex ex' : List Nat} {b b' : B} (h : JRel ex b b') (hs : ∀ j, j ∈ ex → j ∈ ex') : JRel ex' b b' :=
  ⟨h.toSRel, fun j hj => h.fsec j (fun h' => hj (hs j h')), h.exits, h.continues, h.nodes⟩

structure JRelL (ex : List Nat) (b b' : B) : Prop extends JRel ex b b' where
  leaves : b'.leaves = b.leaves
  heapLen : b'.heap.length = b.heap.length

theorem JRelL.refl (ex : List Nat) (b : B) : JRelL ex b b := ⟨JRel.refl ex b, rfl, rfl⟩
theorem JRelL.trans {ex : List Nat} {a b c : B} (h1 : JRelL ex a b) (h2 : JRelL ex b c) : JRelL ex a c :=
  ⟨h1.toJRel.trans h2.toJRel, by rw [h2.leaves, h1.leaves], by rw [h2.heapLen, h1.heapLen]⟩
theorem JRelL.weaken {ex ex' : List Nat} {b b' : B} (h : JRelL ex b b') (hs : ∀ j, j ∈ ex → j ∈ ex') : JRelL ex' b b' :=
  ⟨h.toJRel.weaken hs, h.leaves, h.heapLen⟩

theorem JRelL.leafSet {ex : List Nat} {b b' : B} (h : JRelL ex b b') : ∀ x, x ∈ b.leafSet → x ∈ b'.leafSet := by
  intro x hx
  show x ∈ b'.deref b'.leaves
  rw [h.leaves]
  exact h.deref _ _ hx

theorem jrel_connect (ex : List Nat) (b : B) (f : List Nat) (n : Nat) : JRelL ex b (b.connect f n) :=
  ⟨⟨⟨fun _ h => List.mem_append.mpr (Or.inl h), fun _ _ h => h, rfl, rfl, rfl, rfl⟩, fun _ _ => rfl, rfl, rfl, rfl⟩, rfl, rfl⟩
theorem jrel_fail (ex : List Nat) (b : B) (m : String) : JRelL ex b (b.fail m) :=
  ⟨⟨⟨fun _ h => h, fun _ _ h => h, rfl, rfl, rfl, rfl⟩, fun _ _ => rfl, rfl, rfl, rfl⟩, rfl, rfl⟩
theorem jrel_delFinallySections (ex : List Nat) (b : B) (n : Nat) (hn : n ∈ ex) : JRelL ex b (b.delFinallySections n) := by
  refine ⟨⟨⟨fun _ h => h, fun _ _ h => h, rfl, rfl, rfl, rfl⟩, ?_, rfl, rfl, rfl⟩, rfl, rfl⟩
  intro j hj
  show aget j (adel n b.finallySections) = _
  rw [aget_adel, if_neg (fun e : j = n => hj (e ▸ hn))]
theorem jrel_leavesUnion (ex : List Nat) (b : B) (s : List Nat) : JRelL ex b (b.leavesUnion s) :=
  ⟨⟨⟨fun _ h => h, fun r x h => B.deref_leavesUnion_mono b s r x h, rfl, rfl, rfl, rfl⟩, fun _ _ => rfl, rfl, rfl, rfl⟩, rfl,
   by simp [B.leavesUnion]⟩

theorem WRel.beginOf {b b' : B} (h : WRel b b') {g y : Nat} (hb : BeginOf b g y) : BeginOf b' g y := by
  obtain ⟨h1, ends, h2⟩ := hb
  exact ⟨by rw [h.pendingFinally]; exact h1, ends, h.fsubC _ _ _ h2⟩

theorem WRel.complete {b b' : B} (h : WRel b b') {g : Nat} (hb : Complete b g) : Complete b' g := by
  obtain ⟨h1, beg, ends, h2⟩ := hb
  exact ⟨by rw [h.pendingFinally]; exact h1, beg, ends, h.fsubC _ _ _ h2⟩

theorem SRel.startedAt {b b' : B} (h : SRel b b') {g y : Nat} (hb : StartedAt b g y) : StartedAt b' g y :=
  startedAt_of_same h.finallySub h.pendingFinally hb

theorem WRel.ppd {b b' : B} (h : WRel b b') {gs : List Nat} {j : Nat} {p : Nat × Nat} (hp : PPd b gs j p) :
    PPd b' gs j p := by
  rcases hp with ⟨g, rest, e1, e2, e3⟩ | ⟨l1, g, g', r, beg, ends, e1, e2, e3, e4, e5⟩
  · exact Or.inl ⟨g, rest, e1, e2, h.beginOf e3⟩
  · exact Or.inr ⟨l1, g, g', r, beg, ends, e1, by rw [h.pendingFinally]; exact e2, h.fsubC _ _ _ e3,
      h.deref _ _ e4, h.beginOf e5⟩

theorem WRel.stage {b b' : B} (h : WRel b b') {pre : List Nat} {j x : Nat} (hs : Stage b pre j x) :
    Stage b' pre j x := by
  rcases hs with hs | ⟨g, beg, ends, h1, h2, h3⟩
  · exact Or.inl hs
  · exact Or.inr ⟨g, beg, ends, h1, h.fsubC _ _ _ h2, h.deref _ _ h3⟩

theorem WRel.ppat {b b' : B} (h : WRel b b') {c : Bool} {t : Nat} {p : Nat × Nat} (hp : PPat b c t p)
    (hd : aget t (dictOf c b') = aget t (dictOf c b))
    (hf : ∀ l j, aget t (dictOf c b) = some l → j ∈ l → aget j b'.finallySections = aget j b.finallySections) : PPat b' c t p := by
  obtain ⟨l, j, gs, h1, h2, h3, h4⟩ := hp
  exact ⟨l, j, gs, by rw [hd]; exact h1, h2, by rw [hf l j h1 h2]; exact h3, h.ppd h4⟩

theorem WRel.pj {b b' : B} (h : WRel b b') {c : Bool} {t : Nat} {G : List Nat} {x : Nat} (hp : PJ c b t G x)
    (hd : aget t (dictOf c b') = aget t (dictOf c b))
    (hf : ∀ l j, aget t (dictOf c b) = some l → j ∈ l → aget j b'.finallySections = aget j b.finallySections) : PJ c b' t G x := by
  obtain ⟨l, j, pre, h1, h2, h3, h4, h5⟩ := hp
  exact ⟨l, j, pre, by rw [hd]; exact h1, h2, by rw [hf l j h1 h2]; exact h3,
    fun g hg => h.complete (h4 g hg), h.stage h5⟩

theorem JRel.dictOf {ex : List Nat} {b b' : B} (h : JRel ex b b') (c : Bool) : dictOf c b' = dictOf c b :=
  dictOf_congr h.exits h.continues c

theorem deref_of_heap {b b' : B} (h : b'.heap = b.heap) (r : Nat) : b'.deref r = b.deref r := by
  simp [B.deref, h]

theorem guardStep_complete (b : B) (cur : List Nat) (g beg ends : Nat) (h : aget g b.finallySub = some (some beg, some ends)) :
    B.guardStep (b, cur) g = (b.connect cur beg, b.deref ends) := by
  simp [B.guardStep, h]

theorem guardStep_rel (b : B) (cur : List Nat) (g : Nat) :
    JRelL [] b (B.guardStep (b, cur) g).1 ∧ (B.guardStep (b, cur) g).1.heap = b.heap := by
  simp only [B.guardStep]
  split
  · exact ⟨jrel_connect _ _ _ _, rfl⟩
  · exact ⟨jrel_fail _ _ _, rfl⟩

theorem guardFold_spec (gs : List Nat) : ∀ (b : B) (cur : List Nat),
    (JRelL [] b (gs.foldl B.guardStep (b, cur)).1 ∧ (gs.foldl B.guardStep (b, cur)).1.heap = b.heap) ∧
    (∀ g rest y, gs = g :: rest → BeginOf b g y → ∀ x, x ∈ cur → (x, y) ∈ (gs.foldl B.guardStep (b, cur)).1.edges) ∧
    (∀ l1 g g' r beg ends y, gs = l1 ++ g :: g' :: r → aget g b.finallySub = some (some beg, some ends) → BeginOf b g' y →
      ∀ x, x ∈ b.deref ends → (x, y) ∈ (gs.foldl B.guardStep (b, cur)).1.edges) ∧
    ((∀ g, g ∈ gs → Complete b g) → ∀ x,
      ((gs = [] ∧ x ∈ cur) ∨ ∃ g beg ends, gs.getLast? = some g ∧ aget g b.finallySub = some (some beg, some ends) ∧ x ∈ b.deref ends) →
      x ∈ (gs.foldl B.guardStep (b, cur)).2) := by
  induction gs with
  | nil =>
    intro b cur
    refine ⟨⟨JRelL.refl _ _, rfl⟩, (fun g rest y h => by cases h), ?_, ?_⟩
    · intro l1 g g' r beg ends y h
      cases l1 <;> simp at h
    · intro _ x hx
      rcases hx with ⟨_, hx⟩ | ⟨g, beg, ends, h, _⟩
      · exact hx
      · simp at h
  | cons g0 gs' ih =>
    intro b cur
    obtain ⟨S1, S2⟩ := guardStep_rel b cur g0
    obtain ⟨⟨I1, I2⟩, IA, IB, IC⟩ := ih (B.guardStep (b, cur) g0).1 (B.guardStep (b, cur) g0).2
    have hfold : (g0 :: gs').foldl B.guardStep (b, cur) =
        gs'.foldl B.guardStep ((B.guardStep (b, cur) g0).1, (B.guardStep (b, cur) g0).2) := rfl
    rw [hfold]
    refine ⟨⟨S1.trans I1, by rw [I2, S2]⟩, ?_, ?_, ?_⟩
    · intro g rest y h hb x hx
      simp only [List.cons.injEq] at h
      obtain ⟨h1, _⟩ := h
      subst h1
      obtain ⟨_, ends, he⟩ := hb
      apply I1.edges
      rw [guardStep_complete b cur g0 y ends he]
      exact List.mem_append.mpr (Or.inr (List.mem_map.mpr ⟨x, hx, rfl⟩))
    · intro l1 g g' r beg ends y h hg hb x hx
      cases l1 with
      | nil =>
        simp only [List.nil_append, List.cons.injEq] at h
        obtain ⟨h1, h2⟩ := h
        subst h1
        refine IA g' r y h2 (S1.toSRel.w.beginOf hb) x ?_
        rw [guardStep_complete b cur g0 beg ends hg]
        exact hx
      | cons a l1' =>
        simp only [List.cons_append, List.cons.injEq] at h
        obtain ⟨_, h2⟩ := h
        refine IB l1' g g' r beg ends y h2 (by rw [S1.finallySub]; exact hg) (S1.toSRel.w.beginOf hb) x ?_
        rw [deref_of_heap S2]
        exact hx
    · intro hall x hx
      obtain ⟨_, beg0, ends0, h0⟩ := hall g0 (List.mem_cons_self ..)
      have hstep := guardStep_complete b cur g0 beg0 ends0 h0
      apply IC (fun g hg => S1.toSRel.w.complete (hall g (List.mem_cons_of_mem _ hg)))
      rcases hx with ⟨h, _⟩ | ⟨g, beg, ends, h1, h2, h3⟩
      · cases h
      · cases gs' with
        | nil =>
          simp only [List.getLast?_singleton, Option.some.injEq] at h1
          subst h1
          rw [h0] at h2
          simp only [Option.some.injEq, Prod.mk.injEq] at h2
          obtain ⟨_, h2⟩ := h2
          subst h2
          left
          refine ⟨rfl, ?_⟩
          rw [hstep]
          exact h3
        | cons a t =>
          right
          rw [List.getLast?_cons_cons] at h1
          exact ⟨g, beg, ends, h1, by rw [S1.finallySub]; exact h2, by rw [deref_of_heap S2]; exact h3⟩

theorem connectJump_spec (b : B) (n : Nat) (ex : List Nat) (hn : n ∈ ex) :
    JRelL ex b (b.connectJump n).1 ∧
    ∀ gs, aget n b.finallySections = some gs →
      (∀ p, PPd b gs n p → p ∈ (b.connectJump n).1.edges) ∧
      ((∀ g, g ∈ gs → Complete b g) → ∀ x, Stage b gs n x → x ∈ (b.connectJump n).2) := by
  cases hfs : aget n b.finallySections with
  | none =>
    have : b.connectJump n = (b, [n]) := by simp [B.connectJump, hfs]
    rw [this]
    exact ⟨JRelL.refl _ _, fun gs h => by cases h⟩
  | some gs0 =>
    have : b.connectJump n = ((gs0.foldl B.guardStep (b, [n])).1.delFinallySections n, (gs0.foldl B.guardStep (b, [n])).2) := by
      simp [B.connectJump, hfs]
    rw [this]
    obtain ⟨⟨J, _⟩, A, Bc, C⟩ := guardFold_spec gs0 b [n]
    refine ⟨(J.weaken (fun _ h => (List.not_mem_nil h).elim)).trans (jrel_delFinallySections ex _ n hn), ?_⟩
    intro gs hgs
    cases hgs
    refine ⟨?_, ?_⟩
    · intro p hp
      obtain ⟨p1, p2⟩ := p
      show (p1, p2) ∈ (gs0.foldl B.guardStep (b, [n])).1.edges
      rcases hp with ⟨g, rest, e1, e2, e3⟩ | ⟨l1, g, g', r, beg, ends, e1, _, e3, e4, e5⟩
      · have e2' : p1 = n := e2
        subst e2'
        exact A g rest p2 e1 e3 p1 (by simp)
      · exact Bc l1 g g' r beg ends p2 e1 e3 e5 p1 e4
    · intro hall x hx
      show x ∈ (gs0.foldl B.guardStep (b, [n])).2
      apply C hall
      rcases hx with ⟨h1, h2⟩ | h
      · exact Or.inl ⟨h1, by simp [h2]⟩
      · exact Or.inr h

/-- A loop `for e in ex: f(e)` whose step connects jump `e` and then does `Q` to the cursor. -/
theorem jumpFold_spec (f : B → Nat → B) (Q : B → Nat → Prop) (I : B → Prop)
    (hQ : ∀ ex b b' x, JRelL ex b b' → Q b x → Q b' x)
    (hstep : ∀ b e, I b → I (f b e) ∧ JRelL [e] b (f b e) ∧ ∀ gs, aget e b.finallySections = some gs →
      (∀ p, PPd b gs e p → p ∈ (f b e).edges) ∧ ((∀ g, g ∈ gs → Complete b g) → ∀ x, Stage b gs e x → Q (f b e) x)) :
    ∀ (ex : List Nat) (b : B), I b → I (ex.foldl f b) ∧ JRelL ex b (ex.foldl f b) ∧
      ∀ j, j ∈ ex → ∀ gs, aget j b.finallySections = some gs →
        (∀ p, PPd b gs j p → p ∈ (ex.foldl f b).edges) ∧
        ((∀ g, g ∈ gs → Complete b g) → ∀ x, Stage b gs j x → Q (ex.foldl f b) x) := by
  intro ex
  induction ex with
  | nil => intro b hI; exact ⟨hI, JRelL.refl _ _, fun j hj => by cases hj⟩
  | cons e ex' ih =>
    intro b hI
    obtain ⟨s1, s2, s3⟩ := hstep b e hI
    obtain ⟨i1, i2, i3⟩ := ih (f b e) s1
    have hfold : (e :: ex').foldl f b = ex'.foldl f (f b e) := rfl
    rw [hfold]
    have J1 : JRelL (e :: ex') b (f b e) := s2.weaken (fun j hj => by simp only [List.mem_singleton] at hj; rw [hj]; exact List.mem_cons_self ..)
    have J2 : JRelL (e :: ex') (f b e) (ex'.foldl f (f b e)) := i2.weaken (fun j hj => List.mem_cons_of_mem _ hj)
    refine ⟨i1, J1.trans J2, ?_⟩
    intro j hj gs hgs
    by_cases hje : j = e
    · subst hje
      obtain ⟨t1, t2⟩ := s3 gs hgs
      exact ⟨fun p hp => i2.edges p (t1 p hp), fun hall x hx => hQ _ _ _ x i2 (t2 hall x hx)⟩
    · have hj' : j ∈ ex' := by
        rcases List.mem_cons.mp hj with h | h
        · exact (hje h).elim
        · exact h
      have hgs' : aget j (f b e).finallySections = some gs := by
        rw [s2.fsec j (by simpa using hje)]; exact hgs
      obtain ⟨t1, t2⟩ := i3 j hj' gs hgs'
      exact ⟨fun p hp => t1 p (s2.toSRel.w.ppd hp),
        fun hall x hx => t2 (fun g hg => s2.toSRel.w.complete (hall g hg)) x (s2.toSRel.w.stage hx)⟩

theorem exitStep_spec (b : B) (e : Nat) (hv : b.leaves < b.heap.length) :
    (b.exitStep e).leaves < (b.exitStep e).heap.length ∧ JRelL [e] b (b.exitStep e) ∧
    ∀ gs, aget e b.finallySections = some gs →
      (∀ p, PPd b gs e p → p ∈ (b.exitStep e).edges) ∧
      ((∀ g, g ∈ gs → Complete b g) → ∀ x, Stage b gs e x → x ∈ (b.exitStep e).leafSet) := by
  obtain ⟨J, hs⟩ := connectJump_spec b e [e] (by simp)
  have hv1 : (b.connectJump e).1.leaves < (b.connectJump e).1.heap.length := by rw [J.leaves, J.heapLen]; exact hv
  have J2 := J.trans (jrel_leavesUnion [e] (b.connectJump e).1 (b.connectJump e).2)
  have hes : b.exitStep e = (b.connectJump e).1.leavesUnion (b.connectJump e).2 := rfl
  rw [hes]
  refine ⟨?_, J2, ?_⟩
  · rw [J2.leaves, J2.heapLen]; exact hv
  · intro gs hgs
    obtain ⟨t1, t2⟩ := hs gs hgs
    refine ⟨fun p hp => t1 p hp, ?_⟩
    intro hall x hx
    show x ∈ ((b.connectJump e).1.leavesUnion (b.connectJump e).2).leafSet
    rw [B.mem_leafSet_leavesUnion _ _ hv1]
    exact Or.inr (t2 hall x hx)

theorem reentryStep_spec (entry : Nat) (b : B) (e : Nat) :
    JRelL [e] b (B.reentryStep entry b e) ∧
    ∀ gs, aget e b.finallySections = some gs →
      (∀ p, PPd b gs e p → p ∈ (B.reentryStep entry b e).edges) ∧
      ((∀ g, g ∈ gs → Complete b g) → ∀ x, Stage b gs e x → (x, entry) ∈ (B.reentryStep entry b e).edges) := by
  obtain ⟨J, hs⟩ := connectJump_spec b e [e] (by simp)
  have J2 := J.trans (jrel_connect [e] (b.connectJump e).1 (b.connectJump e).2 entry)
  refine ⟨J2, ?_⟩
  intro gs hgs
  obtain ⟨t1, t2⟩ := hs gs hgs
  refine ⟨fun p hp => List.mem_append.mpr (Or.inl (t1 p hp)), ?_⟩
  intro hall x hx
  exact List.mem_append.mpr (Or.inr (List.mem_map.mpr ⟨x, t2 hall x hx, rfl⟩))

structure ExitOk (c0 : Bool) (i : Nat) (b b' : B) : Prop where
  ppe : ∀ p, PPat b c0 i p → p ∈ b'.edges
  ppk : ∀ c t p, PPat b c t p → ¬(c = c0 ∧ t = i) → PPat b' c t p
  pj : ∀ c t G x, PJ c b t G x → (c = c0 ∧ t = i) ∨ PJ c b' t G x
  edges : ∀ p, p ∈ b.edges → p ∈ b'.edges
  finallySub : b'.finallySub = b.finallySub
  pendingFinally : b'.pendingFinally = b.pendingFinally
  errors : b'.errors = b.errors
  raises : b'.raises = b.raises
  ldj : ListsDisjoint b'

theorem ReqOkT.exit {P : Bool → Nat → Prop} {c0 : Bool} {i : Nat} {b b' : B} (h : ExitOk c0 i b b') {T : Nat} {curP : List Nat}
    {p : Nat × Nat} (hp : ReqOkT P b T curP p) : ReqOkT (fun c t => P c t ∧ ¬(c = c0 ∧ t = i)) b' T curP p := by
  rcases hp with h1 | ⟨c, t, htg, h1⟩ | ⟨h1, h2⟩
  · exact Or.inl (h.edges p h1)
  · by_cases hct : c = c0 ∧ t = i
    · obtain ⟨rfl, rfl⟩ := hct
      exact Or.inl (h.ppe p h1)
    · exact Or.inr (Or.inl ⟨c, t, ⟨htg, hct⟩, h.ppk c t p h1 hct⟩)
  · exact Or.inr (Or.inr ⟨h1, startedAt_of_same h.finallySub h.pendingFinally h2⟩)

/-- the loop over the jumps of `(c0, i)` followed by steps that delete that key and touch nothing else pending -/
theorem exitOk_of (c0 : Bool) (i : Nat) (ex : List Nat) (b bf b' : B) (hex : aget i (dictOf c0 b) = some ex) (hl : ListsDisjoint b)
    (J : JRel ex b bf)
    (hdis : ∀ j, j ∈ ex → ∀ gs, aget j b.finallySections = some gs → ∀ p, PPd b gs j p → p ∈ bf.edges)
    (S' : SRel bf b') (hfs : b'.finallySections = bf.finallySections)
    (hdict : ∀ c t, ¬(c = c0 ∧ t = i) → aget t (dictOf c b') = aget t (dictOf c bf))
    (hldj : ListsDisjoint b') : ExitOk c0 i b b' := by
  have hne : ∀ c t, ¬(c = c0 ∧ t = i) → ∀ l j, aget t (dictOf c b) = some l → j ∈ l → j ∉ ex := by
    intro c t hct l j h1 h2 h3
    exact hct (hl c c0 t i l ex j h1 hex h2 h3)
  have S := J.toSRel.trans S'
  have hd : ∀ c t, ¬(c = c0 ∧ t = i) → aget t (dictOf c b') = aget t (dictOf c b) := by
    intro c t hct; rw [hdict c t hct, J.dictOf]
  have hf : ∀ c t, ¬(c = c0 ∧ t = i) → ∀ l j, aget t (dictOf c b) = some l → j ∈ l →
      aget j b'.finallySections = aget j b.finallySections := by
    intro c t hct l j h1 h2; rw [hfs, J.fsec j (hne c t hct l j h1 h2)]
  refine ⟨?_, ?_, ?_, S.edges, S.finallySub, S.pendingFinally, S.errors, S.raises, hldj⟩
  · intro p hp
    obtain ⟨l, j, gs, h1, h2, h3, h4⟩ := hp
    rw [hex] at h1
    cases h1
    exact S'.edges p (hdis j h2 gs h3 p h4)
  · intro c t p hp hct
    exact S.w.ppat hp (hd c t hct) (hf c t hct)
  · intro c t G x hp
    by_cases hct : c = c0 ∧ t = i
    · exact Or.inl hct
    · exact Or.inr (S.w.pj hp (hd c t hct) (hf c t hct))

theorem exitSection_spec (b : B) (i : Nat) (ex : List Nat) (hex : aget i b.exits = some ex) (hv : b.leaves < b.heap.length)
    (hl : ListsDisjoint b) :
    ExitOk false i b (b.exitSection i) ∧
    (∀ x, PJ false b i [] x → x ∈ (b.exitSection i).leafSet) ∧
    (∀ x, x ∈ b.leafSet → x ∈ (b.exitSection i).leafSet) := by
  have hes : b.exitSection i = (ex.foldl B.exitStep b).delExits i := by simp [B.exitSection, hex]
  obtain ⟨f1, f2, f3⟩ := jumpFold_spec B.exitStep (fun b x => x ∈ b.leafSet) (fun b => b.leaves < b.heap.length)
    (fun ex b b' x J h => J.leafSet x h) (fun b e hI => exitStep_spec b e hI) ex b hv
  rw [hes]
  refine ⟨exitOk_of false i ex b (ex.foldl B.exitStep b) _ hex hl f2.toJRel (fun j hj gs hgs p hp => (f3 j hj gs hgs).1 p hp)
    ⟨fun _ h => h, fun _ _ h => h, rfl, rfl, rfl, rfl⟩ rfl ?_ (ldj_delExits i (ldj_of_eq f2.exits f2.continues hl)), ?_, ?_⟩
  · intro c t hct
    cases c
    · have hti : t ≠ i := fun e => hct ⟨rfl, e⟩
      show aget t (adel i (ex.foldl B.exitStep b).exits) = _
      rw [aget_adel, if_neg hti]; rfl
    · rfl
  · intro x hp
    obtain ⟨l, j, pre, h1, h2, h3, h4, h5⟩ := hp
    rw [dictOf_false, hex] at h1
    cases h1
    rw [List.append_nil] at h3
    exact (f3 j h2 pre h3).2 h4 x h5
  · intro x hx
    exact f2.leafSet x hx

theorem exitLoopSection_spec (b : B) (i entry : Nat) (cs : List Nat) (he : aget i b.sectionEntry = some entry)
    (hc : aget i b.continues = some cs) (hl : ListsDisjoint b) :
    ExitOk true i b (b.exitLoopSection i) ∧
    (∀ x, PJ true b i [] x → (x, entry) ∈ (b.exitLoopSection i).edges) ∧
    (∀ x, x ∈ b.leafSet → (x, entry) ∈ (b.exitLoopSection i).edges) ∧
    (b.exitLoopSection i).leafSet = [entry] ∧ (b.exitLoopSection i).exits = b.exits := by
  have hes : b.exitLoopSection i =
      ((cs.foldl (B.reentryStep entry) (b.connect b.leafSet entry)).setLeavesFresh [entry]).delLoopKeys i := by
    simp [B.exitLoopSection, he, hc]
  have J0 : JRelL cs b (b.connect b.leafSet entry) := jrel_connect cs b b.leafSet entry
  obtain ⟨_, f2, f3⟩ := jumpFold_spec (B.reentryStep entry) (fun b x => (x, entry) ∈ b.edges) (fun _ => True)
    (fun ex b b' x J h => J.edges _ h) (fun b e _ => ⟨trivial, reentryStep_spec entry b e⟩) cs (b.connect b.leafSet entry) trivial
  have J := J0.trans f2
  rw [hes]
  refine ⟨exitOk_of true i cs b (cs.foldl (B.reentryStep entry) (b.connect b.leafSet entry)) _ hc hl J.toJRel
    (fun j hj gs hgs p hp => (f3 j hj gs hgs).1 p (J0.toSRel.w.ppd hp))
    ⟨fun _ h => h, fun r x h => B.deref_setLeavesFresh _ _ r x h, rfl, rfl, rfl, rfl⟩ rfl ?_
    (ldj_delLoopKeys i (ldj_of_eq (b := b) J.exits J.continues hl)), ?_, ?_, by simp, J.exits⟩
  · intro c t hct
    cases c
    · rfl
    · have hti : t ≠ i := fun e => hct ⟨rfl, e⟩
      show aget t (adel i (cs.foldl (B.reentryStep entry) (b.connect b.leafSet entry)).continues) = _
      rw [aget_adel, if_neg hti]; rfl
  · intro x hp
    obtain ⟨l, j, pre, h1, h2, h3, h4, h5⟩ := hp
    rw [dictOf_true, hc] at h1
    cases h1
    rw [List.append_nil] at h3
    exact (f3 j h2 pre h3).2 (fun g hg => J0.toSRel.w.complete (h4 g hg)) x (J0.toSRel.w.stage h5)
  · intro x hx
    apply f2.edges
    exact List.mem_append.mpr (Or.inr (List.mem_map.mpr ⟨x, hx, rfl⟩))

/-- the pending facts of code whose scopes do not include section `i` survive leaving section `i` -/
theorem Pend.exit {σ : List Scope} {T : Nat} {curP : List Nat} {b b' : B} {R : Flow} {c0 : Bool} {i : Nat}
    (h : ExitOk c0 i b b') (hσ : sk i ∉ scopeKeys σ) (hp : Pend σ T curP b R) : Pend σ T curP b' R := by
  refine hp.transfer (fun p hpp => (ReqOkT.exit h hpp).imp ?_) ?_ (fun x hx => by rw [h.errors]; exact hx)
    (fun hd _ l x hl hxl => ⟨l, by rw [h.raises]; exact hl, hxl⟩)
  · exact fun c t h => h.1
  · intro c stop t G x ht hpj
    rcases h.pj c t G x hpj with ⟨_, e⟩ | h'
    · exact (hσ (e ▸ enclosingFinally_target_key stop σ t ht)).elim
    · exact h'

end Malt.Cfg
