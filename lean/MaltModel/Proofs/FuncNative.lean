import MaltModel.Proofs.FuncBasic
/-! The native semantics `execN` as a big-step relation `RunN` ("some fuel suffices") with one rule for each way a target
statement can run: a forward simulation builds a derivation with these rules and never handles fuel. -/
namespace Malt.Func
open Malt.Sem

theorem withFrame_inv {L : List Name} {σ : TSt} {A : Option (Out × TSt)} {r : Out × TSt}
    (h : withFrame L σ A = some r) : ∃ o τ, A = some (o, τ) ∧ r = (fnOut o, restore L σ τ) := by
  cases A with
  | none => cases h
  | some a => exact ⟨a.1, a.2, rfl, (Option.some.inj h).symm⟩

theorem withFrame_sub {L : List Name} {σ : TSt} {A B : Option (Out × TSt)} (hAB : Sub A B) :
    Sub (withFrame L σ A) (withFrame L σ B) := by
  intro r h
  obtain ⟨o, τ, hA, rfl⟩ := withFrame_inv h
  rw [hAB _ hA]; rfl

section EquationsN
variable (X : Ext) (n : Nat) (σ : TSt)

theorem execNB_cons (s : TStmt) (rest : TBlock) :
    execNB X (n+1) (s :: rest) σ = andThen (execN X n s σ) (execNB X n rest) := by
  conv => lhs; whnf
  rcases execN X n s σ with _ | ⟨_ | _, _⟩ <;> rfl

theorem execN_assign (x : Name) (e : Expr) :
    execN X (n+1) (.assign x e) σ = valThen (evalT X e σ) fun v σ' => some (.normal, σ'.set x v) := by
  conv => lhs; whnf
  rcases evalT X e σ with ⟨_ | _, _⟩ <;> rfl

theorem execN_expr (e : Expr) :
    execN X (n+1) (.expr e) σ = valThen (evalT X e σ) fun _ σ' => some (.normal, σ') := by
  conv => lhs; whnf
  rcases evalT X e σ with ⟨_ | _, _⟩ <;> rfl

theorem execN_ret (e : Expr) :
    execN X (n+1) (.ret (some e)) σ = valThen (evalT X e σ) fun v σ' => some (.ret v, σ') := by
  conv => lhs; whnf
  rcases evalT X e σ with ⟨_ | _, _⟩ <;> rfl

theorem execN_ifF (c : Expr) (b e : TBlock) (d : List Name) (k : Nat) :
    execN X (n+1) (.ifF c b e d k) σ = valThen (evalT X c σ) fun v σ' =>
      if truthy v then withFrame (localsOf b d) σ' (execNB X n b (mask (localsOf b d) σ'))
      else withFrame (localsOf e d) σ' (execNB X n e (mask (localsOf e d) σ')) := by
  conv => lhs; whnf
  rcases evalT X c σ with ⟨_ | _, _⟩ <;> rfl

theorem execN_whileF (c : Expr) (b : TBlock) (d : List Name) :
    execN X (n+1) (.whileF c b d) σ = valThen (evalT X c σ) fun v σ' =>
      if !truthy v then some (.normal, σ')
      else andThen (withFrame (localsOf b d) σ' (execNB X n b (mask (localsOf b d) σ'))) (execN X n (.whileF c b d)) := by
  conv => lhs; whnf
  rcases evalT X c σ with ⟨_ | v, σ'⟩
  · rfl
  · simp only [valThen]
    split
    · rfl
    · rcases withFrame (localsOf b d) σ' (execNB X n b (mask (localsOf b d) σ')) with _ | ⟨_ | _, _⟩ <;> rfl

theorem execN_forF (x : Name) (it : Expr) (extra : Option Expr) (b : TBlock) (d : List Name) :
    execN X (n+1) (.forF x it extra b d) σ = valThen (evalT X it σ) fun v σ' =>
      match iterItems v with
      | .ok items => extraThen (evalT X) extra (execNFor X n x extra b d items) σ'
      | .error ex => some (.exc ex, σ') := by
  conv => lhs; whnf
  rcases evalT X it σ with ⟨_ | v, σ'⟩
  · rfl
  · simp only [valThen]
    cases iterItems v with
    | error ex => rfl
    | ok items =>
      cases extra with
      | none => rfl
      | some t => simp only [extraThen]; rcases evalT X t σ' with ⟨_ | _, _⟩ <;> rfl

theorem execNFor_cons (x : Name) (extra : Option Expr) (b : TBlock) (d : List Name) (v : Val) (items : List Val) :
    execNFor X (n+1) x extra b d (v :: items) σ =
      andThen (withFrame (localsFor x b d) σ (execNB X n (.assign x (.const v) :: b) (mask (localsFor x b d) σ)))
        (extraThen (evalT X) extra (execNFor X n x extra b d items)) := by
  conv => lhs; whnf
  rcases withFrame (localsFor x b d) σ (execNB X n (.assign x (.const v) :: b) (mask (localsFor x b d) σ))
    with _ | ⟨_ | _, σ'⟩ <;> try rfl
  cases extra with
  | none => rfl
  | some t => simp only [andThen, extraThen]; rcases evalT X t σ' with ⟨_ | _, _⟩ <;> rfl

theorem execN_withT (tag : Int) (b : TBlock) :
    execN X (n+1) (.withT tag b) σ =
      (execNB X n b (σ.push (.enter tag))).bind fun r => some (r.1, r.2.push (.exit tag)) := by
  conv => lhs; whnf
  rcases execNB X n b (σ.push (.enter tag)) with _ | ⟨_, _⟩ <;> rfl

theorem execN_try (body : TBlock) (hs : List (Nat × TBlock)) (fin : TBlock) :
    execN X (n+1) (.tryT body hs fin) σ
      = (execNB X n body σ).bind fun r =>
          (handleThen (findHandlerT hs) (execNB X n) r).bind (finallyThen (execNB X n fin)) := by
  conv => lhs; whnf
  rcases execNB X n body σ with _ | ⟨o, σ'⟩
  · rfl
  cases o with
  | exc ex =>
    simp only [Option.bind_some, handleThen]
    rcases findHandlerT hs ex with _ | hbk
    · simp only [Option.bind_some, finallyThen]
      rcases execNB X n fin σ' with _ | ⟨_ | _, _⟩ <;> rfl
    · simp only
      rcases execNB X n hbk σ' with _ | ⟨o2, σ2⟩
      · rfl
      · simp only [Option.bind_some, finallyThen]
        rcases execNB X n fin σ2 with _ | ⟨_ | _, _⟩ <;> rfl
  | _ =>
    simp only [handleThen, Option.bind_some, finallyThen]
    rcases execNB X n fin σ' with _ | ⟨_ | _, _⟩ <;> rfl

end EquationsN

theorem monoN (X : Ext) : ∀ n m, n ≤ m →
    (∀ s σ, Sub (execN X n s σ) (execN X m s σ)) ∧ (∀ b σ, Sub (execNB X n b σ) (execNB X m b σ)) ∧
    (∀ x extra body decl items σ, Sub (execNFor X n x extra body decl items σ) (execNFor X m x extra body decl items σ))
  | 0, _, _ => by
    refine ⟨fun s σ r h => ?_, fun b σ r h => ?_, fun x extra body decl items σ r h => ?_⟩ <;> cases h
  | n+1, m+1, hnm => by
    obtain ⟨ihS, ihB, ihF⟩ := monoN X n m (Nat.le_of_succ_le_succ hnm)
    have call : ∀ L b σ, Sub (withFrame L σ (execNB X n b (mask L σ))) (withFrame L σ (execNB X m b (mask L σ))) :=
      fun L b σ => withFrame_sub (ihB b _)
    refine ⟨fun s σ => ?_, fun b σ => ?_, fun x extra body decl items σ => ?_⟩
    · cases s with
      | ifF c body orelse decl nouts =>
        rw [execN_ifF, execN_ifF]
        exact valThen_sub fun v σ' => ite_sub (call _ _ _) (call _ _ _)
      | whileF c body decl =>
        rw [execN_whileF, execN_whileF]
        exact valThen_sub fun v σ' => ite_sub Sub.rfl (andThen_sub (call _ _ _) (ihS _))
      | forF x it extra body decl =>
        rw [execN_forF, execN_forF]
        refine valThen_sub fun v σ' => ?_
        cases iterItems v with
        | error ex => exact Sub.rfl
        | ok items => exact extraThen_sub (ihF _ _ _ _ _)
      | withT tag body =>
        rw [execN_withT, execN_withT]
        exact bind_sub (ihB _ _) fun _ => Sub.rfl
      | tryT body hs fin =>
        rw [execN_try, execN_try]
        exact bind_sub (ihB _ _) fun r => bind_sub (handleThen_sub ihB r) (finallyThen_sub (ihB fin))
      | ret e => cases e <;> exact Sub.rfl
      | _ => exact Sub.rfl
    · cases b with
      | nil => exact Sub.rfl
      | cons s rest => rw [execNB_cons, execNB_cons]; exact andThen_sub (ihS _ _) (ihB rest)
    · cases items with
      | nil => exact Sub.rfl
      | cons v items =>
        rw [execNFor_cons, execNFor_cons]
        exact andThen_sub (call _ _ _) fun σ' => extraThen_sub (ihF _ _ _ _ _)
  | n+1, 0, h => absurd h (Nat.not_succ_le_zero n)

theorem execN_mono (X : Ext) {n : Nat} {s : TStmt} {σ : TSt} {r : Out × TSt} (h : execN X n s σ = some r)
    {m : Nat} (hm : n ≤ m) : execN X m s σ = some r := (monoN X n m hm).1 s σ r h
theorem execNB_mono (X : Ext) {n : Nat} {b : TBlock} {σ : TSt} {r : Out × TSt} (h : execNB X n b σ = some r)
    {m : Nat} (hm : n ≤ m) : execNB X m b σ = some r := (monoN X n m hm).2.1 b σ r h
theorem execNFor_mono (X : Ext) {n : Nat} {x extra body decl items} {σ : TSt} {r : Out × TSt}
    (h : execNFor X n x extra body decl items σ = some r) {m : Nat} (hm : n ≤ m) :
    execNFor X m x extra body decl items σ = some r := (monoN X n m hm).2.2 x extra body decl items σ r h

theorem execNB_det (X : Ext) {m k : Nat} {b : TBlock} {σ : TSt} {r r' : Out × TSt}
    (h : execNB X m b σ = some r) (h' : execNB X k b σ = some r') : r = r' := by
  have a := execNB_mono X h (Nat.le_max_left m k)
  have b := execNB_mono X h' (Nat.le_max_right m k)
  rw [a] at b; exact Option.some.inj b

def RunN (X : Ext) (s : TStmt) (σ : TSt) (r : Out × TSt) : Prop := ∃ m, execN X m s σ = some r

def RunNB (X : Ext) (b : TBlock) (σ : TSt) (r : Out × TSt) : Prop := ∃ m, execNB X m b σ = some r

/-- A call of the generated function with body `b` whose local variables are `L`. -/
def CallN (X : Ext) (L : List Name) (b : TBlock) (σ : TSt) (r : Out × TSt) : Prop :=
  ∃ m, withFrame L σ (execNB X m b (mask L σ)) = some r

def RunNFor (X : Ext) (x : Name) (extra : Option Expr) (b : TBlock) (d : List Name) (items : List Val) (σ : TSt)
    (r : Out × TSt) : Prop := ∃ m, execNFor X m x extra b d items σ = some r

def NextN (X : Ext) (x : Name) (extra : Option Expr) (b : TBlock) (d : List Name) (items : List Val) (σ : TSt)
    (r : Out × TSt) : Prop := ∃ m, extraThen (evalT X) extra (execNFor X m x extra b d items) σ = some r

def AfterN (X : Ext) (hs : List (Nat × TBlock)) (r₁ r₂ : Out × TSt) : Prop := ∃ m, handleThen (findHandlerT hs) (execNB X m) r₁ = some r₂

def FinN (X : Ext) (fin : TBlock) (r₂ r₃ : Out × TSt) : Prop := ∃ m, finallyThen (execNB X m fin) r₂ = some r₃

def TStmt.head : TStmt → Option Expr
  | .assign _ e | .expr e | .ret (some e) | .ifF e .. | .whileF e .. | .forF _ e .. => some e
  | _ => none

variable {X : Ext} {σ σ' τ : TSt} {r : Out × TSt} {o : Out}

theorem RunNB.nil : RunNB X [] σ (.normal, σ) := ⟨1, rfl⟩

theorem RunNB.cons {s : TStmt} {rest : TBlock} (hs : RunN X s σ (.normal, τ)) (hr : RunNB X rest τ r) :
    RunNB X (s :: rest) σ r := by
  obtain ⟨m₁, h₁⟩ := hs
  obtain ⟨m₂, h₂⟩ := hr
  exact ⟨max m₁ m₂ + 1, by
    rw [execNB_cons, execN_mono X h₁ (Nat.le_max_left m₁ m₂)]; exact execNB_mono X h₂ (Nat.le_max_right m₁ m₂)⟩

theorem RunNB.cons_stop {s : TStmt} (rest : TBlock) (hs : RunN X s σ (o, τ)) (ho : o ≠ .normal) :
    RunNB X (s :: rest) σ (o, τ) := by
  obtain ⟨m, hm⟩ := hs
  exact ⟨m + 1, by rw [execNB_cons, hm]; cases o <;> first | rfl | exact absurd rfl ho⟩

theorem RunNB.single {s : TStmt} (hs : RunN X s σ r) : RunNB X [s] σ r := by
  obtain ⟨o, τ⟩ := r
  by_cases ho : o = .normal
  · subst ho; exact .cons hs .nil
  · exact .cons_stop [] hs ho

theorem RunNB.append_of {a b : TBlock} (ha : RunNB X a σ (o, τ)) (hb : o = .normal → RunNB X b τ r)
    (hs : o ≠ .normal → r = (o, τ)) : RunNB X (a ++ b) σ r := by
  obtain ⟨m, hm⟩ := ha
  induction a generalizing m σ with
  | nil => cases m <;> cases hm; exact hb rfl
  | cons s rest ih =>
    cases m with
    | zero => cases hm
    | succ m =>
      rw [execNB_cons] at hm
      obtain ⟨o₁, σ₁, h₁, hc⟩ := andThen_inv hm
      rcases hc with ⟨rfl, hrest⟩ | ⟨hne, heq⟩
      · exact .cons ⟨m, h₁⟩ (ih m hrest)
      · cases heq; rw [hs hne]; exact .cons_stop _ ⟨m, h₁⟩ hne

theorem RunNB.append {a b : TBlock} (ha : RunNB X a σ (.normal, τ)) (hb : RunNB X b τ r) : RunNB X (a ++ b) σ r :=
  ha.append_of (fun _ => hb) fun h => absurd rfl h

theorem RunNB.append_stop {a : TBlock} (b : TBlock) (ha : RunNB X a σ (o, τ)) (ho : o ≠ .normal) :
    RunNB X (a ++ b) σ (o, τ) :=
  ha.append_of (fun h => absurd h ho) fun _ => rfl

theorem RunNB.det {b : TBlock} {r' : Out × TSt} (h : RunNB X b σ r) (h' : RunNB X b σ r') : r = r' := by
  obtain ⟨m, hm⟩ := h
  obtain ⟨k, hk⟩ := h'
  exact execNB_det X hm hk

theorem RunN.pass : RunN X .pass σ (.normal, σ) := ⟨1, rfl⟩
theorem RunN.raise {t : Nat} : RunN X (.raise t) σ (.exc (.user t), σ) := ⟨1, rfl⟩
theorem RunN.ret_none : RunN X (.ret none) σ (.ret .none, σ) := ⟨1, rfl⟩
theorem RunN.undefAssign {x : Name} : RunN X (.undefAssign x) σ (.normal, σ.setSlot x .undef) := ⟨1, rfl⟩

theorem RunN.assign {x : Name} {e : Expr} {v : Val} (h : evalT X e σ = (.ok v, σ')) :
    RunN X (.assign x e) σ (.normal, σ'.set x v) := ⟨1, by rw [execN_assign, h]; rfl⟩

theorem RunN.expr {e : Expr} {v : Val} (h : evalT X e σ = (.ok v, σ')) : RunN X (.expr e) σ (.normal, σ') :=
  ⟨1, by rw [execN_expr, h]; rfl⟩

theorem RunN.ret {e : Expr} {v : Val} (h : evalT X e σ = (.ok v, σ')) : RunN X (.ret (some e)) σ (.ret v, σ') :=
  ⟨1, by rw [execN_ret, h]; rfl⟩

theorem RunN.err {s : TStmt} {e : Expr} {ex : Exc} (hs : s.head = some e) (h : evalT X e σ = (.error ex, σ')) :
    RunN X s σ (.exc ex, σ') := by
  refine ⟨1, ?_⟩
  cases s with
  | assign x e' => cases hs; rw [execN_assign, h]; rfl
  | expr e' => cases hs; rw [execN_expr, h]; rfl
  | ret oe =>
    cases oe with
    | none => cases hs
    | some e' => cases hs; rw [execN_ret, h]; rfl
  | ifF c b e' d k => cases hs; rw [execN_ifF, h]; rfl
  | whileF c b d => cases hs; rw [execN_whileF, h]; rfl
  | forF x it extra b d => cases hs; rw [execN_forF, h]; rfl
  | _ => cases hs

theorem RunNB.undefs {b : TBlock} : ∀ (us : List Name) {σ : TSt}, RunNB X b (undefAll us σ) r → RunNB X (undefs us ++ b) σ r
  | [], _, h => h
  | _ :: us, _, h => .cons .undefAssign (RunNB.undefs us h)

theorem RunNB.op {t : TStmt} (us : List Name) (h : RunN X t (undefAll us σ) r) : RunNB X (Func.undefs us ++ [t]) σ r :=
  .undefs us (.single h)

theorem CallN.intro {L : List Name} {b : TBlock} (h : RunNB X b (mask L σ) (o, τ)) :
    CallN X L b σ (fnOut o, restore L σ τ) := by
  obtain ⟨m, hm⟩ := h
  exact ⟨m, by rw [hm]; rfl⟩

section
variable {c : Expr} {b e : TBlock} {d : List Name} {k : Nat} {v : Val} {σ'' : TSt}

theorem RunN.ifF_true (hc : evalT X c σ = (.ok v, σ')) (hv : truthy v = true) (h : CallN X (localsOf b d) b σ' r) :
    RunN X (.ifF c b e d k) σ r := by
  obtain ⟨m, hm⟩ := h
  exact ⟨m + 1, by rw [execN_ifF, hc]; exact (if_pos hv).trans hm⟩

theorem RunN.ifF_false (hc : evalT X c σ = (.ok v, σ')) (hv : ¬ truthy v = true) (h : CallN X (localsOf e d) e σ' r) :
    RunN X (.ifF c b e d k) σ r := by
  obtain ⟨m, hm⟩ := h
  exact ⟨m + 1, by rw [execN_ifF, hc]; exact (if_neg hv).trans hm⟩

theorem RunN.whileF_false (hc : evalT X c σ = (.ok v, σ')) (hv : ¬ truthy v = true) :
    RunN X (.whileF c b d) σ (.normal, σ') :=
  ⟨1, by rw [execN_whileF, hc]; exact if_pos (by rw [Bool.not_eq_true] at hv; rw [hv]; rfl)⟩

theorem RunN.whileF_stop (hc : evalT X c σ = (.ok v, σ')) (hv : truthy v = true)
    (hb : CallN X (localsOf b d) b σ' (o, σ'')) (ho : o ≠ .normal) : RunN X (.whileF c b d) σ (o, σ'') := by
  obtain ⟨m, hm⟩ := hb
  refine ⟨m + 1, ?_⟩
  rw [execN_whileF, hc]
  show (if (!truthy v) = true then _ else _) = _
  rw [if_neg (by rw [hv]; nofun), hm]
  cases o <;> first | rfl | exact absurd rfl ho

theorem RunN.whileF_next (hc : evalT X c σ = (.ok v, σ')) (hv : truthy v = true)
    (hb : CallN X (localsOf b d) b σ' (.normal, σ'')) (hw : RunN X (.whileF c b d) σ'' r) :
    RunN X (.whileF c b d) σ r := by
  obtain ⟨m₁, h₁⟩ := hb
  obtain ⟨m₂, h₂⟩ := hw
  refine ⟨max m₁ m₂ + 1, ?_⟩
  rw [execN_whileF, hc]
  show (if (!truthy v) = true then _ else _) = _
  rw [if_neg (by rw [hv]; nofun), withFrame_sub (fun r hr => execNB_mono X hr (Nat.le_max_left m₁ m₂)) _ h₁]
  exact execN_mono X h₂ (Nat.le_max_right m₁ m₂)

end

section
variable {x : Name} {it t : Expr} {extra : Option Expr} {b : TBlock} {d : List Name} {v : Val} {items : List Val} {ex : Exc}

theorem RunN.forF_bad (hi : evalT X it σ = (.ok v, σ')) (hit : iterItems v = .error ex) :
    RunN X (.forF x it extra b d) σ (.exc ex, σ') :=
  ⟨1, by rw [execN_forF, hi]; show (match iterItems v with | .ok _ => _ | .error ex => _) = _; rw [hit]⟩

theorem RunN.forF (hi : evalT X it σ = (.ok v, σ')) (hit : iterItems v = .ok items) (h : NextN X x extra b d items σ' r) :
    RunN X (.forF x it extra b d) σ r := by
  obtain ⟨m, hm⟩ := h
  exact ⟨m + 1, by rw [execN_forF, hi]; show (match iterItems v with | .ok _ => _ | .error ex => _) = _; rw [hit]; exact hm⟩

theorem NextN.err (h : evalT X t σ = (.error ex, σ')) : NextN X x (some t) b d items σ (.exc ex, σ') :=
  ⟨0, by show valThen (evalT X t σ) _ = _; rw [h]; rfl⟩

theorem NextN.false (h : evalT X t σ = (.ok v, σ')) (hv : ¬ truthy v = true) :
    NextN X x (some t) b d items σ (.normal, σ') :=
  ⟨0, by show valThen (evalT X t σ) _ = _; rw [h]; exact if_neg hv⟩

theorem NextN.true (h : evalT X t σ = (.ok v, σ')) (hv : truthy v = true) (hr : RunNFor X x (some t) b d items σ' r) :
    NextN X x (some t) b d items σ r := by
  obtain ⟨m, hm⟩ := hr
  exact ⟨m, by show valThen (evalT X t σ) _ = _; rw [h]; exact (if_pos hv).trans hm⟩

theorem RunNFor.nil : RunNFor X x extra b d [] σ (.normal, σ) := ⟨1, rfl⟩

theorem RunNFor.stop (hb : CallN X (localsFor x b d) (.assign x (.const v) :: b) σ (o, σ')) (ho : o ≠ .normal) :
    RunNFor X x extra b d (v :: items) σ (o, σ') := by
  obtain ⟨m, hm⟩ := hb
  exact ⟨m + 1, by rw [execNFor_cons, hm]; cases o <;> first | rfl | exact absurd rfl ho⟩

theorem RunNFor.next (hb : CallN X (localsFor x b d) (.assign x (.const v) :: b) σ (.normal, σ'))
    (hn : NextN X x extra b d items σ' r) : RunNFor X x extra b d (v :: items) σ r := by
  obtain ⟨m₁, h₁⟩ := hb
  obtain ⟨m₂, h₂⟩ := hn
  refine ⟨max m₁ m₂ + 1, ?_⟩
  rw [execNFor_cons, withFrame_sub (fun r hr => execNB_mono X hr (Nat.le_max_left m₁ m₂)) _ h₁]
  exact extraThen_sub (fun _ _ hr => execNFor_mono X hr (Nat.le_max_right m₁ m₂)) _ h₂

end

theorem RunN.withT {tag : Int} {b : TBlock} (h : RunNB X b (σ.push (.enter tag)) (o, τ)) :
    RunN X (.withT tag b) σ (o, τ.push (.exit tag)) := by
  obtain ⟨m, hm⟩ := h
  exact ⟨m + 1, by rw [execN_withT, hm]; rfl⟩

theorem AfterN.pass {hs : List (Nat × TBlock)} (h : ∀ ex, o = .exc ex → findHandlerT hs ex = none) :
    AfterN X hs (o, σ) (o, σ) :=
  ⟨0, handleThen_pass σ h⟩

theorem AfterN.caught {hs : List (Nat × TBlock)} {ex : Exc} {hb : TBlock} (hf : findHandlerT hs ex = some hb)
    (h : RunNB X hb σ r) : AfterN X hs (.exc ex, σ) r := by
  obtain ⟨m, hm⟩ := h
  exact ⟨m, (handleThen_caught σ hf).trans hm⟩

theorem FinN.normal {fin : TBlock} (h : RunNB X fin σ (.normal, τ)) : FinN X fin (o, σ) (o, τ) := by
  obtain ⟨m, hm⟩ := h
  exact ⟨m, finallyThen_of_normal hm⟩

theorem FinN.abrupt {fin : TBlock} {of : Out} (h : RunNB X fin σ (of, τ)) (ho : of ≠ .normal) : FinN X fin (o, σ) (of, τ) := by
  obtain ⟨m, hm⟩ := h
  exact ⟨m, finallyThen_of_abrupt hm ho⟩

theorem RunN.tryT {body fin : TBlock} {hs : List (Nat × TBlock)} {r₁ r₂ r₃ : Out × TSt} (h₁ : RunNB X body σ r₁)
    (h₂ : AfterN X hs r₁ r₂) (h₃ : FinN X fin r₂ r₃) : RunN X (.tryT body hs fin) σ r₃ := by
  obtain ⟨m₁, h₁⟩ := h₁
  obtain ⟨m₂, h₂⟩ := h₂
  obtain ⟨m₃, h₃⟩ := h₃
  have l₁ : m₁ ≤ max m₁ (max m₂ m₃) := Nat.le_max_left _ _
  have l₂ : m₂ ≤ max m₁ (max m₂ m₃) := Nat.le_trans (Nat.le_max_left _ _) (Nat.le_max_right _ _)
  have l₃ : m₃ ≤ max m₁ (max m₂ m₃) := Nat.le_trans (Nat.le_max_right _ _) (Nat.le_max_right _ _)
  refine ⟨max m₁ (max m₂ m₃) + 1, ?_⟩
  rw [execN_try, execNB_mono X h₁ l₁, Option.bind_some,
    handleThen_sub (fun _ _ _ h => execNB_mono X h l₂) _ _ h₂, Option.bind_some]
  exact finallyThen_sub (fun _ _ h => execNB_mono X h l₃) _ _ h₃

end Malt.Func
