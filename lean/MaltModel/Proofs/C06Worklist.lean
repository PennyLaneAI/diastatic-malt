import MaltModel.Analysis.Worklist
/-
Why the fuel bound is exponential.  The real `GraphVisitor._visit_internal` (and therefore the model)
appends a child whenever the child is not yet in `closed`, even if it is already waiting in `open_`.
A node waiting `k` times is visited `k` times, and each of those visits appends its not-yet-visited
children again: behind a chain of `k` if/else diamonds the join node is visited `2^k` times (the real
code does so too).  A bound polynomial in the size of the graph is false of the algorithm.  The measure:

  * `cap`     : number of (node, fact) pairs not yet in `B` — decreases at every visit that changes `B`
                (`B` only grows: it stays below its own image, `B ≤ F(B)`), never increases;
  * `unclosed`: number of known nodes not yet in `closed` — never increases;
  * an entry of `open_` for node `m` weighs `gW D (u + 1)`, `u` = the nodes still unclosed once `m` is closed, and
    `gW D (u+1) = gW D u + D·gW D u + 1`: what the entry can still cause without any change of `B` (its own visit, then at
    most `D` children, each waiting with `u` nodes unclosed).

`Φ = Σ weights of the entries + D·gW D (N+1) · cap` strictly decreases at every iteration.
-/
namespace Malt.Analysis
section
variable {α : Type} [DecidableEq α]

def wsum (w : Nat → Nat) : List Nat → Nat
  | [] => 0
  | x :: xs => w x + wsum w xs

theorem wsum_append (w : Nat → Nat) (l₁ l₂ : List Nat) : wsum w (l₁ ++ l₂) = wsum w l₁ + wsum w l₂ := by
  induction l₁ with
  | nil => simp [wsum]
  | cons x xs ih => simp [wsum, ih, Nat.add_assoc]

theorem wsum_le (w w' : Nat → Nat) (l : List Nat) (h : ∀ m, m ∈ l → w' m ≤ w m) : wsum w' l ≤ wsum w l := by
  induction l with
  | nil => simp [wsum]
  | cons x xs ih =>
    simp only [wsum]
    have h1 := h x (List.mem_cons_self ..)
    have h2 := ih (fun m hm => h m (List.mem_cons_of_mem _ hm))
    omega

theorem wsum_le_mul (w : Nat → Nat) (l : List Nat) (b : Nat) (h : ∀ m, m ∈ l → w m ≤ b) : wsum w l ≤ l.length * b := by
  induction l with
  | nil => simp [wsum]
  | cons x xs ih =>
    simp only [wsum, List.length_cons]
    have h1 := h x (List.mem_cons_self ..)
    have h2 := ih (fun m hm => h m (List.mem_cons_of_mem _ hm))
    rw [Nat.add_mul]
    omega

theorem wsum_lt (w w' : Nat → Nat) (l : List Nat) (h : ∀ m, m ∈ l → w' m ≤ w m) (n : Nat) (hn : n ∈ l)
    (hlt : w' n < w n) : wsum w' l < wsum w l := by
  induction l with
  | nil => cases hn
  | cons x xs ih =>
    simp only [wsum]
    have h1 := h x (List.mem_cons_self ..)
    have h2 := wsum_le w w' xs (fun m hm => h m (List.mem_cons_of_mem _ hm))
    rcases List.mem_cons.mp hn with e | hx
    · subst e; omega
    · have := ih (fun m hm => h m (List.mem_cons_of_mem _ hm)) hx
      omega

theorem countP_lt_of_imp {β : Type} {p q : β → Bool} {l : List β} (h : ∀ x, x ∈ l → q x = true → p x = true)
    {a : β} (ha : a ∈ l) (hp : p a = true) (hq : q a = false) : l.countP q < l.countP p := by
  obtain ⟨l₁, l₂, rfl⟩ := List.append_of_mem ha
  have h1 : l₁.countP q ≤ l₁.countP p := List.countP_mono_left fun x hx => h x (List.mem_append_left _ hx)
  have h2 : l₂.countP q ≤ l₂.countP p :=
    List.countP_mono_left fun x hx => h x (List.mem_append_right _ (List.mem_cons_of_mem _ hx))
  simp only [List.countP_append, List.countP_cons, hp, hq, if_true, Bool.false_eq_true, if_false]
  omega

theorem gW_succ (D u : Nat) : gW D (u + 1) = gW D u + D * gW D u + 1 := rfl

theorem gW_mono (D : Nat) {u v : Nat} (h : u ≤ v) : gW D u ≤ gW D v := by
  induction h with
  | refl => exact Nat.le_refl _
  | step _ ih => exact Nat.le_trans ih (by rw [gW_succ]; omega)

def unclosed (Ns closed : List Nat) : Nat := Ns.countP (fun m => !closed.contains m)

theorem unclosed_le_length (Ns closed : List Nat) : unclosed Ns closed ≤ Ns.length := List.countP_le_length

theorem unclosed_mono (Ns : List Nat) {closed closed' : List Nat} (h : ∀ x, x ∈ closed → x ∈ closed') :
    unclosed Ns closed' ≤ unclosed Ns closed :=
  List.countP_mono_left fun x _ hx => by
    simp only [Bool.not_eq_true', List.contains_eq_mem, decide_eq_false_iff_not] at hx ⊢
    exact fun hc => hx (h x hc)

theorem unclosed_cons_lt (Ns closed : List Nat) (n : Nat) (hn : n ∈ Ns) (hc : n ∉ closed) :
    unclosed Ns (n :: closed) < unclosed Ns closed :=
  countP_lt_of_imp (fun x _ hx => by
    simp only [Bool.not_eq_true', List.contains_eq_mem, decide_eq_false_iff_not, List.mem_cons, not_or] at hx ⊢
    exact hx.2) hn (by simp [hc]) (by simp)

/-- weight of an entry `m` of `open_`: its own visit and what the entries that visit appends can cause -/
def wt (D : Nat) (Ns closed : List Nat) (m : Nat) : Nat := gW D (unclosed Ns (m :: closed) + 1)

theorem wt_le (D : Nat) (Ns closed : List Nat) (m : Nat) : wt D Ns closed m ≤ gW D (Ns.length + 1) :=
  gW_mono D (Nat.succ_le_succ (unclosed_le_length _ _))

theorem wt_le_of_not_mem (D : Nat) {Ns closed : List Nat} {m : Nat} (hm : m ∈ Ns) (hc : m ∉ closed) :
    wt D Ns closed m ≤ gW D (unclosed Ns closed) :=
  gW_mono D (unclosed_cons_lt Ns closed m hm hc)

theorem wt_cons_le (D : Nat) (Ns closed : List Nat) (n m : Nat) : wt D Ns (n :: closed) m ≤ wt D Ns closed m :=
  gW_mono D (Nat.succ_le_succ (unclosed_mono Ns fun _ hx =>
    (List.mem_cons.mp hx).elim (fun e => e ▸ List.mem_cons_self) fun h => List.mem_cons_of_mem _ (List.mem_cons_of_mem _ h)))

/-- The popped entry pays for one unit and for `D` entries of nodes that are still unclosed afterwards. -/
theorem wt_pop (D : Nat) (Ns closed : List Nat) (n : Nat) :
    1 + D * gW D (unclosed Ns (n :: closed)) ≤ wt D Ns closed n := by
  rw [wt, gW_succ]
  omega

def cap (Ns : List Nat) (U : List α) (B : St α) : Nat :=
  wsum (fun n => U.countP (fun a => !(B n).contains a)) Ns

theorem cap_le (Ns : List Nat) (U : List α) (B : St α) : cap Ns U B ≤ Ns.length * U.length :=
  wsum_le_mul _ _ _ (fun _ _ => List.countP_le_length)

private theorem not_contains_imp {B B' : St α} (h : ∀ m a, a ∈ B m → a ∈ B' m) (m : Nat) (x : α)
    (hx : (!(B' m).contains x) = true) : (!(B m).contains x) = true := by
  simp only [Bool.not_eq_true', List.contains_eq_mem, decide_eq_false_iff_not] at hx ⊢
  exact fun hb => hx (h m x hb)

theorem cap_mono (Ns : List Nat) (U : List α) (B B' : St α) (h : ∀ m a, a ∈ B m → a ∈ B' m) :
    cap Ns U B' ≤ cap Ns U B :=
  wsum_le _ _ _ fun m _ => List.countP_mono_left fun x _ => not_contains_imp h m x

theorem cap_lt (Ns : List Nat) (U : List α) (B B' : St α) (h : ∀ m a, a ∈ B m → a ∈ B' m)
    (n : Nat) (hn : n ∈ Ns) (a : α) (haU : a ∈ U) (ha' : a ∈ B' n) (ha : a ∉ B n) : cap Ns U B' < cap Ns U B :=
  wsum_lt _ _ Ns (fun m _ => List.countP_mono_left fun x _ => not_contains_imp h m x) n hn
    (countP_lt_of_imp (fun x _ => not_contains_imp h n x) haU (by simp [ha]) (by simp [ha']))

def Phi (E : List (Nat × Nat)) (Ns : List Nat) (U : List α) (s : WL α) : Nat :=
  wsum (wt E.length Ns s.closed) s.open_ + (E.length * gW E.length (Ns.length + 1)) * cap Ns U s.B

/-- `Ns` holds every node the work list can hold, `U` every fact the solution can hold. -/
structure Universe (E : List (Nat × Nat)) (F : Flow α) (Ns : List Nat) (U : List α) : Prop where
  child : ∀ e, e ∈ E → e.2 ∈ Ns
  gen : ∀ n, n ∈ Ns → ∀ a, a ∈ F.gen n → a ∈ U

/-- `hpre`: `B` stays below its own image, so a visit can only add facts. -/
structure TInv (E : List (Nat × Nat)) (F : Flow α) (Ns : List Nat) (U : List α) (s : WL α) : Prop where
  hopen : ∀ m, m ∈ s.open_ → m ∈ Ns
  hpre : ∀ n a, a ∈ s.B n → a ∈ transfer F n (joinAt E s.B n)
  huniv : ∀ n a, a ∈ s.B n → a ∈ U

omit [DecidableEq α] in
theorem universe_nodesOf (E : List (Nat × Nat)) (F : Flow α) (start : List Nat) :
    Universe E F (nodesOf E start) (factsOf E start F) :=
  ⟨fun e he => List.mem_append_right _ (List.mem_map.mpr ⟨e, he, rfl⟩),
   fun n hn _ ha => List.mem_flatMap.mpr ⟨n, hn, ha⟩⟩

omit [DecidableEq α] in
theorem tinv_init (E : List (Nat × Nat)) (F : Flow α) (start : List Nat) :
    TInv E F (nodesOf E start) (factsOf E start F) (WL.init start : WL α) :=
  ⟨fun _ hm => List.mem_append_left _ (List.mem_append_left _ hm), fun _ _ h => (nomatch h), fun _ _ h => (nomatch h)⟩

theorem phi_init_le (E : List (Nat × Nat)) (F : Flow α) (start : List Nat) :
    Phi E (nodesOf E start) (factsOf E start F) (WL.init start : WL α) ≤ fuelBound E start F := by
  have h1 : wsum (wt E.length (nodesOf E start) []) start ≤ start.length * gW E.length (nodesOf E start).length :=
    wsum_le_mul _ _ _ fun m hm => Nat.le_trans
      (wt_le_of_not_mem _ (List.mem_append_left _ (List.mem_append_left _ hm)) List.not_mem_nil)
      (gW_mono _ (unclosed_le_length _ _))
  have h3 := Nat.mul_le_mul_left (E.length * gW E.length ((nodesOf E start).length + 1))
    (cap_le (nodesOf E start) (factsOf E start F) (fun _ => ([] : List α)))
  exact Nat.add_le_add h1 h3

section
variable {E : List (Nat × Nat)} {F : Flow α} {Ns : List Nat} {U : List α} {s : WL α} {n : Nat} {rest : List Nat}

omit [DecidableEq α] in
theorem upd_subset {f g : St α} {n : Nat} {v : List α} (h : ∀ m a, a ∈ f m → a ∈ g m) (hv : ∀ a, a ∈ v → a ∈ g n) :
    ∀ m a, a ∈ upd f n v m → a ∈ g m := by
  intro m a ha
  by_cases hm : m = n
  · subst hm
    exact hv a (by rwa [upd_self] at ha)
  · exact h m a (by rwa [upd_ne _ _ hm] at ha)

omit [DecidableEq α] in
theorem subset_upd {f : St α} {n : Nat} {v : List α} (hv : ∀ a, a ∈ f n → a ∈ v) : ∀ m a, a ∈ f m → a ∈ upd f n v m := by
  intro m a ha
  by_cases hm : m = n
  · subst hm
    rw [upd_self]
    exact hv a ha
  · rwa [upd_ne _ _ hm]

omit [DecidableEq α] in
theorem joinAt_mono (E : List (Nat × Nat)) (B B' : St α) (h : ∀ m a, a ∈ B m → a ∈ B' m) (n : Nat) (a : α)
    (ha : a ∈ joinAt E B n) : a ∈ joinAt E B' n := by
  rw [mem_joinAt] at ha ⊢
  obtain ⟨p, hE, hp⟩ := ha
  exact ⟨p, hE, h p a hp⟩

omit [DecidableEq α] in
theorem transfer_mono (F : Flow α) (n : Nat) (x y : List α) (h : ∀ a, a ∈ x → a ∈ y) (a : α)
    (ha : a ∈ transfer F n x) : a ∈ transfer F n y := by
  rw [mem_transfer] at ha ⊢
  exact ha.imp_right fun h1 => ⟨h a h1.1, h1.2⟩

omit [DecidableEq α] in
theorem TInv.le_upd (hinv : TInv E F Ns U s) (n : Nat) :
    ∀ m a, a ∈ s.B m → a ∈ upd s.B n (transfer F n (joinAt E s.B n)) m :=
  subset_upd (hinv.hpre n)

omit [DecidableEq α] in
theorem TInv.transfer_mem_univ (hU : Universe E F Ns U) (hinv : TInv E F Ns U s) (hn : n ∈ Ns) {a : α}
    (ha : a ∈ transfer F n (joinAt E s.B n)) : a ∈ U := by
  rcases (mem_transfer ..).mp ha with h1 | ⟨h1, _⟩
  · exact hU.gen n hn a h1
  · obtain ⟨p, _, hp⟩ := (mem_joinAt ..).mp h1
    exact hinv.huniv p a hp

theorem tinv_step (hU : Universe E F Ns U) (hinv : TInv E F Ns U s) (hopen : s.open_ = n :: rest) :
    TInv E F Ns U (step E F s) := by
  have hn : n ∈ Ns := hinv.hopen n (hopen ▸ List.mem_cons_self)
  rw [step_cons E F hopen]
  -- the image of `B` can only grow with `B`
  have hmono : ∀ m a, a ∈ transfer F m (joinAt E s.B m) →
      a ∈ transfer F m (joinAt E (upd s.B n (transfer F n (joinAt E s.B n))) m) :=
    fun m => transfer_mono F m _ _ (joinAt_mono E _ _ (hinv.le_upd n) m)
  refine ⟨fun m hm => ?_, upd_subset (fun m a ha => hmono m a (hinv.hpre m a ha)) (hmono n),
    upd_subset (g := fun _ => U) hinv.huniv fun a => hinv.transfer_mem_univ hU hn⟩
  rcases List.mem_append.mp hm with hm | hm
  · exact hinv.hopen m (hopen ▸ List.mem_cons_of_mem _ hm)
  · exact hU.child (n, m) (mem_requeued.mp hm).1

theorem exists_new_of_setEqB_false {x b : List α} (hsub : ∀ a, a ∈ x → a ∈ b) (h : setEqB x b = false) :
    ∃ a, a ∈ b ∧ a ∉ x := by
  have h1 : x.all (fun a => b.contains a) = true := List.all_eq_true.mpr fun a ha => by simpa using hsub a ha
  simp only [setEqB, h1, Bool.true_and] at h
  obtain ⟨a, hab, hax⟩ := List.all_eq_false.mp h
  exact ⟨a, hab, by simpa using hax⟩

theorem wsum_requeued_le (w : Nat → Nat) (E : List (Nat × Nat)) (n : Nat) (closed : List Nat) (changed : Bool) (b : Nat)
    (h : ∀ m, (n, m) ∈ E → (changed = true ∨ m ∉ closed) → w m ≤ b) : wsum w (requeued E n closed changed) ≤ E.length * b :=
  Nat.le_trans (wsum_le_mul w _ b fun m hm => h m (mem_requeued.mp hm).1 (mem_requeued.mp hm).2)
    (Nat.mul_le_mul_right _ (length_requeued_le E n closed changed))

/-- If `B n` did not change, only children that are not closed yet are pushed, and the popped entry pays for them (`wt_pop`);
if it grew, the capacity drops and pays for all children. -/
theorem phi_step (hU : Universe E F Ns U) (hinv : TInv E F Ns U s) (hopen : s.open_ = n :: rest) :
    Phi E Ns U (step E F s) + 1 ≤ Phi E Ns U s := by
  have hn : n ∈ Ns := hinv.hopen n (hopen ▸ List.mem_cons_self)
  have hBle := hinv.le_upd n
  rw [step_cons E F hopen]
  simp only [Phi, hopen, wsum_append, wsum]
  generalize hb : transfer F n (joinAt E s.B n) = b at hBle ⊢
  have hpop := wt_pop E.length Ns s.closed n
  have hrest : wsum (wt E.length Ns (n :: s.closed)) rest ≤ wsum (wt E.length Ns s.closed) rest :=
    wsum_le _ _ _ fun m _ => wt_cons_le E.length Ns s.closed n m
  have hcap := cap_mono Ns U s.B (upd s.B n b) hBle
  cases hch : setEqB (s.B n) b with
  | true =>
    have hpush := wsum_requeued_le (wt E.length Ns (n :: s.closed)) E n (n :: s.closed) (!true) _ fun m hE hm =>
      wt_le_of_not_mem E.length (hU.child (n, m) hE) (by simpa using hm)
    have hK := Nat.mul_le_mul_left (E.length * gW E.length (Ns.length + 1)) hcap
    omega
  | false =>
    obtain ⟨a, hab, hanot⟩ := exists_new_of_setEqB_false (fun a ha => by simpa only [upd_self] using hBle n a ha) hch
    have haU : a ∈ U := hinv.transfer_mem_univ hU hn (hb ▸ hab)
    have hcaplt := cap_lt Ns U s.B (upd s.B n b) hBle n hn a haU (by rwa [upd_self]) hanot
    have hpush := wsum_requeued_le (wt E.length Ns (n :: s.closed)) E n (n :: s.closed) (!false) _
      fun m _ _ => wt_le E.length Ns _ m
    have hK := Nat.mul_le_mul_left (E.length * gW E.length (Ns.length + 1)) hcaplt
    rw [Nat.mul_succ] at hK
    omega

end

theorem run_terminates_from {E : List (Nat × Nat)} {F : Flow α} {Ns : List Nat} {U : List α} (hU : Universe E F Ns U)
    (fuel : Nat) (s : WL α) (hinv : TInv E F Ns U s) (hfuel : Phi E Ns U s ≤ fuel) : (run E F fuel s).open_ = [] := by
  induction fuel generalizing s with
  | zero =>
    cases hopen : s.open_ with
    | nil => exact hopen
    | cons n rest =>
      have := phi_step hU hinv hopen
      omega
  | succ f ih =>
    unfold run
    cases hopen : s.open_ with
    | nil => exact hopen
    | cons n rest => exact ih _ (tinv_step hU hinv hopen) (by have := phi_step hU hinv hopen; omega)

theorem run_terminates (E : List (Nat × Nat)) (F : Flow α) (start : List Nat) (fuel : Nat)
    (hfuel : fuelBound E start F ≤ fuel) : (run E F fuel (WL.init start)).open_ = [] :=
  run_terminates_from (universe_nodesOf E F start) fuel _ (tinv_init E F start)
    (Nat.le_trans (phi_init_le E F start) hfuel)

omit [DecidableEq α] in
/-- the least solution does not depend on the order in which an iteration visits the nodes -/
theorem lfp_unique (E : List (Nat × Nat)) (V : List Nat) (F : Flow α) (A₁ B₁ A₂ B₂ : St α)
    (h₁ : IsPostFix E V F A₁ B₁) (h₂ : IsPostFix E V F A₂ B₂)
    (l₁ : ∀ A' B', IsPostFix E V F A' B' → ∀ n a, (a ∈ B₁ n → a ∈ B' n) ∧ (a ∈ A₁ n → a ∈ A' n))
    (l₂ : ∀ A' B', IsPostFix E V F A' B' → ∀ n a, (a ∈ B₂ n → a ∈ B' n) ∧ (a ∈ A₂ n → a ∈ A' n)) :
    ∀ n, SetEq (B₁ n) (B₂ n) ∧ SetEq (A₁ n) (A₂ n) :=
  fun n => ⟨fun a => ⟨(l₁ A₂ B₂ h₂ n a).1, (l₂ A₁ B₁ h₁ n a).1⟩, fun a => ⟨(l₁ A₂ B₂ h₂ n a).2, (l₂ A₁ B₁ h₁ n a).2⟩⟩

structure LInv (V' : List Nat) (A' B' : St α) (s : WL α) : Prop where
  hopen : ∀ m, m ∈ s.open_ → m ∈ V'
  hB : ∀ n a, a ∈ s.B n → a ∈ B' n
  hA : ∀ n a, a ∈ s.A n → a ∈ A' n

theorem linv_step (E : List (Nat × Nat)) (F : Flow α) (V' : List Nat) (A' B' : St α)
    (hpost : IsPostFix E V' F A' B') (hclosed : closedUnder E V' = true) (s : WL α) (h : LInv V' A' B' s) :
    LInv V' A' B' (step E F s) := by
  cases hopen : s.open_ with
  | nil => rwa [step_nil E F hopen]
  | cons n rest =>
    rw [step_cons E F hopen]
    have hn : n ∈ V' := h.hopen n (hopen ▸ List.mem_cons_self)
    have hjoin : ∀ a, a ∈ joinAt E s.B n → a ∈ A' n := by
      intro a ha
      obtain ⟨p, hE, hp⟩ := (mem_joinAt ..).mp ha
      exact hpost.1 p n hE hn a (h.hB p a hp)
    refine ⟨fun m hm => ?_, upd_subset h.hB fun a ha => ?_, upd_subset h.hA hjoin⟩
    · rcases List.mem_append.mp hm with hm | hm
      · exact h.hopen m (hopen ▸ List.mem_cons_of_mem _ hm)
      · exact closedUnder_spec hclosed n m (mem_requeued.mp hm).1 hn
    · exact hpost.2 n hn a (((mem_transfer ..).mp ha).imp_right fun h1 => ⟨hjoin a h1.1, h1.2⟩)

/-- Leastness, at every moment of the run (any fuel). -/
theorem run_below_postfix (E : List (Nat × Nat)) (F : Flow α) (start : List Nat) (V' : List Nat) (A' B' : St α)
    (hpost : IsPostFix E V' F A' B') (hstart : ∀ n, n ∈ start → n ∈ V') (hclosed : closedUnder E V' = true) (fuel : Nat) :
    ∀ n a, (a ∈ (run E F fuel (WL.init start)).B n → a ∈ B' n) ∧ (a ∈ (run E F fuel (WL.init start)).A n → a ∈ A' n) := by
  have h0 : LInv V' A' B' (WL.init start : WL α) :=
    ⟨fun m hm => hstart m (by simpa [WL.init] using hm), fun n a h => by simp [WL.init] at h, fun n a h => by simp [WL.init] at h⟩
  have := run_invariant (linv_step E F V' A' B' hpost hclosed) fuel _ h0
  exact fun n a => ⟨this.hB n a, this.hA n a⟩

/-- **The work list computes the least fixed point**, for any flow and any orientation of the edges. -/
theorem worklist_lfp (E : List (Nat × Nat)) (F : Flow α) (start : List Nat) (fuel : Nat) (hfuel : fuelBound E start F ≤ fuel) :
    let s := run E F fuel (WL.init start)
    IsFix E s.closed F s.A s.B ∧ closedUnder E s.closed = true ∧ (∀ n, n ∈ start → n ∈ s.closed) ∧
    ∀ (V' : List Nat) (A' B' : St α), IsPostFix E V' F A' B' → (∀ n, n ∈ start → n ∈ V') → closedUnder E V' = true →
      ∀ n a, (a ∈ s.B n → a ∈ B' n) ∧ (a ∈ s.A n → a ∈ A' n) :=
  have ⟨hfix, hclosed, hstart⟩ := worklist_fix E F start fuel (run_terminates E F start fuel hfuel)
  ⟨hfix, hclosed, hstart, fun V' A' B' hp hs hc => run_below_postfix E F start V' A' B' hp hs hc fuel⟩

end
end Malt.Analysis
