import MaltModel.Conv.JumpsSem
import MaltModel.Sem.CoreLemmas
/-
What the three lowerings do to the occurrence predicates (`mayBrk`, `topCont`, `hasRet`, `hasRaise`, `hasBrk`, `hasCont`).
Each lowering only replaces simple statements and inserts assignments, guards and loop tests, none of which any predicate
counts.  So an occurrence predicate `P` of the output is the occurrence predicate `P'` of the input that reads every simple
statement as `P` reads its replacement; with `P'` constantly false: the output contains no such jump.
-/
namespace Malt.Sem.Jumps
open Malt.Sem

theorem orL {a b : Bool} (h : a = true) : (a || b) = true := by rw [h]; rfl
theorem orR {a b : Bool} (h : b = true) : (a || b) = true := by rw [h, Bool.or_true]

theorem or_eq {a a' b b' : Bool} (ha : a = a') (hb : b = b') : (a || b) = (a' || b') := by rw [ha, hb]

/-- An occurrence predicate: free on the four jump statements (what tells two of them apart), false on the other simple
ones, else the disjunction over the sub-blocks; into loops iff `deep`. -/
structure Occurs (deep : Bool) (PS : Stmt → Bool) (PB : List Stmt → Bool)
    (PH : List (Nat × List Stmt) → Bool) : Prop where
  ifS : ∀ c t e, PS (.ifS c t e) = (PB t || PB e)
  whileS : ∀ c b, PS (.whileS c b) = (deep && PB b)
  forS : ∀ x it ex b, PS (.forS x it ex b) = (deep && PB b)
  tryS : ∀ b hs f, PS (.tryS b hs f) = (PB b || PH hs || PB f)
  withS : ∀ t b, PS (.withS t b) = PB b
  assign : ∀ x e, PS (.assign x e) = false
  expr : ∀ e, PS (.expr e) = false
  pass : PS .pass = false
  nil : PB [] = false
  cons : ∀ s r, PB (s :: r) = (PS s || PB r)
  hnil : PH [] = false
  hcons : ∀ t b r, PH ((t, b) :: r) = (PB b || PH r)

theorem occurs_mayBrk : Occurs false mayBrkS mayBrkB mayBrkH := by constructor <;> intros <;> rfl
theorem occurs_topCont : Occurs false topContS topContB topContH := by constructor <;> intros <;> rfl
theorem occurs_hasRet : Occurs true hasRetS hasRetB hasRetH := by constructor <;> intros <;> rfl
theorem occurs_hasRaise : Occurs true hasRaiseS hasRaiseB hasRaiseH := by constructor <;> intros <;> rfl
theorem occurs_hasBrk : Occurs true hasBrkS hasBrkB hasBrkH := by constructor <;> intros <;> rfl
theorem occurs_hasCont : Occurs true hasContS hasContB hasContH := by constructor <;> intros <;> rfl

theorem occurs_none (d : Bool) : Occurs d (fun _ => false) (fun _ => false) (fun _ => false) := by
  constructor <;> intros <;> first | rfl | exact (Bool.and_false _).symm

namespace Occurs
variable {d : Bool} {PS PS' : Stmt → Bool} {PB PB' : List Stmt → Bool} {PH PH' : List (Nat × List Stmt) → Bool}

theorem single (h : Occurs d PS PB PH) (s : Stmt) : PB [s] = PS s := by
  rw [h.cons, h.nil, Bool.or_false]

theorem append (h : Occurs d PS PB PH) (a b : List Stmt) : PB (a ++ b) = (PB a || PB b) := by
  induction a with
  | nil => rw [List.nil_append, h.nil, Bool.false_or]
  | cons s a ih => rw [List.cons_append, h.cons, h.cons, ih, Bool.or_assoc]

theorem or (h : Occurs d PS PB PH) (h' : Occurs d PS' PB' PH') :
    Occurs d (fun s => PS s || PS' s) (fun b => PB b || PB' b) (fun hs => PH hs || PH' hs) where
  ifS c t e := by simp only [h.ifS, h'.ifS, Bool.or_assoc, Bool.or_left_comm]
  whileS c b := by simp only [h.whileS, h'.whileS, Bool.and_or_distrib_left]
  forS x it ex b := by simp only [h.forS, h'.forS, Bool.and_or_distrib_left]
  tryS b hs f := by simp only [h.tryS, h'.tryS, Bool.or_assoc, Bool.or_left_comm]
  withS t b := by simp only [h.withS, h'.withS]
  assign x e := by simp only [h.assign, h'.assign, Bool.or_false]
  expr e := by simp only [h.expr, h'.expr, Bool.or_false]
  pass := by simp only [h.pass, h'.pass, Bool.or_false]
  nil := by simp only [h.nil, h'.nil, Bool.or_false]
  cons s r := by simp only [h.cons, h'.cons, Bool.or_assoc, Bool.or_left_comm]
  hnil := by simp only [h.hnil, h'.hnil, Bool.or_false]
  hcons t b r := by simp only [h.hcons, h'.hcons, Bool.or_assoc, Bool.or_left_comm]

section
variable (h : Occurs d PS PB PH) (h' : Occurs true PS' PB' PH')
  (hb : PS .brk = PS' .brk) (hc : PS .cont = PS' .cont) (hr : ∀ e, PS (.ret e) = PS' (.ret e))
  (hx : ∀ t, PS (.raise t) = PS' (.raise t))
include h h' hb hc hr hx

theorem imp_deep : (∀ s, PS s = true → PS' s = true) ∧ (∀ b, PB b = true → PB' b = true) ∧
    (∀ hs, PH hs = true → PH' hs = true) := by
  apply stmt_induct
  case assign => intro x e hs; rw [h.assign] at hs; cases hs
  case expr => intro e hs; rw [h.expr] at hs; cases hs
  case pass => intro hs; rw [h.pass] at hs; cases hs
  case brk => exact fun hs => hb ▸ hs
  case cont => exact fun hs => hc ▸ hs
  case ret => exact fun e hs => hr e ▸ hs
  case raise => exact fun t hs => hx t ▸ hs
  case ifS =>
    intro c t e iht ihe hs
    rw [h.ifS, Bool.or_eq_true] at hs
    rw [h'.ifS, Bool.or_eq_true]
    exact hs.imp iht ihe
  case whileS =>
    intro c b ih hs
    rw [h.whileS, Bool.and_eq_true] at hs
    rw [h'.whileS]
    exact ih hs.2
  case forS =>
    intro x it ex b ih hs
    rw [h.forS, Bool.and_eq_true] at hs
    rw [h'.forS]
    exact ih hs.2
  case tryS =>
    intro b hs' f ihb ihh ihf hs
    rw [h.tryS, Bool.or_eq_true, Bool.or_eq_true] at hs
    rw [h'.tryS, Bool.or_eq_true, Bool.or_eq_true]
    exact hs.imp (Or.imp ihb ihh) ihf
  case withS =>
    intro t b ih hs
    rw [h.withS] at hs
    rw [h'.withS]
    exact ih hs
  case nil => intro hs; rw [h.nil] at hs; cases hs
  case cons =>
    intro s r ihs ihr hs
    rw [h.cons, Bool.or_eq_true] at hs
    rw [h'.cons, Bool.or_eq_true]
    exact hs.imp ihs ihr
  case hnil => intro hs; rw [h.hnil] at hs; cases hs
  case hcons =>
    intro t b r ihb ihr hs
    rw [h.hcons, Bool.or_eq_true] at hs
    rw [h'.hcons, Bool.or_eq_true]
    exact hs.imp ihb ihr
end

section
variable (h : Occurs d PS PB PH) (h' : Occurs d PS' PB' PH') (gen : Gen)
  (hb : PS' .brk = PS .cont) (hc : PS' .cont = PS .cont) (hr : ∀ e, PS' (.ret e) = PS (.ret e))
  (hx : ∀ t, PS' (.raise t) = PS (.raise t))
include h h' hb hc hr hx

/-- `PS'` reads `break` as `PS` reads `continue` (`hb`): `break` becomes `flag = True; continue`. -/
theorem ofBrk : (∀ s cur p, PB (brkS gen cur p s).1 = PS' s) ∧
    (∀ b cur p, PB (brkB gen cur p b).1 = PB' b) ∧ (∀ hs cur p, PH (brkH gen cur p hs).1 = PH' hs) := by
  apply stmt_induct
  case assign => exact fun x e _ _ => (h.single _).trans ((h.assign x e).trans (h'.assign x e).symm)
  case expr => exact fun e _ _ => (h.single _).trans ((h.expr e).trans (h'.expr e).symm)
  case pass => exact fun _ _ => (h.single _).trans (h.pass.trans h'.pass.symm)
  case brk =>
    intro cur p
    rw [hb]
    show PB [.assign cur cTrue, .cont] = _
    rw [h.cons, h.assign, h.single, Bool.false_or]
  case cont => exact fun _ _ => (h.single _).trans hc.symm
  case ret => exact fun e _ _ => (h.single _).trans (hr e).symm
  case raise => exact fun t _ _ => (h.single _).trans (hx t).symm
  case ifS =>
    intro c t e iht ihe cur p
    rw [h'.ifS, ← iht cur (0 :: p), ← ihe cur (1 :: p)]
    exact (h.single _).trans (h.ifS ..)
  case whileS =>
    intro c b ih cur p
    rw [h'.whileS, ← ih (gen p) p]
    simp only [brkS]
    split
    · rw [h.cons, h.assign, h.single, h.whileS, Bool.false_or]
    · rw [h.single, h.whileS]
  case forS =>
    intro x it ex b ih cur p
    rw [h'.forS, ← ih (gen p) p]
    simp only [brkS]
    split
    · rw [h.cons, h.assign, h.single, h.forS, h.cons, h.expr, Bool.false_or, Bool.false_or]
    · rw [h.single, h.forS]
  case tryS =>
    intro b hs f ihb ihh ihf cur p
    rw [h'.tryS, ← ihb cur (0 :: p), ← ihh cur (1 :: p), ← ihf cur (2 :: p)]
    exact (h.single _).trans (h.tryS ..)
  case withS =>
    intro t b ih cur p
    rw [h'.withS, ← ih cur (0 :: p)]
    exact (h.single _).trans (h.withS ..)
  case nil => exact fun _ _ => h.nil.trans h'.nil.symm
  case cons =>
    intro s r ihs ihr cur p
    rw [h'.cons, ← ihs cur (r.length :: p), ← ihr cur p]
    exact h.append ..
  case hnil => exact fun _ _ => h.hnil.trans h'.hnil.symm
  case hcons =>
    intro t b r ihb ihr cur p
    rw [h'.hcons, ← ihb cur (r.length :: p), ← ihr cur p]
    exact h.hcons ..

theorem ofBrkS (cur : Name) (p : List Nat) (s : Stmt) : PB (brkS gen cur p s).1 = PS' s :=
  (ofBrk h h' gen hb hc hr hx).1 s cur p
theorem ofBrkB (cur : Name) (p : List Nat) (b : List Stmt) : PB (brkB gen cur p b).1 = PB' b :=
  (ofBrk h h' gen hb hc hr hx).2.1 b cur p
theorem ofBrkH (cur : Name) (p : List Nat) (hs : List (Nat × List Stmt)) : PH (brkH gen cur p hs).1 = PH' hs :=
  (ofBrk h h' gen hb hc hr hx).2.2 hs cur p
end

theorem guarded (h : Occurs d PS PB PH) (g : Bool) (v : Name) (b : List Stmt) :
    PB (if g then [ifNot v b] else b) = PB b := by
  cases g
  · rfl
  · exact (h.single _).trans ((h.ifS ..).trans (by rw [h.nil, Bool.or_false]))

theorem reset (h : Occurs d PS PB PH) (g : Bool) (v : Name) (e : Expr) (b : List Stmt) :
    PB (if g then .assign v e :: b else b) = PB b := by
  cases g
  · rfl
  · exact (h.cons ..).trans (by rw [h.assign, Bool.false_or])

section
variable (h : Occurs d PS PB PH) (h' : Occurs d PS' PB' PH') (gen : Gen)
  (hb : PS' .brk = PS .brk) (hc : PS' .cont = false) (hr : ∀ e, PS' (.ret e) = PS (.ret e))
  (hx : ∀ t, PS' (.raise t) = PS (.raise t))
include h h' hb hc hr hx

theorem ofCnt : (∀ s cur p, PB (cntS gen cur p s).1 = PS' s) ∧
    (∀ b cur p g, PB (cntB gen cur p g b).1 = PB' b) ∧ (∀ hs cur p, PH (cntH gen cur p hs).1 = PH' hs) := by
  apply stmt_induct
  case assign => exact fun x e _ _ => (h.single _).trans ((h.assign x e).trans (h'.assign x e).symm)
  case expr => exact fun e _ _ => (h.single _).trans ((h.expr e).trans (h'.expr e).symm)
  case pass => exact fun _ _ => (h.single _).trans (h.pass.trans h'.pass.symm)
  case brk => exact fun _ _ => (h.single _).trans hb.symm
  case cont => exact fun _ _ => (h.single _).trans ((h.assign ..).trans hc.symm)
  case ret => exact fun e _ _ => (h.single _).trans (hr e).symm
  case raise => exact fun t _ _ => (h.single _).trans (hx t).symm
  case ifS =>
    intro c t e iht ihe cur p
    rw [h'.ifS, ← iht cur (0 :: p) false, ← ihe cur (1 :: p) false]
    exact (h.single _).trans (h.ifS ..)
  case whileS =>
    intro c b ih cur p
    rw [h'.whileS, ← ih (gen p) p false]
    exact (h.single _).trans ((h.whileS ..).trans (by rw [h.reset]))
  case forS =>
    intro x it ex b ih cur p
    rw [h'.forS, ← ih (gen p) p false]
    exact (h.single _).trans ((h.forS ..).trans (by rw [h.reset]))
  case tryS =>
    intro b hs f ihb ihh ihf cur p
    rw [h'.tryS, ← ihb cur (0 :: p) false, ← ihh cur (1 :: p), ← ihf cur (2 :: p) false]
    exact (h.single _).trans (h.tryS ..)
  case withS =>
    intro t b ih cur p
    rw [h'.withS, ← ih cur (0 :: p) false]
    exact (h.single _).trans (h.withS ..)
  case nil => exact fun _ _ _ => h.nil.trans h'.nil.symm
  case cons =>
    intro s r ihs ihr cur p g
    rw [h'.cons, ← ihs cur (r.length :: p), ← ihr cur p (cntS gen cur (r.length :: p) s).2]
    exact (h.guarded ..).trans (h.append ..)
  case hnil => exact fun _ _ => h.hnil.trans h'.hnil.symm
  case hcons =>
    intro t b r ihb ihr cur p
    rw [h'.hcons, ← ihb cur (r.length :: p) false, ← ihr cur p]
    exact h.hcons ..

theorem ofCntS (cur : Name) (p : List Nat) (s : Stmt) : PB (cntS gen cur p s).1 = PS' s :=
  (ofCnt h h' gen hb hc hr hx).1 s cur p
theorem ofCntB (cur : Name) (p : List Nat) (g : Bool) (b : List Stmt) : PB (cntB gen cur p g b).1 = PB' b :=
  (ofCnt h h' gen hb hc hr hx).2.1 b cur p g
theorem ofCntH (cur : Name) (p : List Nat) (hs : List (Nat × List Stmt)) : PH (cntH gen cur p hs).1 = PH' hs :=
  (ofCnt h h' gen hb hc hr hx).2.2 hs cur p
end

section
variable (h : Occurs d PS PB PH) (h' : Occurs d PS' PB' PH') (dr rv : Name)
  (hb : PS' .brk = PS .brk) (hc : PS' .cont = PS .cont) (hr : ∀ e, PS' (.ret e) = false)
  (hx : ∀ t, PS' (.raise t) = PS (.raise t))
include h h' hb hc hr hx

theorem ofRet : (∀ s u, PB (retS dr rv u s).1 = PS' s) ∧
    (∀ b g u, PB (retB dr rv g u b).1 = PB' b) ∧ (∀ hs, PH (retH dr rv hs).1 = PH' hs) := by
  apply stmt_induct
  case assign => exact fun x e _ => (h.single _).trans ((h.assign x e).trans (h'.assign x e).symm)
  case expr => exact fun e _ => (h.single _).trans ((h.expr e).trans (h'.expr e).symm)
  case pass => exact fun _ => (h.single _).trans (h.pass.trans h'.pass.symm)
  case brk => exact fun _ => (h.single _).trans hb.symm
  case cont => exact fun _ => (h.single _).trans hc.symm
  case ret =>
    intro e u
    rw [hr]
    show PB [.assign dr cTrue, .assign rv (e.getD cNone)] = _
    rw [h.cons, h.assign, h.single, h.assign, Bool.false_or]
  case raise => exact fun t _ => (h.single _).trans (hx t).symm
  case ifS =>
    intro c t e iht ihe u
    rw [h'.ifS, ← iht false false, ← ihe false false]
    exact (h.single _).trans (h.ifS ..)
  case whileS =>
    intro c b ih u
    rw [h'.whileS, ← ih false false]
    exact (h.single _).trans (h.whileS ..)
  case forS =>
    intro x it ex b ih u
    rw [h'.forS, ← ih false false]
    exact (h.single _).trans (h.forS ..)
  case tryS =>
    intro b hs f ihb ihh ihf u
    rw [h'.tryS, ← ihb false false, ← ihh, ← ihf false false]
    exact (h.single _).trans (h.tryS ..)
  case withS =>
    intro t b ih u
    rw [h'.withS, ← ih false false]
    exact (h.single _).trans (h.withS ..)
  case nil => exact fun _ _ => h.nil.trans h'.nil.symm
  case cons =>
    intro s r ihs ihr g u
    rw [h'.cons, ← ihs u, ← ihr (retS dr rv u s).2 (u || (retS dr rv u s).2)]
    exact (h.guarded ..).trans (h.append ..)
  case hnil => exact h.hnil.trans h'.hnil.symm
  case hcons =>
    intro t b r ihb ihr
    rw [h'.hcons, ← ihb false false, ← ihr]
    exact h.hcons ..

theorem ofRetS (u : Bool) (s : Stmt) : PB (retS dr rv u s).1 = PS' s :=
  (ofRet h h' dr rv hb hc hr hx).1 s u
theorem ofRetB (g u : Bool) (b : List Stmt) : PB (retB dr rv g u b).1 = PB' b :=
  (ofRet h h' dr rv hb hc hr hx).2.1 b g u
theorem ofRetH (hs : List (Nat × List Stmt)) : PH (retH dr rv hs).1 = PH' hs :=
  (ofRet h h' dr rv hb hc hr hx).2.2 hs
end

theorem ofLowerReturn (h : Occurs d PS PB PH) (hr : ∀ e, PS (.ret e) = false) (dr rv : Name) (body : List Stmt) :
    PB (lowerReturn dr rv body) = PB (retB dr rv false false body).1 := by
  rw [lowerReturn]
  split
  · rw [h.append, h.append, h.cons, h.assign, h.single, h.assign, h.single, hr, Bool.false_or, Bool.false_or,
      Bool.or_false]
  · rfl

end Occurs

/-! The four trailing arguments say, by `rfl`, how `P'` reads `break`, `continue`, `return e`, `raise t`. -/

theorem brkS_noBrk (gen : Gen) (cur : Name) : ∀ (p : List Nat) (s : Stmt), hasBrkB (brkS gen cur p s).1 = false :=
  occurs_hasBrk.ofBrkS (occurs_none true) gen rfl rfl (fun _ => rfl) (fun _ => rfl) cur
theorem brkB_noBrk (gen : Gen) (cur : Name) : ∀ (p : List Nat) (b : List Stmt), hasBrkB (brkB gen cur p b).1 = false :=
  occurs_hasBrk.ofBrkB (occurs_none true) gen rfl rfl (fun _ => rfl) (fun _ => rfl) cur
theorem brkH_noBrk (gen : Gen) (cur : Name) : ∀ (p : List Nat) (hs : List (Nat × List Stmt)),
    hasBrkH (brkH gen cur p hs).1 = false :=
  occurs_hasBrk.ofBrkH (occurs_none true) gen rfl rfl (fun _ => rfl) (fun _ => rfl) cur

theorem cntS_noCont (gen : Gen) (cur : Name) : ∀ (p : List Nat) (s : Stmt), hasContB (cntS gen cur p s).1 = false :=
  occurs_hasCont.ofCntS (occurs_none true) gen rfl rfl (fun _ => rfl) (fun _ => rfl) cur
theorem cntB_noCont (gen : Gen) (cur : Name) : ∀ (p : List Nat) (g : Bool) (b : List Stmt),
    hasContB (cntB gen cur p g b).1 = false :=
  occurs_hasCont.ofCntB (occurs_none true) gen rfl rfl (fun _ => rfl) (fun _ => rfl) cur
theorem cntH_noCont (gen : Gen) (cur : Name) : ∀ (p : List Nat) (hs : List (Nat × List Stmt)),
    hasContH (cntH gen cur p hs).1 = false :=
  occurs_hasCont.ofCntH (occurs_none true) gen rfl rfl (fun _ => rfl) (fun _ => rfl) cur

theorem retS_noRet (dr rv : Name) : ∀ (u : Bool) (s : Stmt), hasRetB (retS dr rv u s).1 = false :=
  occurs_hasRet.ofRetS (occurs_none true) dr rv rfl rfl (fun _ => rfl) (fun _ => rfl)
theorem retB_noRet (dr rv : Name) : ∀ (g u : Bool) (b : List Stmt), hasRetB (retB dr rv g u b).1 = false :=
  occurs_hasRet.ofRetB (occurs_none true) dr rv rfl rfl (fun _ => rfl) (fun _ => rfl)
theorem retH_noRet (dr rv : Name) : ∀ (hs : List (Nat × List Stmt)), hasRetH (retH dr rv hs).1 = false :=
  occurs_hasRet.ofRetH (occurs_none true) dr rv rfl rfl (fun _ => rfl) (fun _ => rfl)

theorem brkS_hasRet (gen : Gen) (cur : Name) : ∀ (p : List Nat) (s : Stmt), hasRetB (brkS gen cur p s).1 = (hasRetS s) :=
  occurs_hasRet.ofBrkS occurs_hasRet gen rfl rfl (fun _ => rfl) (fun _ => rfl) cur
theorem brkB_hasRet (gen : Gen) (cur : Name) : ∀ (p : List Nat) (b : List Stmt), hasRetB (brkB gen cur p b).1 = (hasRetB b) :=
  occurs_hasRet.ofBrkB occurs_hasRet gen rfl rfl (fun _ => rfl) (fun _ => rfl) cur
theorem brkH_hasRet (gen : Gen) (cur : Name) : ∀ (p : List Nat) (hs : List (Nat × List Stmt)),
    hasRetH (brkH gen cur p hs).1 = (hasRetH hs) :=
  occurs_hasRet.ofBrkH occurs_hasRet gen rfl rfl (fun _ => rfl) (fun _ => rfl) cur

theorem brkS_hasRaise (gen : Gen) (cur : Name) : ∀ (p : List Nat) (s : Stmt), hasRaiseB (brkS gen cur p s).1 = (hasRaiseS s) :=
  occurs_hasRaise.ofBrkS occurs_hasRaise gen rfl rfl (fun _ => rfl) (fun _ => rfl) cur
theorem brkB_hasRaise (gen : Gen) (cur : Name) : ∀ (p : List Nat) (b : List Stmt), hasRaiseB (brkB gen cur p b).1 = (hasRaiseB b) :=
  occurs_hasRaise.ofBrkB occurs_hasRaise gen rfl rfl (fun _ => rfl) (fun _ => rfl) cur
theorem brkH_hasRaise (gen : Gen) (cur : Name) : ∀ (p : List Nat) (hs : List (Nat × List Stmt)),
    hasRaiseH (brkH gen cur p hs).1 = (hasRaiseH hs) :=
  occurs_hasRaise.ofBrkH occurs_hasRaise gen rfl rfl (fun _ => rfl) (fun _ => rfl) cur

/-! Break lowering puts a `continue` where there was a `break`: what counts `continue` afterwards counted either before. -/

theorem brkS_topCont (gen : Gen) (cur : Name) : ∀ (p : List Nat) (s : Stmt), topContB (brkS gen cur p s).1 = (topContS s || mayBrkS s) :=
  occurs_topCont.ofBrkS (occurs_topCont.or occurs_mayBrk) gen rfl rfl (fun _ => rfl) (fun _ => rfl) cur
theorem brkB_topCont (gen : Gen) (cur : Name) : ∀ (p : List Nat) (b : List Stmt), topContB (brkB gen cur p b).1 = (topContB b || mayBrkB b) :=
  occurs_topCont.ofBrkB (occurs_topCont.or occurs_mayBrk) gen rfl rfl (fun _ => rfl) (fun _ => rfl) cur
theorem brkH_topCont (gen : Gen) (cur : Name) : ∀ (p : List Nat) (hs : List (Nat × List Stmt)),
    topContH (brkH gen cur p hs).1 = (topContH hs || mayBrkH hs) :=
  occurs_topCont.ofBrkH (occurs_topCont.or occurs_mayBrk) gen rfl rfl (fun _ => rfl) (fun _ => rfl) cur

theorem brkS_hasCont (gen : Gen) (cur : Name) : ∀ (p : List Nat) (s : Stmt), hasContB (brkS gen cur p s).1 = (hasContS s || hasBrkS s) :=
  occurs_hasCont.ofBrkS (occurs_hasCont.or occurs_hasBrk) gen rfl rfl (fun _ => rfl) (fun _ => rfl) cur
theorem brkB_hasCont (gen : Gen) (cur : Name) : ∀ (p : List Nat) (b : List Stmt), hasContB (brkB gen cur p b).1 = (hasContB b || hasBrkB b) :=
  occurs_hasCont.ofBrkB (occurs_hasCont.or occurs_hasBrk) gen rfl rfl (fun _ => rfl) (fun _ => rfl) cur
theorem brkH_hasCont (gen : Gen) (cur : Name) : ∀ (p : List Nat) (hs : List (Nat × List Stmt)),
    hasContH (brkH gen cur p hs).1 = (hasContH hs || hasBrkH hs) :=
  occurs_hasCont.ofBrkH (occurs_hasCont.or occurs_hasBrk) gen rfl rfl (fun _ => rfl) (fun _ => rfl) cur

theorem cntS_mayBrk (gen : Gen) (cur : Name) : ∀ (p : List Nat) (s : Stmt), mayBrkB (cntS gen cur p s).1 = mayBrkS s :=
  occurs_mayBrk.ofCntS occurs_mayBrk gen rfl rfl (fun _ => rfl) (fun _ => rfl) cur
theorem cntB_mayBrk (gen : Gen) (cur : Name) : ∀ (p : List Nat) (g : Bool) (b : List Stmt),
    mayBrkB (cntB gen cur p g b).1 = mayBrkB b :=
  occurs_mayBrk.ofCntB occurs_mayBrk gen rfl rfl (fun _ => rfl) (fun _ => rfl) cur
theorem cntH_mayBrk (gen : Gen) (cur : Name) : ∀ (p : List Nat) (hs : List (Nat × List Stmt)),
    mayBrkH (cntH gen cur p hs).1 = mayBrkH hs :=
  occurs_mayBrk.ofCntH occurs_mayBrk gen rfl rfl (fun _ => rfl) (fun _ => rfl) cur

theorem cntS_hasRet (gen : Gen) (cur : Name) : ∀ (p : List Nat) (s : Stmt), hasRetB (cntS gen cur p s).1 = hasRetS s :=
  occurs_hasRet.ofCntS occurs_hasRet gen rfl rfl (fun _ => rfl) (fun _ => rfl) cur
theorem cntB_hasRet (gen : Gen) (cur : Name) : ∀ (p : List Nat) (g : Bool) (b : List Stmt),
    hasRetB (cntB gen cur p g b).1 = hasRetB b :=
  occurs_hasRet.ofCntB occurs_hasRet gen rfl rfl (fun _ => rfl) (fun _ => rfl) cur
theorem cntH_hasRet (gen : Gen) (cur : Name) : ∀ (p : List Nat) (hs : List (Nat × List Stmt)),
    hasRetH (cntH gen cur p hs).1 = hasRetH hs :=
  occurs_hasRet.ofCntH occurs_hasRet gen rfl rfl (fun _ => rfl) (fun _ => rfl) cur

theorem cntS_hasRaise (gen : Gen) (cur : Name) : ∀ (p : List Nat) (s : Stmt), hasRaiseB (cntS gen cur p s).1 = hasRaiseS s :=
  occurs_hasRaise.ofCntS occurs_hasRaise gen rfl rfl (fun _ => rfl) (fun _ => rfl) cur
theorem cntB_hasRaise (gen : Gen) (cur : Name) : ∀ (p : List Nat) (g : Bool) (b : List Stmt),
    hasRaiseB (cntB gen cur p g b).1 = hasRaiseB b :=
  occurs_hasRaise.ofCntB occurs_hasRaise gen rfl rfl (fun _ => rfl) (fun _ => rfl) cur
theorem cntH_hasRaise (gen : Gen) (cur : Name) : ∀ (p : List Nat) (hs : List (Nat × List Stmt)),
    hasRaiseH (cntH gen cur p hs).1 = hasRaiseH hs :=
  occurs_hasRaise.ofCntH occurs_hasRaise gen rfl rfl (fun _ => rfl) (fun _ => rfl) cur

theorem cntS_hasBrk (gen : Gen) (cur : Name) : ∀ (p : List Nat) (s : Stmt), hasBrkB (cntS gen cur p s).1 = hasBrkS s :=
  occurs_hasBrk.ofCntS occurs_hasBrk gen rfl rfl (fun _ => rfl) (fun _ => rfl) cur
theorem cntB_hasBrk (gen : Gen) (cur : Name) : ∀ (p : List Nat) (g : Bool) (b : List Stmt),
    hasBrkB (cntB gen cur p g b).1 = hasBrkB b :=
  occurs_hasBrk.ofCntB occurs_hasBrk gen rfl rfl (fun _ => rfl) (fun _ => rfl) cur
theorem cntH_hasBrk (gen : Gen) (cur : Name) : ∀ (p : List Nat) (hs : List (Nat × List Stmt)),
    hasBrkH (cntH gen cur p hs).1 = hasBrkH hs :=
  occurs_hasBrk.ofCntH occurs_hasBrk gen rfl rfl (fun _ => rfl) (fun _ => rfl) cur

theorem retS_hasBrk (dr rv : Name) : ∀ (u : Bool) (s : Stmt), hasBrkB (retS dr rv u s).1 = hasBrkS s :=
  occurs_hasBrk.ofRetS occurs_hasBrk dr rv rfl rfl (fun _ => rfl) (fun _ => rfl)
theorem retB_hasBrk (dr rv : Name) : ∀ (g u : Bool) (b : List Stmt), hasBrkB (retB dr rv g u b).1 = hasBrkB b :=
  occurs_hasBrk.ofRetB occurs_hasBrk dr rv rfl rfl (fun _ => rfl) (fun _ => rfl)
theorem retH_hasBrk (dr rv : Name) : ∀ (hs : List (Nat × List Stmt)), hasBrkH (retH dr rv hs).1 = hasBrkH hs :=
  occurs_hasBrk.ofRetH occurs_hasBrk dr rv rfl rfl (fun _ => rfl) (fun _ => rfl)

theorem retS_hasCont (dr rv : Name) : ∀ (u : Bool) (s : Stmt), hasContB (retS dr rv u s).1 = hasContS s :=
  occurs_hasCont.ofRetS occurs_hasCont dr rv rfl rfl (fun _ => rfl) (fun _ => rfl)
theorem retB_hasCont (dr rv : Name) : ∀ (g u : Bool) (b : List Stmt), hasContB (retB dr rv g u b).1 = hasContB b :=
  occurs_hasCont.ofRetB occurs_hasCont dr rv rfl rfl (fun _ => rfl) (fun _ => rfl)
theorem retH_hasCont (dr rv : Name) : ∀ (hs : List (Nat × List Stmt)), hasContH (retH dr rv hs).1 = hasContH hs :=
  occurs_hasCont.ofRetH occurs_hasCont dr rv rfl rfl (fun _ => rfl) (fun _ => rfl)

theorem lowerBreak_noBrk (gen : Gen) (body : Block) : hasBrkB (lowerBreak gen body) = false :=
  brkB_noBrk gen (gen []) [0] body

theorem lowerContinue_noCont (gen : Gen) (body : Block) : hasContB (lowerContinue gen body) = false :=
  cntB_noCont gen (gen []) [0] false body

theorem lowerReturn_onlyLastRet (dr rv : Name) (body : Block) :
    (∃ init, lowerReturn dr rv body = init ++ [.ret (some (.var rv))] ∧ hasRetB init = false) ∨
    hasRetB (lowerReturn dr rv body) = false := by
  by_cases hu : (retB dr rv false false body).2 = true
  · left
    refine ⟨[.assign dr cFalse, .assign rv cNone] ++ (retB dr rv false false body).1, ?_, ?_⟩
    · rw [lowerReturn, if_pos hu]
    · exact retB_noRet dr rv false false body
  · right
    rw [lowerReturn, if_neg hu]
    exact retB_noRet dr rv false false body


theorem brk_hit (gen : Gen) : (∀ (s : Stmt) (cur : Name) (p : List Nat), (brkS gen cur p s).2 = mayBrkS s) ∧
    (∀ (b : List Stmt) (cur : Name) (p : List Nat), (brkB gen cur p b).2 = mayBrkB b) ∧
    (∀ (hs : List (Nat × List Stmt)) (cur : Name) (p : List Nat), (brkH gen cur p hs).2 = mayBrkH hs) := by
  apply stmt_induct
  case ifS => exact fun c t e iht ihe cur p => or_eq (iht cur (0 :: p)) (ihe cur (1 :: p))
  case whileS => intro c b _ cur p; show (if _ then _ else _ : List Stmt × Bool).2 = false; split <;> rfl
  case forS => intro x it ex b _ cur p; show (if _ then _ else _ : List Stmt × Bool).2 = false; split <;> rfl
  case tryS =>
    exact fun b hs f ihb ihh ihf cur p =>
      or_eq (or_eq (ihb cur (0 :: p)) (ihh cur (1 :: p))) (ihf cur (2 :: p))
  case withS => exact fun t b ih cur p => ih cur (0 :: p)
  case cons => exact fun s r ihs ihr cur p => or_eq (ihs cur (r.length :: p)) (ihr cur p)
  case hcons => exact fun t b r ihb ihr cur p => or_eq (ihb cur (r.length :: p)) (ihr cur p)
  all_goals intros; rfl

theorem brkS_hit (gen : Gen) (cur : Name) : ∀ (p : List Nat) (s : Stmt), (brkS gen cur p s).2 = mayBrkS s :=
  fun p s => (brk_hit gen).1 s cur p
theorem brkB_hit (gen : Gen) (cur : Name) (p : List Nat) (b : List Stmt) : (brkB gen cur p b).2 = mayBrkB b :=
  (brk_hit gen).2.1 b cur p
theorem brkH_hit (gen : Gen) (cur : Name) : ∀ (p : List Nat) (hs : List (Nat × List Stmt)),
    (brkH gen cur p hs).2 = mayBrkH hs :=
  fun p hs => (brk_hit gen).2.2 hs cur p

theorem cnt_hit (gen : Gen) : (∀ (s : Stmt) (cur : Name) (p : List Nat), (cntS gen cur p s).2 = topContS s) ∧
    (∀ (b : List Stmt) (cur : Name) (p : List Nat) (g : Bool), (cntB gen cur p g b).2 = topContB b) ∧
    (∀ (hs : List (Nat × List Stmt)) (cur : Name) (p : List Nat), (cntH gen cur p hs).2 = topContH hs) := by
  apply stmt_induct
  case ifS => exact fun c t e iht ihe cur p => or_eq (iht cur (0 :: p) false) (ihe cur (1 :: p) false)
  case tryS =>
    exact fun b hs f ihb ihh ihf cur p =>
      or_eq (or_eq (ihb cur (0 :: p) false) (ihh cur (1 :: p))) (ihf cur (2 :: p) false)
  case withS => exact fun t b ih cur p => ih cur (0 :: p) false
  case cons => exact fun s r ihs ihr cur p g => or_eq (ihs cur (r.length :: p)) (ihr cur p _)
  case hcons => exact fun t b r ihb ihr cur p => or_eq (ihb cur (r.length :: p) false) (ihr cur p)
  all_goals intros; rfl

theorem cntS_hit (gen : Gen) (cur : Name) : ∀ (p : List Nat) (s : Stmt), (cntS gen cur p s).2 = topContS s :=
  fun p s => (cnt_hit gen).1 s cur p
theorem cntB_hit (gen : Gen) (cur : Name) (p : List Nat) (g : Bool) (b : List Stmt) :
    (cntB gen cur p g b).2 = topContB b :=
  (cnt_hit gen).2.1 b cur p g
theorem cntH_hit (gen : Gen) (cur : Name) : ∀ (p : List Nat) (hs : List (Nat × List Stmt)),
    (cntH gen cur p hs).2 = topContH hs :=
  fun p hs => (cnt_hit gen).2.2 hs cur p

theorem ret_hit (dr rv : Name) : (∀ (s : Stmt) (u : Bool), (retS dr rv u s).2 = hasRetS s) ∧
    (∀ (b : List Stmt) (g u : Bool), (retB dr rv g u b).2 = hasRetB b) ∧
    (∀ (hs : List (Nat × List Stmt)), (retH dr rv hs).2 = hasRetH hs) := by
  apply stmt_induct
  case ifS => exact fun c t e iht ihe u => or_eq (iht false false) (ihe false false)
  case whileS => exact fun c b ih u => ih false false
  case forS => exact fun x it ex b ih u => ih false false
  case tryS =>
    exact fun b hs f ihb ihh ihf u =>
      or_eq (or_eq (ihb false false) ihh) (ihf false false)
  case withS => exact fun t b ih u => ih false false
  case cons => exact fun s r ihs ihr g u => or_eq (ihs u) (ihr _ _)
  case hcons => exact fun t b r ihb ihr => or_eq (ihb false false) ihr
  all_goals intros; rfl

theorem retS_hit (dr rv : Name) : ∀ (u : Bool) (s : Stmt), (retS dr rv u s).2 = hasRetS s :=
  fun u s => (ret_hit dr rv).1 s u
theorem retB_hit (dr rv : Name) (g u : Bool) (b : List Stmt) : (retB dr rv g u b).2 = hasRetB b :=
  (ret_hit dr rv).2.1 b g u
theorem retH_hit (dr rv : Name) : ∀ (hs : List (Nat × List Stmt)), (retH dr rv hs).2 = hasRetH hs :=
  fun hs => (ret_hit dr rv).2.2 hs


theorem mayBrk_hasBrk : (∀ s, mayBrkS s = true → hasBrkS s = true) ∧ (∀ b, mayBrkB b = true → hasBrkB b = true) ∧
    (∀ hs, mayBrkH hs = true → hasBrkH hs = true) :=
  occurs_mayBrk.imp_deep occurs_hasBrk rfl rfl (fun _ => rfl) (fun _ => rfl)

theorem mayBrkS_hasBrk : ∀ (s : Stmt), mayBrkS s = true → hasBrkS s = true := mayBrk_hasBrk.1
theorem mayBrkB_hasBrk : ∀ (b : List Stmt), mayBrkB b = true → hasBrkB b = true := mayBrk_hasBrk.2.1
theorem mayBrkH_hasBrk : ∀ (hs : List (Nat × List Stmt)), mayBrkH hs = true → hasBrkH hs = true := mayBrk_hasBrk.2.2

theorem topCont_hasCont : (∀ s, topContS s = true → hasContS s = true) ∧
    (∀ b, topContB b = true → hasContB b = true) ∧ (∀ hs, topContH hs = true → hasContH hs = true) :=
  occurs_topCont.imp_deep occurs_hasCont rfl rfl (fun _ => rfl) (fun _ => rfl)

theorem topContS_hasCont : ∀ (s : Stmt), topContS s = true → hasContS s = true := topCont_hasCont.1
theorem topContB_hasCont : ∀ (b : List Stmt), topContB b = true → hasContB b = true := topCont_hasCont.2.1
theorem topContH_hasCont : ∀ (hs : List (Nat × List Stmt)), topContH hs = true → hasContH hs = true :=
  topCont_hasCont.2.2

theorem mayBrkB_false_of_hasBrk {b : List Stmt} (h : hasBrkB b = false) : mayBrkB b = false :=
  Bool.eq_false_iff.mpr fun hm => Bool.noConfusion ((mayBrkB_hasBrk b hm).symm.trans h)

theorem topContB_false_of_hasCont {b : List Stmt} (h : hasContB b = false) : topContB b = false :=
  Bool.eq_false_iff.mpr fun hm => Bool.noConfusion ((topContB_hasCont b hm).symm.trans h)

theorem occurs_not_jumpFree : Occurs true (fun s => !jumpFreeS s) (fun b => !jumpFreeB b) (fun hs => !jumpFreeH hs) := by
  constructor <;> intros <;> simp only [jumpFreeS, jumpFreeB, jumpFreeH, Bool.not_and, Bool.true_and, Bool.not_true]

theorem jumpFree_iff : (∀ s, jumpFreeS s = (!hasBrkS s && !hasContS s && !hasRetS s)) ∧
    (∀ b, jumpFreeB b = (!hasBrkB b && !hasContB b && !hasRetB b)) ∧
    (∀ hs, jumpFreeH hs = (!hasBrkH hs && !hasContH hs && !hasRetH hs)) := by
  have h3 := (occurs_hasBrk.or occurs_hasCont).or occurs_hasRet
  have h := occurs_not_jumpFree.imp_deep h3 rfl rfl (fun _ => rfl) fun _ => rfl
  have h' := h3.imp_deep occurs_not_jumpFree rfl rfl (fun _ => rfl) fun _ => rfl
  have key : ∀ {x a b c : Bool}, ((!x) = true → (a || b || c) = true) → ((a || b || c) = true → (!x) = true) →
      x = (!a && !b && !c) := by decide
  exact ⟨fun s => key (h.1 s) (h'.1 s), fun b => key (h.2.1 b) (h'.2.1 b), fun hs => key (h.2.2 hs) (h'.2.2 hs)⟩

theorem jumpFreeS_iff : ∀ (s : Stmt), jumpFreeS s = (!hasBrkS s && !hasContS s && !hasRetS s) := jumpFree_iff.1
theorem jumpFreeB_eq : ∀ (b : List Stmt), jumpFreeB b = (!hasBrkB b && !hasContB b && !hasRetB b) := jumpFree_iff.2.1
theorem jumpFreeH_eq : ∀ (hs : List (Nat × List Stmt)), jumpFreeH hs = (!hasBrkH hs && !hasContH hs && !hasRetH hs) :=
  jumpFree_iff.2.2

theorem jumpFreeB_iff {b : List Stmt} :
    jumpFreeB b = true ↔ hasBrkB b = false ∧ hasContB b = false ∧ hasRetB b = false := by
  rw [jumpFreeB_eq]; simp only [Bool.and_eq_true, Bool.not_eq_true', and_assoc]

theorem jumpFreeH_iff {hs : List (Nat × List Stmt)} :
    jumpFreeH hs = true ↔ hasBrkH hs = false ∧ hasContH hs = false ∧ hasRetH hs = false := by
  rw [jumpFreeH_eq]; simp only [Bool.and_eq_true, Bool.not_eq_true', and_assoc]

theorem escFreeB_iff {b : Block} :
    escFreeB b = true ↔ mayBrkB b = false ∧ topContB b = false ∧ hasRetB b = false := by
  simp only [escFreeB, Bool.and_eq_true, Bool.not_eq_true', and_assoc]

theorem finOKS_try {b f : List Stmt} {hs : List (Nat × List Stmt)} :
    finOKS (.tryS b hs f) = true ↔ finOKB b = true ∧ finOKH hs = true ∧ finOKB f = true ∧ escFreeB f = true ∧
      (quietB f = true ∨ jumpFreeB b = true ∧ jumpFreeH hs = true) := by
  simp only [finOKS, Bool.and_eq_true, Bool.or_eq_true, and_assoc]

theorem esc_of_has {mb tc hb hc hr : Bool} (h1 : mb = true → hb = true) (h2 : tc = true → hc = true)
    (h : (!hb && !hc && !hr) = true) : mb = false ∧ tc = false ∧ hr = false := by
  simp only [Bool.and_eq_true, Bool.not_eq_true'] at h
  exact ⟨Bool.eq_false_iff.mpr fun hm => Bool.noConfusion ((h1 hm).symm.trans h.1.1),
    Bool.eq_false_iff.mpr fun hm => Bool.noConfusion ((h2 hm).symm.trans h.1.2), h.2⟩

theorem jumpFreeS_esc (s : Stmt) (h : jumpFreeS s = true) :
    mayBrkS s = false ∧ topContS s = false ∧ hasRetS s = false :=
  esc_of_has (mayBrkS_hasBrk s) (topContS_hasCont s) (jumpFreeS_iff s ▸ h)
theorem jumpFreeB_esc (b : List Stmt) (h : jumpFreeB b = true) :
    mayBrkB b = false ∧ topContB b = false ∧ hasRetB b = false :=
  esc_of_has (mayBrkB_hasBrk b) (topContB_hasCont b) (jumpFreeB_eq b ▸ h)
theorem jumpFreeH_esc (hs : List (Nat × List Stmt)) (h : jumpFreeH hs = true) :
    mayBrkH hs = false ∧ topContH hs = false ∧ hasRetH hs = false :=
  esc_of_has (mayBrkH_hasBrk hs) (topContH_hasCont hs) (jumpFreeH_eq hs ▸ h)

end Malt.Sem.Jumps
