import MaltModel.Proofs.JumpsCommon
import MaltModel.Proofs.FuncCheck
namespace Malt.Sem.Jumps
open Malt.Sem

/-- In the order of `PyToPy.transform_ast` (Conv/Pipeline.lean). -/
def jumpPasses (genB genC : Gen) (dr rv : Name) (body : Block) : Block :=
  lowerReturn dr rv (lowerContinue genC (lowerBreak genB body))

def GenAll (genB genC : Gen) (dr rv : Name) : Name → Prop :=
  fun x => Hid genB x ∨ Hid genC x ∨ HidR dr rv x

/-- What the composition needs from the name generators; user names do not start with `$`. -/
structure JumpGens (genB genC : Gen) (dr rv : Name) : Prop where
  injB : ∀ p q : List Nat, genB p = genB q → p = q
  injC : ∀ p q : List Nat, genC p = genC q → p = q
  ne : dr ≠ rv
  disjBC : ∀ p q : List Nat, genB p ≠ genC q
  drB : ∀ p : List Nat, genB p ≠ dr
  rvB : ∀ p : List Nat, genB p ≠ rv
  drC : ∀ p : List Nat, genC p ≠ dr
  rvC : ∀ p : List Nat, genC p ≠ rv
  nonuser : ∀ x, GenAll genB genC dr rv x → userName x = false

/-- The hypothesis on the SOURCE body: no `$`-names (freshness for all three passes), fragment S1, no
EXTRA_LOOP_TEST, no `break`/`continue` outside a loop. -/
def JumpHyp (body : Block) : Bool :=
  userNamesB body && finOKB body && noExtraB body && !topContB body && !mayBrkB body

section
variable {genB genC : Gen} {dr rv : Name}

theorem jumpPasses_noBrk (body : Block) : hasBrkB (jumpPasses genB genC dr rv body) = false := by
  rw [jumpPasses, occurs_hasBrk.ofLowerReturn (fun _ => rfl), retB_hasBrk, lowerContinue, cntB_hasBrk]
  exact lowerBreak_noBrk genB body

theorem jumpPasses_noCont (body : Block) : hasContB (jumpPasses genB genC dr rv body) = false := by
  rw [jumpPasses, occurs_hasCont.ofLowerReturn (fun _ => rfl), retB_hasCont]
  exact lowerContinue_noCont genC _

end

theorem occurs_not_noJump : Occurs true (fun s => !Func.noJumpS s) (fun b => !Func.noJumpB b) (fun hs => !Func.noJumpH hs) := by
  constructor <;> intros <;> simp only [Func.noJumpS, Func.noJumpB, Func.noJumpH, Bool.not_and, Bool.true_and, Bool.not_true]

/-- No `break`, no `continue`: the domain of the functionalisation (`Func.noJumpB`, which allows `try` and `with`). -/
theorem noJump_of_has : (∀ s, hasBrkS s = false → hasContS s = false → Func.noJumpS s = true) ∧
    (∀ b, hasBrkB b = false → hasContB b = false → Func.noJumpB b = true) ∧
    (∀ hs, hasBrkH hs = false → hasContH hs = false → Func.noJumpH hs = true) := by
  have h := occurs_not_noJump.imp_deep (occurs_hasBrk.or occurs_hasCont) rfl rfl (fun _ => rfl) fun _ => rfl
  have key : ∀ {a b c : Bool}, ((!a) = true → (b || c) = true) → b = false → c = false → a = true := by decide
  exact ⟨fun s => key (h.1 s), fun b => key (h.2.1 b), fun hs => key (h.2.2 hs)⟩

theorem noJumpH_of_has : ∀ (hs : List (Nat × List Stmt)), hasBrkH hs = false → hasContH hs = false →
    Func.noJumpH hs = true := noJump_of_has.2.2

end Malt.Sem.Jumps
