import MaltModel.Proofs.C05Frame
/-!
# C05: the builder's `owners` bookkeeping is lexical containment

`ownSpec act s`: the CFG nodes of statement `s` in creation order, each with the enclosing if/while/for/try/except statements
(`act` = those enclosing `s` itself).  `owners_root`: that is what `GraphBuilder.owners` records through `begin_statement` /
`end_statement`.  The statement stack is the same before and after every step, so the owners a sequence of steps records is the
concatenation of what each records at the fixed stack (`OwnAt act`).
-/
namespace Malt.Cfg
open Malt.Py

structure OwnStep (b b' : B) (l : List (NodeId × List Nat)) : Prop where
  owners : b'.owners = b.owners ++ l
  active : b'.activeStmts = b.activeStmts

theorem OwnStep.refl (b : B) : OwnStep b b [] := ⟨(List.append_nil _).symm, rfl⟩

theorem OwnStep.trans {a b c : B} {l1 l2 : List (NodeId × List Nat)} (h1 : OwnStep a b l1) (h2 : OwnStep b c l2) :
    OwnStep a c (l1 ++ l2) :=
  ⟨by rw [h2.owners, h1.owners, List.append_assoc], h2.active.trans h1.active⟩

theorem OwnStep.of_eq {b b' : B} (h1 : b'.owners = b.owners) (h2 : b'.activeStmts = b.activeStmts) : OwnStep b b' [] :=
  ⟨h1.trans (List.append_nil _).symm, h2⟩

theorem OwnStep.congr {a b c : B} {l : List (NodeId × List Nat)} (h : OwnStep a b l) (h1 : c.owners = b.owners)
    (h2 : c.activeStmts = b.activeStmts) : OwnStep a c l :=
  ⟨h1.trans h.owners, h2.trans h.active⟩

theorem own_foldl {α} (f : B → α → B) (hf : ∀ b x, OwnStep b (f b x) []) (l : List α) (b : B) : OwnStep b (l.foldl f b) [] :=
  foldl_rel (R := fun b b' => OwnStep b b' []) OwnStep.refl OwnStep.trans f l b (fun b x _ => hf b x)

theorem own_guardStep (acc : B × List Nat) (g : Nat) : OwnStep acc.1 (B.guardStep acc g).1 [] := by
  unfold B.guardStep; split <;> exact OwnStep.of_eq rfl rfl

theorem own_guardFold (gs : List Nat) (acc : B × List Nat) : OwnStep acc.1 (gs.foldl B.guardStep acc).1 [] :=
  foldl_rel (R := fun a a' => OwnStep a.1 a'.1 []) (fun a => OwnStep.refl a.1) OwnStep.trans B.guardStep gs acc
    (fun a g _ => own_guardStep a g)

theorem own_connectJump (b : B) (n : Nat) : OwnStep b (b.connectJump n).1 [] := by
  unfold B.connectJump
  split
  · exact OwnStep.refl b
  · exact (own_guardFold _ (b, [n])).congr rfl rfl

theorem own_exitSection (b : B) (i : Nat) : OwnStep b (b.exitSection i) [] := by
  unfold B.exitSection
  split
  · exact OwnStep.of_eq rfl rfl
  · exact (own_foldl B.exitStep (fun b e => (own_connectJump b e).congr rfl rfl) _ b).congr rfl rfl

theorem own_check (b : B) (c : Bool) (m : String) : OwnStep b (b.check c m) [] :=
  OwnStep.of_eq (B.check_owners b c m) (B.check_activeStmts b c m)

theorem own_enterSection (b : B) (i : Nat) : OwnStep b (b.enterSection i) [] :=
  OwnStep.of_eq (by simp [B.enterSection]) (by simp [B.enterSection])

theorem own_exitLoopSection (b : B) (i : Nat) : OwnStep b (b.exitLoopSection i) [] := by
  unfold B.exitLoopSection
  split
  · rename_i entry cs _ _
    have h := own_foldl (B.reentryStep entry) (fun b c => (own_connectJump b c).congr rfl rfl) cs (b.connect b.leafSet entry)
    exact ⟨h.owners, h.active⟩
  · exact OwnStep.of_eq rfl rfl

theorem own_enterCondSection (b : B) (i : Nat) : OwnStep b (b.enterCondSection i) [] :=
  OwnStep.of_eq (by simp [B.enterCondSection]) (by simp [B.enterCondSection])

theorem own_newCondBranch (b : B) (i : Nat) : OwnStep b (b.newCondBranch i) [] := by
  unfold B.newCondBranch
  split
  · exact OwnStep.of_eq rfl rfl
  · split <;> exact OwnStep.of_eq rfl rfl

theorem own_exitCondSection (b : B) (i : Nat) : OwnStep b (b.exitCondSection i) [] := by
  unfold B.exitCondSection
  split
  · exact OwnStep.of_eq rfl rfl
  · exact ((own_foldl B.unionStep (fun b r => OwnStep.of_eq rfl rfl) _ b).trans (own_check _ _ _)).congr
      (B.delCondKeys_owners _ _) (B.delCondKeys_activeStmts _ _)

theorem own_enterExceptSection (b : B) (i : Nat) : OwnStep b (b.enterExceptSection i) [] := by
  unfold B.enterExceptSection
  split <;> exact OwnStep.of_eq rfl rfl

theorem own_enterFinallySection (b : B) (i : Nat) : OwnStep b (b.enterFinallySection i) [] := OwnStep.of_eq rfl rfl

theorem own_exitFinallySection (b : B) (i : Nat) : OwnStep b (b.exitFinallySection i) [] := by
  unfold B.exitFinallySection
  split
  · have h := own_check b (b.pendingFinally.contains i) "assert: Empty finally?"
    split
    · exact h.congr (by simp) (by simp)
    · exact h.congr (by simp) (by simp)
  · exact OwnStep.of_eq rfl rfl

def OwnAt (act : List Nat) (b b' : B) (l : List (NodeId × List Nat)) : Prop := b.activeStmts = act → OwnStep b b' l

theorem OwnAt.refl (act : List Nat) (b : B) : OwnAt act b b [] := fun _ => OwnStep.refl b

theorem OwnAt.trans {act : List Nat} {a b c : B} {l1 l2 : List (NodeId × List Nat)} (h1 : OwnAt act a b l1)
    (h2 : OwnAt act b c l2) : OwnAt act a c (l1 ++ l2) :=
  fun ha => (h1 ha).trans (h2 ((h1 ha).active.trans ha))

theorem OwnAt.pre {act : List Nat} {a b c : B} {l : List (NodeId × List Nat)} (h1 : OwnStep a b []) (h2 : OwnAt act b c l) :
    OwnAt act a c l :=
  fun ha => h1.trans (h2 (h1.active.trans ha))

theorem OwnAt.post {act : List Nat} {a b c : B} {l : List (NodeId × List Nat)} (h1 : OwnAt act a b l) (h2 : OwnStep b c []) :
    OwnAt act a c l :=
  fun ha => ⟨by rw [h2.owners, List.append_nil]; exact (h1 ha).owners, h2.active.trans (h1 ha).active⟩

theorem OwnAt.congr {act : List Nat} {a b c : B} {l : List (NodeId × List Nat)} (h : OwnAt act a b l) (h1 : c.owners = b.owners)
    (h2 : c.activeStmts = b.activeStmts) : OwnAt act a c l :=
  fun ha => (h ha).congr h1 h2

theorem OwnAt.cast {act : List Nat} {a b : B} {l l' : List (NodeId × List Nat)} (h : OwnAt act a b l) (e : l = l') :
    OwnAt act a b l' := e ▸ h

@[simp] theorem tagAll_nil (act : List Nat) : tagAll [] act = [] := rfl
@[simp] theorem tagAll_cons (n : Nat) (ns act : List Nat) : tagAll (n :: ns) act = (n, act) :: tagAll ns act := rfl
@[simp] theorem tagAll_append (l1 l2 act : List Nat) : tagAll (l1 ++ l2) act = tagAll l1 act ++ tagAll l2 act :=
  List.map_append

theorem own_addNewNode (b : B) (n : Nat) : OwnStep b (b.addNewNode n) [(n, b.activeStmts)] := by
  have h := own_check b (b.nodes.contains n) "ValueError: added twice"
  exact ⟨by show (b.check _ _).owners ++ [(n, (b.check _ _).activeStmts)] = _; rw [h.owners, h.active, List.append_nil],
    h.active⟩

theorem ownAt_addOrdinaryNode (act : List Nat) (b : B) (n : Nat) : OwnAt act b (b.addOrdinaryNode n) [(n, act)] := by
  intro ha; subst ha
  exact ⟨(own_addNewNode b n).owners, (own_addNewNode b n).active⟩

theorem ownAt_addJumpNode (act : List Nat) (b : B) (n : Nat) (gs : List Nat) : OwnAt act b (b.addJumpNode n gs) [(n, act)] :=
  (ownAt_addOrdinaryNode act b n).congr rfl rfl

theorem ownAt_addOrdinaryNodes (act : List Nat) : ∀ (ns : List Nat) (b : B), OwnAt act b (addOrdinaryNodes b ns) (tagAll ns act)
  | [], b => OwnAt.refl act b
  | n :: ns, b => (ownAt_addOrdinaryNode act b n).trans (ownAt_addOrdinaryNodes act ns (b.addOrdinaryNode n))

theorem ownAt_simple (act : List Nat) (b : B) (lams : List Nat) (n : Nat) :
    OwnAt act b ((addOrdinaryNodes b lams).addOrdinaryNode n) (tagAll (lams ++ [n]) act) :=
  ((ownAt_addOrdinaryNodes act lams b).trans (ownAt_addOrdinaryNode act _ n)).cast (tagAll_append lams [n] act).symm

theorem ownAt_basicExprs (act : List Nat) (σ : List Scope) : ∀ (items : List Expr) (b : B) (a : Acc),
    OwnAt act b (basicExprs σ items b a).1 (tagAll (withItemNodes items) act)
  | [], b, _ => OwnAt.refl act b
  | e :: es, b, a =>
    ((ownAt_simple act b e.kidLams e.id).trans (ownAt_basicExprs act σ es (basicExpr σ e b a).1 (basicExpr σ e b a).2)).cast
      (by simp [withItemNodes])

theorem ownAt_addExitNode (act : List Nat) (b : B) (n sec : Nat) (gs : List Nat) :
    OwnAt act b (b.addExitNode n sec gs) [(n, act)] := by
  unfold B.addExitNode
  split <;> exact (ownAt_addJumpNode act b n gs).congr rfl rfl

theorem ownAt_addContinueNode (act : List Nat) (b : B) (n sec : Nat) (gs : List Nat) :
    OwnAt act b (b.addContinueNode n sec gs) [(n, act)] := by
  unfold B.addContinueNode
  split <;> exact (ownAt_addJumpNode act b n gs).congr rfl rfl

theorem ownAt_processExit (act : List Nat) (σ : List Scope) (b : B) (n : Nat) (stop : Stop) (v : Bool) (t : Nat)
    (h : (enclosingFinally stop σ).1 = some t) : OwnAt act b (processExit σ b n stop v) [(n, act)] := by
  unfold processExit
  split
  · rename_i h'; rw [h'] at h; cases h
  · split
    · exact (ownAt_addExitNode act b n _ _).congr rfl rfl
    · exact ownAt_addExitNode act b n _ _

theorem ownAt_processContinue (act : List Nat) (σ : List Scope) (b : B) (n : Nat) (t : Nat)
    (h : (enclosingFinally .loop σ).1 = some t) : OwnAt act b (processContinue σ b n) [(n, act)] := by
  unfold processContinue
  split
  · rename_i h'; rw [h'] at h; cases h
  · exact ownAt_addContinueNode act b n _ _

theorem ownAt_enterLoopSection (act : List Nat) (b : B) (i entry : Nat) :
    OwnAt act b (b.enterLoopSection i entry) [(entry, act)] :=
  OwnAt.pre ((own_check b _ _).congr (B.putContinues_owners _ i []) (B.putContinues_activeStmts _ i []))
    ((ownAt_addOrdinaryNode act _ entry).congr (B.putSectionEntry_owners ..) (B.putSectionEntry_activeStmts ..))

theorem filter_ne_snoc (act : List Nat) (i : Nat) (h : i ∉ act) : (act ++ [i]).filter (· != i) = act := by
  have h1 : act.filter (· != i) = act := by
    apply List.filter_eq_self.mpr
    intro x hx
    simp only [bne_iff_ne, ne_eq]
    exact fun e => h (e ▸ hx)
  simp [List.filter_append, h1]

/-- `begin_statement(i)` … body steps … `end_statement(i)` -/
theorem ownAt_bracket {act : List Nat} {b b1 : B} {l : List (NodeId × List Nat)} (i : Nat) (hi : i ∉ act)
    (h : OwnAt (act ++ [i]) (b.beginStatement i) b1 l) : OwnAt act b (b1.endStatement i) l := by
  intro ha
  have h1 := h (congrArg (· ++ [i]) ha)
  refine ⟨(B.endStatement_owners b1 i).trans h1.owners, ?_⟩
  show b1.activeStmts.filter (· != i) = _
  rw [h1.active.trans (congrArg (· ++ [i]) ha), ha]
  exact filter_ne_snoc act i hi

theorem ownAt_optSection (act : List Nat) (rep : Option Nat) (pre post : Nat → B → B) (visit : Nat → B → Acc → B × Acc)
    (r : B × Acc) (l : List (NodeId × List Nat))
    (hpre : ∀ k b, OwnStep b (pre k b) []) (hpost : ∀ k b, OwnStep b (post k b) [])
    (hnone : rep = none → l = [])
    (hvisit : ∀ k b a, rep = some k → OwnAt act b (visit k b a).1 l) :
    OwnAt act r.1 (optSection rep pre post visit r).1 l := by
  cases rep with
  | none => rw [hnone rfl]; exact OwnAt.refl act _
  | some k => exact OwnAt.pre (hpre k r.1) ((hvisit k _ r.2 rfl).post (hpost k _))

theorem ownAt_loopHead (act : List Nat) (b : B) (lams : List Nat) (i hdr : Nat) :
    OwnAt act b ((addOrdinaryNodes b lams).enterLoopSection i hdr) (tagAll (lams ++ [hdr]) act) :=
  ((ownAt_addOrdinaryNodes act lams b).trans (ownAt_enterLoopSection act _ i hdr)).cast (tagAll_append lams [hdr] act).symm

/-- The ids `L` of the statements still to be visited are pairwise distinct and none of them is open. -/
structure Fresh (act L : List Nat) : Prop where
  nd : L.Nodup
  disj : ∀ k, k ∈ L → k ∉ act

theorem Fresh.left {act A C : List Nat} (h : Fresh act (A ++ C)) : Fresh act A :=
  ⟨(List.nodup_append.mp h.nd).1, fun k hk => h.disj k (List.mem_append.mpr (Or.inl hk))⟩

theorem Fresh.right {act A C : List Nat} (h : Fresh act (A ++ C)) : Fresh act C :=
  ⟨(List.nodup_append.mp h.nd).2.1, fun k hk => h.disj k (List.mem_append.mpr (Or.inr hk))⟩

theorem Fresh.push {act L : List Nat} {i : Nat} (h : Fresh act (i :: L)) : i ∉ act ∧ Fresh (act ++ [i]) L :=
  ⟨h.disj i (List.mem_cons_self ..), (List.nodup_cons.mp h.nd).2, fun k hk hm => (List.mem_append.mp hm).elim
    (h.disj k (List.mem_cons_of_mem _ hk)) (fun e => (List.nodup_cons.mp h.nd).1 (List.mem_singleton.mp e ▸ hk))⟩

mutual
theorem ownAt_visitStmt : ∀ (s : Stmt) (σ : List Scope) (b : B) (a : Acc) (inLoop : Bool) (act : List Nat),
    s.supported inLoop = true → OwnPre σ inLoop → Fresh act (ownerIds s) → OwnAt act b (visitStmt σ s b a).1 (ownSpec act s)
  | .functionDef i name args body decs rets false => fun σ b a inLoop act _ _ _ => ownAt_addOrdinaryNode act b i
  | .functionDef _ _ _ _ _ _ true => fun _ _ _ _ _ hs _ _ => by cases hs
  | .classDef i name bases kws body decs => fun σ b a inLoop act _ _ _ => ownAt_addOrdinaryNode act b i
  | .ret i v => fun σ b a inLoop act _ hp _ => by
    obtain ⟨F, hF⟩ := hp.fn
    exact ((ownAt_addOrdinaryNodes act (lamsL v) b).trans (ownAt_processExit act σ _ i .fn false F hF)).cast
      (tagAll_append (lamsL v) [i] act).symm
  | .raise i e c => fun σ b a inLoop act _ hp _ => by
    obtain ⟨F, hF⟩ := hp.fn
    exact (((ownAt_addOrdinaryNodes act (lamsL e ++ lamsL c) b).trans (ownAt_processExit act σ _ i .fn true F hF)).cast
      (tagAll_append (lamsL e ++ lamsL c) [i] act).symm).congr rfl rfl
  | .break_ i => fun σ b a inLoop act hs hp _ => by
    obtain ⟨L, hL⟩ := hp.loop hs
    exact ownAt_processExit act σ b i .loop false L hL
  | .continue_ i => fun σ b a inLoop act hs hp _ => by
    obtain ⟨L, hL⟩ := hp.loop hs
    exact ownAt_processContinue act σ b i L hL
  | .if_ i test body orelse => fun σ b a inLoop act hs hp hf => by
    have hs := Bool.and_eq_true_iff.mp hs
    obtain ⟨hi, hf⟩ := hf.push
    exact ownAt_bracket i hi <| OwnAt.pre (own_enterCondSection _ i) <|
      OwnAt.trans (ownAt_simple _ _ test.kidLams test.id) <| OwnAt.pre (own_newCondBranch _ i) <|
      OwnAt.trans (ownAt_visitStmts body σ _ _ inLoop _ hs.1 hp hf.left) <| OwnAt.pre (own_newCondBranch _ i) <|
      (ownAt_visitStmts orelse σ _ _ inLoop _ hs.2 hp hf.right).post (own_exitCondSection _ i)
  | .while_ i test body orelse => fun σ b a inLoop act hs hp hf => by
    have hs := Bool.and_eq_true_iff.mp hs
    obtain ⟨hi, hf⟩ := hf.push
    exact ownAt_bracket i hi <| OwnAt.pre (own_enterSection _ i) <|
      OwnAt.trans (ownAt_loopHead _ _ test.kidLams i test.id) <|
      OwnAt.trans ((ownAt_visitStmts body _ _ _ true _ hs.1 (hp.loop_scope i) hf.left).post (own_exitLoopSection _ i)) <|
      (ownAt_visitStmts orelse σ _ _ inLoop _ hs.2 hp hf.right).post (own_exitSection _ i)
  | .for_ _ _ _ _ _ _ true => fun _ _ _ _ _ hs _ _ => by cases hs
  | .for_ i target iter body orelse extra false => fun σ b a inLoop act hs hp hf => by
    obtain ⟨hsb, hso⟩ := Bool.and_eq_true_iff.mp hs
    obtain ⟨hi, hf⟩ := hf.push
    exact ownAt_bracket i hi <| OwnAt.pre (own_enterSection _ i) <|
      OwnAt.trans (ownAt_loopHead _ _ iter.kidLams i iter.id) <| OwnAt.trans (ownAt_basicExprs _ _ (extra.take 1) _ _) <|
      OwnAt.trans ((ownAt_visitStmts body _ _ _ true _ hsb (hp.loop_scope i) hf.left).post (own_exitLoopSection _ i)) <|
      (ownAt_visitStmts orelse σ _ _ inLoop _ hso hp hf.right).post (own_exitSection _ i)
  | .with_ _ _ _ true => fun _ _ _ _ _ hs _ _ => by cases hs
  | .with_ i items body false => fun σ b a inLoop act hs hp hf =>
    (ownAt_basicExprs act σ items b a).trans (ownAt_visitStmts body σ _ _ inLoop act hs hp hf)
  | .try_ i body handlers orelse final => fun σ b a inLoop act hs hp hf => by
    obtain ⟨hs, hsf⟩ := Bool.and_eq_true_iff.mp hs
    obtain ⟨hs, hso⟩ := Bool.and_eq_true_iff.mp hs
    obtain ⟨hsb, hsh⟩ := Bool.and_eq_true_iff.mp hs
    obtain ⟨hi, hf⟩ := hf.push
    have hp' : OwnPre (Scope.try_ i (!final.isEmpty) (handlerIds handlers) :: σ) inLoop := hp.try_scope i _ _
    exact ownAt_bracket i hi <|
      OwnAt.trans (ownAt_visitStmts body _ _ a inLoop _ hsb hp' hf.left) <|
      OwnAt.trans (ownAt_optSection _ (elseRep i orelse) _ _ _ _ _
        (fun k b' => (own_enterCondSection b' k).trans (own_newCondBranch _ k))
        (fun k b' => (own_newCondBranch b' k).trans (own_exitCondSection _ k))
        (fun h => by cases orelse with
          | nil => rfl
          | cons x xs => cases h)
        (fun k b' a' _ => ownAt_visitStmts orelse _ b' a' inLoop _ hso hp' hf.right.left)) <|
      OwnAt.trans (ownAt_optSection _ (handlers.head?.map Stmt.id) _ _ _ _ _
        (fun k b' => own_enterCondSection b' k)
        (fun k b' => (own_newCondBranch b' k).trans (own_exitCondSection _ k))
        (fun h => by cases handlers with
          | nil => rfl
          | cons x xs => cases h)
        (fun k b' a' _ => ownAt_visitHandlers handlers σ k b' a' inLoop _ hsh hp hf.right.right.left)) <|
      ownAt_optSection _ (if final.isEmpty then none else some i) _ _ _ _ _
        (fun k b' => own_enterFinallySection b' k) (fun k b' => own_exitFinallySection b' k)
        (fun h => by cases final with
          | nil => rfl
          | cons x xs => cases h)
        (fun k b' a' _ => ownAt_visitStmts final σ b' a' inLoop _ hsf hp hf.right.right.right)
  | .handler .. => fun _ _ _ _ _ hs _ _ => by cases hs
  | .other .. => fun _ _ _ _ _ hs _ _ => by cases hs
  | .delete .. | .assign .. | .augAssign .. | .annAssign .. | .assert_ .. | .import_ .. | .importFrom .. | .global ..
  | .nonlocal .. | .expr .. | .pass .. =>
    fun σ b a inLoop act _ _ _ => ownAt_simple act b _ _

theorem ownAt_visitStmts : ∀ (ss : List Stmt) (σ : List Scope) (b : B) (a : Acc) (inLoop : Bool) (act : List Nat),
    supportedL inLoop ss = true → OwnPre σ inLoop → Fresh act (ownerIdsL ss) → OwnAt act b (visitStmts σ ss b a).1 (ownSpecL act ss)
  | [] => fun σ b a inLoop act _ _ _ => OwnAt.refl act b
  | s :: ss => fun σ b a inLoop act hs hp hf => by
    have hs := Bool.and_eq_true_iff.mp hs
    exact (ownAt_visitStmt s σ b a inLoop act hs.1 hp hf.left).trans (ownAt_visitStmts ss σ _ _ inLoop act hs.2 hp hf.right)

theorem ownAt_visitHandlers : ∀ (hs : List Stmt) (σ : List Scope) (rep : Nat) (b : B) (a : Acc) (inLoop : Bool) (act : List Nat),
    handlersOk inLoop hs = true → OwnPre σ inLoop → Fresh act (ownerIdsL hs) →
    OwnAt act b (visitHandlers σ rep hs b a).1 (ownSpecL act hs)
  | [] => fun σ rep b a inLoop act _ _ _ => OwnAt.refl act b
  | .handler i ty nm hb :: hs => fun σ rep b a inLoop act hok hp hf => by
    obtain ⟨hok, hoks⟩ := Bool.and_eq_true_iff.mp hok
    obtain ⟨hnm, hsb⟩ := Bool.and_eq_true_iff.mp hok
    cases List.isEmpty_iff.mp hnm
    obtain ⟨hi, hfb⟩ := hf.left.push
    exact OwnAt.trans
      (OwnAt.pre (own_newCondBranch b rep) <| ownAt_bracket i hi <| OwnAt.pre (own_enterExceptSection _ i) <|
        (ownAt_addOrdinaryNodes _ (lamsL ty) _).trans (ownAt_visitStmts hb σ _ _ inLoop _ hsb hp hfb))
      (ownAt_visitHandlers hs σ rep _ _ inLoop act hoks hp hf.right)
  | .functionDef .. :: _ | .classDef .. :: _ | .ret .. :: _ | .delete .. :: _ | .assign .. :: _ | .augAssign .. :: _
  | .annAssign .. :: _ | .for_ .. :: _ | .while_ .. :: _ | .if_ .. :: _ | .with_ .. :: _ | .raise .. :: _
  | .try_ .. :: _ | .assert_ .. :: _ | .import_ .. :: _ | .importFrom .. :: _ | .global .. :: _ | .nonlocal .. :: _
  | .expr .. :: _ | .pass .. :: _ | .break_ .. :: _ | .continue_ .. :: _ | .other .. :: _ =>
    fun _ _ _ _ _ _ hok _ _ => by cases hok
end

theorem own_visitStmt : ∀ (s : Stmt) (σ : List Scope) (b : B) (a : Acc) (inLoop : Bool), s.supported inLoop = true →
    OwnPre σ inLoop → (ownerIds s).Nodup → (∀ k, k ∈ ownerIds s → k ∉ b.activeStmts) →
    OwnStep b (visitStmt σ s b a).1 (ownSpec b.activeStmts s) :=
  fun s σ b a inLoop hs hp hnd hdis => ownAt_visitStmt s σ b a inLoop _ hs hp ⟨hnd, hdis⟩ rfl

theorem own_visitHandlers : ∀ (hs : List Stmt) (σ : List Scope) (rep : Nat) (b : B) (a : Acc) (inLoop : Bool),
    handlersOk inLoop hs = true → OwnPre σ inLoop → (ownerIdsL hs).Nodup → (∀ k, k ∈ ownerIdsL hs → k ∉ b.activeStmts) →
    OwnStep b (visitHandlers σ rep hs b a).1 (ownSpecL b.activeStmts hs) :=
  fun hs σ rep b a inLoop hok hp hnd hdis => ownAt_visitHandlers hs σ rep b a inLoop _ hok hp ⟨hnd, hdis⟩ rfl

theorem owners_root (i : Nat) (name : String) (args : Expr) (body : List Stmt) (decs rets : List Expr)
    (hs : fnSupported (.functionDef i name args body decs rets false) = true)
    (hd : fnDistinctOwnerIds (.functionDef i name args body decs rets false) = true) :
    (rootBuilder (.functionDef i name args body decs rets false)).1.build.owners =
      fnOwnSpec (.functionDef i name args body decs rets false) := by
  have hs : supportedL false body = true := hs
  have h : OwnAt [] ({} : B) (rootBuilder (.functionDef i name args body decs rets false)).1
      (fnOwnSpec (.functionDef i name args body decs rets false)) :=
    OwnAt.pre (own_enterSection _ i) (OwnAt.trans (ownAt_simple [] _ args.kidLams args.id)
      ((ownAt_visitStmts body [Scope.fn i] _ _ false [] hs ⟨⟨i, rfl⟩, fun h => by cases h⟩
        ⟨nodupB_sound _ hd, fun _ _ h => (List.not_mem_nil h).elim⟩).post (own_exitSection _ i)))
  exact (h rfl).owners

end Malt.Cfg
