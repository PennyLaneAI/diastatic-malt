import MaltModel.Proofs.C08Comp
/-
`Recorded st u`: the analysis has annotated the node of the unit `u` of `Spec.Dynamic` with a scope holding what `u`
reads and rebinds or deletes.  What does not depend on the expression fragment is here.
-/
namespace Malt.Analysis
open Malt.Py Malt.Spec

theorem readsEs_append (hid : List String) (a b : List Expr) : readsEs hid (a ++ b) = readsEs hid a ++ readsEs hid b := by
  induction a with
  | nil => simp [readsEs]
  | cons e r ih => simp [readsEs, ih]

theorem writesEs_append (hid : List String) (a b : List Expr) : writesEs hid (a ++ b) = writesEs hid a ++ writesEs hid b := by
  induction a with
  | nil => simp [writesEs]
  | cons e r ih => simp [writesEs, ih]

/-- No `deleted`: `exported false` drops it. -/
def Eff.Has (d : Eff) (rs ws : List String) : Prop :=
  (∀ x ∈ rs, QN.sym x ∈ d.read) ∧ (∀ x ∈ ws, QN.sym x ∈ d.modified)

theorem Eff.Has.nil (d : Eff) : d.Has [] [] := ⟨List.forall_mem_nil _, List.forall_mem_nil _⟩

theorem Eff.Has.inl {d : Eff} {rs ws : List String} (h : d.Has rs ws) (d' : Eff) : (d ++ d').Has rs ws :=
  ⟨fun x hx => List.mem_append_left _ (h.1 x hx), fun x hx => List.mem_append_left _ (h.2 x hx)⟩

theorem Eff.Has.inr {d : Eff} {rs ws : List String} (h : d.Has rs ws) (d' : Eff) : (d' ++ d).Has rs ws :=
  ⟨fun x hx => List.mem_append_right _ (h.1 x hx), fun x hx => List.mem_append_right _ (h.2 x hx)⟩

theorem Eff.Has.both {d : Eff} {r1 w1 r2 w2 : List String} (h1 : d.Has r1 w1) (h2 : d.Has r2 w2) :
    d.Has (r1 ++ r2) (w1 ++ w2) :=
  ⟨fun x hx => (List.mem_append.mp hx).elim (h1.1 x) (h2.1 x), fun x hx => (List.mem_append.mp hx).elim (h1.2 x) (h2.2 x)⟩

theorem Eff.Has.append {d1 d2 : Eff} {r1 w1 r2 w2 : List String} (h1 : d1.Has r1 w1) (h2 : d2.Has r2 w2) :
    (d1 ++ d2).Has (r1 ++ r2) (w1 ++ w2) :=
  (h1.inl d2).both (h2.inr d1)

theorem Eff.Has.exported {d : Eff} {rs ws : List String} (h : d.Has rs ws) : (d.exported false).Has rs ws := h

theorem Eff.Has.single {d : Eff} {hid : List String} {e : Expr} (h : d.Has (readsE hid e) (writesE hid e)) :
    d.Has (readsEs hid [e]) (writesEs hid [e]) := by
  simpa only [readsEs, writesEs, List.append_nil] using h

theorem Eff.Has.consEs {d : Eff} {hid : List String} {e : Expr} {es : List Expr} (h1 : d.Has (readsE hid e) (writesE hid e))
    (h2 : d.Has (readsEs hid es) (writesEs hid es)) : d.Has (readsEs hid (e :: es)) (writesEs hid (e :: es)) := by
  simpa only [readsEs, writesEs] using h1.both h2

theorem Eff.Has.appendEs {d : Eff} {hid : List String} {a b : List Expr} (h1 : d.Has (readsEs hid a) (writesEs hid a))
    (h2 : d.Has (readsEs hid b) (writesEs hid b)) : d.Has (readsEs hid (a ++ b)) (writesEs hid (a ++ b)) := by
  simpa only [readsEs_append, writesEs_append] using h1.both h2

/-- What `effE` and `effC … []` share on assignment and `del` targets. -/
structure TargetEff (f : Expr → Eff) (fs : List Expr → Eff) : Prop where
  seq : ∀ i k es c, f (.seq i k es c) = fs es
  starred : ∀ i v c, f (.starred i v c) = f v
  cons : ∀ e r, fs (e :: r) = f e ++ fs r

theorem TargetEff.dels {f : Expr → Eff} {fs : List Expr → Eff} (T : TargetEff f fs)
    (hn : ∀ i s, QN.sym s ∈ (f (.name i s .del)).deleted) :
    (∀ e, ∀ x ∈ delNames e, QN.sym x ∈ (f e).deleted) ∧ (∀ es, ∀ x ∈ delNamesL es, QN.sym x ∈ (fs es).deleted) := by
  apply delNames.mutual_induct
  · intro i s c hc x hx
    rw [delNames, if_pos hc, List.mem_singleton] at hx
    rw [hx, beq_iff_eq.mp hc]
    exact hn i s
  · intro _ s c hc x hx
    rw [delNames, if_neg hc] at hx
    exact absurd hx List.not_mem_nil
  · intro i k es c ih
    simpa only [delNames, T.seq] using ih
  · intro i v c ih
    simpa only [delNames, T.starred] using ih
  · intro e h1 h2 h3 x hx
    -- the catch-all equation of `delNames` wants `h1 h2 h3`: `e` is none of the three forms above
    rw [delNames] at hx
    · exact absurd hx List.not_mem_nil
    all_goals assumption
  · exact fun x hx => absurd hx List.not_mem_nil
  · intro e rest ih1 ih2 x hx
    simp only [delNamesL, List.mem_append] at hx
    simp only [T.cons, Eff.append_deleted, List.mem_append]
    exact hx.imp (ih1 x) (ih2 x)

theorem TargetEff.targets {f : Expr → Eff} {fs : List Expr → Eff} (T : TargetEff f fs)
    (hn : ∀ i s c, QN.sym s ∈ (f (.name i s c)).read) :
    (∀ e, ∀ x ∈ targetNames e, QN.sym x ∈ (f e).read) ∧ (∀ es, ∀ x ∈ targetNamesL es, QN.sym x ∈ (fs es).read) := by
  apply targetNames.mutual_induct
  · intro i s c x hx
    rw [targetNames, List.mem_singleton] at hx
    rw [hx]
    exact hn i s c
  · intro i k es c ih
    simpa only [targetNames, T.seq] using ih
  · intro i v c ih
    simpa only [targetNames, T.starred] using ih
  · intro e h1 h2 h3 x hx
    rw [targetNames] at hx
    · exact absurd hx List.not_mem_nil
    all_goals assumption
  · exact fun x hx => absurd hx List.not_mem_nil
  · intro e rest ih1 ih2 x hx
    simp only [targetNamesL, List.mem_append] at hx
    simp only [T.cons, Eff.append_read, List.mem_append]
    exact hx.imp (ih1 x) (ih2 x)

theorem targetEff_effE (fns : List FnCtx) (aug anno : Bool) : TargetEff (effE fns aug anno) (effEs fns aug anno) :=
  ⟨fun _ _ _ _ => by simp only [effE], fun _ _ _ => by simp only [effE], fun _ _ => by simp only [effEs]⟩

theorem dels_sub_effE : (e : Expr) → (fns : List FnCtx) → (aug anno : Bool) →
    ∀ x ∈ delNames e, QN.sym x ∈ (effE fns aug anno e).deleted :=
  fun e fns aug anno => ((targetEff_effE fns aug anno).dels (fun _ _ => by simp [effE, trackEff])).1 e

theorem augTargets_sub_effEs : (es : List Expr) → (fns : List FnCtx) → (anno : Bool) →
    ∀ x ∈ targetNamesL es, QN.sym x ∈ (effEs fns true anno es).read :=
  fun es fns anno => ((targetEff_effE fns true anno).targets (fun _ _ c => by cases c <;> simp [effE, trackEff])).2 es

def keyOf : NodeKey → AnnoKey
  | .scope => .scope
  | .iterate => .iterateScope

def Good (u : ExecUnit) (c : Scope) : Prop :=
  (∀ x ∈ u.reads, QN.sym x ∈ c.read) ∧ (∀ x ∈ u.writes, QN.sym x ∈ c.modified ∨ QN.sym x ∈ c.deleted)

def Recorded (st : St) (u : ExecUnit) : Prop := ∃ c, (u.id, keyOf u.key, c) ∈ st.annos ∧ Good u c

theorem Recorded.ofAnnos {a b : St} {u : ExecUnit} (h : ∀ x, x ∈ a.annos → x ∈ b.annos) (r : Recorded a u) : Recorded b u := by
  obtain ⟨c, hc, hg⟩ := r
  exact ⟨c, h _ hc, hg⟩

theorem effEs_append_eq (fns : List FnCtx) (aug anno : Bool) (a b : List Expr) :
    effEs fns aug anno (a ++ b) = effEs fns aug anno a ++ effEs fns aug anno b := by
  induction a with
  | nil => rfl
  | cons e r ih => simp only [List.cons_append, effEs, ih, Eff.append_assoc]

theorem effEs_append (fns : List FnCtx) (aug anno : Bool) (a b : List Expr) (q : QN) :
    (q ∈ (effEs fns aug anno (a ++ b)).read ↔ q ∈ (effEs fns aug anno a).read ∨ q ∈ (effEs fns aug anno b).read) ∧
    (q ∈ (effEs fns aug anno (a ++ b)).modified ↔ q ∈ (effEs fns aug anno a).modified ∨ q ∈ (effEs fns aug anno b).modified) := by
  rw [effEs_append_eq]
  exact ⟨List.mem_append, List.mem_append⟩

theorem argAnnos_plain (as : List Expr) (h : as.all isPlainArg = true) : argAnnos as = [] := by
  rw [argAnnos, List.flatMap_eq_nil_iff]
  intro a ha
  obtain ⟨i, n, rfl⟩ := (isPlainArg_iff a).mp (List.all_eq_true.mp h a ha)
  rfl

theorem mem_aliasEff {names : List (String × String)} {x : String} (hx : x ∈ names.map Spec.aliasName) :
    QN.sym x ∈ (aliasEff names).modified := by
  obtain ⟨a, ha, rfl⟩ := List.mem_map.mp hx
  exact List.mem_map.mpr ⟨a, ha, rfl⟩

end Malt.Analysis
