import MaltModel.Proofs.C04Traverse
/-
A statement as `generic_visit` and the checker see it: its expressions, its blocks, and the little the checker reads off the
statement itself (`kindS`); then what is lifted from expressions to statements along this view.
-/
namespace Malt.C04
open Malt.Py Malt.Conv Malt.Conv.NoNative

/-- In the order the checker reports on them.  Not the extra loop test a `for` carries as an annotation: neither a
`NodeTransformer` nor the checker looks at it. -/
def exprsS : Stmt → List Expr
  | .functionDef _ _ as _ ds rs _ => as :: (ds ++ rs)
  | .classDef _ _ bs ks _ ds => bs ++ (ks ++ ds)
  | .ret _ es | .delete _ es | .with_ _ es _ _ | .handler _ es _ _ | .other _ _ es _ => es
  | .assign _ ts v => ts ++ [v]
  | .augAssign _ t _ v => [t, v]
  | .annAssign _ t an v _ => t :: an :: v
  | .for_ _ t it _ _ _ _ => [t, it]
  | .while_ _ t _ _ | .if_ _ t _ _ | .expr _ t => [t]
  | .raise _ e c => e ++ c
  | .assert_ _ t m => t :: m
  | .try_ .. | .import_ .. | .importFrom .. | .global .. | .nonlocal .. | .pass .. | .break_ .. | .continue_ .. => []

def blocksS : Stmt → List (List Stmt)
  | .functionDef _ _ _ b _ _ _ | .classDef _ _ _ _ b _ | .with_ _ _ b _ | .handler _ _ _ b | .other _ _ _ b => [b]
  | .for_ _ _ _ b e _ _ | .while_ _ _ b e | .if_ _ _ b e => [b, e]
  | .try_ _ b hs e f => [b, hs, e, f]
  | _ => []

inductive Ctl where
  | if_ | while_ | for_ | break_ | continue_

def Ctl.name : Ctl → String
  | .if_ => "If"
  | .while_ => "While"
  | .for_ => "For"
  | .break_ => "Break"
  | .continue_ => "Continue"

def stmtKinds : List String := ["If", "While", "For", "Break", "Continue", "Return"]

theorem Ctl.name_mem : ∀ c : Ctl, c.name ∈ stmtKinds
  | .if_ => .head _
  | .while_ => .tail _ (.head _)
  | .for_ => .tail _ (.tail _ (.head _))
  | .break_ => .tail _ (.tail _ (.tail _ (.head _)))
  | .continue_ => .tail _ (.tail _ (.tail _ (.tail _ (.head _))))

/-- What the checker reads off a statement besides its parts. -/
inductive SKind where
  | ctl (c : Ctl) (i : Nat)
  | ret (i : Nat)
  | def_ (name : String)
  | with_
  | plain

def kindS : Stmt → SKind
  | .if_ i .. => .ctl .if_ i
  | .while_ i .. => .ctl .while_ i
  | .for_ i .. => .ctl .for_ i
  | .break_ i => .ctl .break_ i
  | .continue_ i => .ctl .continue_ i
  | .ret i _ => .ret i
  | .functionDef _ n .. => .def_ n
  | .with_ .. => .with_
  | _ => .plain

namespace SKind

def own (tail : Bool) : SKind → List Off
  | .ctl c i => [⟨c.name, i, ""⟩]
  | .ret i => if tail then [] else [⟨"Return", i, "early"⟩]
  | _ => []

theorem own_kinds (tail : Bool) (k : SKind) : ∀ o ∈ k.own tail, o.kind ∈ stmtKinds := by
  cases k with
  | ctl c i => intro o ho; rw [List.mem_singleton.mp ho]; exact c.name_mem
  | ret i =>
      cases tail
      · intro o ho; rw [List.mem_singleton.mp ho]
        exact .tail _ (.tail _ (.tail _ (.tail _ (.tail _ (.head _)))))
      · exact fun _ ho => (List.not_mem_nil ho).elim
  | _ => exact fun _ ho => (List.not_mem_nil ho).elim

/-- E2 -/
def inWith : SKind → Bool
  | .with_ => true
  | _ => false

/-- E6 -/
def scopes (items : List Expr) : SKind → List String
  | .with_ => scopeNames items
  | _ => []

/-- E8 -/
def tail (roles : List String) (tail : Bool) : SKind → Bool
  | .def_ n => !roles.contains n
  | .with_ => tail
  | _ => false

end SKind

theorem anyS_eq (p : Expr → Bool) (s : Stmt) :
    anyS p s = ((exprsS s).any (anyE p) || (blocksS s).any (anyB p)) := by
  cases s with
  | functionDef i n as b ds rs isA =>
      simp only [anyS, exprsS, blocksS, anyEs, anyKidsL_eq_any, List.any_cons, List.any_nil, List.any_append, Bool.or_false, Bool.or_assoc]
      rw [Bool.or_comm (anyB p b), Bool.or_assoc]
  | classDef i n bs ks b ds =>
      simp only [anyS, exprsS, blocksS, anyEs, anyKidsL_eq_any, List.any_cons, List.any_nil, List.any_append, Bool.or_false, Bool.or_assoc]
      rw [Bool.or_comm (anyB p b)]
  | _ =>
      simp only [anyS, exprsS, blocksS, anyEs, anyKidsL_eq_any, List.any_cons, List.any_nil, List.any_append, Bool.or_false,
        Bool.false_or, Bool.or_assoc]

theorem anyS_eq_false {p : Expr → Bool} {s : Stmt} :
    anyS p s = false ↔ (∀ e ∈ exprsS s, anyE p e = false) ∧ ∀ b ∈ blocksS s, anyB p b = false := by
  rw [anyS_eq, Bool.or_eq_false_iff, List.any_eq_false, List.any_eq_false]
  simp only [Bool.not_eq_true]

theorem exprsS_kidsS (h : Hooks) (sh : SHooks) (s : Stmt) : exprsS (kidsS h sh s) = (exprsS s).map (mapE h) := by
  cases s <;> simp only [kidsS, exprsS, mapEs, kidsEs_eq_map, List.map_cons, List.map_append, List.map_nil]

theorem blocksS_kidsS (h : Hooks) (sh : SHooks) (s : Stmt) : blocksS (kidsS h sh s) = (blocksS s).map (mapB h sh) := by
  cases s <;> rfl

theorem kindS_kidsS (h : Hooks) (sh : SHooks) (s : Stmt) : kindS (kidsS h sh s) = kindS s := by
  cases s <;> rfl

theorem kidsS_congr {h₁ h₂ : Hooks} {sh₁ sh₂ : SHooks} (s : Stmt) (He : ∀ e ∈ exprsS s, mapE h₁ e = mapE h₂ e)
    (Hb : ∀ b ∈ blocksS s, mapB h₁ sh₁ b = mapB h₂ sh₂ b) : kidsS h₁ sh₁ s = kidsS h₂ sh₂ s := by
  cases s <;> simp_all [kidsS, exprsS, blocksS, mapEs, kidsEs_eq_map]

/-- One `inWith` flag, one list of scope names and one tail flag serve all parts of a statement. -/
theorem offS_eq (cfg : Cfg) (sc roles : List String) (tail : Bool) (s : Stmt) :
    offS cfg sc roles tail s = (kindS s).own tail ++ ((exprsS s).flatMap (offE cfg sc (kindS s).inWith .normal) ++
      (blocksS s).flatMap fun b =>
        offB cfg ((kindS s).scopes (exprsS s) ++ sc) (blockRoles b) ((kindS s).tail roles tail) b) := by
  cases s <;> simp only [offS, kindS, SKind.own, Ctl.name, SKind.inWith, SKind.scopes, SKind.tail, exprsS, blocksS, offEs_nil,
    List.flatMap_append, List.flatMap_cons, List.flatMap_nil, List.append_assoc, List.nil_append, List.append_nil,
    List.cons_append]

theorem stmt_ind {P : Stmt → Prop} {Q : List Stmt → Prop} (nil : Q []) (cons : ∀ s ss, P s → Q ss → Q (s :: ss))
    (step : ∀ s, (∀ b ∈ blocksS s, Q b) → P s) : (∀ s, P s) ∧ ∀ b, Q b :=
  have leaf {s : Stmt} (h : blocksS s = []) : P s := step s (h ▸ nofun)
  have one {s : Stmt} {b : List Stmt} (hb : Q b) (h : blocksS s = [b]) : P s :=
    step s (h ▸ List.forall_mem_singleton.mpr hb)
  have two {s : Stmt} {b e : List Stmt} (hb : Q b) (he : Q e) (h : blocksS s = [b, e]) : P s :=
    step s (h ▸ List.forall_mem_cons.mpr ⟨hb, List.forall_mem_singleton.mpr he⟩)
  have all : ∀ s, P s := Stmt.rec (motive_1 := P) (motive_2 := Q)
    (functionDef := fun _ _ _ _ _ _ _ hb => one hb rfl) (classDef := fun _ _ _ _ _ _ hb => one hb rfl)
    (ret := fun _ _ => leaf rfl) (delete := fun _ _ => leaf rfl) (assign := fun _ _ _ => leaf rfl)
    (augAssign := fun _ _ _ _ => leaf rfl) (annAssign := fun _ _ _ _ _ => leaf rfl)
    (for_ := fun _ _ _ _ _ _ _ hb he => two hb he rfl) (while_ := fun _ _ _ _ hb he => two hb he rfl)
    (if_ := fun _ _ _ _ hb he => two hb he rfl) (with_ := fun _ _ _ _ hb => one hb rfl) (raise := fun _ _ _ => leaf rfl)
    (try_ := fun _ _ _ _ _ h1 h2 h3 h4 => step _ (List.forall_mem_cons.mpr ⟨h1, List.forall_mem_cons.mpr ⟨h2,
      List.forall_mem_cons.mpr ⟨h3, List.forall_mem_singleton.mpr h4⟩⟩⟩))
    (handler := fun _ _ _ _ hb => one hb rfl) (assert_ := fun _ _ _ => leaf rfl) (import_ := fun _ _ => leaf rfl)
    (importFrom := fun _ _ _ _ => leaf rfl) (global := fun _ _ => leaf rfl) (nonlocal := fun _ _ => leaf rfl)
    (expr := fun _ _ => leaf rfl) (pass := fun _ => leaf rfl) (break_ := fun _ => leaf rfl)
    (continue_ := fun _ => leaf rfl) (other := fun _ _ _ _ hb => one hb rfl)
    (nil := nil) (cons := fun s ss hs hss => cons s ss hs hss)
  ⟨all, fun b => List.rec nil (fun s ss ih => cons s ss (all s) ih) b⟩

def stmtOrCallKinds : List String := "Call" :: stmtKinds

/-- every offender is a call or a statement construct -/
def SC (l : List Off) : Prop := ∀ o ∈ l, o.kind ∈ stmtOrCallKinds

theorem SC_nil : SC [] := nofun
theorem SC.append {a b : List Off} (ha : SC a) (hb : SC b) : SC (a ++ b) :=
  fun o ho => (List.mem_append.mp ho).elim (ha o) (hb o)
theorem SC_of_calls {l : List Off} (h : ∀ o ∈ l, o.kind = "Call") : SC l := by
  intro o ho; rw [h o ho]; decide
theorem SC_flatMap {α : Type} {l : List α} {f : α → List Off} (H : ∀ a ∈ l, SC (f a)) : SC (l.flatMap f) := by
  intro o ho
  obtain ⟨a, ha, ho⟩ := List.mem_flatMap.mp ho
  exact H a ha o ho

theorem offS_offB_kinds (cfg : Cfg) :
    (∀ s sc roles t, anyS (nativeExprKind cfg.eqOn) s = false → SC (offS cfg sc roles t s)) ∧
      ∀ b sc roles t, anyB (nativeExprKind cfg.eqOn) b = false → SC (offB cfg sc roles t b) :=
  stmt_ind (fun _ _ _ _ => SC_nil)
    (fun s ss hs hss sc roles t hb =>
      have hb := Bool.or_eq_false_iff.mp hb
      (hs _ _ _ hb.1).append (hss _ _ _ hb.2))
    fun s ih sc roles t hb => by
      obtain ⟨he, hbl⟩ := anyS_eq_false.mp hb
      rw [offS_eq]
      exact SC.append (fun o ho => List.mem_cons_of_mem _ (SKind.own_kinds t _ o ho))
        ((SC_flatMap fun e hm => SC_of_calls (off_only_calls cfg sc _ e _ (he e hm))).append
          (SC_flatMap fun b hm => ih b hm _ _ _ (hbl b hm)))

theorem offB_kinds (cfg : Cfg) : ∀ (b : List Stmt) (sc roles : List String) (t : Bool),
    anyB (nativeExprKind cfg.eqOn) b = false → SC (offB cfg sc roles t b) :=
  (offS_offB_kinds cfg).2

theorem anyB_eq_any (p : Expr → Bool) : ∀ b, anyB p b = b.any (anyS p)
  | [] => rfl
  | s :: ss => by rw [anyB, anyB_eq_any p ss, List.any_cons]

theorem anyB_append (p : Expr → Bool) (a b : List Stmt) : anyB p (a ++ b) = (anyB p a || anyB p b) := by
  rw [anyB_eq_any, anyB_eq_any, anyB_eq_any, List.any_append]

theorem offB_append (cfg : Cfg) (sc roles : List String) (t : Bool) :
    ∀ (a b : List Stmt), offB cfg sc roles t (a ++ b) = offB cfg sc roles (t && b.isEmpty) a ++ offB cfg sc roles t b
  | [], b => by simp [offB]
  | s :: a, b => by
      have ht : (t && (a ++ b).isEmpty) = ((t && b.isEmpty) && a.isEmpty) := by cases t <;> cases a <;> simp
      simp only [List.cons_append, offB, offB_append cfg sc roles t a b, List.append_assoc, ht]

theorem blockRoles_eq_flatMap : ∀ b, blockRoles b = b.flatMap bodyRoleNames
  | [] => rfl
  | s :: ss => by rw [blockRoles, blockRoles_eq_flatMap ss, List.flatMap_cons]

theorem blockRoles_append (a b : List Stmt) : blockRoles (a ++ b) = blockRoles a ++ blockRoles b := by
  rw [blockRoles_eq_flatMap, blockRoles_eq_flatMap, blockRoles_eq_flatMap, List.flatMap_append]

theorem mem_offB {cfg : Cfg} {sc roles : List String} {o : Off} :
    ∀ {b : List Stmt} {t : Bool}, o ∈ offB cfg sc roles t b → ∃ s ∈ b, ∃ t', o ∈ offS cfg sc roles t' s
  | [], _, h => nomatch h
  | s :: ss, t, h => by
      rcases List.mem_append.mp h with h | h
      · exact ⟨s, List.mem_cons_self .., _, h⟩
      · obtain ⟨s', hs', t', h'⟩ := mem_offB h
        exact ⟨s', List.mem_cons_of_mem _ hs', t', h'⟩

section stmts
variable (h : Hooks) (sh : SHooks) (p bad : Expr → Bool)

structure SHooksFree : Prop where
  pre : ∀ s r, sh.pre s = some r → anyS bad s = false → anyB p r = false
  post : ∀ s, sh.pre s = none → anyS bad s = false → anyS p (kidsS h sh s) = false →
    anyB p (sh.post (kidsS h sh s)) = false

theorem SHooksFree.default : SHooksFree h {} p bad where
  pre := by intro s r hh; simp at hh
  post := by intro s _ _ hk; simp [anyB, hk]

theorem stepS_free (SH : SHooksFree h sh p bad) (s : Stmt) (hb : anyS bad s = false)
    (hk : anyS p (kidsS h sh s) = false) : anyB p (stepS sh s (kidsS h sh s)) = false := by
  unfold stepS
  cases hpre : sh.pre s with
  | some r => exact SH.pre s r hpre hb
  | none => exact SH.post s hpre hb hk

theorem kidsS_mapB_free (H : HooksFree h p bad) (SH : SHooksFree h sh p bad) :
    (∀ s, anyS bad s = false → anyS p (kidsS h sh s) = false) ∧
      ∀ b, anyB bad b = false → anyB p (mapB h sh b) = false :=
  stmt_ind (fun _ => rfl)
    (fun s ss hs hss hb => by
      obtain ⟨h1, h2⟩ := Bool.or_eq_false_iff.mp hb
      rw [mapB, anyB_append, stepS_free h sh p bad SH s h1 (hs h1), hss h2]; rfl)
    fun s ih hb => by
      obtain ⟨he, hbl⟩ := anyS_eq_false.mp hb
      rw [anyS_eq_false, exprsS_kidsS, blocksS_kidsS]
      exact ⟨List.forall_mem_map.mpr fun e hm => mapE_free h p bad H e (he e hm),
        List.forall_mem_map.mpr fun b hm => ih b hm (hbl b hm)⟩

theorem mapB_free (H : HooksFree h p bad) (SH : SHooksFree h sh p bad) :
    ∀ (b : List Stmt), anyB bad b = false → anyB p (mapB h sh b) = false :=
  (kidsS_mapB_free h sh p bad H SH).2

theorem mapS_free (H : HooksFree h p bad) (SH : SHooksFree h sh p bad) (s : Stmt) (hb : anyS bad s = false) :
    anyB p (mapS h sh s) = false :=
  stepS_free h sh p bad SH s hb ((kidsS_mapB_free h sh p bad H SH).1 s hb)

end stmts

/-- On trees all of whose nodes are `good` this is the same traversal (`mapE_guard`, `mapB_guard`), and its hook conditions
only have to be shown for good nodes. -/
def guard (h : Hooks) (good : Expr → Bool) : Hooks :=
  { pre := h.pre, post := fun e => if good e then h.post e else e }

section
-- `hk`: `good` is applied to the node rebuilt by the GUARDED traversal, so that is the traversal it has to be stable under
variable (h : Hooks) (good : Expr → Bool) (hpre : ∀ e, h.pre e = none)
  (hk : ∀ e, good (kidsE (guard h good) e) = good e) (sh : SHooks)

include hpre hk in
theorem mapE_guard (e : Expr) : anyE (fun x => !good x) e = false → mapE (guard h good) e = mapE h e := by
  induction e using kids_ind with
  | step e ih =>
    intro hb
    obtain ⟨hg, hkids⟩ := anyE_eq_false.mp hb
    have hkk : kidsE (guard h good) e = kidsE h e := by
      rw [kidsE_eq, kidsE_eq]; exact mapKids_congr e fun c hc => ih c hc (hkids c hc)
    have hgk : good (kidsE h e) = true := by rw [← hkk, hk]; simpa using hg
    show step (guard h good) e (kidsE (guard h good) e) = step h e (kidsE h e)
    rw [hkk]
    simp only [step, guard, hpre, hgk, if_true]

include hpre hk in
theorem kidsS_mapB_guard : (∀ s, anyS (fun x => !good x) s = false → kidsS (guard h good) sh s = kidsS h sh s) ∧
    ∀ b, anyB (fun x => !good x) b = false → mapB (guard h good) sh b = mapB h sh b :=
  stmt_ind (fun _ => rfl)
    (fun s ss hs hss hb => by
      obtain ⟨h1, h2⟩ := Bool.or_eq_false_iff.mp hb
      rw [mapB, mapB, hs h1, hss h2])
    fun s ih hb => by
      obtain ⟨he, hbl⟩ := anyS_eq_false.mp hb
      exact kidsS_congr s (fun e hm => mapE_guard h good hpre hk e (he e hm)) fun b hm => ih b hm (hbl b hm)

include hpre hk in
theorem kidsS_guard : ∀ (s : Stmt), anyS (fun x => !good x) s = false → kidsS (guard h good) sh s = kidsS h sh s :=
  (kidsS_mapB_guard h good hpre hk sh).1

include hpre hk in
theorem mapB_guard : ∀ (b : List Stmt), anyB (fun x => !good x) b = false → mapB (guard h good) sh b = mapB h sh b :=
  (kidsS_mapB_guard h good hpre hk sh).2

end

end Malt.C04
