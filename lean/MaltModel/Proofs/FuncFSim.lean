import MaltModel.Proofs.FuncFBasic
/-!
The tracing semantics `execF` refines the native semantics `execN` on the functionalised code of a pure annotated
program (`ref_all`): a tracing run that does not end in an exception is matched by a native run with the same
outcome, and the two final states read the same on every variable live afterwards (`Agree L μN.view μF`).  No source run
occurs: what the tracing run has to do with the source program follows through `sim_all` and determinism.
An exception of the tracing run can come from an out-of-band execution (the other branch of a conditional, the extra
trace of a loop body), which the native run never performs; "total, definitely assigned" in C02 is what excludes it.
-/
namespace Malt.Func
open Malt.Sem

def IsExc (o : Out) : Prop := ∃ e, o = .exc e

def ResF (o : Out) (L : List Name) (σ₁ : St) (oF : Out) (σF : TSt) : Prop :=
  IsExc oF ∨ (oF = o ∧ AgreeOut o L σ₁ σF)

theorem execFB_append_inv (X : Ext) : ∀ (a : TBlock) (m : Nat) (μ : TSt) (b : TBlock) (r : Out × TSt),
    execFB X m (a ++ b) μ = some r →
    ∃ o₁ ν, execFB X m a μ = some (o₁, ν) ∧
      ((o₁ = .normal ∧ ∃ m₂, execFB X m₂ b ν = some r) ∨ (o₁ ≠ .normal ∧ r = (o₁, ν)))
  | _, 0, _, _, _, h => by cases h
  | [], m+1, μ, b, r, h => ⟨.normal, μ, rfl, Or.inl ⟨rfl, m+1, h⟩⟩
  | s :: a, m+1, μ, b, r, h => by
      rw [List.cons_append, execFB_cons] at h
      obtain ⟨o, μ₁, hs, hc⟩ := andThen_inv h
      rw [execFB_cons, hs]
      rcases hc with ⟨rfl, hrest⟩ | ⟨hne, rfl⟩
      · exact execFB_append_inv X a m μ₁ b r hrest
      · exact ⟨o, μ₁, by cases o <;> first | rfl | exact absurd rfl hne, Or.inr ⟨hne, rfl⟩⟩

theorem execFB_undefs_inv (X : Ext) : ∀ (us : List Name) (m : Nat) (μ : TSt) (b : TBlock) (r : Out × TSt),
    execFB X m (undefs us ++ b) μ = some r → ∃ m', execFB X m' b (undefAll us μ) = some r
  | [], m, μ, b, r, h => ⟨m, by simpa [undefs, undefAll] using h⟩
  | u :: us, m, μ, b, r, h => by
      cases m with
      | zero => cases h
      | succ k =>
        rw [show undefs (u :: us) ++ b = .undefAssign u :: (undefs us ++ b) from rfl, execFB_cons] at h
        cases k with
        | zero => cases h
        | succ k' => exact execFB_undefs_inv X us (k'+1) (μ.setSlot u .undef) b r h

theorem execFB_single_inv (X : Ext) {m : Nat} {s : TStmt} {μ : TSt} {r : Out × TSt}
    (h : execFB X m [s] μ = some r) : ∃ m', execF X m' s μ = some r := by
  cases m with
  | zero => cases h
  | succ k =>
    rw [execFB_cons] at h
    obtain ⟨o, μ₁, hs, hc⟩ := andThen_inv h
    refine ⟨k, ?_⟩
    rcases hc with ⟨rfl, hrest⟩ | ⟨_, rfl⟩
    · cases k with
      | zero => cases hs
      | succ k' => cases hrest; exact hs
    · exact hs

theorem withFrame_out {L : List Name} {σ : TSt} {A : Option (Out × TSt)} {o : Out} {ν : TSt}
    (h : withFrame L σ A = some (o, ν)) : o = .normal ∨ IsExc o := by
  obtain ⟨o', τ, _, heq⟩ := withFrame_inv h
  cases heq
  cases o' <;> simp [fnOut, IsExc]

theorem asgTB_append : ∀ (a b : TBlock), asgTB (a ++ b) = asgTB a ++ asgTB b
  | [], b => rfl
  | s :: a, b => by simp [asgTB, asgTB_append a b]

theorem asgTB_undefs : ∀ (us : List Name), asgTB (undefs us) = us
  | [] => rfl
  | u :: us => by
      have := asgTB_undefs us
      simp only [undefs] at this
      simp [undefs, asgTB, asgTS, this]

theorem asgT_func : (∀ s, DeclS s → HypFS s → asgTB (funcS s) ⊆ asgS s) ∧
    (∀ b, DeclB b → HypFB b → asgTB (funcB b) ⊆ asgB b) ∧ (∀ hs, DeclH hs → HypFH hs → asgTH (funcH hs) ⊆ asgH hs) := by
  apply astmt_induct
  case ifS =>
    intro i c t e iht ihe hd hh
    simp only [funcS, asgTB_append, asgTB_undefs, asgTB, asgTS, asgS, List.append_nil]
    exact List.append_subset.mpr ⟨hd.2.1, List.append_subset.mpr ⟨hh.2.1,
      append_sub_append (iht hd.2.2.1 hh.2.2.2.1) (ihe hd.2.2.2 hh.2.2.2.2)⟩⟩
  case whileS =>
    intro i c b ih hd hh
    simp only [funcS, asgTB_append, asgTB_undefs, asgTB, asgTS, asgS, List.append_nil]
    exact List.append_subset.mpr ⟨hd.2.1, List.append_subset.mpr ⟨hh.1, ih hd.2.2 hh.2⟩⟩
  case forS =>
    intro i x it extra b ih hd hh
    simp only [funcS, asgTB_append, asgTB_undefs, asgTB, asgTS, asgS, List.append_nil]
    exact List.append_subset.mpr ⟨hd.2.1, List.append_subset.mpr ⟨hh.1, List.cons_subset_cons x (ih hd.2.2 hh.2)⟩⟩
  case withS =>
    intro i tag b ih hd hh
    simp only [funcS, asgTB, asgTS, asgS, List.append_nil]
    exact ih hd hh
  case tryS =>
    intro i b hs f ihb ihh ihf hd hh
    simp only [funcS, asgTB, asgTS, asgS, List.append_nil]
    exact append_sub_append (ihb hd.1 hh.1) (append_sub_append (ihh hd.2.1 hh.2.1) (ihf hd.2.2 hh.2.2))
  case cons =>
    intro s r ihs ihr hd hh
    simp only [funcB, asgTB_append, asgB]
    exact append_sub_append (ihs hd.1 hh.1) (ihr hd.2 hh.2)
  case hcons =>
    intro t b r ihb ihr hd hh
    simp only [funcH, asgTH, asgH]
    exact append_sub_append (ihb hd.1 hh.1) (ihr hd.2 hh.2)
  all_goals intros; simp [funcS, funcB, funcH, asgTB, asgTS, asgTH, asgS]

theorem asgT_funcS : ∀ (s : AStmt), DeclS s → HypFS s → asgTB (funcS s) ⊆ asgS s := asgT_func.1
theorem asgT_funcB : ∀ (b : ABlock), DeclB b → HypFB b → asgTB (funcB b) ⊆ asgB b := asgT_func.2.1
theorem asgT_funcH : ∀ (hs : List (Nat × List AStmt)), DeclH hs → HypFH hs → asgTH (funcH hs) ⊆ asgH hs := asgT_func.2.2

theorem pureTB_append : ∀ (a b : TBlock), pureTB (a ++ b) = (pureTB a && pureTB b)
  | [], b => by simp [pureTB]
  | s :: a, b => by simp [pureTB, pureTB_append a b, Bool.and_assoc]

theorem pureTB_undefs : ∀ (us : List Name), pureTB (undefs us) = true
  | [] => rfl
  | u :: us => by
      have := pureTB_undefs us
      simp only [undefs] at this
      simp [undefs, pureTB, pureTS, this]

theorem pureT_func : (∀ s, pureS s = true → pureTB (funcS s) = true) ∧ (∀ b, pureB b = true → pureTB (funcB b) = true) ∧
    (∀ _ : List (Nat × List AStmt), True) := by
  apply astmt_induct
  case ifS =>
    intro i c t e iht ihe h
    simp only [pureS, Bool.and_eq_true] at h
    simp only [funcS]
    rw [pureTB_append, pureTB_undefs]
    simp [pureTB, pureTS, h.1.1, iht h.1.2, ihe h.2]
  case whileS =>
    intro i c b ih h
    simp only [pureS, Bool.and_eq_true] at h
    simp only [funcS]
    rw [pureTB_append, pureTB_undefs]
    simp [pureTB, pureTS, h.1, ih h.2]
  case forS =>
    intro i x it extra b ih h
    simp only [pureS, Bool.and_eq_true] at h
    simp only [funcS]
    rw [pureTB_append, pureTB_undefs]
    simp [pureTB, pureTS, h.1.1, h.1.2, ih h.2]
  case withS | tryS => intros; rename_i h; simp [pureS] at h
  case cons =>
    intro s r ihs ihr h
    simp only [pureB, Bool.and_eq_true] at h
    simp only [funcB]
    rw [pureTB_append, ihs h.1, ihr h.2]; rfl
  case assign | expr | ret => intros; rename_i h; simpa [funcS, pureTB, pureTS, pureS] using h
  case pass | raise | nil => intros; rfl
  all_goals intros; trivial

theorem pureT_funcS : ∀ (s : AStmt), pureS s = true → pureTB (funcS s) = true := pureT_func.1
theorem pureT_funcB : ∀ (b : ABlock), pureB b = true → pureTB (funcB b) = true := pureT_func.2.1

theorem execFB_append_post (X : Ext) {P Q : Out → TSt → Prop} {a b : TBlock} {m : Nat} {μ : TSt}
    (ha : Post Q (execFB X m a μ)) (hk : ∀ ν, Q .normal ν → ∀ m₂, Post P (execFB X m₂ b ν))
    (hQ : ∀ o ν, o ≠ .normal → Q o ν → P o ν) : Post P (execFB X m (a ++ b) μ) := by
  intro oF σF hrun
  obtain ⟨o₁, ν, hrun₁, halt⟩ := execFB_append_inv X a m μ b (oF, σF) hrun
  have hq := ha o₁ ν hrun₁
  rcases halt with ⟨rfl, m₂, hrun₂⟩ | ⟨hne, heq⟩
  · exact hk ν hq m₂ oF σF hrun₂
  · cases heq; exact hQ _ _ hne hq

theorem execFB_undefs_post (X : Ext) {P : Out → TSt → Prop} {us : List Name} {t : TStmt} {μ : TSt}
    (h : ∀ k, Post P (execF X (k+1) t (undefAll us μ))) (m : Nat) : Post P (execFB X m (undefs us ++ [t]) μ) := by
  intro oF σF hrun
  obtain ⟨m₀, hm₀⟩ := execFB_undefs_inv X us m μ _ _ hrun
  obtain ⟨k, hk⟩ := execFB_single_inv X hm₀
  cases k with
  | zero => cases hk
  | succ k => exact h k oF σF hk

theorem Agree.reinject {L : List Name} {σ : St} {ν ν₀ : TSt} (h : Agree L σ ν) {decl : List Name} {ss : List Slot}
    (hg : getState decl ν₀ = .ok ss) (hsame : ∀ y ∈ decl, ν₀.env y = ν.env y) : Agree L σ (setState decl ss ν) := by
  refine ⟨fun y hy => ?_, by rw [setState_log]; exact h.2⟩
  rw [setState_getState decl ν₀ ss ν y hg]
  by_cases hd : y ∈ decl
  · simp only [hd, if_true]; rw [hsame y hd]; exact h.1 y hy
  · simp only [hd, if_false]; exact h.1 y hy

/-- After an out-of-band run that writes only `W`, restoring the snapshot `s0` of `μ` keeps agreement on `L`, provided
the variables of `L` outside the state tuple are not in `W`. -/
theorem Agree.restored {L W decl : List Name} {σ : St} {μ ν : TSt} {s0 : List Slot} (h : Agree L σ μ)
    (hg : getState decl μ = .ok s0) (hfr : Fr W μ ν) (hW : ∀ y ∈ L, y ∉ decl → y ∉ W) :
    Agree L σ (setState decl s0 ν) := by
  refine ⟨fun y hy => ?_, by rw [setState_log, hfr.1]; exact h.2⟩
  rw [setState_getState decl μ s0 ν y hg]
  split
  · exact h.1 y hy
  · rw [hfr.2 y (hW y hy ‹_›)]; exact h.1 y hy

/-- The composed tuple of `if_stmt`: the first `nouts` entries come from the snapshot of the selected branch's final
state `σsel`, and the entries after them are not live afterwards. -/
theorem Agree.selected {i : Info} {σ₁ : St} {σsel σ0 σo : TSt} {ssel s0 : List Slot} (hnd : i.declared.Nodup)
    (hnouts : ∀ y ∈ i.declared.drop i.nouts, y ∉ i.liveOut) (hgs : getState i.declared σsel = .ok ssel)
    (hg0 : getState i.declared σ0 = .ok s0) (hag : Agree i.liveOut σ₁ σsel) (hlog : σo.log = σ₁.log)
    (hrest : ∀ y ∈ i.liveOut, y ∉ i.declared → σo.env y = σsel.env y) :
    Agree i.liveOut σ₁ (setState i.declared (selectOuts i.nouts ssel s0) σo) := by
  refine ⟨fun y hy => ?_, by rw [setState_log]; exact hlog⟩
  rw [setState_select i.declared i.nouts σsel σ0 ssel s0 σo y hnd hgs hg0]
  by_cases h1 : y ∈ i.declared.take i.nouts
  · rw [if_pos h1]; exact hag.1 y hy
  · by_cases h2 : y ∈ i.declared
    · have : y ∈ i.declared.take i.nouts ++ i.declared.drop i.nouts := by rw [List.take_append_drop]; exact h2
      exact absurd hy (hnouts y ((List.mem_append.mp this).resolve_left h1))
    · rw [if_neg h1, if_neg h2, hrest y hy h2]; exact hag.1 y hy

theorem ResF.of_exc {o : Out} {L : List Name} {σ₁ : St} {oF : Out} {σF : TSt} (h : IsExc oF) : ResF o L σ₁ oF σF := Or.inl h

theorem callF_post (X : Ext) (k : Nat) (L : List Name) {body : TBlock} (μ : TSt) (hp : pureTB body = true) :
    Post (fun o ν => IsExc o ∨ (o = .normal ∧ Fr (asgTB body) μ ν)) (withFrame L μ (execFB X k body (mask L μ))) :=
  fun o ν h => (withFrame_out h).symm.imp id fun ho => ⟨ho, withFrame_frame ((frameF X k).2.1 body _ hp) o ν h⟩

theorem agree_view (L : List Name) (μ : TSt) : Agree L μ.view μ := ⟨fun _ _ => rfl, rfl⟩

theorem view_set (μ : TSt) (x : Name) (v : Val) : (μ.set x v).view = μ.view.set x v := by
  show St.mk _ _ = St.mk _ _
  congr 1
  funext y
  show (if y = x then Slot.val v else μ.env y).toOpt = if y = x then some v else (μ.env y).toOpt
  split <;> rfl

theorem ref_eval (X : Ext) (e : Expr) {L : List Name} {μN μF : TSt} (hag : Agree L μN.view μF) (hv : vars e ⊆ L)
    (hp : noCallE e = true) : ∃ r, evalT X e μN = (r, μN) ∧ evalT X e μF = (r, μF) := by
  have hc := evalE_congr X e μF.view μN.view (fun x hx => hag.1 x (hv hx)) hag.2
  exact ⟨_, Prod.ext rfl (evalT_pure X e μN hp), Prod.ext hc.1 (evalT_pure X e μF hp)⟩

theorem Agree.mask₂ {M : List Name} {μN μF : TSt} (h : Agree M μN.view μF) (L : List Name) :
    Agree M (Func.mask L μN).view (Func.mask L μF) := by
  refine ⟨fun x hx => ?_, h.2⟩
  show (if L.contains x then Slot.unbound else μF.env x).toOpt = (if L.contains x then Slot.unbound else μN.env x).toOpt
  split
  · rfl
  · exact h.1 x hx

theorem Agree.restore₂ {O : List Name} {τN τF : TSt} (h : Agree O τN.view τF) (L : List Name) (μN μF : TSt)
    (hL : ∀ x ∈ L, x ∉ O) : Agree O (Func.restore L μN τN).view (Func.restore L μF τF) := by
  refine ⟨fun x hx => ?_, h.2⟩
  have : L.contains x = false := by
    cases hc : L.contains x with
    | false => rfl
    | true => exact absurd hx (hL x (by simpa using hc))
  show (if L.contains x then μF.env x else τF.env x).toOpt = (if L.contains x then μN.env x else τN.env x).toOpt
  rw [this]
  exact h.1 x hx

theorem Agree.undefAll₂ {L : List Name} {μN μF : TSt} (h : Agree L μN.view μF) (us : List Name) :
    Agree L (Func.undefAll us μN).view (Func.undefAll us μF) := by
  refine ⟨fun x hx => ?_, ?_⟩
  · show ((Func.undefAll us μF).env x).toOpt = ((Func.undefAll us μN).env x).toOpt
    rw [undefAll_env, undefAll_env]
    split
    · rfl
    · exact h.1 x hx
  · show (Func.undefAll us μF).log = (Func.undefAll us μN).log
    rw [undefAll_log, undefAll_log]; exact h.2

def Ref (R : Out × TSt → Prop) (nr : Bool) (O : List Name) (oF : Out) (σF : TSt) : Prop :=
  IsExc oF ∨ ((nr = true → oF = .normal) ∧ ∃ σN, R (oF, σN) ∧ AgreeOut oF O σN.view σF)

theorem Ref.exc {R : Out × TSt → Prop} {nr : Bool} {O : List Name} {ex : Exc} {σF : TSt} : Ref R nr O (.exc ex) σF :=
  .inl ⟨ex, rfl⟩

theorem Ref.normal {R : Out × TSt → Prop} {nr : Bool} {O : List Name} {σN σF : TSt} (hr : R (.normal, σN))
    (ha : Agree O σN.view σF) : Ref R nr O .normal σF :=
  .inr ⟨fun _ => rfl, σN, hr, ha.2, fun _ => ha⟩

/-- At every fuel `m`: the induction is on the program, and the pieces of a block run at different fuels. -/
def RefS (X : Ext) (s : AStmt) : Prop :=
  ∀ (m : Nat) (K : ExcCtx) (μN μF : TSt), LiveS K s → DeclS s → HypFS s → pureS s = true → retTopS s = true →
    Agree s.info.liveIn μN.view μF → Post (Ref (RunNB X (funcS s) μN) (noRetS s) s.info.liveOut) (execFB X m (funcS s) μF)

def RefB (X : Ext) (b : ABlock) : Prop :=
  ∀ (m : Nat) (K : ExcCtx) (O : List Name) (μN μF : TSt), LiveB K b O → DeclB b → HypFB b → pureB b = true →
    retTopB b = true → Agree (blockIn b O) μN.view μF →
    Post (Ref (RunNB X (funcB b) μN) (noRetB b) O) (execFB X m (funcB b) μF)

theorem post_simple (X : Ext) {P : Out → TSt → Prop} {t : TStmt} (ht : t.simple = true) {μ : TSt} {m : Nat}
    (h : ∀ k, Post P (execN X (k+1) t μ)) : Post P (execFB X m [t] μ) := by
  intro o σ hrun
  obtain ⟨k, hk⟩ := execFB_single_inv X hrun
  rw [execF_simple X k ht] at hk
  cases k with
  | zero => cases hk
  | succ k => exact h k o σ hk

theorem post_cons (X : Ext) {P : Out → TSt → Prop} {t : TStmt} {rest : TBlock} {μ μ' : TSt} {m : Nat} (ht : t.simple = true)
    (hN : ∀ k, execN X (k+1) t μ = some (.normal, μ')) (h : ∀ j, Post P (execFB X j rest μ')) :
    Post P (execFB X m (t :: rest) μ) := by
  intro o σ hrun
  cases m with
  | zero => cases hrun
  | succ j =>
    rw [execFB_cons, execF_simple X j ht] at hrun
    cases j with
    | zero => cases hrun
    | succ j' => rw [hN j'] at hrun; exact h _ o σ hrun

section Simple
variable (X : Ext) (i : Info)

theorem ref_assign (x : Name) (e : Expr) : RefS X (.assign i x e) := by
  intro m K μN μF hl _ _ hp _ hag
  obtain ⟨r, hN, hF⟩ := ref_eval X e hag hl.1 hp
  refine post_simple X rfl fun k => ?_
  rw [execN_assign, hF]
  cases r with
  | error ex => exact .pure .exc
  | ok v =>
    exact .pure (.normal (.single (.assign hN)) (view_set μN x v ▸ hag.set x v fun y hy hyx =>
      hl.2.1 (List.mem_filter.mpr ⟨hy, by simpa using hyx⟩)))

theorem ref_expr (e : Expr) : RefS X (.expr i e) := by
  intro m K μN μF hl _ _ hp _ hag
  obtain ⟨r, hN, hF⟩ := ref_eval X e hag hl.1 hp
  refine post_simple X rfl fun k => ?_
  rw [execN_expr, hF]
  cases r with
  | error ex => exact .pure .exc
  | ok v => exact .pure (.normal (.single (.expr hN)) (hag.mono hl.2.1))

theorem ref_pass : RefS X (.pass i) := by
  intro m K μN μF hl _ _ _ _ hag
  exact post_simple X rfl fun k => .pure (.normal (.single .pass) (hag.mono hl))

theorem ref_raise (t : Nat) : RefS X (.raise i t) := by
  intro m K μN μF _ _ _ _ _ _
  exact post_simple X rfl fun k => .pure .exc

theorem ref_ret (e : Option Expr) : RefS X (.ret i e) := by
  intro m K μN μF hl _ _ hp _ hag
  refine post_simple X rfl fun k => ?_
  cases e with
  | none => exact .pure (.inr ⟨nofun, μN, .single .ret_none, hag.2, nofun⟩)
  | some e =>
    obtain ⟨r, hN, hF⟩ := ref_eval X e hag hl.1 hp
    rw [execN_ret, hF]
    cases r with
    | error ex => exact .pure .exc
    | ok v => exact .pure (.inr ⟨nofun, μN, .single (.ret hN), hag.2, nofun⟩)

end Simple

theorem ref_call (X : Ext) {blk : ABlock} (hB : RefB X blk) (k : Nat) (K : ExcCtx) (O M L : List Name) (μN μF : TSt)
    (hl : LiveB K blk O) (hd : DeclB blk) (hh : HypFB blk) (hp : pureB blk = true) (hnr : noRetB blk = true)
    (hag : Agree M μN.view μF) (hM : blockIn blk O ⊆ M) (hL : ∀ x ∈ L, x ∉ O) :
    Post (fun ob σb => IsExc ob ∨ (ob = .normal ∧ Fr (asgTB (funcB blk)) μF σb ∧
        ∃ σN, CallN X L (funcB blk) μN (.normal, σN) ∧ Agree O σN.view σb))
      (withFrame L μF (execFB X k (funcB blk) (mask L μF))) := by
  intro ob σb h
  have hfr := withFrame_frame ((frameF X k).2.1 _ _ (pureT_funcB blk hp)) ob σb h
  obtain ⟨o', τ, hrun, heq⟩ := withFrame_inv h
  cases heq
  rcases hB k K O (mask L μN) (mask L μF) hl hd hh hp (noRet_retTopB blk hnr) ((hag.mono hM).mask₂ L) o' τ hrun with
    ⟨e, rfl⟩ | ⟨hn, τN, hr, hout⟩
  · exact .inl ⟨e, rfl⟩
  · cases hn hnr
    exact .inr ⟨rfl, hfr, _, CallN.intro hr, (hout.2 rfl).restore₂ L μN μF hL⟩

theorem andThen_call {Q : TSt → Prop} {P : Out → TSt → Prop} {a : Option (Out × TSt)} {k : TSt → Option (Out × TSt)}
    (ha : Post (fun ob σb => IsExc ob ∨ (ob = .normal ∧ Q σb)) a) (hk : ∀ σb, Q σb → Post P (k σb))
    (hexc : ∀ ex σb, P (.exc ex) σb) : Post P (andThen a k) :=
  andThen_post ha (fun σb h => h.elim (fun ⟨_, hex⟩ => nomatch hex) fun ⟨_, hq⟩ => hk σb hq)
    fun _ σb hne h => h.elim (fun ⟨ex, hex⟩ => hex ▸ hexc ex σb) fun ⟨ho, _⟩ => absurd ho hne

theorem ref_if (X : Ext) {i : Info} {c : Expr} {t e : ABlock} (ht : RefB X t) (he : RefB X e) : RefS X (.ifS i c t e) := by
  intro m K μN μF hlive hdecl hhyp hpure hjump hag
  simp only [AStmt.info] at hag ⊢
  obtain ⟨hvc, hint, hine, hlt, hle, -, -⟩ := hlive
  obtain ⟨hdd, -, hdt, hde⟩ := hdecl
  obtain ⟨hnd, -, hnouts, hht, hhe⟩ := hhyp
  simp only [pureS, Bool.and_eq_true] at hpure
  have hjump : noRetB t = true ∧ noRetB e = true := Bool.and_eq_true_iff.mp hjump
  have hag0 := hag.undefAll₂ i.undefined
  obtain ⟨r, hN, hF⟩ := ref_eval X c hag0 hvc hpure.1.1
  refine execFB_undefs_post X (fun k => ?_) m
  rw [execF_ifF, hF]
  cases r with
  | error ex => exact .pure .exc
  | ok v =>
  simp only [valThen]
  -- live variables outside the state tuple are written by neither branch function
  have hw : ∀ blk : ABlock, DeclB blk → HypFB blk → asgB blk ⊆ asgB t ++ asgB e →
      ∀ y, y ∈ i.liveIn ∨ y ∈ i.liveOut → y ∉ i.declared → y ∉ asgTB (funcB blk) :=
    fun blk hd hh hasg y hl hnd' hh' => hnd' (declared_of_live hdd (hasg (asgT_funcB blk hd hh hh')) hl)
  have hloct := locals_dead (i := i) (body := t) (List.subset_append_left _ _) hdd hdt
  have hloce := locals_dead (i := i) (body := e) (List.subset_append_right _ _) hdd hde
  refine getThen_post (fun s0 hg0 => ?_) fun y => .exc
  -- the body function runs first
  refine andThen_call (ref_call X ht k K i.liveOut i.liveIn _ _ _ hlt hdt hht hpure.1.2 hjump.1 hag0 hint
    fun x hx => (hloct x hx).2) (fun σb ⟨hfb, σNb, hcallb, hagb⟩ => ?_) fun _ _ => .exc
  refine getThen_post (fun sb hg1 => ?_) fun y => .exc
  -- then the orelse function, from the restored snapshot
  refine andThen_call (ref_call X he k K i.liveOut i.liveIn _ _ _ hle hde hhe hpure.2 hjump.2
    (hag0.restored hg0 hfb fun y hy hyd => hw t hdt hht (List.subset_append_left _ _) y (Or.inl hy) hyd) hine
    fun x hx => (hloce x hx).2) (fun σo ⟨hfo, σNo, hcallo, hago⟩ => ?_) fun _ _ => .exc
  refine getThen_post (fun so hg2 => .pure ?_) fun y => .exc
  have hσr := fun y => setState_getState i.declared (undefAll i.undefined μF) s0 σb y hg0
  by_cases hv : truthy v = true
  · -- selected: body
    simp only [hv, if_true]
    exact .normal (.op _ (.ifF_true hN hv hcallb)) (Agree.selected hnd hnouts hg1 hg0 hagb
      (by rw [hfo.1, setState_log]; exact hagb.2) fun y hy h2 => by
        rw [hfo.2 y (hw e hde hhe (List.subset_append_right _ _) y (Or.inr hy) h2), hσr y, if_neg h2])
  · -- selected: orelse (the body ran out of band)
    simp only [hv, Bool.false_eq_true, if_false]
    exact .normal (.op _ (.ifF_false hN hv hcallo)) (Agree.selected hnd hnouts hg2 hg0 hago hago.2 fun _ _ _ => rfl)

theorem Ref.map {R R' : Out × TSt → Prop} {nr nr' : Bool} {O : List Name} {oF : Out} {σF : TSt} (h : Ref R nr O oF σF)
    (hn : nr' = true → nr = true) (hR : ∀ σN, R (oF, σN) → R' (oF, σN)) : Ref R' nr' O oF σF :=
  Or.imp id (fun ⟨h1, σN, hr, ha⟩ => ⟨fun h' => h1 (hn h'), σN, hR σN hr, ha⟩) h

theorem ref_iter_while (X : Ext) {i : Info} {c : Expr} {b : ABlock} (hb : RefB X b) (K : ExcCtx)
    (hlive : LiveS K (.whileS i c b)) (hdecl : DeclS (.whileS i c b)) (hhyp : HypFB b)
    (hpure : noCallE c = true ∧ pureB b = true) (hnr : noRetB b = true) :
    ∀ (k : Nat) (carried : List Slot) (μN μF : TSt), Agree i.liveIn μN.view (setState i.declared carried μF) →
      Post (Ref (RunN X (.whileF c (funcB b) i.declared) μN) true i.liveOut)
        (execFWhile X k c (funcB b) i.declared carried μF)
  | 0, _, _, _, _ => .none
  | k+1, carried, μN, μF, hag => by
    obtain ⟨hvc, hbI, hOI, hlb, -, -⟩ := id hlive
    obtain ⟨hdd, -, hdb⟩ := id hdecl
    obtain ⟨r, hN, hF⟩ := ref_eval X c hag hvc hpure.1
    rw [execFWhile_succ, hF]
    cases r with
    | error ex => exact .pure .exc
    | ok v =>
    simp only [valThen]
    refine ite_post (fun hv => .pure (.normal (.whileF_false hN (by simpa using hv)) (hag.mono hOI))) fun hv => ?_
    have hv : truthy v = true := by simpa using hv
    have hloc := locals_dead (i := i) (body := b) (fun _ hx => hx) hdd hdb
    refine andThen_call (ref_call X hb k K i.liveIn i.liveIn _ μN _ hlb hdb hhyp hpure.2 hnr hag hbI
      fun x hx => (hloc x hx).1) (fun σ'' ⟨_, σN, hcall, hag2⟩ => ?_) fun _ _ => .exc
    refine getThen_post (fun carried' hg => ?_) fun y => .exc
    exact (ref_iter_while X hb K hlive hdecl hhyp hpure hnr k carried' σN σ'' (hag2.reinject hg fun _ _ => rfl)).mono
      fun _ _ h => h.map id fun _ hr => .whileF_next hN hv hcall hr

theorem ref_while (X : Ext) {i : Info} {c : Expr} {b : ABlock} (hb : RefB X b) : RefS X (.whileS i c b) := by
  intro m K μN μF hlive hdecl hhyp hpure hjump hag
  simp only [AStmt.info] at hag ⊢
  obtain ⟨hdd, -, hdb⟩ := id hdecl
  have hpure : noCallE c = true ∧ pureB b = true := Bool.and_eq_true_iff.mp hpure
  refine execFB_undefs_post X (fun k => ?_) m
  rw [execF_whileF]
  refine getThen_post (fun s0 hg0 => ?_) fun y => .exc
  refine andThen_call (callF_post X k _ _ (pureT_funcB b hpure.2)) (fun σt hσt => ?_) fun _ _ => .exc
  have hagr : Agree i.liveIn (undefAll i.undefined μN).view (setState i.declared s0 σt) :=
    (hag.undefAll₂ i.undefined).restored hg0 hσt fun y hy hyd hh => hyd (declared_of_live hdd (asgT_funcB b hdb hhyp.2 hh) (.inl hy))
  exact (ref_iter_while X hb K hlive hdecl hhyp.2 hpure hjump k s0 _ _
    (hagr.reinject hg0 fun y hy => by rw [setState_getState i.declared _ s0 σt y hg0]; simp [hy])).mono
    fun _ _ h => h.map (fun _ => rfl) fun _ hr => .op _ hr

theorem ref_nil (X : Ext) : RefB X [] := by
  intro m K O μN μF _ _ _ _ _ hag
  cases m with
  | zero => exact .none
  | succ k => exact .pure (.normal .nil hag)

theorem ref_cons (X : Ext) {s : AStmt} {rest : ABlock} (hs : RefS X s) (hr : RefB X rest) : RefB X (s :: rest) := by
  intro m K O μN μF hlive hdecl hhyp hpure hjump hag
  have hj : retTopS s = true ∧ retTopB rest = true := Bool.and_eq_true_iff.mp hjump
  have hp : pureS s = true ∧ pureB rest = true := Bool.and_eq_true_iff.mp hpure
  refine execFB_append_post X (hs m K μN μF hlive.1 hdecl.1 hhyp.1 hp.1 hj.1 hag) (fun ν hν m₂ => ?_) fun oF ν hne hν => ?_
  · rcases hν with ⟨ex, hex⟩ | ⟨-, σN, hrun, hout⟩
    · cases hex
    · exact (hr m₂ K O σN ν hlive.2.2 hdecl.2 hhyp.2 hp.2 hj.2 ((hout.2 rfl).mono hlive.2.1)).mono
        fun _ _ h => h.map and_true_right fun _ hr' => .append hrun hr'
  · rcases hν with hex | ⟨hn, σN, hrun, hout⟩
    · exact .inl hex
    · exact .inr ⟨fun h => hn (and_true_left h), σN, .append_stop _ hrun hne, hout.1, fun h => absurd h hne⟩

section For
variable (X : Ext) {i : Info} {x : Name} {it : Expr} {extra : Option Expr} {b : ABlock} {K : ExcCtx}

/-- `carried` is a snapshot of the state tuple as it is in `μ`. -/
theorem ref_next (hlive : LiveS K (.forS i x it extra b)) (hpe : noCallO extra = true) {k : Nat} {items : List Val}
    (hiter : ∀ (carried : List Slot) (μN μF : TSt), Agree i.liveIn μN.view (setState i.declared carried μF) →
      Post (Ref (RunNFor X x extra (funcB b) i.declared items μN) true i.liveOut)
        (execFFor X k x extra (funcB b) i.declared items carried μF))
    {μN μ ν₀ : TSt} {carried : List Slot} (hag : Agree i.liveIn μN.view μ) (hg : getState i.declared ν₀ = .ok carried)
    (hsame : ∀ y ∈ i.declared, ν₀.env y = μ.env y) :
    Post (Ref (NextN X x extra (funcB b) i.declared items μN) true i.liveOut)
      (extraThen (evalT X) extra (execFFor X k x extra (funcB b) i.declared items carried) μ) := by
  cases extra with
  | none => exact hiter carried μN μ (hag.reinject hg hsame)
  | some t =>
    obtain ⟨-, hvex, hOI, -, -, -, -⟩ := hlive
    obtain ⟨r, hN, hF⟩ := ref_eval X t hag hvex hpe
    simp only [extraThen]
    rw [hF]
    cases r with
    | error ex => exact .pure .exc
    | ok tv =>
      simp only [valThen]
      exact ite_post
        (fun hv => (hiter carried μN μ (hag.reinject hg hsame)).mono fun _ _ h => h.map id fun _ hr => .true hN hv hr)
        fun hv => .pure (.normal (.false hN hv) (hag.mono hOI))

theorem ref_iter_for (hb : RefB X b) (hlive : LiveS K (.forS i x it extra b)) (hdecl : DeclS (.forS i x it extra b))
    (hhyp : HypFB b) (hpure : noCallO extra = true ∧ pureB b = true) (hnr : noRetB b = true) :
    ∀ (k : Nat) (items : List Val) (carried : List Slot) (μN μF : TSt),
    Agree i.liveIn μN.view (setState i.declared carried μF) →
    Post (Ref (RunNFor X x extra (funcB b) i.declared items μN) true i.liveOut)
      (execFFor X k x extra (funcB b) i.declared items carried μF)
  | 0, _, _, _, _, _ => .none
  | k+1, [], carried, μN, μF, hag => .pure (.normal .nil (hag.mono hlive.2.2.1))
  | k+1, v :: items, carried, μN, μF, hag => by
    obtain ⟨-, -, -, hbI, hlb, hKo, -⟩ := id hlive
    obtain ⟨hdd, -, hdb⟩ := id hdecl
    have hloc := localsFor_dead (i := i) (x := x) (body := b) hdd hdb
    rw [execFFor_cons]
    -- the generated `loop_body(itr)` is the functionalisation of `x = itr; body`
    let s' : AStmt := .assign { liveIn := i.liveIn, liveOut := blockIn b i.liveIn } x (.const v)
    have hcall := ref_call X (blk := s' :: b) (ref_cons X (ref_assign X _ x (.const v)) hb) k K i.liveIn i.liveIn
      (localsFor x (funcB b) i.declared) μN (setState i.declared carried μF)
      ⟨⟨List.nil_subset _, hbI, hKo⟩, fun _ h => h, hlb⟩ ⟨trivial, hdb⟩ ⟨trivial, hhyp⟩
      (Bool.and_eq_true_iff.mpr ⟨rfl, hpure.2⟩) hnr hag (fun _ h => h) fun y hy => (hloc y hy).1
    refine andThen_call hcall (fun σ'' ⟨_, σN, hc, hag2⟩ => ?_) fun _ _ => .exc
    refine getThen_post (fun carried' hg => ?_) fun y => .exc
    exact (ref_next X hlive hpure.1 (ref_iter_for hb hlive hdecl hhyp hpure hnr k items) hag2 hg fun _ _ => rfl).mono
      fun _ _ h => h.map id fun _ hn => .next hc hn

end For

theorem ref_for (X : Ext) {i : Info} {x : Name} {it : Expr} {extra : Option Expr} {b : ABlock} (hb : RefB X b) :
    RefS X (.forS i x it extra b) := by
  intro m K μN μF hlive hdecl hhyp hpure hjump hag
  simp only [AStmt.info] at hag ⊢
  obtain ⟨hvit, -, -, -, -, -, -⟩ := id hlive
  obtain ⟨hdd, -, hdb⟩ := id hdecl
  have hpure : (noCallE it = true ∧ noCallO extra = true) ∧ pureB b = true := by
    simp only [pureS, Bool.and_eq_true] at hpure; exact hpure
  have hag0 := hag.undefAll₂ i.undefined
  obtain ⟨r, hN, hF⟩ := ref_eval X it hag0 hvit hpure.1.1
  refine execFB_undefs_post X (fun k => ?_) m
  rw [execF_forF, hF]
  cases r with
  | error ex => exact .pure .exc
  | ok v =>
  simp only [valThen]
  cases hi : iterItems v with
  | error ex => exact .pure .exc
  | ok items =>
  simp only
  refine getThen_post (fun s0 hg0 => ?_) fun y => .exc
  -- the traced `loop_body(itr)` is the functionalisation of `x = itr; body`
  let s' : AStmt := .assign {} x (.const (items.headD (.int 0)))
  refine andThen_call (callF_post X k _ _ (pureT_funcB (s' :: b) (Bool.and_eq_true_iff.mpr ⟨rfl, hpure.2⟩)))
    (fun σt hσt => ?_) fun _ _ => .exc
  have hagr : Agree i.liveIn (undefAll i.undefined μN).view (setState i.declared s0 σt) :=
    hag0.restored hg0 hσt fun y hy hyd hh =>
      hyd (declared_of_live hdd (asgT_funcB (s' :: b) ⟨trivial, hdb⟩ ⟨trivial, hhyp.2⟩ hh) (.inl hy))
  exact (ref_next X hlive hpure.1.2 (ref_iter_for X hb hlive hdecl hhyp.2 ⟨hpure.1.2, hpure.2⟩ hjump k items) hagr hg0
    fun y hy => by rw [setState_getState i.declared _ s0 σt y hg0]; simp [hy]).mono
    fun _ _ h => h.map (fun _ => rfl) fun _ hn => .op _ (.forF hN hi hn)

theorem ref_impure (X : Ext) {s : AStmt} (h : pureS s = false) : RefS X s :=
  fun _ _ _ _ _ _ _ hp => nomatch h.symm.trans hp

theorem ref_all (X : Ext) : (∀ s, RefS X s) ∧ (∀ b, RefB X b) ∧ (∀ _ : List (Nat × List AStmt), True) :=
  astmt_induct (assign := ref_assign X) (expr := ref_expr X) (pass := ref_pass X) (ret := ref_ret X) (raise := ref_raise X)
    (ifS := fun _ _ _ _ => ref_if X) (whileS := fun _ _ _ => ref_while X) (forS := fun _ _ _ _ _ => ref_for X)
    (withS := fun _ _ _ _ => ref_impure X rfl) (tryS := fun _ _ _ _ _ _ _ => ref_impure X rfl)
    (nil := ref_nil X) (cons := fun _ _ => ref_cons X) (hnil := trivial) (hcons := fun _ _ _ _ _ => trivial)

theorem ref_B (X : Ext) : ∀ (b : ABlock), RefB X b := (ref_all X).2.1

theorem traced_like_source (X : Ext) (p : ABlock) (K : ExcCtx) (D O : List Name) (hl : LiveB K p O) (hd : DeclB p)
    (hf : DefB D p) (hj : retTopB p = true) (hh : HypFB p) (hp : pureB p = true)
    (σ : St) (σ' : TSt) (hag : Agree (blockIn p O) σ σ') (hb : BoundSub σ D)
    (n : Nat) (o : Out) (σ₁ : St) (hsrc : execB X n (eraseB p) σ = some (o, σ₁)) (m : Nat) :
    Post (ResF o O σ₁) (execFB X m (funcB p) σ') := by
  obtain ⟨σ₁', hN, hagN⟩ := (sim_all X n).2.1 p K D O σ σ' hl hd hf hj hag hb o σ₁ hsrc
  intro oF σF hrun
  rcases ref_B X p m K O σ' σ' hl hd hh hp hj (agree_view _ σ') oF σF hrun with hex | ⟨-, σN, hr, hout⟩
  · exact .inl hex
  · cases hN.det hr
    refine .inr ⟨rfl, hout.1.trans hagN.2, fun ho => ?_⟩
    subst ho
    exact ⟨fun x hx => ((hout.2 rfl).1 x hx).trans (hagN.1 x hx), hout.1.trans hagN.2⟩

end Malt.Func
