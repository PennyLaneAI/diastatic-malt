import MaltModel.Proofs.C17Ctx
import MaltModel.Proofs.C17Rel
/- Context well-formedness is preserved by `copy_clean`, established by the `ContextAdjuster` under `exposedOk`, and
preserved by template instantiation under `usesOkE` … `usesOkSs`. -/
namespace Malt.Conv.Template
open Malt.Py Malt.Conv

/-- every bound node was well-formed where it came from (`∃ c`), every bound statement is well-formed -/
def BindingWf : Binding → Prop
  | .node e => ∃ c, WfE c e
  | .nodes es => ∀ e ∈ es, ∃ c, WfE c e
  | .stmt s => WfS s
  | .stmts ss => WfSs ss

def BindingsWf (b : Bindings) : Prop := ∀ p ∈ b, BindingWf p.2

/-! copies: none of the predicates below reads a label -/
theorem copy_WfE (e : Expr) : ∀ (c : Ctx) (n : Nat), WfE c (copyE e n).1 ↔ WfE c e := by
  induction e using Expr.rec (motive_2 := fun es => ∀ (c : Ctx) (n : Nat), WfEs c (copyEs es n).1 ↔ WfEs c es) with
  | nil => exact Iff.rfl
  | cons e es ih0 ih1 c n => simp [copyEs, WfEs, ih0, ih1]
  | _ => intro c n; unfold copyE WfE; simp_all

theorem copy_WfEs : ∀ (es : List Expr) (c : Ctx) (n : Nat), WfEs c (copyEs es n).1 ↔ WfEs c es
  | [], c, n => Iff.rfl
  | e :: es, c, n => by simp [copyEs, WfEs, copy_WfE e, copy_WfEs es]

theorem copy_WfS (s : Stmt) : ∀ (n : Nat), WfS (copyS s n).1 ↔ WfS s := by
  induction s using Stmt.rec (motive_2 := fun ss => ∀ (n : Nat), WfSs (copySs ss n).1 ↔ WfSs ss) with
  | nil => exact Iff.rfl
  | cons s ss ih0 ih1 n => simp [copySs, WfSs, ih0, ih1]
  | _ => intro n; unfold copyS WfS; simp_all [copy_WfE, copy_WfEs]

theorem copy_WfSs : ∀ (ss : List Stmt) (n : Nat), WfSs (copySs ss n).1 ↔ WfSs ss
  | [], n => Iff.rfl
  | s :: ss, n => by simp [copySs, WfSs, copy_WfS s, copy_WfSs ss]

theorem copyEs_isEmpty : ∀ (es : List Expr) (n : Nat), (copyEs es n).1.isEmpty = es.isEmpty
  | [], _ => rfl
  | _ :: _, _ => rfl

theorem copy_exposedOk (e : Expr) : ∀ (c : Ctx) (n : Nat), exposedOk c (copyE e n).1 = exposedOk c e := by
  induction e using Expr.rec
    (motive_2 := fun es => ∀ (c : Ctx) (n : Nat), exposedOkEs c (copyEs es n).1 = exposedOkEs c es) with
  | nil => rfl
  | cons e es ih0 ih1 c n => simp [copyEs, exposedOkEs, ih0, ih1]
  | _ => intro c n; unfold copyE exposedOk; simp_all [copyEs_isEmpty]

theorem copy_exposedOkEs : ∀ (es : List Expr) (c : Ctx) (n : Nat), exposedOkEs c (copyEs es n).1 = exposedOkEs c es
  | [], c, n => rfl
  | e :: es, c, n => by simp [copyEs, exposedOkEs, copy_exposedOk e, copy_exposedOkEs es]

theorem copy_isName (e : Expr) (n : Nat) : isName (copyE e n).1 = isName e := by
  cases e <;> rfl

theorem copy_useOk (c : Ctx) (e : Expr) (n : Nat) : useOk c (copyE e n).1 = useOk c e := by
  have hf : hasCtxField (copyE e n).1 = hasCtxField e := by cases e <;> rfl
  simp [useOk, hf, copy_exposedOk]

/-- a kind without a `ctx` field is legal under `Load` only, and `exposedOk` lets the adjuster reach it with that override only -/
theorem wf_noCtx {c : Ctx} {e : Expr} (hn : hasCtxField e = false) (hw : WfE c e) : c = .load ∨ e = .noneMarker := by
  cases e <;> first | exact Or.inr rfl | exact Bool.noConfusion hn | (unfold WfE at hw; simp_all [hasCtxField])

theorem exposedOk_noCtx {c : Ctx} {e : Expr} (hn : hasCtxField e = false) (hx : exposedOk c e = true) :
    c = .load ∨ e = .noneMarker := by
  cases e <;> first | exact Or.inr rfl | exact Bool.noConfusion hn | (unfold exposedOk at hx; simp_all [hasCtxField])

theorem isKeyword_noCtx {e : Expr} (h : isKeyword e = true) : hasCtxField e = false := by
  cases e <;> simp [isKeyword] at h <;> simp [hasCtxField]

theorem wf_load_of_noCtx {c0 : Ctx} {e : Expr} (hn : hasCtxField e = false) (hw : WfE c0 e) : WfE .load e := by
  rcases wf_noCtx hn hw with rfl | rfl
  · exact hw
  · trivial

/-- `exposedOk` is needed: the override must not reach a walrus target or a `with` variable, which are rightly `Store` -/
theorem adjust_id (e : Expr) : ∀ c, WfE c e → exposedOk c e = true → adjust c e = e := by
  induction e using Expr.rec
    (motive_2 := fun es => ∀ c, WfEs c es → exposedOkEs c es = true → adjustEs c es = es) with
  | nil => rfl
  | cons e es ih0 ih1 c hw hx =>
      unfold exposedOkEs at hx
      unfold adjustEs
      rw [ih0 c hw.1 (Bool.and_eq_true_iff.1 hx).1, ih1 c hw.2 (Bool.and_eq_true_iff.1 hx).2]
  | withitem i ce ov ih0 _ =>
      intro c hw hx
      unfold exposedOk at hx
      simp only [Bool.and_eq_true, List.isEmpty_iff] at hx
      obtain ⟨⟨hc, hce⟩, hov⟩ := hx
      obtain ⟨_, hwce, _⟩ := hw
      unfold adjust
      rw [ih0 c (beq_iff_eq.1 hc ▸ hwce) hce, hov]
      rfl
  | other i k ats kids ih =>
      intro c hw hx
      unfold adjust
      split
      · rfl
      · rename_i hk
        unfold exposedOk at hx
        simp only [Bool.and_eq_true, Bool.or_eq_true, beq_iff_eq] at hx
        obtain ⟨hc, hkids⟩ := hx
        rw [ih c (hc ▸ hw.2) (hkids.resolve_left hk)]
  | _ => intro c hw hx; unfold WfE at hw; unfold exposedOk at hx; unfold adjust; simp_all

theorem adjust_wf_noCtx {e : Expr} {c0 c : Ctx} (hn : hasCtxField e = false) (hw : WfE c0 e) (hx : exposedOk c e = true) :
    WfE c (adjust c e) := by
  rcases exposedOk_noCtx hn hx with rfl | rfl
  · have hl := wf_load_of_noCtx hn hw
    rw [adjust_id e .load hl hx]
    exact hl
  · trivial

/-- Only under `Tuple`, `List` and `Starred` can the override handed on differ from `Load` (the two induction hypotheses used);
any other child is well-formed at `Load` already and the adjuster changes nothing there. -/
theorem adjust_wf (e : Expr) : ∀ (c0 c : Ctx), WfE c0 e → exposedOk c e = true → WfE c (adjust c e) := by
  induction e using Expr.rec
    (motive_2 := fun es => ∀ (c0 c : Ctx), WfEs c0 es → exposedOkEs c es = true → WfEs c (adjustEs c es)) with
  | name i s c' => exact fun _ _ _ _ => rfl
  | attr i v a c' _ =>
      intro c0 c hw hx
      unfold adjust
      rw [adjust_id v .load hw.2 hx]
      exact ⟨rfl, hw.2⟩
  | subscript i v sl c' _ _ =>
      intro c0 c hw hx
      unfold exposedOk at hx
      simp only [Bool.and_eq_true] at hx
      obtain ⟨_, hv, hs⟩ := hw
      unfold adjust
      rw [adjust_id v .load hv hx.1, adjust_id sl .load hs hx.2]
      exact ⟨rfl, hv, hs⟩
  | seq i k es c' ih =>
      intro c0 c hw hx
      by_cases hk : k = .set
      · exact adjust_wf_noCtx (by simp [hasCtxField, hk]) hw hx
      · unfold exposedOk at hx
        simp only [Bool.and_eq_true] at hx
        unfold adjust
        rw [if_neg hk]
        exact ⟨rfl, Or.inl hk, ih _ _ hw.2.2 hx.2⟩
  | starred i v c' ih =>
      -- no `visit_Starred`: the node keeps its ctx, which `exposedOk` wants equal to the override
      intro c0 c hw hx
      unfold exposedOk at hx
      simp only [Bool.and_eq_true, beq_iff_eq] at hx
      exact ⟨hx.1, ih _ _ hw.2 hx.2⟩
  | nil => trivial
  | cons e es ih0 ih1 c0 c hw hx =>
      unfold exposedOkEs at hx
      simp only [Bool.and_eq_true] at hx
      exact ⟨ih0 _ _ hw.1 hx.1, ih1 _ _ hw.2 hx.2⟩
  | _ => exact fun _ _ hw hx => adjust_wf_noCtx rfl hw hx

theorem adjustEs_wf : ∀ (es : List Expr) (c0 c : Ctx), WfEs c0 es → exposedOkEs c es = true → WfEs c (adjustEs c es)
  | [], _, _, _, _ => trivial
  | e :: es, c0, c, hw, hx => by
      unfold exposedOkEs at hx
      simp only [Bool.and_eq_true] at hx
      exact ⟨adjust_wf e _ _ hw.1 hx.1, adjustEs_wf es _ _ hw.2 hx.2⟩

theorem adjTop_wf (e : Expr) (c0 c : Ctx) (hw : WfE c0 e) (hu : useOk c e = true) : WfE c (adjTop c e) := by
  unfold useOk at hu
  unfold adjTop
  by_cases hc : hasCtxField e = true
  · simp only [hc, if_true] at hu ⊢
    exact adjust_wf e c0 c hw hu
  · have hc' : hasCtxField e = false := by simpa using hc
    simp only [hc', Bool.false_eq_true, if_false, beq_iff_eq] at hu ⊢
    subst hu
    exact wf_load_of_noCtx hc' hw

theorem BindingsWf.of_lookup {b : Bindings} (hb : BindingsWf b) {s : String} {bd : Binding} (h : b.lookup s = some bd) :
    BindingWf bd := by
  obtain ⟨k, hk⟩ := lookup_mem b s bd h
  exact hb (k, bd) hk

theorem BindingWf.forall_exprs {bd : Binding} (h : BindingWf bd) : ∀ e ∈ bd.exprs, ∃ c, WfE c e := by
  cases bd with
  | node e => intro x hx; rw [List.mem_singleton.1 hx]; exact h
  | nodes es => exact h
  | stmt s => intro x hx; cases hx
  | stmts ss => intro x hx; cases hx

theorem bound_copy_wf {b : Bindings} (hb : BindingsWf b) {s : String} {bd : Binding} (hl : b.lookup s = some bd) {c : Ctx}
    (hu : bd.exprs.all (useOk c) = true) {x : Expr} (hx : x ∈ bd.exprs) (n : Nat) : WfE c (adjTop c (copyE x n).1) :=
  let ⟨c0, h0⟩ := (hb.of_lookup hl).forall_exprs x hx
  adjTop_wf _ c0 c ((copy_WfE x c0 n).2 h0) (by rw [copy_useOk]; exact List.all_eq_true.1 hu x hx)

/-! `ReplaceTransformer`: a rebuilt node is well-formed where the template node was because each field is; the
combinators below put the per-field statements together along the conjunctions of `WfE`/`WfS` and `usesOkE`/`usesOkS`.
These compute on a constructor application, so a line
`exact wf_one (wf_node …)` is checked against the unfolded conjunction without an `unfold`. -/
theorem copyEs_forall_wf {c : Ctx} {f : Expr → Expr} : ∀ (es : List Expr) (n : Nat),
    (∀ e ∈ es, ∀ m, WfE c (f (copyE e m).1)) → WfEs c ((copyEs es n).1.map f)
  | [], _, _ => trivial
  | e :: es, n, h =>
      And.intro (h e List.mem_cons_self n) (copyEs_forall_wf es _ fun x hx => h x (List.mem_cons_of_mem _ hx))

theorem argRepl_wf (es : List Expr) (n : Nat) : (∀ e ∈ es, ∃ c0, WfE c0 e) →
    es.all (fun x => isName x || !hasCtxField x) = true → WfEs .load (argRepl es n).1 := by
  refine argRepl_induct (motive := fun es _ t => (∀ e ∈ es, ∃ c0, WfE c0 e) →
    es.all (fun x => isName x || !hasCtxField x) = true → WfEs .load t.1) (fun _ _ _ => trivial) ?_ ?_ es n
  · intro i id c r n ih hw hu
    simp only [List.all_cons, Bool.and_eq_true] at hu
    exact ⟨⟨rfl, trivial⟩, ih (fun x hx => hw x (List.mem_cons_of_mem _ hx)) hu.2⟩
  · intro e r n hne ih hw hu
    simp only [List.all_cons, Bool.and_eq_true, hne, Bool.false_or, Bool.not_eq_eq_eq_not, Bool.not_true] at hu
    obtain ⟨c0, h0⟩ := hw e List.mem_cons_self
    exact ⟨wf_load_of_noCtx hu.1 h0, ih (fun x hx => hw x (List.mem_cons_of_mem _ hx)) hu.2⟩

theorem WfEs_append : ∀ (c : Ctx) (l r : List Expr), WfEs c (l ++ r) ↔ WfEs c l ∧ WfEs c r
  | c, [], r => by simp [WfEs]
  | c, e :: l, r => by simp [WfEs, WfEs_append c l r, and_assoc]

theorem WfSs_append : ∀ (l r : List Stmt), WfSs (l ++ r) ↔ WfSs l ∧ WfSs r
  | [], r => by simp [WfSs]
  | e :: l, r => by simp [WfSs, WfSs_append l r, and_assoc]

theorem WfEs_single {c : Ctx} {x : Expr} : WfEs c [x] ↔ WfE c x := by simp [WfEs]

theorem WfSs_single {x : Stmt} : WfSs [x] ↔ WfS x := by simp [WfSs]

theorem wf_one {p q : Prop} {c : Ctx} {x : Expr} (h : p → q → WfE c x) : p → q → WfEs c [x] :=
  fun hp hq => WfEs_single.2 (h hp hq)

theorem wf_of_one {p q : Prop} {c : Ctx} {x : Expr} (h : p → q → WfEs c [x]) : p → q → WfE c x :=
  fun hp hq => WfEs_single.1 (h hp hq)

theorem wf_oneS {p q : Prop} {x : Stmt} (h : p → q → WfS x) : p → q → WfSs [x] :=
  fun hp hq => WfSs_single.2 (h hp hq)

theorem wf_and {A B A' B' : Prop} {u v : Bool} (h1 : A → u = true → A') (h2 : B → v = true → B') :
    A ∧ B → (u && v) = true → A' ∧ B' := by
  simp only [Bool.and_eq_true]
  exact fun hw hu => ⟨h1 hw.1 hu.1, h2 hw.2 hu.2⟩

theorem wf_node {P A A' q : Prop} (h : A → q → A') : P ∧ A → q → P ∧ A' :=
  fun hw hu => ⟨hw.1, h hw.2 hu⟩

theorem InstE.wf {b : Bindings} (hb : BindingsWf b) {e : Expr} {n : Nat} {r : List Expr} {n' : Nat} (h : InstE b e n r n') :
    ∀ c, WfE c e → usesOkE b e = true → WfEs c r := by
  induction h using InstE.rec
    (motive_2 := fun es _ r _ _ => ∀ c, WfEs c es → usesOkEs b es = true → WfEs c r) with
  | noneMarker => exact fun c => wf_one (fun _ _ => trivial)
  | nameFree hl | const => exact fun c => wf_one (fun hw _ => hw)
  | nameBound hl =>
      intro c hw hu
      unfold WfE at hw
      subst hw
      simp only [usesOkE, hl] at hu
      exact copyEs_forall_wf _ _ fun x hx m => bound_copy_wf hb hl hu hx m
  | attr h0 ha ih0 | starred h0 ih0 | unary h0 ih0 => exact fun c => wf_one (wf_node (wf_of_one (ih0 _)))
  | keywordBound hl hk =>
      intro c hw _
      obtain ⟨rfl, _⟩ := hw
      rw [← List.map_id (copyEs _ _).1]
      refine copyEs_forall_wf (f := id) _ _ fun e he m => (copy_WfE e .load m).2 ?_
      obtain ⟨c0, h0⟩ := (hb.of_lookup (eq_some_of_ite_none hl)).forall_exprs e he
      exact wf_load_of_noCtx (isKeyword_noCtx (List.all_eq_true.1 hk e he)) h0
  | keywordFree hl h0 ih0 =>
      intro c hw hu
      simp only [usesOkE, hl] at hu
      exact wf_one (wf_node (wf_of_one (ih0 _))) hw hu
  | argFree hl => exact fun c => wf_one (wf_node (fun hw _ => (copy_WfEs _ _ _).2 hw))
  | argBound hl =>
      intro c hw hu
      obtain ⟨rfl, _⟩ := hw
      simp only [usesOkE, hl] at hu
      exact argRepl_wf _ _ (hb.of_lookup hl).forall_exprs hu
  | subscript h0 h1 ih0 ih1 | binop h0 h1 ih0 ih1 | lambda h0 h1 ih0 ih1 | namedexpr h0 h1 ih0 ih1 =>
      exact fun c => wf_one (wf_node (wf_and (wf_of_one (ih0 _)) (wf_of_one (ih1 _))))
  | seq h0 ih0 => exact fun c => wf_one (wf_node (wf_node (ih0 _)))
  | call h0 h1 h2 ih0 ih1 ih2 => exact fun c => wf_one (wf_node (wf_and (wf_of_one (ih0 _)) (wf_and (ih1 _) (ih2 _))))
  | boolop h0 ih0 | other h0 ih0 => exact fun c => wf_one (wf_node (ih0 _))
  | compare h0 h1 ih0 ih1 | withitem h0 h1 ih0 ih1 => exact fun c => wf_one (wf_node (wf_and (wf_of_one (ih0 _)) (ih1 _)))
  | ifexp h0 h1 h2 ih0 ih1 ih2 => exact fun c => wf_one (wf_node (wf_and (wf_of_one (ih0 _)) (wf_and (wf_of_one (ih1 _)) (wf_of_one (ih2 _)))))
  | comp h0 h1 ih0 ih1 => exact fun c => wf_one (wf_node (wf_and (ih0 _) (ih1 _)))
  | comprehension h0 h1 h2 ih0 ih1 ih2 => exact fun c => wf_one (wf_node (wf_and (wf_of_one (ih0 _)) (wf_and (wf_of_one (ih1 _)) (ih2 _))))
  | arguments h0 h1 h2 h3 h4 h5 h6 ih0 ih1 ih2 ih3 ih4 ih5 ih6 =>
      exact fun c => wf_one (wf_node (wf_and (ih0 _) (wf_and (ih1 _) (wf_and (ih2 _) (wf_and (ih3 _) (wf_and (ih4 _) (wf_and (ih5 _) (ih6 _))))))))
  | nil => trivial
  | cons h0 h1 ih0 ih1 c hw hu => exact (WfEs_append _ _ _).2 (wf_and (ih0 c) (ih1 c) hw hu)

theorem InstEs.wf {b : Bindings} (hb : BindingsWf b) {es : List Expr} {n : Nat} {r : List Expr} {n' : Nat}
    (h : InstEs b es n r n') : ∀ c, WfEs c es → usesOkEs b es = true → WfEs c r :=
  h.thread (Q := fun es _ r _ => ∀ c, WfEs c es → usesOkEs b es = true → WfEs c r) (fun _ _ _ _ => trivial)
    fun h0 ih1 c hw hu => (WfEs_append _ _ _).2 (wf_and (h0.wf hb c) (ih1 c) hw hu)

theorem InstS.wf {b : Bindings} (hb : BindingsWf b) {st : Stmt} {n : Nat} {r : List Stmt} {n' : Nat} (h : InstS b st n r n') :
    WfS st → usesOkS b st = true → WfSs r := by
  induction h using InstS.rec (motive_2 := fun ss _ r _ _ => WfSs ss → usesOkSs b ss = true → WfSs r) with
  | exprFree hl => exact wf_oneS (fun hw _ => hw)
  | exprStmt hl => exact fun _ _ => WfSs_single.2 ((copy_WfS _ _).2 (hb.of_lookup hl))
  | exprStmts hl => exact fun _ _ => (copy_WfSs _ _).2 (hb.of_lookup hl)
  | exprEmpty hl => exact fun _ _ => trivial
  | expr hv h0 =>
      intro hw hu
      rw [usesOkS_expr b _ hv] at hu
      exact wf_oneS (wf_of_one (InstE.wf hb h0 _)) hw hu
  | functionDef h0 h1 h2 h3 hn ih1 =>
      exact wf_oneS (wf_and (wf_of_one (InstE.wf hb h0 _)) (wf_and ih1 (wf_and (InstEs.wf hb h2 _) (InstEs.wf hb h3 _))))
  | classDef h0 h1 h2 h3 ih2 => exact wf_oneS (wf_and (InstEs.wf hb h0 _) (wf_and (InstEs.wf hb h1 _) (wf_and ih2 (InstEs.wf hb h3 _))))
  | ret h0 | delete h0 => exact wf_oneS (InstEs.wf hb h0 _)
  | assign h0 h1 => exact wf_oneS (wf_and (InstEs.wf hb h0 _) (wf_of_one (InstE.wf hb h1 _)))
  | augAssign h0 h1 => exact wf_oneS (wf_and (wf_of_one (InstE.wf hb h0 _)) (wf_of_one (InstE.wf hb h1 _)))
  | annAssign h0 h1 h2 => exact wf_oneS (wf_and (wf_of_one (InstE.wf hb h0 _)) (wf_and (wf_of_one (InstE.wf hb h1 _)) (InstEs.wf hb h2 _)))
  | for_ h0 h1 h2 h3 h4 ih2 ih3 =>
      exact wf_oneS (wf_and (wf_of_one (InstE.wf hb h0 _)) (wf_and (wf_of_one (InstE.wf hb h1 _)) (wf_and ih2 (wf_and ih3 (InstEs.wf hb h4 _)))))
  | while_ h0 h1 h2 ih1 ih2 | if_ h0 h1 h2 ih1 ih2 => exact wf_oneS (wf_and (wf_of_one (InstE.wf hb h0 _)) (wf_and ih1 ih2))
  | with_ h0 h1 ih1 | handler h0 h1 ih1 | other h0 h1 ih1 => exact wf_oneS (wf_and (InstEs.wf hb h0 _) ih1)
  | raise h0 h1 => exact wf_oneS (wf_and (InstEs.wf hb h0 _) (InstEs.wf hb h1 _))
  | try_ h0 h1 h2 h3 ih0 ih1 ih2 ih3 => exact wf_oneS (wf_and ih0 (wf_and ih1 (wf_and ih2 ih3)))
  | assert_ h0 h1 => exact wf_oneS (wf_and (wf_of_one (InstE.wf hb h0 _)) (InstEs.wf hb h1 _))
  | import_ | importFrom | global | nonlocal | pass | break_ | continue_ => exact wf_oneS (fun _ _ => trivial)
  | nil => trivial
  | cons h0 h1 ih0 ih1 hw hu => exact (WfSs_append _ _).2 (wf_and ih0 ih1 hw hu)

theorem InstSs.wf {b : Bindings} (hb : BindingsWf b) {ss : List Stmt} {n : Nat} {r : List Stmt} {n' : Nat}
    (h : InstSs b ss n r n') : WfSs ss → usesOkSs b ss = true → WfSs r :=
  h.thread (Q := fun ss _ r _ => WfSs ss → usesOkSs b ss = true → WfSs r) (fun _ _ _ => trivial)
    fun h0 ih1 hw hu => (WfSs_append _ _).2 (wf_and (h0.wf hb) ih1 hw hu)

theorem instS_wf (b : Bindings) (hb : BindingsWf b) : ∀ (s : Stmt) (n : Nat) (r : List Stmt) (n' : Nat),
    WfS s → usesOkS b s = true → instS b s n = .ok (r, n') → WfSs r :=
  fun s n r n' hw hu h => (InstS.of_instS b s n r n' h).wf hb hw hu

theorem BarePlaceholder.wf {b : Bindings} (hb : BindingsWf b) {t : List Stmt} {e : Expr} (ht : CtxWellFormed t)
    (hu : usesOkSs b t = true) (h : BarePlaceholder b t e) : WfE .load e := by
  obtain ⟨i, j, s, c, bd, x, rfl, hl, hx, rfl⟩ := h
  simp only [CtxWellFormed, WfSs, WfS, WfE, and_true] at ht
  subst ht
  simp only [usesOkSs, usesOkS, Bool.and_true, hl] at hu
  have hm : x ∈ bd.exprs := hx ▸ List.mem_singleton.2 rfl
  cases bd with
  | node e => exact bound_copy_wf hb hl hu hm _
  | nodes es => exact bound_copy_wf hb hl hu hm _
  | stmt st => cases hx
  | stmts ss => cases hx

end Malt.Conv.Template
