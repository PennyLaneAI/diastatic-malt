import MaltModel.Proofs.JumpsCommon
/- The return lowering `retS/retB/retH` (Conv/JumpsSem.lean); `dr` (do_return) and `rv` (retval_) are the two
generated names. -/
namespace Malt.Sem.Jumps
open Malt.Sem

/-- What the caller sees: falling off the end returns `None`. -/
def fnResult : Out → Out
  | .normal => .ret .none
  | o => o

/-- `return e` becomes `dr = True; rv = e`, and what follows is guarded by `dr`. -/
def retJ (dr rv : Name) : Jump where
  G := HidR dr rv
  F := HidR dr rv
  keep := fun _ => False
  flag := dr
  is := fun o => ∃ v, o = .ret v
  tgt := .normal
  records := fun o env => env dr = some (.int 1) ∧ ∀ v, o = .ret v → env rv = some v
  F_G := fun _ => id
  keep_G := fun _ => False.elim
  flag_F := .inl rfl
  records_flag := And.left
  not_normal := fun ⟨_, h⟩ => nomatch h
  not_exc := fun _ ⟨_, h⟩ => nomatch h
  tgt_loop := .inl rfl
  records_congr := fun hs h => ⟨(hs _ (.inl rfl)).trans h.1, fun v hv => (hs _ (.inr rfl)).trans (h.2 v hv)⟩

theorem or_mid {a b c : Bool} (h : (a || b) = true) : (a || (b || c)) = true := by
  rw [← Bool.or_assoc, h]; rfl

theorem retS_jumpFree (dr rv : Name) : ∀ (u : Bool) (s : Stmt), jumpFreeS s = true → (retS dr rv u s).2 = false :=
  fun u s h => (retS_hit dr rv u s).trans (jumpFreeS_esc s h).2.2

theorem retB_jumpFree (dr rv : Name) (g u : Bool) (b : List Stmt) (h : jumpFreeB b = true) :
    (retB dr rv g u b).2 = false :=
  (retB_hit dr rv g u b).trans (jumpFreeB_esc b h).2.2

theorem retH_jumpFree (dr rv : Name) (hs : List (Nat × List Stmt)) (h : jumpFreeH hs = true) :
    (retH dr rv hs).2 = false :=
  (retH_hit dr rv hs).trans (jumpFreeH_esc hs h).2.2

section
variable (dr rv : Name) (X : Ext) (hne : dr ≠ rv)
include hne

/-- An error in `e` is fatal, and then the flag is set although nothing was returned. -/
theorem ret_stmt (e : Option Expr) {need : Bool} (hc : CleanO (HidR dr rv) e) :
    Sim X (retJ dr rv) true need [.assign dr cTrue, .assign rv (e.getD cNone)]
      (exec X · (.ret e)) := by
  intro n σ σ' o σ1 hag _ h
  cases n with
  | zero => exact nomatch h
  | succ n =>
    have hag0 : Agree (HidR dr rv) σ (σ'.set dr (.int 1)) := hag.setHidden (.inl rfl) _
    have hdr : exec X 2 (.assign dr cTrue) σ' = some (.normal, σ'.set dr (.int 1)) := exec_assign_const X dr _ σ' 1
    cases e with
    | none =>
      cases h
      refine ⟨3, (σ'.set dr (.int 1)).set rv .none, .normal, rfl, hag0.setHidden (.inr rfl) _, ?_, nofun⟩
      exact .jumped ⟨_, rfl⟩ ⟨(St.set_env_ne _ _ hne).trans (St.set_env_eq _ _ _),
        fun v hv => by cases hv; exact St.set_env_eq _ _ _⟩
    | some e =>
      dsimp only at h
      rw [exec_ret] at h
      refine valThen_cases h (fun v τ hr hk => ?_) (fun ex τ hr he => ?_)
        <;> obtain ⟨τ', hr', hag', henv⟩ := evalE_agree' hc hag0 hr
      · cases hk
        refine ⟨3, τ'.set rv v, .normal, ?_, hag'.setHidden (.inr rfl) _, ?_, nofun⟩
        · have h2 : exec X 1 (.assign rv e) (σ'.set dr (.int 1)) = some (.normal, τ'.set rv v) := by
            rw [exec_assign, valThen_ok hr']
          exact (execB_cons_normal hdr).trans (execB_singleton h2)
        · exact .jumped ⟨_, rfl⟩ ⟨by rw [St.set_env_ne _ _ hne, henv]; exact St.set_env_eq _ _ _,
            fun w hw => by cases hw; exact St.set_env_eq _ _ _⟩
      · cases he
        refine ⟨3, τ', .exc ex, ?_, hag', ?_, nofun⟩
        · have h2 : exec X 1 (.assign rv e) (σ'.set dr (.int 1)) = some (.exc ex, τ') := by
            rw [exec_assign, valThen_err hr']
          exact (execB_cons_normal hdr).trans (execB_singleton h2)
        · exact ⟨fun ⟨_, hv⟩ => (nomatch hv), fun _ => ⟨rfl, .inr (evalE_err_fatal X e σ _ _ hr)⟩, nofun⟩

/-- `u` = a `return` was lowered earlier in the enclosing block (`return_used`), which makes loop tests guarded; `dr` has
to be clear on entry whenever the lowered code tests or is going to set it. -/
theorem ret_sim :
    (∀ (s : Stmt) (u : Bool), CleanS (HidR dr rv) s → finOKS s = true →
      Sim X (retJ dr rv) (retS dr rv u s).2 (u || (retS dr rv u s).2)
        (retS dr rv u s).1 (exec X · s)) ∧
    (∀ (b : Block) (g u : Bool), CleanB (HidR dr rv) b → finOKB b = true →
      Sim X (retJ dr rv) (retB dr rv g u b).2 (g || u || (retB dr rv g u b).2)
        (retB dr rv g u b).1 (execB X · b)) ∧
    (∀ (hs : List (Nat × Block)), CleanH (HidR dr rv) hs → finOKH hs = true →
      SimH X (retJ dr rv) (retH dr rv hs).2 (retH dr rv hs).2 (retH dr rv hs).1 hs) := by
  have hatom : ∀ {s : Stmt} {u : Bool}, CleanS (HidR dr rv) s → hasRetS s = false →
      Sim X (retJ dr rv) false (u || false) [s] (exec X · s) :=
    fun hc hm => Sim.atomic (J := retJ dr rv) hc
      fun h ⟨v, he⟩ => exec_ne_ret X h hm v he
  have hbrk : ¬ (retJ dr rv).is .brk := fun ⟨_, h⟩ => nomatch h
  have hcont : ¬ (retJ dr rv).is .cont := fun ⟨_, h⟩ => nomatch h
  apply stmt_induct
  case ret => exact fun e u hc _ => ret_stmt dr rv X hne e hc
  case assign => exact fun _ _ _ hc _ => hatom hc rfl
  case expr | raise => exact fun _ _ hc _ => hatom hc rfl
  case pass | brk | cont => exact fun _ hc _ => hatom hc rfl
  case ifS =>
    intro c t e iht ihe u hc hf
    simp only [finOKS, Bool.and_eq_true] at hf
    exact Sim.if_ hc.1 ((iht false false hc.2.1 hf.1).mono id fun h => orR (orL h))
      ((ihe false false hc.2.2 hf.2).mono id fun h => orR (orR h))
  case whileS =>
    intro c b ih u hc hf
    exact LoopSim.sim rfl hbrk (while_guarded (ih false false hc.2 hf) hc.1 orR hcont)
  case forS =>
    intro x it ex b ih u ⟨hx, hcit, hcex, hcb⟩ hf
    exact LoopSim.sim rfl hbrk (exec_for_guarded (ih false false hcb hf) hx hcit hcex orR hcont)
  case tryS =>
    intro body hs fin ihb ihh ihf u hc hf
    obtain ⟨hfb, hfh, hff, hesc, hq⟩ := finOKS_try.mp hf
    have hhitf : (retB dr rv false false fin).2 = false :=
      (retB_hit dr rv false false fin).trans (escFreeB_iff.mp hesc).2.2
    exact Sim.try_ ((ihb false false hc.1 hfb).mono id fun h => orR (orL (orL h)))
      ((ihh hc.2.1 hfh).mono id fun h => orR (orL (orR h))) (ihf false false hc.2.2 hff)
      hhitf (by rw [hhitf]; rfl) hq (retB_jumpFree dr rv _ _ body) (retH_jumpFree dr rv hs)
  case withS =>
    intro tag body ih u hc hf
    exact (Sim.with_ (ih false false hc hf)).mono id orR
  case nil => exact fun _ _ _ _ => Sim.nil
  case cons =>
    intro s r ihs ihr g u hc hf
    simp only [finOKB, Bool.and_eq_true] at hf
    have h := Sim.seq (need := (u || ((retS dr rv u s).2 ||
        (retB dr rv (retS dr rv u s).2 (u || (retS dr rv u s).2) r).2)))
      (ihs u hc.1 hf.1) (ihr _ _ hc.2 hf.2) or_mid
      (fun h => by
        rcases (Bool.or_eq_true _ _).mp h with h | h
        · rcases (Bool.or_eq_true _ _).mp h with h | h
          · exact orR (orL h)
          · exact or_mid h
        · exact orR (orR h))
      fun _ hh => by
        rw [hh]
        cases r with
        | nil => exact .inl rfl
        | cons s' r' => exact .inr ⟨_, rfl⟩
    exact h.guarded (fun h => ((Bool.or_eq_true _ _).mp h).elim (fun hu => orL (orR hu)) orR) fun hg => by rw [hg]; rfl
  case hnil => exact fun _ _ => SimH.nil
  case hcons =>
    intro t b r ihb ihr hc hf
    simp only [finOKH, Bool.and_eq_true] at hf
    exact SimH.cons ((ihb false false hc.1 hf.1).mono id orL) ((ihr hc.2 hf.2).mono id orR)

omit hne in
theorem lowerReturn_correct (hne : dr ≠ rv) (body : Block)
    (hclean : CleanB (HidR dr rv) body) (hfrag : finOKB body = true)
    (n : Nat) (σ : St) (o : Out) (σ1 : St) (h : execB X n body σ = some (o, σ1)) :
    ∃ m σ1' o', execB X m (lowerReturn dr rv body) σ = some (o', σ1') ∧ fnResult o' = fnResult o ∧
      Agree (HidR dr rv) σ1 σ1' := by
  by_cases hu : (retB dr rv false false body).2 = true
  · have hag0 : Agree (HidR dr rv) σ ((σ.set dr (.int 0)).set rv .none) :=
      ((Agree.refl _ σ).setHidden (.inl rfl) _).setHidden (.inr rfl) _
    have hdr0 : ((σ.set dr (.int 0)).set rv .none).env dr = some (.int 0) :=
      (St.set_env_ne _ _ hne).trans (St.set_env_eq _ _ _)
    obtain ⟨m, σ1', o', hx, hag, hp, _⟩ :=
      (ret_sim dr rv X hne).2.1 body false false hclean hfrag n σ _ o σ1 hag0 (fun _ => hdr0) h
    have hinit : execB X 3 [.assign dr cFalse, .assign rv cNone] σ
        = some (.normal, (σ.set dr (.int 0)).set rv .none) :=
      (execB_cons_normal (exec_assign_const X dr _ σ 1)).trans (execB_singleton (exec_assign_const X rv _ _ 0))
    have hfinal : ∀ v, σ1'.env rv = some v → execB X 2 [.ret (some (.var rv))] σ1' = some (.ret v, σ1') :=
      fun v hv => execB_singleton (n := 1) (by rw [exec_ret, valThen_ok (by rw [evalE_var, hv])])
    have hlow : lowerReturn dr rv body =
        [.assign dr cFalse, .assign rv cNone] ++ ((retB dr rv false false body).1 ++ [.ret (some (.var rv))]) := by
      simp [lowerReturn, hu]
    rw [hlow]
    by_cases hor : ∃ v, o = .ret v
    · obtain ⟨v, rfl⟩ := hor
      obtain ⟨_, ho', hset⟩ := hp.of_is ⟨v, rfl⟩
      rw [show o' = .normal from ho'] at hx
      exact ⟨3 + (m + 2), σ1', .ret v, execB_append hinit (execB_append hx (hfinal v (hset.2 v rfl))), rfl, hag⟩
    · obtain ⟨ho', hcur⟩ := hp.of_not hor
      subst ho'
      by_cases hn : o' = .normal
      · subst hn
        have hval : σ1'.env rv = some .none :=
          ((hcur.resolve_right id) rv (.inr rfl)).trans (St.set_env_eq _ _ _)
        exact ⟨3 + (m + 2), σ1', .ret .none, execB_append hinit (execB_append hx (hfinal _ hval)), rfl, hag⟩
      · exact ⟨3 + m, σ1', o', execB_append hinit (execB_append_abrupt _ hx hn), rfl, hag⟩
  · obtain ⟨m, σ1', o', hx, hag, hp, _⟩ :=
      (ret_sim dr rv X hne).2.1 body false false hclean hfrag n σ σ o σ1 (Agree.refl _ σ)
        (fun hh => absurd hh hu) h
    have hor' : ¬ ∃ v, o = .ret v := fun hv => absurd (hp.of_is hv).1 hu
    refine ⟨m, σ1', o', ?_, by rw [(hp.of_not hor').1], hag⟩
    rw [lowerReturn, if_neg hu]; exact hx

end

end Malt.Sem.Jumps
