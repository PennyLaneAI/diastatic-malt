import MaltModel.Proofs.C14Bind
/-!
The library is parametric in the argument values: it moves them between parameter lists, compares them with the
`UNSPECIFIED` sentinel and (`zip`) takes their truth value, nothing else.  So `callOverload` commutes with
instantiating the variables of a call, every call is an instance of its labelled call, and what an overload does
with all calls of a shape can be read off what it does with the generic one.
-/
namespace Malt.Builtins
open Malt.Gen.Builtins

variable {α β : Type}

def Val.subst (σ : β → Val α) : Val β → Val α
  | .arg i => σ i
  | .const c => .const c

def substKw (σ : β → Val α) (kw : List (String × Val β)) : List (String × Val α) :=
  kw.map (fun kv => (kv.1, kv.2.subst σ))

def CallShape.subst (σ : β → Val α) (c : CallShape β) : CallShape α :=
  ⟨c.pos.map (Val.subst σ), substKw σ c.kw⟩

def Bound.subst (σ : β → Val α) : Bound β → Bound α
  | .val v => .val (v.subst σ)
  | .star vs => .star (vs.map (Val.subst σ))
  | .dstar kvs => .dstar (substKw σ kvs)

def Env.subst (σ : β → Val α) (e : Env β) : Env α := e.map (fun x => (x.1, x.2.subst σ))

def Fwd.subst (σ : β → Val α) (r : Fwd β) : Fwd α := ⟨r.callee, r.call.subst σ, r.tail⟩

theorem keys_substKw (σ : β → Val α) (kw : List (String × Val β)) :
    (substKw σ kw).map (·.1) = kw.map (·.1) := by
  simp only [substKw, List.map_map, Function.comp_def]

theorem lookup_map_snd {γ δ : Type} (f : γ → δ) (k : String) (l : List (String × γ)) :
    (l.map (fun x => (x.1, f x.2))).lookup k = (l.lookup k).map f := by
  induction l with
  | nil => rfl
  | cons x r ih =>
    obtain ⟨k', v⟩ := x
    simp only [List.map_cons, List.lookup_cons] at ih ⊢
    cases k == k'
    · exact ih
    · rfl

theorem lookup_subst (σ : β → Val α) (env : Env β) (n : String) :
    (env.subst σ).lookup n = (env.lookup n).map (Bound.subst σ) :=
  lookup_map_snd _ n env

theorem hasKey_eq_any_keys {γ : Type} (k : String) (kw : List (String × γ)) :
    hasKey k kw = (kw.map (·.1)).any (· == k) := by
  simp only [hasKey, List.any_map, Function.comp_def]

theorem satisfied_congr (sig : Signature) {c : CallShape α} {c' : CallShape β}
    (hp : c.pos.length = c'.pos.length) (hk : c.kw.map (·.1) = c'.kw.map (·.1)) :
    satisfied sig c = satisfied sig c' := by
  funext p
  simp only [satisfied, filled, hasKey_eq_any_keys, hp, hk]

theorem accepts_congr (sig : Signature) {c : CallShape α} {c' : CallShape β}
    (hp : c.pos.length = c'.pos.length) (hk : c.kw.map (·.1) = c'.kw.map (·.1)) :
    accepts sig c = accepts sig c' := by
  have h1 : keysNodup c.kw = keysNodup c'.kw := by
    rw [Bool.eq_iff_iff, keysNodup_iff, keysNodup_iff, hk]
  have h2 : c.kw.all (fun kv => kwAdmissible sig c'.pos.length kv.1)
      = c'.kw.all (fun kv => kwAdmissible sig c'.pos.length kv.1) := by
    have {γ : Type} (kw : List (String × γ)) : kw.all (fun kv => kwAdmissible sig c'.pos.length kv.1)
        = (kw.map (·.1)).all (kwAdmissible sig c'.pos.length) := by
      simp only [List.all_map, Function.comp_def]
    rw [this, this, hk]
  simp only [accepts, hp, h1, h2, satisfied_congr sig hp hk]

theorem kwErrs_congr (sig : Signature) (npos : Nat) (allKeys : List String) :
    ∀ (kw : List (String × Val α)) (kw' : List (String × Val β)) (seen : List String),
      kw.map (·.1) = kw'.map (·.1) → kwErrs sig npos allKeys kw seen = kwErrs sig npos allKeys kw' seen := by
  intro kw
  induction kw with
  | nil =>
    intro kw' seen h
    cases kw' with
    | nil => rfl
    | cons _ _ => cases h
  | cons kv r ih =>
    intro kw' seen h
    cases kw' with
    | nil => cases h
    | cons kv' r' =>
      rw [List.map_cons, List.map_cons, List.cons.injEq] at h
      simp only [kwErrs, h.1, ih r' _ h.2]

theorem firstErr_congr (sig : Signature) {c : CallShape α} {c' : CallShape β}
    (hp : c.pos.length = c'.pos.length) (hk : c.kw.map (·.1) = c'.kw.map (·.1)) :
    firstErr sig c = firstErr sig c' := by
  simp only [firstErr, hp, hk, satisfied_congr sig hp hk,
    kwErrs_congr sig c'.pos.length (c'.kw.map (·.1)) c.kw c'.kw [] hk]

theorem accepts_subst (σ : β → Val α) (sig : Signature) (c : CallShape β) :
    accepts sig (c.subst σ) = accepts sig c :=
  accepts_congr sig (List.length_map _) (keys_substKw σ c.kw)

theorem boundOf_subst (σ : β → Val α) (sig : Signature) (c : CallShape β) (p : Param) :
    boundOf sig (c.subst σ) p = (boundOf sig c p).subst σ := by
  have hpos : (if isPos p then (slotOf p.name (posParams sig) 0).bind (fun j => (c.subst σ).pos[j]?) else none)
      = (if isPos p then (slotOf p.name (posParams sig) 0).bind (fun j => c.pos[j]?) else none).map (Val.subst σ) := by
    cases isPos p
    · rfl
    · cases slotOf p.name (posParams sig) 0
      · rfl
      · exact List.getElem?_map ..
  have hkw : (if isKw p then (c.subst σ).kw.lookup p.name else none)
      = (if isKw p then c.kw.lookup p.name else none).map (Val.subst σ) := by
    cases isKw p
    · rfl
    · exact lookup_map_snd _ p.name c.kw
  unfold boundOf
  simp only [hpos, hkw]
  generalize (if isPos p then (slotOf p.name (posParams sig) 0).bind (fun j => c.pos[j]?) else none) = byPos
  generalize (if isKw p then c.kw.lookup p.name else none) = byKw
  cases p.kind with
  | varPos => exact congrArg Bound.star List.map_drop.symm
  | varKw => simp only [CallShape.subst, Bound.subst, substKw, List.filter_map, Function.comp_def]
  | posOnly | posOrKw | kwOnly => cases byPos <;> cases byKw <;> cases p.dflt <;> rfl

theorem envOf_subst (σ : β → Val α) (sig : Signature) (c : CallShape β) :
    envOf sig (c.subst σ) = (envOf sig c).subst σ := by
  simp only [envOf, Env.subst, List.map_map, Function.comp_def, boundOf_subst]

theorem bind_subst (σ : β → Val α) (sig : Signature) (c : CallShape β) :
    bind sig (c.subst σ) = (bind sig c).map (Env.subst σ) := by
  unfold bind
  rw [accepts_subst, envOf_subst, firstErr_congr sig (c := c.subst σ) (c' := c) (List.length_map _) (keys_substKw σ c.kw)]
  cases accepts sig c <;> rfl

theorem valuesOf_subst (σ : β → Val α) (c : CallShape β) :
    valuesOf (c.subst σ) = (valuesOf c).map (Val.subst σ) := by
  simp only [valuesOf, CallShape.subst, substKw, List.map_append, List.map_map, Function.comp_def]

def starOf (env : Env α) : Option String → Option (List (Val α))
  | none => some []
  | some n => match env.lookup n with | some (.star vs) => some vs | _ => none

def dstarOf (env : Env α) : Option String → Option (List (String × Val α))
  | none => some []
  | some n => match env.lookup n with | some (.dstar kvs) => some kvs | _ => none

theorem evalCall_eq_starOf (env : Env α) (ce : CallExpr) :
    evalCall env ce =
      match mapOpt (evalA env) ce.pos, starOf env ce.star,
            mapOpt (fun ke => (evalA env ke.2).map (fun v => (ke.1, v))) ce.kw, dstarOf env ce.dstar with
      | some pos, some star, some kw, some dstar => some ⟨pos ++ star, kw ++ dstar⟩
      | _, _, _, _ => none := rfl

theorem mapOpt_map {γ δ ε : Type} (f : γ → Option δ) (g : δ → ε) (l : List γ) :
    mapOpt (fun x => (f x).map g) l = (mapOpt f l).map (List.map g) := by
  induction l with
  | nil => rfl
  | cons x r ih =>
    simp only [mapOpt, ih]
    cases f x <;> cases mapOpt f r <;> rfl

theorem lookupVal_subst (σ : β → Val α) (env : Env β) (n : String) :
    lookupVal (env.subst σ) n = (lookupVal env n).map (Val.subst σ) := by
  simp only [lookupVal, lookup_subst]
  cases env.lookup n with
  | none => rfl
  | some b => cases b <;> rfl

theorem evalA_subst (σ : β → Val α) (env : Env β) (e : AExpr) :
    evalA (env.subst σ) e = (evalA env e).map (Val.subst σ) := by
  cases e with
  | param n => exact lookupVal_subst σ env n
  | lit c => rfl
  | unresolved s => rfl

theorem starOf_subst (σ : β → Val α) (env : Env β) (s : Option String) :
    starOf (env.subst σ) s = (starOf env s).map (List.map (Val.subst σ)) := by
  cases s with
  | none => rfl
  | some n =>
    simp only [starOf, lookup_subst]
    cases env.lookup n with
    | none => rfl
    | some b => cases b <;> rfl

theorem dstarOf_subst (σ : β → Val α) (env : Env β) (s : Option String) :
    dstarOf (env.subst σ) s = (dstarOf env s).map (substKw σ) := by
  cases s with
  | none => rfl
  | some n =>
    simp only [dstarOf, lookup_subst]
    cases env.lookup n with
    | none => rfl
    | some b => cases b <;> rfl

theorem evalCall_subst (σ : β → Val α) (env : Env β) (ce : CallExpr) :
    evalCall (env.subst σ) ce = (evalCall env ce).map (CallShape.subst σ) := by
  have hpos : mapOpt (evalA (env.subst σ)) ce.pos = (mapOpt (evalA env) ce.pos).map (List.map (Val.subst σ)) := by
    rw [← mapOpt_map]; congr 1; funext e; exact evalA_subst σ env e
  have hkw : mapOpt (fun ke => (evalA (env.subst σ) ke.2).map (fun v => (ke.1, v))) ce.kw
      = (mapOpt (fun ke => (evalA env ke.2).map (fun v => (ke.1, v))) ce.kw).map (substKw σ) := by
    unfold substKw
    rw [← mapOpt_map]; congr 1; funext ke; rw [evalA_subst]; cases evalA env ke.2 <;> rfl
  rw [evalCall_eq_starOf, evalCall_eq_starOf, hpos, hkw, starOf_subst, dstarOf_subst]
  cases mapOpt (evalA env) ce.pos <;> cases starOf env ce.star <;>
    cases mapOpt (fun ke => (evalA env ke.2).map (fun v => (ke.1, v))) ce.kw <;> cases dstarOf env ce.dstar <;>
    simp only [Option.map_some, Option.map_none, CallShape.subst, substKw, List.map_append]

theorem kwAllowed_subst (σ : β → Val α) (ov : Overload) (env : Env β) :
    kwAllowed ov (env.subst σ) = kwAllowed ov env := by
  unfold kwAllowed
  cases ov.kwAllow with
  | none => rfl
  | some allow =>
    simp only [lookup_subst]
    congr 1
    funext p
    cases env.lookup p.name with
    | none => rfl
    | some b => cases b <;> simp only [Option.map_some, Bound.subst, substKw, List.all_map, Function.comp_def]

def NoSentinel (σ : β → Val α) : Prop := ∀ i, isUnspecV (σ i) = false

theorem isUnspecV_subst {σ : β → Val α} (hσ : NoSentinel σ) (v : Val β) :
    isUnspecV (v.subst σ) = isUnspecV v := by
  cases v with
  | arg i => exact hσ i
  | const c => rfl

theorem truthyV_subst (truthy : α → Bool) (σ : β → Val α) (v : Val β) :
    truthyV truthy (v.subst σ) = truthyV (fun i => truthyV truthy (σ i)) v := by
  cases v <;> rfl

theorem evalGuard_subst (truthy : α → Bool) {σ : β → Val α} (hσ : NoSentinel σ) (env : Env β) (g : Guard) :
    evalGuard truthy (env.subst σ) g = evalGuard (fun i => truthyV truthy (σ i)) env g := by
  cases g <;>
    simp only [evalGuard, lookupVal_subst, Option.map_map, Function.comp_def, isUnspecV_subst hσ, truthyV_subst]

theorem pickBranch_subst (truthy : α → Bool) {σ : β → Val α} (hσ : NoSentinel σ) (env : Env β)
    (brs : List Branch) :
    pickBranch truthy (env.subst σ) brs = pickBranch (fun i => truthyV truthy (σ i)) env brs := by
  have hg : ∀ gs, guardsHold truthy (env.subst σ) gs = guardsHold (fun i => truthyV truthy (σ i)) env gs := by
    intro gs
    induction gs with
    | nil => rfl
    | cons g gs ih => simp only [guardsHold, evalGuard_subst truthy hσ, ih]
  induction brs with
  | nil => rfl
  | cons br rest ih => simp only [pickBranch, hg, ih]

/-- The variables' truth values are those of what they stand for. -/
theorem callOverload_subst (truthy : α → Bool) {σ : β → Val α} (hσ : NoSentinel σ) (ov : Overload)
    (c : CallShape β) :
    callOverload truthy ov (c.subst σ) = (callOverload (fun i => truthyV truthy (σ i)) ov c).map (Fwd.subst σ) := by
  -- each step of `callOverload` commutes with `σ`; where a step fails both sides are the same error
  unfold callOverload
  rw [bind_subst]
  cases bind ov.params c with
  | error e => rfl
  | ok env =>
    dsimp only [Except.map]
    rw [kwAllowed_subst, evalCall_subst]
    cases kwAllowed ov env with
    | false => rfl
    | true =>
      cases evalCall env ov.call with
      | none => rfl
      | some c1 =>
        cases findHelper ov.call.callee with
        | none => rfl
        | some h =>
          dsimp only [Option.map_some, Bool.not_true, Bool.false_eq_true, if_false]
          rw [bind_subst]
          cases bind h.params c1 with
          | error e => rfl
          | ok env1 =>
            dsimp only [Except.map]
            rw [pickBranch_subst truthy hσ]
            cases pickBranch (fun i => truthyV truthy (σ i)) env1 h.branches with
            | none => rfl
            | some br =>
              dsimp only
              rw [evalCall_subst]
              cases evalCall env1 br.call <;> rfl

def truthFree (h : Helper) : Bool :=
  h.branches.all (fun br => br.guards.all (fun g => match g with | .truthy _ => false | _ => true))

theorem pickBranch_truthFree (t t' : α → Bool) (env : Env α) (brs : List Branch)
    (h : brs.all (fun br => br.guards.all (fun g => match g with | .truthy _ => false | _ => true)) = true) :
    pickBranch t env brs = pickBranch t' env brs := by
  have hg : ∀ gs : List Guard, gs.all (fun g => match g with | .truthy _ => false | _ => true) = true →
      guardsHold t env gs = guardsHold t' env gs := by
    intro gs
    induction gs with
    | nil => intro _; rfl
    | cons g gs ih =>
      intro h
      rw [List.all_cons, Bool.and_eq_true] at h
      have : evalGuard t env g = evalGuard t' env g := by
        cases g with
        | truthy p => cases h.1
        | _ => rfl
      simp only [guardsHold, this, ih h.2]
  induction brs with
  | nil => rfl
  | cons br rest ih =>
    rw [List.all_cons, Bool.and_eq_true] at h
    simp only [pickBranch, hg br.guards h.1, ih h.2]

theorem callOverload_truthFree (t t' : α → Bool) (ov : Overload) (c : CallShape α) (r : Fwd α) (hl : Helper)
    (hh : findHelper ov.call.callee = some hl) (hf : truthFree hl = true)
    (h : callOverload t ov c = .ok r) : callOverload t' ov c = .ok r := by
  obtain ⟨env, c1, hl', env1, br, hb, hk, he, hh', hb1, hp, he2, hc, ht⟩ := callOverload_inv _ ov c r h
  rw [hh] at hh'; cases hh'
  rw [callOverload_of_steps t' ov c c1 r.call env env1 hl br hb hk he hh hb1
    ((pickBranch_truthFree t' t env1 hl.branches hf).trans hp) he2, ← hc, ← ht]

def shape (n : Nat) (keys : List String) (vs : List (Val β)) : CallShape β := ⟨vs.take n, keys.zip (vs.drop n)⟩

theorem shape_self (c : CallShape α) : shape c.pos.length (c.kw.map (·.1)) (valuesOf c) = c := by
  obtain ⟨pos, kw⟩ := c
  simp only [shape, valuesOf, List.take_left', List.drop_left', List.zip_map', List.map_id']

theorem shape_subst (σ : β → Val α) (n : Nat) (keys : List String) (vs : List (Val β)) :
    (shape n keys vs).subst σ = shape n keys (vs.map (Val.subst σ)) := by
  rw [shape, shape, ← List.map_take, ← List.map_drop, List.zip_map_right]
  rfl

def generic (n : Nat) (keys : List String) : CallShape Nat :=
  shape n keys ((List.range (n + keys.length)).map .arg)

theorem generic_pos_length (n : Nat) (keys : List String) : (generic n keys).pos.length = n := by
  simp [generic, shape]

/-- The sentinel stays what it is: the helpers can tell it from the rest. -/
def Val.label (v : Val α) (i : Nat) : Val Nat := if isUnspecV v then .const unspecified else .arg i

def CallShape.label (c : CallShape α) : CallShape Nat :=
  shape c.pos.length (c.kw.map (·.1)) ((valuesOf c).zipIdx.map (fun vi => vi.1.label vi.2))

/-- Outside the range of the values: a literal other than the sentinel. -/
def argAt (c : CallShape α) (i : Nat) : Val α :=
  match (valuesOf c)[i]? with
  | some v => if isUnspecV v then .const "" else v
  | none => .const ""

theorem noSentinel_argAt (c : CallShape α) : NoSentinel (argAt c) := by
  intro i
  unfold argAt
  cases (valuesOf c)[i]? with
  | none => rfl
  | some v =>
    dsimp only
    by_cases h : isUnspecV v = true
    · rw [if_pos h]; rfl
    · rw [if_neg h]; exact (Bool.not_eq_true _).mp h

theorem argAt_mem (c : CallShape α) (i : Nat) : argAt c i ∈ valuesOf c ∨ isConst (argAt c i) = true := by
  unfold argAt
  cases hv : (valuesOf c)[i]? with
  | none => exact .inr rfl
  | some v =>
    dsimp only
    by_cases h : isUnspecV v = true
    · rw [if_pos h]; exact .inr rfl
    · rw [if_neg h]; exact .inl (List.mem_of_getElem? hv)

theorem Val.label_subst {σ : Nat → Val α} {i : Nat} {v : Val α} (h : isUnspecV v = false → σ i = v) :
    (v.label i).subst σ = v := by
  unfold Val.label
  cases hv : isUnspecV v
  · exact h hv
  · cases v with
    | arg a => cases hv
    | const s => rw [isUnspecV, beq_iff_eq] at hv; rw [hv]; rfl

theorem CallShape.label_subst (c : CallShape α) : c.label.subst (argAt c) = c := by
  rw [CallShape.label, shape_subst]
  refine Eq.trans (congrArg _ ?_) (shape_self c)
  apply List.ext_getElem
  · simp
  · intro i h1 h2
    simp only [List.getElem_map, List.getElem_zipIdx, Nat.zero_add]
    apply Val.label_subst
    intro hu
    simp [argAt, h2, hu]

theorem label_eq_generic {c : CallShape α} (h : ∀ v ∈ valuesOf c, isUnspecV v = false) :
    c.label = generic c.pos.length (c.kw.map (·.1)) := by
  rw [CallShape.label, generic]
  congr 1
  apply List.ext_getElem
  · simp [valuesOf]
  · intro i h1 h2
    simp only [List.length_map, List.length_zipIdx] at h1
    simp [Val.label, h _ (List.getElem_mem h1)]

/-- A consequence of parametricity: what reaches the builtin is an instance of what the overload makes of the
labelled call. -/
theorem callOverload_provenance (truthy : α → Bool) (ov : Overload) (c : CallShape α) (r : Fwd α)
    (h : callOverload truthy ov c = .ok r) :
    ∀ v ∈ valuesOf r.call, v ∈ valuesOf c ∨ isConst v = true := by
  have h' := callOverload_subst truthy (noSentinel_argAt c) ov c.label
  rw [c.label_subst, h] at h'
  cases hg : callOverload (fun i => truthyV truthy (argAt c i)) ov c.label with
  | error e => rw [hg] at h'; cases h'
  | ok rg =>
    rw [hg] at h'
    injection h' with h'
    subst h'
    intro v hv
    rw [Fwd.subst, valuesOf_subst, List.mem_map] at hv
    obtain ⟨w, _, rfl⟩ := hv
    cases w with
    | arg i => exact argAt_mem c i
    | const s => exact .inr rfl

def isArg : Val α → Bool
  | .arg _ => true
  | .const _ => false

theorem isArg_elim {v : Val α} (h : isArg v = true) : ∃ a, v = .arg a := by
  cases v with
  | arg a => exact ⟨a, rfl⟩
  | const c => cases h

theorem userShape_noSentinel {c : CallShape α} (h : userShape c = true) :
    ∀ v ∈ valuesOf c, isUnspecV v = false := by
  intro v hv
  simp only [userShape, Bool.and_eq_true, List.all_eq_true] at h
  simp only [valuesOf, List.mem_append, List.mem_map] at hv
  rcases hv with hv | ⟨kv, hkv, rfl⟩
  · obtain ⟨a, rfl⟩ := isArg_elim (h.1 v hv)
    rfl
  · obtain ⟨a, ha⟩ := isArg_elim (h.2 kv hkv)
    rw [ha]
    rfl

end Malt.Builtins
