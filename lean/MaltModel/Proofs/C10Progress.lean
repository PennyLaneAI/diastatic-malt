import MaltModel.Proofs.C10Inv
/-!
Absence of deadlock and livelock: a measure (`work`) that every effective thread step strictly decreases
and no step increases; the lock holder is never blocked, and nobody is blocked when the lock is free.
-/
namespace Malt.Cache

section
variable {Opts Factory : Type} [BEq Opts] [Hashable Opts]

/-- Position of a program counter along `transform_function` (every `goto` increases it). -/
def rank : Pc Factory → Nat
  | .idle => 0
  | .has1 lk => if lk then 7 else 1
  | .has2 lk _ => if lk then 8 else 2
  | .get1 lk => if lk then 9 else 3
  | .get1c lk => if lk then 10 else 4
  | .get2 lk _ => if lk then 11 else 5
  | .acq => 6
  | .xform => 12
  | .st1 _ => 13
  | .st1c _ => 14
  | .st2 _ _ => 15
  | .rel _ _ => 16
  | .inst _ _ => 17

theorem rank_le (pc : Pc Factory) : rank pc ≤ 17 := by
  cases pc with
  | has1 lk | has2 lk | get1 lk | get1c lk | get2 lk => cases lk <;> exact Nat.le_of_ble_eq_true rfl
  | _ => exact Nat.le_of_ble_eq_true rfl

/-- 18 exceeds every `rank` (`rank_le`), so finishing a request still decreases the measure. -/
def workTh (th : Thread Opts Factory) : Nat := 18 * th.todo.length - rank th.pc
def work (s : State Opts Factory) : Nat := (s.threads.map workTh).sum

theorem Act.rank_lt {T : Code → Opts → Nat → Option Factory} {s : State Opts Factory} {t : Tid}
    {r : Request Opts} {pc pc' : Pc Factory} {eff : Eff Opts Factory}
    (hact : Act T s t r pc eff (.goto pc')) : rank pc < rank pc' := by
  cases hact with
  | @has1_hit lk | @has2_hit lk | @get1_hit lk | @get1_miss lk | @get1c lk =>
    cases lk <;> exact Nat.le_of_ble_eq_true rfl
  | _ => exact Nat.le_of_ble_eq_true rfl

theorem work_after {T : Code → Opts → Nat → Option Factory} {s : State Opts Factory} {t : Tid}
    {th : Thread Opts Factory} {r : Request Opts} {rest : List (Request Opts)} {eff : Eff Opts Factory}
    {nxt : Next Factory} (hth : s.threads[t]? = some th) (htodo : th.todo = r :: rest)
    (hact : Act T s t r th.pc eff nxt) :
    (nxt = .blocked ∧ after s t th r eff nxt = s) ∨ work (after s t th r eff nxt) < work s := by
  have h17 := rank_le th.pc
  cases nxt with
  | blocked =>
    obtain ⟨_, rfl, _⟩ := hact.blocked
    exact Or.inl ⟨rfl, by simp only [after, applyEff, applyNext]; rw [set_same hth]⟩
  | goto pc' =>
    have hlt := hact.rank_lt
    have h17' := rank_le pc'
    refine Or.inr (sum_set_lt workTh _ _ _ th hth ?_)
    simp only [workTh, applyNext, htodo, List.length_cons]
    omega
  | finish res =>
    refine Or.inr (sum_set_lt workTh _ _ _ th hth ?_)
    have h0 : rank (Pc.idle : Pc Factory) = 0 := rfl
    simp only [workTh, applyNext, htodo, List.length_cons, List.tail_cons, h0]
    omega

theorem work_stepThread_lt {T : Code → Opts → Nat → Option Factory} {s : State Opts Factory} {t : Tid}
    {th : Thread Opts Factory} {r : Request Opts} {rest : List (Request Opts)}
    (hth : s.threads[t]? = some th) (htodo : th.todo = r :: rest)
    (hnb : ∀ eff, ¬ Act T s t r th.pc eff .blocked) : work (stepThread T s t) < work s := by
  obtain ⟨eff, nxt, hact, h⟩ := stepThread_act T hth htodo
  rw [h]
  rcases work_after hth htodo hact with ⟨rfl, _⟩ | h
  · exact absurd hact (hnb eff)
  · exact h

theorem step_work_le (T : Code → Opts → Nat → Option Factory) (s : State Opts Factory) (l : Label) :
    work (step T s l) ≤ work s := by
  refine step_ind (I := fun _ s' => work s' ≤ work s) (fun _ => Nat.le_refl _) ?_ (fun _ => Nat.le_refl _) l
  intro t th r rest eff nxt hth htodo hact
  rcases work_after hth htodo hact with ⟨_, h⟩ | h
  · rw [h]; exact Nat.le_refl _
  · exact Nat.le_of_lt h

end

section
variable {Opts Factory : Type} [BEq Opts] [Hashable Opts] [LawfulBEq Opts]
variable {T : Code → Opts → Nat → Option Factory} {P : List (Request Opts)}

theorem LockInv.progress (T : Code → Opts → Nat → Option Factory) {s : State Opts Factory} (li : LockInv s)
    (hw : ∃ th ∈ s.threads, th.todo ≠ []) : ∃ t, work (stepThread T s t) < work s := by
  cases hl : s.lock with
  | none =>
    -- nobody is blocked when the lock is free
    obtain ⟨th, hth, hne⟩ := hw
    obtain ⟨t, hlt, hget⟩ := List.getElem_of_mem hth
    have hth' : s.threads[t]? = some th := by
      rw [List.getElem?_eq_getElem hlt, hget]
    cases htodo : th.todo with
    | nil => exact absurd htodo hne
    | cons r rest =>
      refine ⟨t, work_stepThread_lt hth' htodo fun eff hact => ?_⟩
      obtain ⟨_, _, h', n, hl', _⟩ := hact.blocked
      rw [hl] at hl'
      cases hl'
  | some hn =>
    -- the lock holder is inside the critical section, so not waiting for the lock
    obtain ⟨h, n⟩ := hn
    obtain ⟨_, th, hth, hlk⟩ := li.lock1 h n hl
    cases htodo : th.todo with
    | nil =>
      rw [li.idle h th hth htodo] at hlk
      cases hlk
    | cons r rest =>
      refine ⟨h, work_stepThread_lt hth htodo fun eff hact => ?_⟩
      rw [hact.blocked.1] at hlk
      cases hlk

theorem progress {s : State Opts Factory} (inv : Inv P s)
    (hw : ∃ th ∈ s.threads, th.todo ≠ []) : ∃ t, work (stepThread T s t) < work s :=
  inv.lockInv.progress T hw

theorem todo_nil_of_not_exists {s : State Opts Factory} (h : ¬ ∃ th ∈ s.threads, th.todo ≠ []) :
    ∀ th ∈ s.threads, th.todo = [] := by
  intro th hth
  cases htodo : th.todo with
  | nil => rfl
  | cons r rest => exact absurd ⟨th, hth, by rw [htodo]; nofun⟩ h

theorem can_complete (T : Code → Opts → Nat → Option Factory) {s : State Opts Factory} (li : LockInv s) :
    ∃ sched : List Label, sched.length ≤ work s ∧ ∀ th ∈ (run T s sched).threads, th.todo = [] := by
  suffices h : ∀ (n : Nat) {s : State Opts Factory}, LockInv s → work s ≤ n →
      ∃ sched : List Label, sched.length ≤ n ∧ ∀ th ∈ (run T s sched).threads, th.todo = [] from
    h _ li (Nat.le_refl _)
  intro n
  induction n with
  | zero =>
    intro s li hw
    refine ⟨[], Nat.le_refl _, todo_nil_of_not_exists fun hdone => ?_⟩
    obtain ⟨t, hlt⟩ := li.progress T hdone
    omega
  | succ n ih =>
    intro s li hw
    by_cases hdone : ∃ th ∈ s.threads, th.todo ≠ []
    · obtain ⟨t, hlt⟩ := li.progress T hdone
      obtain ⟨sched, hlen, hfin⟩ := ih (LockInv_step li (.thr t)) (by show work (stepThread T s t) ≤ n; omega)
      exact ⟨.thr t :: sched, by simp; omega, hfin⟩
    · exact ⟨[], Nat.zero_le _, todo_nil_of_not_exists hdone⟩

end

end Malt.Cache
