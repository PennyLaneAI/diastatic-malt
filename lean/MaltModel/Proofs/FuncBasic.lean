import MaltModel.Proofs.FuncCheck
import MaltModel.Sem.CoreLemmas
/-! What the simulations of the functionalisation share: expression evaluation (what it can raise, when it leaves the log
alone, on which variables it depends), the agreement `Agree L σ σ'` of a source state with a target state on the names
`L`, and the names a generated block assigns directly.  The combinators the interpreters are written over, with their
rules, are in `Sem/CoreLemmas`. -/
namespace Malt.Func
open Malt.Sem

/-- What expression evaluation can raise is never a user exception. -/
def IsImpl : Exc → Prop
  | .user _ => False
  | _ => True

theorem IsImpl.of_fatal {ex : Exc} (h : Out.fatal (.exc ex)) : IsImpl ex := by
  cases ex <;> first | trivial | exact h

theorem and_true_left {a b : Bool} (h : (a && b) = true) : a = true := (Bool.and_eq_true_iff.mp h).1
theorem and_true_right {a b : Bool} (h : (a && b) = true) : b = true := (Bool.and_eq_true_iff.mp h).2

def noCallE : Expr → Bool
  | .const _ => true
  | .var _ => true
  | .not e => noCallE e
  | .and a b => noCallE a && noCallE b
  | .or a b => noCallE a && noCallE b
  | .ite c t e => noCallE c && noCallE t && noCallE e
  | .bin _ a b => noCallE a && noCallE b
  | .call _ _ => false

theorem evalArgs_env (X : Ext) : ∀ (es : List Expr) (σ : St), (evalArgs X es σ).2.env = σ.env :=
  Sem.evalArgs_env X

theorem evalE_impl (X : Ext) (e : Expr) (σ : St) (ex : Exc) (h : (evalE X e σ).1 = .error ex) : IsImpl ex :=
  .of_fatal (Jumps.evalE_err_fatal X e σ _ ex (Prod.ext h rfl))

theorem evalArgs_impl (X : Ext) : ∀ (es : List Expr) (σ : St) (ex : Exc), (evalArgs X es σ).1 = .error ex → IsImpl ex :=
  fun es σ ex h => .of_fatal (Jumps.evalArgs_err_fatal X es σ _ ex (Prod.ext h rfl))

theorem iterItems_impl {v : Val} {ex : Exc} (h : iterItems v = .error ex) : IsImpl ex :=
  .of_fatal (Jumps.iterItems_err_fatal h)

theorem bindE_log {α β : Type} {σ : St} {r : Except Exc α × St} {k : α → St → Except Exc β × St}
    (hr : r.2.log = σ.log) (hk : ∀ v, (k v r.2).2.log = r.2.log) : (bindE r k).2.log = σ.log := by
  obtain ⟨_ | v, σ'⟩ := r
  · exact hr
  · exact (hk v).trans hr

/-- An expression without external calls leaves the log alone (and the environment: `Sem.evalE_env`). -/
theorem evalE_pure_log (X : Ext) : ∀ (e : Expr) (σ : St), noCallE e = true → (evalE X e σ).2.log = σ.log := by
  have ite : ∀ {c : Prop} [Decidable c] {a b : Except Exc Val × St} {σ : St}, a.2.log = σ.log → b.2.log = σ.log →
      (if c then a else b).2.log = σ.log := fun ha hb => by split <;> assumption
  suffices h : (∀ e σ, noCallE e = true → (evalE X e σ).2.log = σ.log) ∧ ∀ _ : List Expr, True from h.1
  apply expr_induct
  case const => exact fun _ _ _ => rfl
  case var => intro x σ _; rw [evalE_var]
  case notE => intro e ih σ h; rw [evalE_not]; exact bindE_log (ih σ h) fun _ => rfl
  case andE =>
    intro a b iha ihb σ h; rw [evalE_and]
    exact bindE_log (iha σ (and_true_left h)) fun _ => ite (ihb _ (and_true_right h)) rfl
  case orE =>
    intro a b iha ihb σ h; rw [evalE_or]
    exact bindE_log (iha σ (and_true_left h)) fun _ => ite rfl (ihb _ (and_true_right h))
  case iteE =>
    intro c t e ihc iht ihe σ h; rw [evalE_ite]
    exact bindE_log (ihc σ (and_true_left (and_true_left h))) fun _ =>
      ite (iht _ (and_true_right (and_true_left h))) (ihe _ (and_true_right h))
  case binE =>
    intro op a b iha ihb σ h; rw [evalE_bin]
    exact bindE_log (iha σ (and_true_left h)) fun _ => bindE_log (ihb _ (and_true_right h)) fun _ => rfl
  case callE => exact fun _ _ _ _ h => nomatch h
  case nil => trivial
  case cons => exact fun _ _ _ _ => trivial

theorem clean_of_vars (G : Name → Prop) :
    (∀ e, (∀ x ∈ vars e, ¬ G x) → CleanE G e) ∧ (∀ es, (∀ x ∈ varsL es, ¬ G x) → CleanEs G es) := by
  have l : ∀ {a b : List Name}, (∀ x ∈ a ++ b, ¬ G x) → ∀ x ∈ a, ¬ G x := fun h x hx => h x (List.mem_append_left _ hx)
  have r : ∀ {a b : List Name}, (∀ x ∈ a ++ b, ¬ G x) → ∀ x ∈ b, ¬ G x := fun h x hx => h x (List.mem_append_right _ hx)
  apply expr_induct
  case const => exact fun _ _ => trivial
  case var => exact fun x h => h x (List.mem_singleton_self x)
  case notE => exact fun e ih h => ih h
  case andE => exact fun a b iha ihb h => ⟨iha (l h), ihb (r h)⟩
  case orE => exact fun a b iha ihb h => ⟨iha (l h), ihb (r h)⟩
  case iteE => exact fun c t e ihc iht ihe h => ⟨ihc (l h), iht (l (r h)), ihe (r (r h))⟩
  case binE => exact fun op a b iha ihb h => ⟨iha (l h), ihb (r h)⟩
  case callE => exact fun f args ih h => ih h
  case nil => exact fun _ => trivial
  case cons => exact fun e es ihe ihes h => ⟨ihe (l h), ihes (r h)⟩

/-- From `Sem.evalE_agree`, hiding every other name. -/
theorem evalE_congr (X : Ext) (e : Expr) (σ τ : St) (hv : ∀ x ∈ vars e, σ.env x = τ.env x) (hl : σ.log = τ.log) :
    (evalE X e σ).1 = (evalE X e τ).1 ∧ (evalE X e σ).2.log = (evalE X e τ).2.log := by
  have h := evalE_agree X (· ∉ vars e) e σ τ ((clean_of_vars _).1 e fun x hx hn => hn hx)
    ⟨hl, fun x hx => hv x (Decidable.not_not.mp hx)⟩
  exact ⟨h.1.symm, h.2.1⟩

theorem evalArgs_congr (X : Ext) : ∀ (es : List Expr) (σ τ : St), (∀ x ∈ varsL es, σ.env x = τ.env x) → σ.log = τ.log →
    (evalArgs X es σ).1 = (evalArgs X es τ).1 ∧ (evalArgs X es σ).2.log = (evalArgs X es τ).2.log := by
  intro es σ τ hv hl
  have h := evalArgs_agree X (· ∉ varsL es) es σ τ ((clean_of_vars _).2 es fun x hx hn => hn hx)
    ⟨hl, fun x hx => hv x (Decidable.not_not.mp hx)⟩
  exact ⟨h.1.symm, h.2.1⟩

/-- On `L` the target slot *reads as* the source binding (`undef` and `unbound` both read as unbound). -/
def Agree (L : List Name) (σ : St) (σ' : TSt) : Prop :=
  (∀ x ∈ L, (σ'.env x).toOpt = σ.env x) ∧ σ'.log = σ.log

theorem Agree.mono {L M : List Name} {σ : St} {σ' : TSt} (h : Agree L σ σ') (hs : M ⊆ L) : Agree M σ σ' :=
  ⟨fun x hx => h.1 x (hs hx), h.2⟩

def undefAll (us : List Name) (σ : TSt) : TSt := us.foldl (fun σ u => σ.setSlot u .undef) σ

theorem undefAll_log : ∀ (us : List Name) (σ : TSt), (undefAll us σ).log = σ.log
  | [], _ => rfl
  | u :: us, σ => by simp only [undefAll, List.foldl]; exact undefAll_log us (σ.setSlot u .undef)

theorem undefAll_env : ∀ (us : List Name) (σ : TSt) (x : Name),
    (undefAll us σ).env x = if x ∈ us then .undef else σ.env x
  | [], _, _ => by simp [undefAll]
  | u :: us, σ, x => by
      simp only [undefAll, List.foldl]
      have := undefAll_env us (σ.setSlot u .undef) x
      simp only [undefAll] at this
      rw [this]
      by_cases h1 : x ∈ us
      · simp [h1]
      · by_cases h2 : x = u
        · simp [h2, TSt.setSlot]
        · simp [h1, h2, TSt.setSlot]

theorem Agree.undefAll {L : List Name} {σ : St} {σ' : TSt} (h : Agree L σ σ') (us : List Name)
    (hu : ∀ u ∈ us, σ.env u = none) : Agree L σ (undefAll us σ') := by
  refine ⟨fun x hx => ?_, by rw [undefAll_log]; exact h.2⟩
  rw [undefAll_env]
  by_cases hxu : x ∈ us
  · simp [hxu, Slot.toOpt, hu x hxu]
  · simp [hxu]; exact h.1 x hx

/-- A target state with the same log and the same slots on `M` agrees as well. -/
theorem Agree.of_eq_on {M : List Name} {σ : St} {σ' σ'' : TSt} (h : Agree M σ σ')
    (he : ∀ x ∈ M, σ''.env x = σ'.env x) (hl : σ''.log = σ'.log) : Agree M σ σ'' :=
  ⟨fun x hx => by rw [he x hx]; exact h.1 x hx, hl.trans h.2⟩

theorem contains_false_of {L M : List Name} (hd : ∀ x ∈ L, x ∉ M) {x : Name} (hx : x ∈ M) : L.contains x = false := by
  cases hc : L.contains x with
  | false => rfl
  | true => exact absurd hx (hd x (by simpa using hc))

theorem Agree.mask {M : List Name} {σ : St} {σ' : TSt} (h : Agree M σ σ') (L : List Name)
    (hd : ∀ x ∈ L, x ∉ M) : Agree M σ (mask L σ') :=
  h.of_eq_on (fun x hx => by simp only [Func.mask, contains_false_of hd hx]; rfl) rfl

theorem Agree.restore {M : List Name} {σ : St} {τ : TSt} (h : Agree M σ τ) (L : List Name) (σ₀ : TSt)
    (hd : ∀ x ∈ L, x ∉ M) : Agree M σ (restore L σ₀ τ) :=
  h.of_eq_on (fun x hx => by simp only [Func.restore, contains_false_of hd hx]; rfl) rfl

theorem Agree.set {L M : List Name} {τ : St} {τ' : TSt} (h : Agree L τ τ') (x : Name) (v : Val)
    (hs : ∀ y ∈ M, y ≠ x → y ∈ L) : Agree M (τ.set x v) (τ'.set x v) := by
  refine ⟨fun y hy => ?_, h.2⟩
  by_cases hyx : y = x
  · simp [St.set, TSt.set, TSt.setSlot, hyx, Slot.toOpt]
  · simp only [St.set, TSt.set, TSt.setSlot, hyx, if_false]
    exact h.1 y (hs y hy hyx)

/-- Unbinding `x` in the source while the target binds the `Undefined` placeholder keeps agreement. -/
theorem Agree.unset {L M : List Name} {τ : St} {τ' : TSt} (h : Agree L τ τ') (x : Name)
    (hs : ∀ y ∈ M, y ≠ x → y ∈ L) :
    Agree M ⟨fun y => if y = x then none else τ.env y, τ.log⟩ (τ'.setSlot x .undef) := by
  refine ⟨fun y hy => ?_, h.2⟩
  by_cases hyx : y = x
  · simp [TSt.setSlot, hyx, Slot.toOpt]
  · simp only [TSt.setSlot, hyx, if_false]
    exact h.1 y (hs y hy hyx)

theorem direct_append : ∀ (a b : TBlock), direct (a ++ b) = direct a ++ direct b
  | [], b => rfl
  | s :: a, b => by
      show directS s ++ direct (a ++ b) = directS s ++ direct a ++ direct b
      rw [direct_append a b, List.append_assoc]

theorem direct_undefs : ∀ (us : List Name), direct (undefs us) = us
  | [] => rfl
  | u :: us => by
      show u :: direct (undefs us) = u :: us
      rw [direct_undefs us]

theorem append_sub_append {α : Type} {a a' b b' : List α} (h1 : a ⊆ a') (h2 : b ⊆ b') : a ++ b ⊆ a' ++ b' :=
  List.append_subset.mpr ⟨List.subset_append_of_subset_left _ h1, List.subset_append_of_subset_right _ h2⟩

/-- The operator call itself assigns nothing directly: only the `Undefined` pre-assignments count. -/
theorem direct_call (us : List Name) (t : TStmt) (ht : directS t = []) : direct (undefs us ++ [t]) = us := by
  rw [direct_append, direct_undefs]
  show us ++ (directS t ++ []) = us
  rw [ht, List.append_nil, List.append_nil]

theorem direct_func : (∀ s, DeclS s → direct (funcS s) ⊆ asgS s) ∧ (∀ b, DeclB b → direct (funcB b) ⊆ asgB b) ∧
    (∀ hs, DeclH hs → directH (funcH hs) ⊆ asgH hs) := by
  apply astmt_induct
  case ifS =>
    exact fun i c t e _ _ h => (direct_call i.undefined (.ifF c (funcB t) (funcB e) i.declared i.nouts) rfl).symm ▸ h.2.1
  case whileS => exact fun i c b _ h => (direct_call i.undefined (.whileF c (funcB b) i.declared) rfl).symm ▸ h.2.1
  case forS => exact fun i x it extra b _ h => (direct_call i.undefined (.forF x it extra (funcB b) i.declared) rfl).symm ▸ h.2.1
  case withS =>
    intro i tag b ih h
    show direct (funcB b) ++ [] ⊆ asgB b
    rw [List.append_nil]
    exact ih h
  case tryS =>
    intro i b hs f ihb ihh ihf h
    show direct (funcB b) ++ (directH (funcH hs) ++ direct (funcB f)) ++ [] ⊆ asgB b ++ (asgH hs ++ asgB f)
    rw [List.append_nil]
    exact append_sub_append (ihb h.1) (append_sub_append (ihh h.2.1) (ihf h.2.2))
  case assign => exact fun i x e _ _ hx => hx
  case cons =>
    intro s r ihs ihr h
    show direct (funcS s ++ funcB r) ⊆ asgS s ++ asgB r
    rw [direct_append]
    exact append_sub_append (ihs h.1) (ihr h.2)
  case hcons => exact fun t b r ihb ihr h => append_sub_append (ihb h.1) (ihr h.2)
  all_goals intros; exact fun _ hx => nomatch hx

theorem direct_funcS : ∀ (s : AStmt), DeclS s → direct (funcS s) ⊆ asgS s := direct_func.1
theorem direct_funcB : ∀ (b : ABlock), DeclB b → direct (funcB b) ⊆ asgB b := direct_func.2.1
theorem direct_funcH : ∀ (hs : List (Nat × List AStmt)), DeclH hs → directH (funcH hs) ⊆ asgH hs := direct_func.2.2

theorem Agree.push {L : List Name} {σ : St} {σ' : TSt} (h : Agree L σ σ') (e : Event) : Agree L (σ.push e) (σ'.push e) :=
  ⟨fun x hx => h.1 x hx, by simp [St.push, TSt.push, h.2]⟩

end Malt.Func
