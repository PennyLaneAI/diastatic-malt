import MaltModel.Proofs.C18Quiet
namespace Malt.Anf
open Malt.Py

def okE {ε α : Type} (x : Except ε α) : Prop := ∃ a, x = .ok a

theorem okE_bind {ε α β : Type} (x : Except ε α) (f : α → Except ε β) :
    okE (x >>= f) ↔ ∃ a, x = .ok a ∧ okE (f a) := by
  simp only [okE, bind_ok]
  exact ⟨fun ⟨b, a, hx, hf⟩ => ⟨a, hx, b, hf⟩, fun ⟨a, hx, b, hf⟩ => ⟨b, a, hx, hf⟩⟩

theorem exists_ok_eq {ε α : Type} (x : Except ε α) : (∃ a, x = .ok a) = okE x := rfl

theorem okE_pure {ε α : Type} (a : α) : okE (pure a : Except ε α) ↔ True := by simp [okE, pure, Except.pure]
theorem okE_error {ε α : Type} (e : ε) : okE (.error e : Except ε α) ↔ False := by simp [okE]

theorem okE_trivialOnly (w : String) (x : Bool) (r : Expr × List Stmt × Nat) :
    okE (trivialOnly w x r) ↔ x = false ∧ r.2.1 = [] := by
  simp [okE, trivialOnly_ok]

theorem visitE_lazy {cfg : Config} {e : Expr} {n : Nat} {r : Expr × List Stmt × Nat} (hl : isLazyE e = true)
    (h : visitE cfg e n = .ok r) : r = (e, [], n) := by
  obtain ⟨e', D, n'⟩ := r
  have inv := visitE_inv h
  obtain rfl := inv.lazy hl
  rw [inv.same rfl, HoistsOk.nil_iff.mp inv.hoists]

theorem okE_lazy {cfg : Config} {e : Expr} (n : Nat) (hl : isLazyE e = true) :
    okE (visitE cfg e n) ↔ quiet cfg e = true := by
  constructor
  · rintro ⟨r, hv⟩
    exact (quiet_iff_visit_nil cfg e n).mpr ⟨e, n, visitE_lazy hl hv ▸ hv⟩
  · intro hq; exact ⟨_, visitE_quiet cfg e n hq⟩

mutual
theorem acceptsE_iff (cfg : Config) : ∀ (e : Expr) (n : Nat), okE (visitE cfg e n) ↔ acceptsE cfg e = true
  | .name .. | .const .. | .noneMarker => fun n => by simp [visitE, acceptsE, okE]
  | .boolop .. | .ifexp .. | .lambda .. => fun n => okE_lazy n rfl
  | .comp .. => fun n => by simp [visitE, acceptsE, okE]
  | .attr _ v _ _ | .keyword _ _ _ v | .unary _ _ v | .starred _ v _ => fun n => by
      simp only [visitE, acceptsE, okE_bind, okE_pure, and_true, exists_ok_eq, acceptsE_iff cfg v]
  | .subscript _ v s _ | .namedexpr _ v s => fun n => by
      simp only [visitE, acceptsE, okE_bind, okE_pure, and_true, Bool.and_eq_true, exists_and_right, exists_ok_eq,
        acceptsE_iff cfg v, acceptsE_iff cfg s]
  | .call i f as ks => fun n => by
      simp only [visitE, acceptsE, okE_bind, okE_pure, and_true, Bool.and_eq_true, exists_and_right, exists_ok_eq, and_assoc,
        acceptsE_iff cfg f, acceptsEs_iff cfg as, acceptsEs_iff cfg ks]
  | .binop i op l r => fun n => by
      simp only [visitE, acceptsE]
      split
      · next h => simp [okE_error, h]
      · next h =>
        simp only [okE_bind, okE_pure, and_true, Bool.and_eq_true, exists_and_right, exists_ok_eq, and_assoc, h,
          acceptsE_iff cfg l, acceptsE_iff cfg r]
        simp
  | .compare i l ops rs => fun n => by
      simp only [visitE, acceptsE]
      split
      · next h => simp [okE_error, h]
      · next h =>
        simp only [okE_bind, okE_pure, and_true, Bool.and_eq_true, exists_and_right, exists_ok_eq, and_assoc, h,
          acceptsE_iff cfg l, acceptsEs_iff cfg rs]
        simp
  | .seq _ .set es _ | .arg _ _ es => fun n => by
      simp only [visitE, acceptsE, okE_bind, okE_pure, and_true, exists_ok_eq, acceptsEs_iff cfg es]
  | .seq _ .tuple es c | .seq _ .list es c => fun n => by
      simp only [visitE, acceptsE, okE_bind]
      constructor
      · rintro ⟨a, h, -⟩; exact (acceptsEs_iff cfg es n).mp ⟨a, h⟩
      · intro h
        obtain ⟨a, ha⟩ := (acceptsEs_iff cfg es n).mpr h
        refine ⟨a, ha, ?_⟩
        split <;> simp [okE, pure, Except.pure]
  | .comprehension i t it ifs a => fun n => by
      simp only [visitE, acceptsE, okE_bind, okE_pure, and_true, Bool.and_eq_true, exists_and_right, exists_ok_eq, and_assoc,
        acceptsE_iff cfg t, acceptsE_iff cfg it, acceptsEs_iff cfg ifs]
  | .arguments i po ar va ko kd kw df => fun n => by
      simp only [visitE, acceptsE, okE_bind, okE_pure, and_true, Bool.and_eq_true, exists_and_right, exists_ok_eq, and_assoc,
        acceptsEs_iff cfg po, acceptsEs_iff cfg ar, acceptsEs_iff cfg va, acceptsEs_iff cfg ko,
        acceptsEs_iff cfg kd, acceptsEs_iff cfg kw, acceptsEs_iff cfg df]
  | .withitem i ce ov => fun n => by
      simp only [visitE, acceptsE, okE_bind, okE_pure, and_true, Bool.and_eq_true, exists_and_right, exists_ok_eq,
        acceptsE_iff cfg ce, acceptsEs_iff cfg ov]
  | .other i k ats ks => fun n => by
      by_cases h1 : (k == "Dict") = true
      · simp only [visitE, acceptsE, h1, ↓reduceIte, Bool.true_or, okE_bind, okE_pure, and_true, exists_ok_eq,
          acceptsEs_iff cfg ks]
      by_cases h2 : (k == "Slice") = true
      · simp only [visitE, acceptsE, h1, h2, Bool.false_eq_true, ↓reduceIte, Bool.true_or, Bool.or_true, okE_bind, okE_pure,
          and_true, exists_ok_eq, acceptsEs_iff cfg ks]
      by_cases h3 : (k == "Yield") = true
      · simp only [visitE, acceptsE, h1, h2, h3, Bool.false_eq_true, ↓reduceIte, Bool.or_true, Bool.false_or, okE_bind,
          okE_pure, and_true, exists_ok_eq, acceptsEs_iff cfg ks]
      have hacc : acceptsE cfg (.other i k ats ks) = quiet cfg (.other i k ats ks) := by
        simp only [acceptsE]; simp [h1, h2, h3]
      rw [hacc]
      exact okE_lazy n (by simp [isLazyE, h1, h2, h3])
theorem acceptsEs_iff (cfg : Config) : ∀ (es : List Expr) (n : Nat), okE (visitEs cfg es n) ↔ acceptsEs cfg es = true
  | [], n => by simp [visitEs, acceptsEs, okE]
  | e :: es, n => by
      simp only [visitEs, acceptsEs, okE_bind, okE_pure, and_true, Bool.and_eq_true, exists_and_right, exists_ok_eq,
        acceptsE_iff cfg e, acceptsEs_iff cfg es]
end

end Malt.Anf
