import MaltModel.Proofs.C19
/-! Concrete instances used by the examples and counterexamples of `Props/C19.lean`:
the program `def f(): x = 1; <N>; return x` for several middle nodes `N`, a tiny truthful resolver and the
matching run-time behaviour. -/
namespace Malt.TypeInf
open Malt.Py
namespace CEx

def R0 : Resolver where
  value k _ := if k = "int" then some [.int] else if k = "str" then some [.str] else if k = "float" then some [.float] else none
  name _ := none
  arg _ _ _ _ := none
  call _ _ _ _ := none
  sliceIdx _ _ _ := none
  slice _ _ _ := none
  compare _ _ _ := none
  unop _ _ := none
  binop _ _ _ := none
  listLit _ := some [.list]
  attr _ _ := none

/-- Literals evaluate to a value of their own kind; `def` creates a function that promises nothing. -/
def sem0 : Sem where
  const k _ v := (k = "int" ∧ v = .int 1) ∨ (k = "str" ∧ v = .str "a") ∨ (k = "float" ∧ v = .float 3)
  call _ _ _ _ := False
  slice _ _ _ _ := False
  compare _ _ _ _ := False
  unop _ _ _ := False
  binop _ _ _ _ := False
  attr _ _ _ := False
  fnRet _ ρ := ρ = .any
  argVal _ _ := False

def env0 : FnEnv := { fname := "f", isLocal := false, bound := ["x", "y", "g"], nonlocals := [], closure := [] }

theorem truthful0 : Truthful R0 sem0 env0 where
  const := by
    intro k r T v h hs
    simp only [R0] at h
    rcases hs with ⟨rfl, rfl⟩ | ⟨rfl, rfl⟩ | ⟨rfl, rfl⟩
    · simp at h; subst h; exact ⟨.int, by simp, rfl⟩
    · simp at h; subst h; exact ⟨.str, by simp, rfl⟩
    · simp at h; subst h; exact ⟨.float, by simp, rfl⟩
  call := by intro _ _ _ _ _ _ _ _ h; simp [R0] at h
  sliceIdx := by intro _ _ _ _ _ _ h; simp [R0] at h
  slice := by intro _ _ _ _ _ _ _ h; simp [R0] at h
  compare := by intro _ _ _ _ _ _ _ h; simp [R0] at h
  unop := by intro _ _ _ _ _ h; simp [R0] at h
  binop := by intro _ _ _ _ _ _ _ h; simp [R0] at h
  attr := by intro _ _ _ _ _ h; simp [R0] at h
  listLit := by
    intro ts T vs h _
    simp only [R0, Option.some.injEq] at h
    subst h
    exact ⟨.list, by simp, rfl⟩
  arg := by intro _ _ _ _ _ _ h; exact h.elim
  fnRet := by
    intro i g a b d r as ρ h
    simp only [sem0] at h
    subst h
    refine ⟨.fn .any, ?_, by simp [hasTy]⟩
    -- `R0.name` knows nothing: the return types are `{Any}` whatever the annotation
    simp only [defTypes]
    split
    · cases nameOf? _ <;> simp [R0]
    · simp

def xm : TMap := [("x", [.int])]

def nArgs : GNode :=
  { id := 1, node := .expr (.arguments 1 [] [] [] [] [] [] []), succs := [2], hasScope := true, reads := [], defsIn := [] }
def nX1 : GNode :=
  { id := 2, node := .stmt (.assign 2 [.name 3 "x" .store] (.const 4 "int" "1")), succs := [3], hasScope := true, reads := [], defsIn := [] }
def nMid (N : CNode) : GNode := { id := 3, node := N, succs := [4], hasScope := true, reads := [], defsIn := [] }
def nRet : GNode :=
  { id := 4, node := .stmt (.ret 8 [.name 9 "x" .load]), succs := [], hasScope := true, reads := ["x"], defsIn := [] }
/-- `def f(): x = 1; <N>; return x`. -/
def graphOf (N : CNode) : Graph := { entry := 1, nodes := [nArgs, nX1, nMid N, nRet] }

def reachC : List Nat := [1, 2, 3, 4]
def insC : NMap := [(1, []), (2, []), (3, xm), (4, xm)]
def outsC : NMap := [(1, []), (2, xm), (3, xm), (4, xm)]

def xym : TMap := ("y", [.int]) :: xm
def insCopy : NMap := [(1, []), (2, []), (3, xm), (4, xym)]
def outsCopy : NMap := [(1, []), (2, xm), (3, xym), (4, xym)]

/-- `for x in ['a']: …` (the CFG node is the iterable; the target is bound by the loop). -/
def forN : CNode := .forIter (.name 5 "x" .store) (.seq 6 .list [.const 7 "str" "'a'"] .load)
/-- `x += 1.5`. -/
def augN : CNode := .stmt (.augAssign 5 (.name 6 "x" .store) "Add" (.const 7 "float" "1.5"))
/-- `with cm as x: …`. -/
def withN : CNode := .expr (.withitem 5 (.name 6 "cm" .load) [.name 7 "x" .store])
/-- `x = 'a' if c else 2.5` (no rule for `IfExp`: the value's type is unknown, the old set is kept). -/
def ifexpN : CNode :=
  .stmt (.assign 5 [.name 6 "x" .store] (.ifexp 7 (.name 10 "c" .load) (.const 11 "str" "'a'") (.const 12 "float" "2.5")))
/-- `y = x` (every binder tracked). -/
def copyN : CNode := .stmt (.assign 5 [.name 6 "y" .store] (.name 7 "x" .load))

/-- `g()` as an expression statement; that `g` rebinds `x` is modelled by running it with `W = ["x"]`. -/
def callN : CNode := .stmt (.expr 5 (.call 6 (.name 7 "g" .load) [] []))

def emp : State := fun _ => none
def s1 : State := emp.set "x" (.int 1)

theorem init0 (S : List String) : InitOk R0 env0 S emp := by
  intro x v _ h
  simp [emp] at h

theorem str_not_int : ¬ InSet (.str "a") [.int] := by
  rintro ⟨t, ht, hh⟩
  simp only [List.mem_singleton] at ht
  subst ht
  simp [hasTy] at hh

theorem exec_prefix (W : List String) (G : Graph) (he : G.entry = 1) (h1 : G.find 1 = some nArgs)
    (h2 : G.find 2 = some nX1) : Exec sem0 env0 W G emp 3 s1 := by
  have e1 : Exec sem0 env0 W G emp 1 emp := he ▸ .start
  have e2 : Exec sem0 env0 W G emp 2 emp := .step e1 h1 (.args (by exact .nil) (Agree.refl _ _)) (by simp [nArgs])
  exact .step e2 h2 (.assign (v := .int 1) (.const (Or.inl ⟨rfl, rfl⟩)) (.cons .name .nil) (Agree.refl _ _)) (by simp [nX1])

theorem exec_to_mid (W : List String) (N : CNode) : Exec sem0 env0 W (graphOf N) emp 3 s1 :=
  exec_prefix W _ rfl rfl rfl

theorem exec_to_ret (W : List String) (N : CNode) (hN : Step sem0 env0 W N s1 (s1.set "x" (.str "a"))) :
    Exec sem0 env0 W (graphOf N) emp 4 (s1.set "x" (.str "a")) :=
  .step (exec_to_mid W N) (n := nMid N) (by rfl) hN (by simp [nMid])

theorem plain_step (W : List String) (N : CNode) (hp : isPlain N = true) (hx : "x" ∈ storedN N ++ W) :
    Step sem0 env0 W N s1 (s1.set "x" (.str "a")) := by
  refine .plain hp ?_
  intro y hy
  have : y ≠ "x" := fun h => hy (h ▸ hx)
  simp [State.set, this]

/-! A graph with a local function and a call: `def f(): x = 1; def g(): …; g()`. -/
def nDef : GNode :=
  { id := 3, node := .stmt (.functionDef 5 "g" (.arguments 6 [] [] [] [] [] [] []) [] [] [] false), succs := [4],
    hasScope := true, reads := [], defsIn := [] }
def nCall : GNode :=
  { id := 4, node := .stmt (.expr 7 (.call 8 (.name 9 "g" .load) [] [])), succs := [], hasScope := true, reads := ["g"],
    defsIn := [(3, "g")] }
def graphG : Graph := { entry := 1, nodes := [nArgs, nX1, nDef, nCall] }

def xg : TMap := [("g", [.fn .any]), ("x", [.int])]
def insG : NMap := [(1, []), (2, []), (3, xm), (4, xg)]
def outsG : NMap := [(1, []), (2, xm), (3, xg), (4, xg)]
def closG : NMap := [(3, xg)]
def s2 : State := s1.set "g" (.fn .any)

theorem exec_to_call : Exec sem0 env0 [] graphG emp 4 s2 :=
  .step (exec_prefix [] graphG rfl rfl rfl) (n := nDef) (by rfl) (.fndef (ρ := .any) rfl (Agree.refl _ _)) (by simp [nDef])

end CEx
end Malt.TypeInf
