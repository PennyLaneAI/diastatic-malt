import MaltModel.Proofs.C08Classes
import MaltModel.Proofs.C08Frees

/-
The specification's collector is additive: a step appends to the accumulator a contribution that does not depend on it
(`f a = a.plus (f {})`).  The names the activity model adds to the `read` set of the current scope and the uses / nested blocks of
the contribution describe the same outward-resolving names, as long as the nested blocks are free of the deviation classes
(`leaksBs`, `declBelowBs true`, `shadowBs` all empty).
-/

namespace Malt.Analysis
open Malt.Py Malt.Spec

/-- The specification lists the parameters as CPython does (keyword-only before `*args`), `paramStrs` in the analyzer's order. -/
theorem mem_specParams_iff (po ar va ko kw : List Expr) (x : String) :
    x ∈ (po ++ ar ++ ko ++ va ++ kw).filterMap paramName ↔ x ∈ paramStrs po ar va ko kw := by
  have : paramName = argName? := by funext e; cases e <;> rfl
  simp only [this, paramStrs, List.filterMap_append, List.mem_append]
  grind

/-- The blocks `bs` account for the leaked parameters `L`. -/
@[reducible] def Covers (bs : List Block) (L : List String) : Prop := ∀ enc x, x ∈ L → x ∉ enc → x ∈ leaksBs enc bs

theorem Covers.nil (bs : List Block) : Covers bs [] := by intro enc x hx; simp at hx

theorem Covers.append {b1 b2 : List Block} {l1 l2 : List String} (h1 : Covers b1 l1) (h2 : Covers b2 l2) :
    Covers (b1 ++ b2) (l1 ++ l2) := by
  intro enc x hx hn
  rw [leaksBs_append]
  simp only [List.mem_append] at hx ⊢
  rcases hx with hx | hx
  · exact Or.inl (h1 enc x hx hn)
  · exact Or.inr (h2 enc x hx hn)

theorem Covers.declared {bs : List Block} {L enc : List String} (hc : Covers bs L) (hl : leaksBs enc bs = []) :
    ∀ x ∈ L, x ∈ enc := by
  intro x hx
  refine Classical.byContradiction fun hd => ?_
  have := hc enc x hx hd
  rw [hl] at this
  exact List.not_mem_nil this

/-- The block `collectS` appends for a function definition. -/
def mkDefBlock : Stmt → Block
  | .functionDef i name (.arguments _ po ar va ko _ kw _) body _ _ _ =>
      (collectSs body { params := (po ++ ar ++ ko ++ va ++ kw).filterMap paramName }).toBlock i .function name
  | _ => default

theorem blockOf_functionDef (i : Nat) (name : String) (ai : Nat) (po ar va ko kd kw df : List Expr) (body : List Stmt)
    (decos returns : List Expr) (isAsync : Bool) :
    blockOf (.functionDef i name (.arguments ai po ar va ko kd kw df) body decos returns isAsync) =
      some (mkDefBlock (.functionDef i name (.arguments ai po ar va ko kd kw df) body decos returns isAsync)) := by
  simp [blockOf, collectS, Acc.child, mkDefBlock]

def accNeeds (a : Acc) (x : String) : Prop := x ∈ a.uses ∨ x ∈ outerBs a.children

/-- `Dom`: names the current block declares, the read sets are compared outside it; `Denc`: names declared by the def/lambda nearest
    to the collected blocks (the current block, if it is one), `Lenc`: names declared by the current block. -/
structure Hyp (Dom Denc Lenc : List String) (a : Acc) : Prop where
  binds : ∀ x ∈ a.binds, x ∈ Dom
  globals : ∀ x ∈ a.globals, x ∈ Dom
  nonlocals : ∀ x ∈ a.nonlocals, x ∈ Dom
  lenc : ∀ x ∈ Lenc, x ∈ Dom
  denc : ∀ x ∈ Denc, x ∈ Dom
  noG : declBelowBs true Denc a.children = []
  noL : leaksBs Lenc a.children = []
  noS : shadowBs a.children = []

def _root_.Malt.Spec.Acc.plus (a c : Acc) : Acc :=
  { params := c.params ++ a.params, binds := c.binds ++ a.binds, globals := c.globals ++ a.globals,
    nonlocals := c.nonlocals ++ a.nonlocals, uses := c.uses ++ a.uses, walrus := c.walrus ++ a.walrus,
    escapes := c.escapes ++ a.escapes, children := a.children ++ c.children }

theorem _root_.Malt.Spec.Acc.plus_assoc (a b c : Acc) : (a.plus b).plus c = a.plus (b.plus c) := by
  simp [Acc.plus]

structure Collects (d : Eff) (f : Acc → Acc) (binds leaks globals nonlocals : List String) (ds : List Stmt) : Prop where
  add : ∀ a, f a = a.plus (f {})
  binds : ∀ x, x ∈ (f {}).binds ↔ x ∈ binds
  globals : ∀ x, x ∈ (f {}).globals ↔ x ∈ globals
  nonlocals : ∀ x, x ∈ (f {}).nonlocals ↔ x ∈ nonlocals
  params : (f {}).params = []
  walrus : (f {}).walrus = []
  covers : Covers (f {}).children leaks
  walrusFree : ∀ b ∈ allBlocksL (f {}).children, b.walrus = []
  defs : ∀ s ∈ ds, mkDefBlock s ∈ allBlocksL (f {}).children
  reads : ∀ {Dom Denc Lenc}, Hyp Dom Denc Lenc (f {}) → ∀ x, x ∉ Dom → (QN.sym x ∈ d.read ↔ accNeeds (f {}) x)

theorem Hyp.of_plus {Dom Denc Lenc : List String} {a c : Acc} (h : Hyp Dom Denc Lenc (a.plus c)) :
    Hyp Dom Denc Lenc a ∧ Hyp Dom Denc Lenc c := by
  have hG := h.noG; have hL := h.noL; have hS := h.noS
  simp only [Acc.plus, declBelowBs_append, leaksBs_append, shadowBs_append, List.append_eq_nil_iff] at hG hL hS
  exact ⟨{ h with
      binds := fun x hx => h.binds x (List.mem_append_right _ hx)
      globals := fun x hx => h.globals x (List.mem_append_right _ hx)
      nonlocals := fun x hx => h.nonlocals x (List.mem_append_right _ hx)
      noG := hG.1, noL := hL.1, noS := hS.1 },
    { h with
      binds := fun x hx => h.binds x (List.mem_append_left _ hx)
      globals := fun x hx => h.globals x (List.mem_append_left _ hx)
      nonlocals := fun x hx => h.nonlocals x (List.mem_append_left _ hx)
      noG := hG.2, noL := hL.2, noS := hS.2 }⟩

theorem _root_.Malt.Spec.Acc.child_eq_plus (a : Acc) (blk : Block) : a.child blk = a.plus { children := [blk] } := by
  simp [Acc.child, Acc.plus]

theorem Hyp.child {Dom Denc Lenc : List String} {a1 : Acc} {blk : Block} (h : Hyp Dom Denc Lenc (a1.child blk)) :
    Hyp Dom Denc Lenc a1 ∧ declBelowB true Denc blk = [] ∧ leaksB Lenc blk = [] ∧ shadowB blk = [] := by
  obtain ⟨h1, h2⟩ := (Acc.child_eq_plus a1 blk ▸ h).of_plus
  exact ⟨h1, by simpa [declBelowBs] using h2.noG, by simpa [leaksBs] using h2.noL, by simpa [shadowBs] using h2.noS⟩

theorem accNeeds_plus (a c : Acc) (x : String) : accNeeds (a.plus c) x ↔ accNeeds a x ∨ accNeeds c x := by
  simp only [accNeeds, Acc.plus, outerBs_append, List.mem_append]
  grind

theorem Collects.const {d : Eff} {f : Acc → Acc} (c : Acc) (hf : ∀ a, f a = a.plus c)
    (hp : c.params = [] := by rfl) (hw : c.walrus = [] := by rfl) (hc : c.children = [] := by rfl)
    (hr : ∀ x, QN.sym x ∈ d.read → x ∈ c.uses ∨ x ∈ c.binds ∨ x ∈ c.globals ∨ x ∈ c.nonlocals)
    (hu : ∀ x ∈ c.uses, QN.sym x ∈ d.read) :
    Collects d f c.binds [] c.globals c.nonlocals [] := by
  have e : f {} = c := by rw [hf]; simp [Acc.plus]
  rw [← e] at hp hw hc hr hu
  exact {
    add := fun a => e ▸ hf a
    binds := fun x => by rw [e]
    globals := fun x => by rw [e]
    nonlocals := fun x => by rw [e]
    params := hp
    walrus := hw
    covers := hc ▸ Covers.nil _
    walrusFree := by simp [hc, allBlocksL]
    defs := by simp
    reads := fun H x hx => by
      simp only [accNeeds, hc, outerBs, List.not_mem_nil, or_false]
      exact ⟨fun h => (hr x h).elim (fun h => h) fun h' => absurd (h'.elim (H.binds x) fun h' => h'.elim (H.globals x) (H.nonlocals x)) hx,
        hu x⟩ }

theorem Collects.id : Collects {} (fun a => a) [] [] [] [] [] :=
  Collects.const {} (by simp [Acc.plus]) (hr := by simp) (hu := by simp)

theorem Collects.comp {d1 d2 : Eff} {f g : Acc → Acc} {b1 l1 g1 n1 b2 l2 g2 n2 : List String} {D1 D2 : List Stmt}
    (h1 : Collects d1 f b1 l1 g1 n1 D1) (h2 : Collects d2 g b2 l2 g2 n2 D2) :
    Collects (d1 ++ d2) (fun a => g (f a)) (b1 ++ b2) (l1 ++ l2) (g1 ++ g2) (n1 ++ n2) (D1 ++ D2) :=
  have e : g (f {}) = (f {}).plus (g {}) := h2.add _
  { add := fun a => by rw [e, ← Acc.plus_assoc, ← h1.add, ← h2.add]
    binds := fun x => by rw [e]; simp [Acc.plus, h1.binds, h2.binds, or_comm]
    globals := fun x => by rw [e]; simp [Acc.plus, h1.globals, h2.globals, or_comm]
    nonlocals := fun x => by rw [e]; simp [Acc.plus, h1.nonlocals, h2.nonlocals, or_comm]
    params := by rw [e]; simp [Acc.plus, h1.params, h2.params]
    walrus := by rw [e]; simp [Acc.plus, h1.walrus, h2.walrus]
    covers := by rw [e]; exact h1.covers.append h2.covers
    walrusFree := by
      rw [e]; intro b hb
      simp only [Acc.plus, allBlocksL_append, List.mem_append] at hb
      exact hb.elim (h1.walrusFree b) (h2.walrusFree b)
    defs := by
      rw [e]; intro s hs
      simp only [Acc.plus, allBlocksL_append, List.mem_append] at hs ⊢
      exact hs.imp (h1.defs s) (h2.defs s)
    reads := fun {Dom Denc Lenc} H => by
      rw [e] at H ⊢
      obtain ⟨H1, H2⟩ := H.of_plus
      intro x hx
      rw [accNeeds_plus, ← h1.reads H1 x hx, ← h2.reads H2 x hx]
      simp }

theorem Collects.congr {d d' : Eff} {f : Acc → Acc} {b l g n b' l' g' n' : List String} {D D' : List Stmt}
    (h : Collects d f b l g n D) (hd : ∀ x, QN.sym x ∈ d'.read ↔ QN.sym x ∈ d.read)
    (hb : ∀ x, x ∈ b ↔ x ∈ b' := by intro x; simp) (hl : ∀ x, x ∈ l' → x ∈ l := by intro x; simp)
    (hg : ∀ x, x ∈ g ↔ x ∈ g' := by simp) (hn : ∀ x, x ∈ n ↔ x ∈ n' := by simp) (hD : ∀ x ∈ D', x ∈ D := by simp) :
    Collects d' f b' l' g' n' D' :=
  { h with
    binds := fun x => (h.binds x).trans (hb x), globals := fun x => (h.globals x).trans (hg x)
    nonlocals := fun x => (h.nonlocals x).trans (hn x), covers := fun enc x hx => h.covers enc x (hl x hx)
    defs := fun x hx => h.defs x (hD x hx), reads := fun H x hx => (hd x).trans (h.reads H x hx) }

theorem Collects.congr_reads {d d' : Eff} {f : Acc → Acc} {b l g n : List String} {D : List Stmt} (h : Collects d f b l g n D)
    (hd : ∀ {Dom Denc Lenc : List String}, Hyp Dom Denc Lenc (f {}) → ∀ x, x ∉ Dom → (QN.sym x ∈ d'.read ↔ QN.sym x ∈ d.read)) :
    Collects d' f b l g n D :=
  { h with reads := fun H x hx => (hd H x hx).trans (h.reads H x hx) }

theorem Collects.exp {d : Eff} {f : Acc → Acc} {b l g n : List String} {D : List Stmt} (h : Collects d f b l g n D) :
    Collects (d.exported false) f b l g n D := h.congr_reads fun _ _ _ => Iff.rfl

theorem Collects.trackComposite {d : Eff} {f : Acc → Acc} {b l g n : List String} {ds : List Stmt} (h : Collects d f b l g n ds)
    {q? : Option QN} (hq : ∀ x, q? ≠ some (.sym x)) (c : Ctx) (cw aug anno : Bool) :
    Collects (d ++ trackEff q? c cw aug anno) f b l g n ds :=
  h.congr_reads fun _ x _ => by
    have : QN.sym x ∉ (trackEff q? c cw aug anno).read := fun h' => hq x (trackEff_read_sym q? c cw aug anno x h')
    simp [this]

theorem Collects.use (d : Eff) (s : String) (hd : ∀ x, QN.sym x ∈ d.read ↔ x = s) :
    Collects d (fun a => a.use s) [] [] [] [] [] :=
  Collects.const { uses := [s] } (by simp [Acc.plus, Acc.use]) (hr := fun x h => by simp [(hd x).mp h]) (hu := by simp [hd])

theorem Collects.bind (d : Eff) (n : String) (hd : ∀ x, QN.sym x ∈ d.read → x = n) :
    Collects d (fun a => a.bind n) [n] [] [] [] [] :=
  Collects.const { binds := [n] } (by simp [Acc.plus, Acc.bind]) (hr := fun x h => by simp [hd x h]) (hu := by simp)

theorem Collects.bindAll (d : Eff) (l : List String) (hd : ∀ x, QN.sym x ∉ d.read) :
    Collects d (fun a => l.foldl Acc.bind a) l [] [] [] [] := by
  induction l generalizing d with
  | nil => exact Collects.id.congr (by simpa using hd)
  | cons n r ih =>
    exact ((Collects.bind {} n (by simp)).comp (ih d hd)).congr (by simp)

theorem Collects.globalDecl (names : List String) :
    Collects ((globalEff names).exported false) (fun a => { a with globals := names ++ a.globals }) [] [] names [] [] :=
  Collects.const { globals := names } (by simp [Acc.plus]) (hr := fun x h => by simpa [globalEff] using h) (hu := by simp)

theorem Collects.nonlocalDecl (names : List String) :
    Collects ((nonlocalEff names).exported false) (fun a => { a with nonlocals := names ++ a.nonlocals }) [] [] [] names [] :=
  Collects.const { nonlocals := names } (by simp [Acc.plus]) (hr := fun x h => by simpa [nonlocalEff] using h) (hu := by simp)

theorem Collects.toBlock_eq {d : Eff} {f : Acc → Acc} {b l g n : List String} {D : List Stmt} (h : Collects d f b l g n D)
    (ps : List String) (i : Nat) (kind : BlockKind) (name : String) :
    (f { params := ps }).toBlock i kind name =
      .mk i kind name ps (f {}).binds (f {}).globals (f {}).nonlocals (f {}).uses [] (f {}).children := by
  rw [h.add]; simp [Acc.plus, Acc.toBlock, h.params, h.walrus]

theorem Collects.toBlock_walrusFree {d : Eff} {f : Acc → Acc} {b l g n : List String} {D : List Stmt} (h : Collects d f b l g n D)
    (ps : List String) (i : Nat) (kind : BlockKind) (name : String) :
    ∀ b' ∈ allBlocks ((f { params := ps }).toBlock i kind name), b'.walrus = [] := by
  rw [h.toBlock_eq, allBlocks_cons]
  exact fun b' hb' => (List.mem_cons.mp hb').elim (fun e => e ▸ rfl) fun hb' => h.walrusFree b' ((allBlocksL_eq _).symm ▸ hb')

theorem Collects.toBlock_defs {d : Eff} {f : Acc → Acc} {b l g n : List String} {D : List Stmt} (h : Collects d f b l g n D)
    (ps : List String) (i : Nat) (kind : BlockKind) (name : String) :
    ∀ s ∈ D, mkDefBlock s ∈ allBlocks ((f { params := ps }).toBlock i kind name) := by
  rw [h.toBlock_eq, allBlocks_cons]
  exact fun s hs => List.mem_cons_of_mem _ (allBlocksL_eq _ ▸ h.defs s hs)

/-- The isolated scope `I` of a def / lambda / class body passes on `read − (bound − nonlocals − globals)` (`Scope.finalize`). -/
theorem block_passes {I : Eff} {ps b l g n : List String} (hI : SetsAre I (ps ++ b) l g n)
    (i : Nat) (kind : BlockKind) (name : String) (cp cb cg cn cu : List String) (children : List Block) (x : String)
    (hp : x ∈ cp ↔ x ∈ ps) (hb : x ∈ cb ↔ x ∈ b) (hg : x ∈ cg ↔ x ∈ g) (hn : x ∈ cn ↔ x ∈ n)
    (hxg : x ∉ g) (hdr : x ∈ n → QN.sym x ∈ I.read) (hl : x ∈ l → x ∈ ps ∨ x ∈ b ∨ x ∈ g ∨ x ∈ n)
    (hsh : kind.functionLike = false → x ∈ ps ∨ x ∈ b → x ∉ outerBs children)
    (hR : x ∉ ps → x ∉ b → x ∉ n → (QN.sym x ∈ I.read ↔ x ∈ cu ∨ x ∈ outerBs children)) :
    QN.sym x ∈ I.read.diff ((I.bound.diff I.nonlocals).diff I.globals) ↔
      x ∈ outerB (.mk i kind name cp cb cg cn cu [] children) := by
  rw [mem_outerB]
  simp only [QSet.mem_diff, hI.bound, hI.nonlocals, hI.globals, List.mem_append, Block.nonlocals, Block.uses, Block.walrus,
    Block.globals, Block.params, Block.binds, Block.children, Block.kind, hp, hb, hg, hn, List.not_mem_nil, or_false]
  generalize outerBs children = co at *
  clear hI
  cases hk : kind.functionLike <;> simp [hxg] at hsh ⊢ <;> grind

theorem SetsAre.classes {I : Eff} {ps b l g n : List String} (hI : SetsAre I (ps ++ b) l g n) {blk : Block} {info : BlockInfo}
    (hinfo : InfoFacts blk info) (hp : ∀ x, x ∈ blk.params ↔ x ∈ ps) (hb : ∀ x, x ∈ blk.binds ↔ x ∈ b)
    (hg : ∀ x, x ∈ blk.globals ↔ x ∈ g) (hn : ∀ x, x ∈ blk.nonlocals ↔ x ∈ n)
    (hl : ∀ x ∈ l, x ∈ ps ∨ x ∈ b ∨ x ∈ g ∨ x ∈ n) (hdisj : ∀ x, ¬ (x ∈ g ∧ x ∈ n)) (x : String) :
    ((QN.sym x ∈ I.bound ∧ QN.sym x ∉ I.globals ∧ QN.sym x ∉ I.nonlocals) ↔ x ∈ info.locals) ∧
    (QN.sym x ∈ I.globals ↔ x ∈ info.declaredGlobals) ∧ (QN.sym x ∈ I.nonlocals ↔ x ∈ info.declaredNonlocals) := by
  obtain ⟨-, -, hil, hig, hin⟩ := hinfo
  have := hl x; have := hdisj x
  simp only [hil, hig, hin, hI.bound, hI.globals, hI.nonlocals, hp, hb, hg, hn, List.mem_append]
  grind

theorem Collects.block_reads {dB : Eff} {f : Acc → Acc} {b l g n : List String} {D : List Stmt} (hC : Collects dB f b l g n D)
    (hM : SetsAre dB b l g n) (hdr : DeclRead dB) (I : Eff) {ps : List String} (hI : SetsAre I (ps ++ b) l g n)
    (hread : ∀ x, QN.sym x ∈ I.read ↔ QN.sym x ∈ dB.read) (cp : List String) (hp : ∀ x, x ∈ cp ↔ x ∈ ps)
    (i : Nat) (kind : BlockKind) (name : String) {Dom Denc : List String}
    (H : Hyp Dom Denc (cp ++ (f {}).binds ++ (f {}).globals ++ (f {}).nonlocals) (f {}))
    (hsh : kind.functionLike = false → ∀ x, x ∈ ps ∨ x ∈ b → x ∉ outerBs (f {}).children)
    (x : String) (hxg : x ∉ g) (hx : x ∈ Dom → x ∈ ps ∨ x ∈ b ∨ x ∈ n) :
    QN.sym x ∈ I.read.diff ((I.bound.diff I.nonlocals).diff I.globals) ↔
      x ∈ outerB ((f { params := cp }).toBlock i kind name) := by
  have hLx := hC.covers.declared H.noL x
  simp only [List.mem_append, hC.binds, hC.globals, hC.nonlocals, hp, or_assoc] at hLx
  rw [hC.toBlock_eq]
  exact block_passes hI i kind name _ _ _ _ _ _ x (hp x) (hC.binds x) (hC.globals x) (hC.nonlocals x) hxg
    (fun hn => (hread x).mpr (hM.nonlocal_read hdr x hn)) hLx
    (fun hk => hsh hk x) fun h1 h2 h3 => (hread x).trans (hC.reads H x fun hd => by rcases hx hd with h | h | h <;> contradiction)

theorem Collects.funBlock_reads {dB : Eff} {f : Acc → Acc} {b l g n : List String} {D : List Stmt} (hC : Collects dB f b l g n D)
    (hM : SetsAre dB b l g n) (hdr : DeclRead dB) (I : Eff) {ps : List String} (hI : SetsAre I (ps ++ b) l g n)
    (hread : ∀ x, QN.sym x ∈ I.read ↔ QN.sym x ∈ dB.read) (cp : List String) (hp : ∀ x, x ∈ cp ↔ x ∈ ps)
    (i : Nat) (kind : BlockKind) (name : String) (hk : kind.functionLike = true)
    (hG : declBelowBs true (cp ++ (f {}).binds ++ (f {}).globals ++ (f {}).nonlocals) (f {}).children = [])
    (hL : leaksBs (cp ++ (f {}).binds ++ (f {}).globals ++ (f {}).nonlocals) (f {}).children = [])
    (hS : shadowBs (f {}).children = []) :
    ∀ x, (QN.sym x ∈ I.read.diff ((I.bound.diff I.nonlocals).diff I.globals) ∧ x ∉ g) ↔
      x ∈ outerB ((f { params := cp }).toBlock i kind name) := by
  intro x
  by_cases hg : x ∈ g
  · simp [hg, hC.toBlock_eq, mem_outerB, Block.globals, Block.kind, hk, (hC.globals x).mpr hg]
  rw [and_iff_left hg]
  exact hC.block_reads hM hdr I hI hread cp hp i kind name
    { binds := fun x hx => by simp [hx], globals := fun x hx => by simp [hx], nonlocals := fun x hx => by simp [hx],
      lenc := fun x hx => hx, denc := fun x hx => hx, noG := hG, noL := hL, noS := hS }
    (fun hk' => absurd hk (by simp [hk'])) x hg
    (by simp only [List.mem_append, hC.binds, hC.globals, hC.nonlocals, hp, or_assoc]; grind)

/-- A block is a step of its own for the effect that reads what the block does not resolve (`congr_reads` compares the model's with it). -/
theorem Collects.block (blk : Block) (L : List String) (D : List Stmt) (hL : ∀ enc x, x ∈ L → x ∉ enc → x ∈ leaksB enc blk)
    (hw : ∀ b ∈ allBlocks blk, b.walrus = []) (hD : ∀ d ∈ D, mkDefBlock d ∈ allBlocks blk) :
    Collects { read := (outerB blk).map QN.sym } (fun a => a.child blk) [] L [] [] D where
  add a := Acc.child_eq_plus a blk
  binds := by simp [Acc.child]
  globals := by simp [Acc.child]
  nonlocals := by simp [Acc.child]
  params := rfl
  walrus := rfl
  covers enc x hx hn := by simpa [Acc.child, leaksBs] using hL enc x hx hn
  walrusFree b hb := hw b (by simpa [Acc.child, allBlocksL] using hb)
  defs d hd := by simpa [Acc.child, allBlocksL] using hD d hd
  reads _ x _ := by simp [accNeeds, Acc.child, outerBs]

theorem Collects.funBlock {dB : Eff} {f : Acc → Acc} {b l g n : List String} {D : List Stmt} (hC : Collects dB f b l g n D)
    (hM : SetsAre dB b l g n) (hdr : DeclRead dB) (po ar va ko kw : List Expr)
    (i : Nat) (kind : BlockKind) (name : String) (hk : kind = .function ∨ kind = .lambda)
    (ownDef : List Stmt)
    (hown : ∀ d ∈ ownDef, mkDefBlock d = (f { params := (po ++ ar ++ ko ++ va ++ kw).filterMap paramName }).toBlock i kind name) :
    Collects ((({ bound := paramNames po ar va ko kw } : Eff).exported false ++ dB.exported false).exported true)
      (fun a => a.child ((f { params := (po ++ ar ++ ko ++ va ++ kw).filterMap paramName }).toBlock i kind name))
      [] (paramStrs po ar va ko kw) [] [] (ownDef ++ D) := by
  have hkf : kind.functionLike = true := by rcases hk with rfl | rfl <;> rfl
  have hkk : (kind == .function || kind == .lambda) = true := by rcases hk with rfl | rfl <;> rfl
  have hkc : kind.isComp = false := by rcases hk with rfl | rfl <;> rfl
  refine (Collects.block _ _ _ ?_ (hC.toBlock_walrusFree _ i kind name) ?_).congr_reads ?_
  · intro enc x hx hn
    have hx' := (mem_specParams_iff po ar va ko kw x).mpr hx
    generalize (po ++ ar ++ ko ++ va ++ kw).filterMap paramName = ps at hx' ⊢
    rw [hC.toBlock_eq]
    simp [leaksB, hkk, hx', hn]
  · intro d hd
    rcases List.mem_append.mp hd with hd | hd
    · rw [hown d hd]; exact mem_allBlocks_self _
    · exact hC.toBlock_defs _ i kind name d hd
  · intro Dom Denc Lenc H x hx
    obtain ⟨-, hG, hL, hS⟩ := Hyp.child H
    have hrel := hC.funBlock_reads hM hdr _ (hM.isolated po ar va ko kw) (by intro x; simp) _ (mem_specParams_iff po ar va ko kw)
      i kind name hkf
    rw [hC.toBlock_eq] at hG hL hS hrel
    rw [declBelowB_eq_nil_iff] at hG
    rw [leaksB_eq_nil_iff] at hL
    rw [shadowB_eq_nil_iff] at hS
    simp only [Block.kind, Block.params, Block.binds, Block.globals, Block.nonlocals, Block.children, hkk, hkc, ↓reduceIte,
      Bool.false_eq_true] at hG hL hS
    refine Iff.trans ?_ (mem_map_sym _ x).symm
    rw [hC.toBlock_eq, Eff.exported_true_read, ← hrel hG.2 hL.2 hS.2 x,
      and_iff_left fun hxg => hx (H.denc x (hG.1 x ((hC.globals x).mpr hxg)))]

/-- A class body is asked outside what the class declares as well; its `global`s are declared by the enclosing def (`hg`); unlike a
    function it takes nothing off what its blocks need, so it must not shadow it (`hsh`). -/
theorem Collects.classBlock_reads {dB : Eff} {f : Acc → Acc} {b l g n : List String} {D : List Stmt} (hC : Collects dB f b l g n D)
    (hM : SetsAre dB b l g n) (hdr : DeclRead dB) (i : Nat) (name : String) {Dom Denc : List String} (hdenc : ∀ y ∈ Denc, y ∈ Dom)
    (hg : ∀ y ∈ (f {}).globals, y ∈ Denc) (hG : declBelowBs true Denc (f {}).children = [])
    (hL : leaksBs ((f {}).binds ++ (f {}).globals ++ (f {}).nonlocals) (f {}).children = [])
    (hsh : ∀ y ∈ (f {}).binds ++ (f {}).nonlocals, y ∉ needsBs (f {}).children) (hS : shadowBs (f {}).children = [])
    (x : String) (hx : x ∉ Dom) :
    QN.sym x ∈ dB.read.diff ((dB.bound.diff dB.nonlocals).diff dB.globals) ↔ x ∈ outerB ((f {}).toBlock i .class_ name) := by
  have hgD : ∀ y ∈ (f {}).globals, y ∈ Dom := fun y hy => hdenc y (hg y hy)
  exact hC.block_reads hM hdr dB (ps := []) (by simpa using hM) (fun _ => Iff.rfl) [] (fun _ => Iff.rfl) i .class_ name
    (Dom := Dom ++ (f {}).binds ++ (f {}).nonlocals) (Denc := Denc)
    { binds := fun y hy => by simp [hy], globals := fun y hy => by simp [hgD y hy], nonlocals := fun y hy => by simp [hy],
      lenc := fun y hy => by
        simp only [List.mem_append, List.not_mem_nil, false_or] at hy ⊢
        rcases hy with (hy | hy) | hy
        · exact Or.inl (Or.inr hy)
        · exact Or.inl (Or.inl (hgD y hy))
        · exact Or.inr hy
      denc := fun y hy => by simp [hdenc y hy], noG := hG, noL := hL, noS := hS }
    (fun _ y hb' hc => hsh y (List.mem_append_left _ ((hC.binds y).mpr (by simpa using hb')))
      (by simpa using outerBs_sub_needsBs _ y hc))
    x (fun hg' => hx (hgD x ((hC.globals x).mpr hg'))) (by simp [hx, hC.binds, hC.nonlocals])

/-- `visit_ClassDef`: the class scope visits the header expressions again (`dA`), so its reads are right only in union with those of the
    header `fH`. -/
theorem Collects.classBlock {dH : Eff} {fH : Acc → Acc} {bH lH gH nH : List String} {DH : List Stmt} (hH : Collects dH fH bH lH gH nH DH)
    {dB : Eff} {f : Acc → Acc} {b l g n : List String} {D : List Stmt} (hC : Collects dB f b l g n D)
    (hM : SetsAre dB b l g n) (hdr : DeclRead dB)
    (dA : Eff) {bh lh : List String} (hh : SetsAre dA bh lh [] []) (hbh : ∀ x ∈ bh, x ∈ bH) (hlh : ∀ x ∈ lh, x ∈ lH)
    (hsub : ∀ x, QN.sym x ∈ dA.read → QN.sym x ∈ dH.read) (i : Nat) (name : String) :
    Collects (dH ++ (dA ++ dB).exported true) (fun a => (fH a).child ((f {}).toBlock i .class_ name)) bH lH gH nH (DH ++ D) := by
  have hblk := hC.toBlock_eq [] i .class_ name
  refine ((hH.comp (Collects.block _ [] D (by simp) (hC.toBlock_walrusFree [] i .class_ name)
    (hC.toBlock_defs [] i .class_ name))).congr_reads ?_).congr (fun _ => Iff.rfl)
  intro Dom Denc Lenc H x hx
  obtain ⟨H, hG, hL, hS⟩ := Hyp.child (a1 := fH {}) H
  rw [Eff.append_read, Eff.append_read, List.mem_append, List.mem_append]
  refine Iff.trans ?_ (or_congr_right (mem_map_sym _ x).symm)
  rw [hblk, declBelowB_eq_nil_iff] at hG
  rw [hblk, leaksB_eq_nil_iff] at hL
  rw [hblk, shadowB_eq_nil_iff] at hS
  simp only [Block.kind, Block.params, Block.binds, Block.globals, Block.nonlocals, Block.children, BlockKind.isComp, ↓reduceIte,
    Bool.false_eq_true, List.nil_append, forall_const, (by decide : (BlockKind.class_ == .function || BlockKind.class_ == .lambda) = false)]
    at hG hL hS
  rw [← hC.classBlock_reads hM hdr i name H.denc hG.1 hG.2 hL.2 hS.1 hS.2 x hx]
  -- the header: what it binds or leaks lies in `Dom`, what it reads is read by `dH` already
  have hhb : QN.sym x ∉ dA.bound := by
    rw [hh.bound]
    rintro (hb | hb | hb)
    · exact hx (H.binds x ((hH.binds x).mpr (hbh x hb)))
    · simp at hb
    · exact hx (H.lenc x (hH.covers.declared H.noL x (hlh x hb)))
  have hsx := hsub x
  simp only [Eff.exported_true_read, Eff.append_read, Eff.append_bound, Eff.append_nonlocals, Eff.append_globals, QSet.mem_diff,
    List.mem_append, hh.globals, hh.nonlocals, List.not_mem_nil, false_or]
  grind

theorem collectE_plain {e : Expr} {ks : List Expr} (h : plainKids e = some ks) (a : Acc) :
    collectE false e a = collectEs false ks a := by
  cases e <;> cases h <;> simp only [collectE, collectEs, Bool.false_eq_true, ↓reduceIte]

theorem collectsE_all :
    (∀ e, FragE e = true → ∀ (fns : List FnCtx) (aug anno : Bool),
      Collects (effE fns aug anno e) (fun a => collectE false e a) (ownBindsE e) (ownLeaksE e) [] [] []) ∧
    (∀ es, FragEs es = true → ∀ (fns : List FnCtx) (aug anno : Bool),
      Collects (effEs fns aug anno es) (fun a => collectEs false es a) (ownBindsEs es) (ownLeaksEs es) [] [] []) := by
  apply Expr.plain_ind
  case nil => exact fun _ _ _ _ => Collects.id
  case cons =>
    exact fun e es ihe ihes hf fns aug anno => (ihe (and_left hf) fns aug anno).comp (ihes (and_right hf) fns aug anno)
  case plain =>
    intro e ks hk ih hf fns aug anno
    rw [effE_plain hk, ownBindsE_plain hk, ownLeaksE_plain hk]
    simp only [collectE_plain hk]
    exact ih (FragE_plain hk ▸ hf) fns aug anno
  case name =>
    intro _ s c _ fns aug anno
    cases c
    · simpa [collectE, effE, ownBindsE, ownLeaksE] using Collects.use (trackEff (some (.sym s)) .load false aug anno) s (by simp [trackEff, eq_comm])
    · simpa [collectE, effE, ownBindsE, ownLeaksE] using Collects.bind (trackEff (some (.sym s)) .store false aug anno) s (by cases aug <;> simp [trackEff])
    · simpa [collectE, effE, ownBindsE, ownLeaksE] using Collects.bind (trackEff (some (.sym s)) .del false aug anno) s (by simp [trackEff])
  case attr =>
    exact fun i v atn c ih hf fns aug anno =>
      (ih hf fns aug anno).trackComposite (qnOf_attr_ne_sym i v atn c) c _ aug anno
  case subscript =>
    exact fun i v sl c ihv ihs hf fns aug anno => ((ihv (and_left hf) fns aug anno).comp (ihs (and_right hf) fns aug anno)).trackComposite
      (qnOf_subscript_ne_sym i v sl c) c false aug anno
  case call =>
    intro _ f as ks ihf ihas ihks hf fns aug anno
    simp only [FragE, Bool.and_eq_true] at hf
    simp only [collectE, effE, ownBindsE, ownLeaksE]
    exact (((ihf hf.1.1 fns aug anno).comp (ihas hf.1.2 fns aug anno)).comp (ihks hf.2 fns aug anno)).congr
      (by intro x; simp; grind)
  case lambda =>
    intro i args body ihargs ihb hf fns aug anno
    cases args with
    | arguments ai po ar va ko kd kw df =>
      obtain ⟨ihkd, ihdf⟩ := ihargs _ _ _ _ _ _ _ _ rfl
      simp only [FragE, Bool.and_eq_true] at hf
      obtain ⟨⟨⟨-, hkd⟩, hdf⟩, hbody⟩ := hf
      simp only [collectE, effE, ownBindsE, ownLeaksE]
      exact (((ihdf hdf (.lam i :: fns) aug anno).comp (ihkd hkd (.lam i :: fns) aug anno)).comp
        ((ihb hbody (.lam i :: fns) aug anno).funBlock (effE_sets body hbody _ aug anno) (DeclRead.ofE ..) po ar va ko kw
          i .lambda "lambda" (.inr rfl) [] nofun)).congr
        (by intro x; simp [paramNames]; grind) (hb := by intro x; simp; grind) (hl := by intro x; simp; grind)
    | _ => simp [FragE] at hf
  case withitem =>
    exact fun _ c v ihc ihv hf fns aug anno => ((ihc (and_left hf) fns aug anno).comp (ihv (and_right hf) fns aug anno)).exp
  case comp => intro _ _ _ _ _ _ _ hf; cases hf
  case comprehension => intro _ _ _ _ _ _ _ _ hf; cases hf
  case arguments => intro _ _ _ _ _ _ _ _ hf; cases hf
  case arg => intro _ _ _ _ hf; cases hf

theorem collectsE (e : Expr) (hf : FragE e = true) (fns : List FnCtx) (aug anno : Bool) :
    Collects (effE fns aug anno e) (fun a => collectE false e a) (ownBindsE e) (ownLeaksE e) [] [] [] :=
  collectsE_all.1 e hf fns aug anno

theorem collectsEs (es : List Expr) (hf : FragEs es = true) (fns : List FnCtx) (aug anno : Bool) :
    Collects (effEs fns aug anno es) (fun a => collectEs false es a) (ownBindsEs es) (ownLeaksEs es) [] [] [] :=
  collectsE_all.2 es hf fns aug anno

/-- `D`: some of the blocks below the appended ones (those of the function definitions, to find them again in the table). -/
structure NewBlocks (a a' : Acc) (D : List Block) : Prop where
  ext : ∃ new, a'.children = a.children ++ new ∧ (∀ b ∈ allBlocksL new, b.walrus = []) ∧ (∀ b ∈ D, b ∈ allBlocksL new)

/-- What `collectE false e` does to the accumulator `a`. -/
structure CollectsE (a a' : Acc) (binds leaks : List String) : Prop where
  binds : ∀ x, x ∈ a'.binds ↔ x ∈ binds ∨ x ∈ a.binds
  globals : a'.globals = a.globals
  nonlocals : a'.nonlocals = a.nonlocals
  params : a'.params = a.params
  walrus : a'.walrus = a.walrus
  children : ∃ new, a'.children = a.children ++ new ∧ Covers new leaks

structure CollectsS (a a' : Acc) (binds leaks globals nonlocals : List String) : Prop where
  binds : ∀ x, x ∈ a'.binds ↔ x ∈ binds ∨ x ∈ a.binds
  globals : ∀ x, x ∈ a'.globals ↔ x ∈ globals ∨ x ∈ a.globals
  nonlocals : ∀ x, x ∈ a'.nonlocals ↔ x ∈ nonlocals ∨ x ∈ a.nonlocals
  params : a'.params = a.params
  walrus : a'.walrus = a.walrus
  children : ∃ new, a'.children = a.children ++ new ∧ Covers new leaks

theorem CollectsS.congr {a a' : Acc} {b l g n b' l' g' n' : List String} (h : CollectsS a a' b l g n)
    (hb : ∀ x, x ∈ b ↔ x ∈ b') (hl : ∀ x, x ∈ l' → x ∈ l) (hg : ∀ x, x ∈ g ↔ x ∈ g') (hn : ∀ x, x ∈ n ↔ x ∈ n') :
    CollectsS a a' b' l' g' n' := by
  obtain ⟨m, e, c⟩ := h.children
  exact ⟨fun x => by rw [h.binds, hb], fun x => by rw [h.globals, hg], fun x => by rw [h.nonlocals, hn], h.params, h.walrus,
    ⟨m, e, fun enc x hx hne => c enc x (hl x hx) hne⟩⟩

theorem Collects.toCollectsS {d : Eff} {f : Acc → Acc} {b l g n : List String} {D : List Stmt} (h : Collects d f b l g n D) (a : Acc) :
    CollectsS a (f a) b l g n := by
  rw [h.add a]
  exact ⟨fun x => by simp [Acc.plus, h.binds], fun x => by simp [Acc.plus, h.globals], fun x => by simp [Acc.plus, h.nonlocals],
    by simp [Acc.plus, h.params], by simp [Acc.plus, h.walrus], ⟨_, rfl, h.covers⟩⟩

theorem Collects.toCollectsE {d : Eff} {f : Acc → Acc} {b l : List String} {D : List Stmt} (h : Collects d f b l [] [] D) (a : Acc) :
    CollectsE a (f a) b l := by
  have hS := h.toCollectsS a
  have hg : (f {}).globals = [] := List.eq_nil_iff_forall_not_mem.mpr fun x hx => by simpa using (h.globals x).mp hx
  have hn : (f {}).nonlocals = [] := List.eq_nil_iff_forall_not_mem.mpr fun x hx => by simpa using (h.nonlocals x).mp hx
  refine ⟨hS.binds, ?_, ?_, hS.params, hS.walrus, hS.children⟩
  · rw [h.add a]; simp [Acc.plus, hg]
  · rw [h.add a]; simp [Acc.plus, hn]

theorem Collects.toNewBlocks {d : Eff} {f : Acc → Acc} {b l g n : List String} {D : List Stmt} (h : Collects d f b l g n D) (a : Acc) :
    NewBlocks a (f a) (D.map mkDefBlock) := by
  rw [h.add a]
  exact ⟨⟨_, rfl, h.walrusFree, fun b hb => by obtain ⟨d, hd, rfl⟩ := List.mem_map.mp hb; exact h.defs d hd⟩⟩

theorem Collects.reads_step {d : Eff} {f : Acc → Acc} {b l g n : List String} {D : List Stmt} (h : Collects d f b l g n D) (a : Acc)
    {Dom Denc Lenc : List String} (H : Hyp Dom Denc Lenc (f a)) :
    ∀ x, x ∉ Dom → ((QN.sym x ∈ d.read ∨ accNeeds a x) ↔ accNeeds (f a) x) := by
  rw [h.add a] at H ⊢
  intro x hx
  rw [accNeeds_plus, h.reads H.of_plus.2 x hx, or_comm]

theorem collectE_spec (e : Expr) (hf : FragE e = true) (a : Acc) :
    CollectsE a (collectE false e a) (ownBindsE e) (ownLeaksE e) := (collectsE e hf [] false false).toCollectsE a

theorem collectEs_spec (es : List Expr) (hf : FragEs es = true) (a : Acc) :
    CollectsE a (collectEs false es a) (ownBindsEs es) (ownLeaksEs es) := (collectsEs es hf [] false false).toCollectsE a

end Malt.Analysis
