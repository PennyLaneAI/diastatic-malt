import MaltModel.Func.Wrapper
import MaltModel.Proofs.FuncSim
import MaltModel.Proofs.FuncCheck
/-!
The function wrapper (`Func/Wrapper.lean`).  Two ideas.  The lowered body initialises `retval_` and never reads it,
and `fscope.ret` maps the placeholder to `None`: so the body (where the jump-lowering model writes `retval_ = None`)
may be run from a state with `retval_` *unbound* instead, with the same outcome, log and other variables
(`SentRel`, `sent_all`).  And `execN` never unbinds a bound slot of the current frame (`nu_all`), so `retval_`,
initialised by the wrapper, is bound when `fscope.ret` reads it.
-/
namespace Malt.Func
open Malt.Sem

/-- Equal except possibly at `x`, where the right state may be unbound while the left one holds `None`. -/
def SentRel (x : Name) (σ τ : St) : Prop :=
  (∀ y, y ≠ x → σ.env y = τ.env y) ∧ σ.log = τ.log ∧
  (σ.env x = τ.env x ∨ (σ.env x = some .none ∧ τ.env x = none)) ∧ σ.env x ≠ none

theorem SentRel.of_env {x : Name} {σ τ σ₁ τ₁ : St} (h : SentRel x σ τ) (h1 : σ₁.env = σ.env) (h2 : τ₁.env = τ.env)
    (hl : σ₁.log = τ₁.log) : SentRel x σ₁ τ₁ := by
  refine ⟨fun y hy => by rw [h1, h2]; exact h.1 y hy, hl, ?_, ?_⟩
  · rw [h1, h2]; exact h.2.2.1
  · rw [h1]; exact h.2.2.2

theorem SentRel.set {x : Name} {σ τ : St} (h : SentRel x σ τ) (y : Name) (v : Val) : SentRel x (σ.set y v) (τ.set y v) := by
  refine ⟨fun z hz => ?_, h.2.1, ?_, ?_⟩
  · by_cases hzy : z = y
    · simp [St.set, hzy]
    · simp only [St.set, hzy, if_false]; exact h.1 z hz
  · by_cases hxy : x = y
    · left; simp [St.set, hxy]
    · simp only [St.set, hxy, if_false]; exact h.2.2.1
  · by_cases hxy : x = y
    · simp [St.set, hxy]
    · simp only [St.set, hxy, if_false]; exact h.2.2.2

theorem SentRel.push {x : Name} {σ τ : St} (h : SentRel x σ τ) (e : Event) : SentRel x (σ.push e) (τ.push e) :=
  ⟨h.1, by simp [St.push, h.2.1], h.2.2.1, h.2.2.2⟩

theorem sent_eval (X : Ext) {x : Name} {e : Expr} {σ τ : St} (hx : x ∉ vars e) (h : SentRel x σ τ) :
    (evalE X e σ).1 = (evalE X e τ).1 ∧ SentRel x (evalE X e σ).2 (evalE X e τ).2 := by
  have hc := evalE_congr X e σ τ (fun y hy => h.1 y (fun hyx => hx (hyx ▸ hy))) h.2.1
  exact ⟨hc.1, h.of_env (evalE_env X e σ) (evalE_env X e τ) hc.2⟩

theorem notin_left {x : Name} {a b : List Name} (h : x ∉ a ++ b) : x ∉ a := fun hh => h (List.mem_append.mpr (Or.inl hh))
theorem notin_right {x : Name} {a b : List Name} (h : x ∉ a ++ b) : x ∉ b := fun hh => h (List.mem_append.mpr (Or.inr hh))

theorem sent_all (X : Ext) (x : Name) : ∀ n,
    (∀ (s : AStmt) (σ τ : St), x ∉ readsS s → SentRel x σ τ →
      Matched (SentRel x) (exec X n (eraseS s) σ) (exec X n (eraseS s) τ)) ∧
    (∀ (b : ABlock) (σ τ : St), x ∉ readsB b → SentRel x σ τ →
      Matched (SentRel x) (execB X n (eraseB b) σ) (execB X n (eraseB b) τ)) ∧
    (∀ (y : Name) (extra : Option Expr) (b : ABlock) (items : List Val) (σ τ : St), x ∉ varsO extra → x ∉ readsB b →
      SentRel x σ τ → Matched (SentRel x) (execFor X n y extra (eraseB b) items σ) (execFor X n y extra (eraseB b) items τ))
  | 0 => by
    refine ⟨fun s σ τ _ _ o σ₁ h => ?_, fun b σ τ _ _ o σ₁ h => ?_, fun y extra b items σ τ _ _ _ o σ₁ h => ?_⟩ <;> cases h
  | n+1 => by
    obtain ⟨hS, hB, hF⟩ := sent_all X x n
    have next : ∀ (y : Name) (extra : Option Expr) (b : ABlock) (items : List Val) (σ τ : St), x ∉ varsO extra →
        x ∉ readsB b → SentRel x σ τ →
        Matched (SentRel x) (extraThen (evalE X) extra (execFor X n y extra (eraseB b) items) σ)
          (extraThen (evalE X) extra (execFor X n y extra (eraseB b) items) τ) := by
      intro y extra b items σ τ hxe hxb hr
      exact extraThen_matched (fun t ht => sent_eval X (by subst ht; exact hxe) hr) hr fun σ' τ' h' =>
        hF y extra b items σ' τ' hxe hxb h'
    refine ⟨fun s σ τ hx hr => ?_, fun b σ τ hx hr => ?_, fun y extra b items σ τ hxe hxb hr => ?_⟩
    · cases s with
      | assign i y e =>
        obtain ⟨h1, h2⟩ := sent_eval X (e := e) hx hr
        simp only [eraseS, exec_assign]
        exact valThen_matched h1 h2 fun v => .pure (h2.set y v)
      | expr i e =>
        obtain ⟨h1, h2⟩ := sent_eval X (e := e) hx hr
        simp only [eraseS, exec_expr]
        exact valThen_matched h1 h2 fun v => .pure h2
      | pass i => exact .pure hr
      | raise i t => exact .pure hr
      | ret i e =>
        cases e with
        | none => exact .pure hr
        | some e =>
          obtain ⟨h1, h2⟩ := sent_eval X (e := e) hx hr
          simp only [eraseS, exec_ret]
          exact valThen_matched h1 h2 fun v => .pure h2
      | ifS i c t e =>
        have hx : x ∉ vars c ++ (readsB t ++ readsB e) := hx
        obtain ⟨h1, h2⟩ := sent_eval X (notin_left hx) hr
        simp only [eraseS, exec_if]
        exact valThen_matched h1 h2 fun v => ite_matched (hB t _ _ (notin_left (notin_right hx)) h2)
          (hB e _ _ (notin_right (notin_right hx)) h2)
      | whileS i c b =>
        have hx0 := hx
        have hx : x ∉ vars c ++ readsB b := hx
        obtain ⟨h1, h2⟩ := sent_eval X (notin_left hx) hr
        simp only [eraseS, exec_while]
        exact valThen_matched h1 h2 fun v => ite_matched
          (loopThen_matched (hB b _ _ (notin_right hx) h2) fun σb τb hb => hS (.whileS i c b) σb τb hx0 hb) (.pure h2)
      | forS i y it extra b =>
        have hx : x ∉ vars it ++ (varsO extra ++ readsB b) := hx
        obtain ⟨h1, h2⟩ := sent_eval X (notin_left hx) hr
        simp only [eraseS, exec_for]
        refine valThen_matched h1 h2 fun v => ?_
        cases iterItems v with
        | error ex => exact .pure h2
        | ok items => exact next y extra b items _ _ (notin_left (notin_right hx)) (notin_right (notin_right hx)) h2
      | withS i tag b =>
        simp only [eraseS, exec_with]
        exact bind_matched (hB b _ _ hx (hr.push _)) fun _ _ _ h => .pure (h.push _)
      | tryS i b hs f =>
        have hx : x ∉ readsB b ++ (readsH hs ++ readsB f) := hx
        simp only [eraseS, exec_try]
        refine bind_matched (hB b σ τ (notin_left hx) hr) fun ob σb τb hrb =>
          bind_matched ?_ fun o2 σ2 τ2 hr2 =>
            andThen_matched (hB f σ2 τ2 (notin_right (notin_right hx)) hr2) fun _ _ h => .pure h
        rw [handleThen_erase, handleThen_erase]
        cases hfa : handlerOf hs ob with
        | none => exact .pure hrb
        | some hbk =>
          obtain ⟨t, -, hft⟩ := handlerOf_some hfa
          exact hB hbk σb τb (fun hh => notin_left (notin_right hx) ((find_facts hs t hbk hft).reads hh)) hrb
    · cases b with
      | nil => exact .pure hr
      | cons s rest =>
        have hx : x ∉ readsS s ++ readsB rest := hx
        simp only [eraseB, Sem.execB_cons]
        exact andThen_matched (hS s σ τ (notin_left hx) hr) fun σ₂ τ₂ h₂ => hB rest σ₂ τ₂ (notin_right hx) h₂
    · cases items with
      | nil => exact .pure hr
      | cons v items =>
        simp only [execFor_cons]
        exact loopThen_matched (hB b _ _ hxb (hr.set y v)) fun σb τb hb => next y extra b items σb τb hxe hxb hb

theorem setSlot_bound {σ : TSt} {x y : Name} {s : Slot} (hs : s ≠ .unbound) (h : σ.env x ≠ .unbound) :
    (σ.setSlot y s).env x ≠ .unbound := by
  simp only [TSt.setSlot]
  split <;> assumption

theorem nu_all (X : Ext) (x : Name) : ∀ n,
    (∀ s σ, σ.env x ≠ .unbound → Post (fun _ τ => τ.env x ≠ .unbound) (execN X n s σ)) ∧
    (∀ b σ, σ.env x ≠ .unbound → Post (fun _ τ => τ.env x ≠ .unbound) (execNB X n b σ)) ∧
    (∀ y extra body decl items σ, σ.env x ≠ .unbound →
      Post (fun _ τ => τ.env x ≠ .unbound) (execNFor X n y extra body decl items σ))
  | 0 => by
    refine ⟨fun s σ _ o τ h => ?_, fun b σ _ o τ h => ?_, fun y extra body decl items σ _ o τ h => ?_⟩ <;> cases h
  | n+1 => by
    obtain ⟨ihS, ihB, ihF⟩ := nu_all X x n
    -- a call of a generated function: the slot is either frame-local (restored) or seen by the body
    have call : ∀ L b σ, σ.env x ≠ .unbound →
        Post (fun _ τ => τ.env x ≠ .unbound) (withFrame L σ (execNB X n b (mask L σ))) := by
      intro L b σ hb o τ h
      obtain ⟨o', ν, hrun, heq⟩ := withFrame_inv h
      cases heq
      simp only [restore]
      split
      · exact hb
      · rename_i hL
        exact ihB b _ (by simp only [mask, hL, Bool.false_eq_true, if_false]; exact hb) o' ν hrun
    have next : ∀ y extra body decl items σ, σ.env x ≠ .unbound → Post (fun _ τ => τ.env x ≠ .unbound)
        (extraThen (evalT X) extra (execNFor X n y extra body decl items) σ) := fun y extra body decl items σ hb =>
      extraThen_post (I := fun τ => τ.env x ≠ .unbound) hb (fun _ _ h => by exact h) (fun τ hτ => ihF _ _ _ _ _ τ hτ)
        (fun _ h => h) fun _ _ _ h => h
    refine ⟨fun s σ hb => ?_, fun b σ hb => ?_, fun y extra body decl items σ hb => ?_⟩
    · cases s with
      | assign y e =>
        rw [execN_assign]
        exact valThen_post (fun v _ => .pure (setSlot_bound (by simp) hb)) fun _ _ => hb
      | expr e => rw [execN_expr]; exact valThen_post (fun v _ => .pure hb) fun _ _ => hb
      | pass => exact .pure hb
      | raise t => exact .pure hb
      | ret e =>
        cases e with
        | none => exact .pure hb
        | some e => rw [execN_ret]; exact valThen_post (fun v _ => .pure hb) fun _ _ => hb
      | undefAssign y => exact .pure (setSlot_bound (by simp) hb)
      | ifF c body orelse decl nouts =>
        rw [execN_ifF]
        exact valThen_post (fun v _ => ite_post (fun _ => call _ _ _ hb) fun _ => call _ _ _ hb) fun _ _ => hb
      | whileF c body decl =>
        rw [execN_whileF]
        exact valThen_post (fun v _ => ite_post (fun _ => .pure hb) fun _ =>
          andThen_post (call _ _ _ hb) (fun τ hτ => ihS _ τ hτ) fun _ _ _ h => h) fun _ _ => hb
      | forF y it extra body decl =>
        rw [execN_forF]
        refine valThen_post (fun v _ => ?_) fun _ _ => hb
        cases iterItems v with
        | error ex => exact .pure hb
        | ok items => exact next _ _ _ _ _ _ hb
      | withT tag body =>
        rw [execN_withT]
        exact bind_post (ihB body (σ.push (.enter tag)) hb) fun _ _ h => .pure h
      | tryT body hs fin =>
        rw [execN_try]
        exact bind_post (ihB body σ hb) fun ob σb hb1 => bind_post (Q := fun _ τ => τ.env x ≠ .unbound)
          (handleThen_post (fun _ hbk _ _ => ihB hbk σb hb1) fun _ => hb1)
          fun o2 σ2 hb2 => finallyThen_post (ihB fin σ2 hb2) (fun _ h => h) fun _ _ _ h => h
    · cases b with
      | nil => exact .pure hb
      | cons s rest =>
        rw [execNB_cons]
        exact andThen_post (ihS s σ hb) (fun τ hτ => ihB rest τ hτ) fun _ _ _ h => h
    · cases items with
      | nil => exact .pure hb
      | cons v items =>
        rw [execNFor_cons]
        exact andThen_post (call _ _ _ hb) (fun τ hτ => next _ _ _ _ _ τ hτ) fun _ _ _ h => h

theorem blockIn_append (a b : ABlock) (O : List Name) : blockIn (a ++ b) O = blockIn a (blockIn b O) := by
  cases a <;> rfl

theorem LiveB_append (K : ExcCtx) : ∀ (a b : ABlock) (O : List Name), LiveB K (a ++ b) O →
    LiveB K a (blockIn b O) ∧ LiveB K b O
  | [], b, O, h => ⟨by simp [LiveB], h⟩
  | s :: r, b, O, h => by
      simp only [List.cons_append, LiveB] at h
      obtain ⟨h1, h2⟩ := LiveB_append K r b O h.2.2
      simp only [LiveB]
      exact ⟨⟨h.1, by rw [← blockIn_append]; exact h.2.1, h1⟩, h2⟩

theorem DeclB_append : ∀ (a b : ABlock), DeclB (a ++ b) → DeclB a ∧ DeclB b
  | [], b, h => ⟨by simp [DeclB], h⟩
  | s :: r, b, h => by
      simp only [List.cons_append, DeclB] at h
      obtain ⟨h1, h2⟩ := DeclB_append r b h.2
      simp only [DeclB]
      exact ⟨⟨h.1, h1⟩, h2⟩

theorem DefB_append : ∀ (D : List Name) (a b : ABlock), DefB D (a ++ b) → DefB D a ∧ DefB (D ++ asgB a) b
  | D, [], b, h => ⟨by simp [DefB], by simpa [asgB] using h⟩
  | D, s :: r, b, h => by
      simp only [List.cons_append, DefB] at h
      obtain ⟨h1, h2⟩ := DefB_append _ r b h.2
      simp only [DefB]
      exact ⟨⟨h.1, h1⟩, by simpa [asgB, List.append_assoc] using h2⟩

theorem eraseB_append : ∀ (a b : ABlock), eraseB (a ++ b) = eraseB a ++ eraseB b
  | [], b => rfl
  | s :: r, b => by simp [eraseB, eraseB_append r b]

theorem blockIn_cons (s : AStmt) (r : ABlock) (O : List Name) : blockIn (s :: r) O = s.info.liveIn := rfl

theorem execB_assign_const (X : Ext) {n : Nat} {x : Name} {v : Val} {rest : Block} {σ : St} {r : Out × St}
    (h : execB X n (.assign x (.const v) :: rest) σ = some r) : ∃ k, execB X k rest (σ.set x v) = some r := by
  cases n with
  | zero => exact nomatch h
  | succ n =>
    obtain ⟨os, σs, hs, hc⟩ := execB_cons_inv h
    cases n with
    | zero => exact nomatch hs
    | succ n =>
      cases hs
      exact hc.elim (fun hr => ⟨_, hr.2⟩) fun hne => absurd rfl hne.1

theorem execB_ret_var (X : Ext) {n : Nat} {x : Name} {σ : St} {r : Out × St}
    (h : execB X n [.ret (some (.var x))] σ = some r) :
    r = (match σ.env x with | some v => .ret v | none => .exc (.nameError x), σ) := by
  cases n with
  | zero => exact nomatch h
  | succ n =>
    obtain ⟨os, σs, hs, hc⟩ := execB_cons_inv h
    cases n with
    | zero => exact nomatch hs
    | succ n =>
      rw [exec_ret, evalE_var] at hs
      cases hv : σ.env x <;> rw [hv] at hs <;> cases hs <;> exact hc.elim (fun hr => absurd hr.1 nofun) (·.2)

theorem execB_retShape_inv (X : Ext) {n : Nat} {dr rv : Name} {mid : Block} {σ σ₁ : St} {o : Out}
    (h : execB X n (.assign dr (.const (.int 0)) :: .assign rv (.const .none) :: (mid ++ [.ret (some (.var rv))])) σ =
      some (o, σ₁)) :
    ∃ k om, execB X k mid ((σ.set dr (.int 0)).set rv .none) = some (om, σ₁) ∧
      o = (match om with
        | .normal => (match σ₁.env rv with | some v => .ret v | none => .exc (.nameError rv))
        | _ => om) := by
  obtain ⟨k1, h1⟩ := execB_assign_const X h
  obtain ⟨k2, h2⟩ := execB_assign_const X h1
  obtain ⟨om, σm, hmid, halt⟩ := execB_append_inv X mid _ _ _ _ h2
  rcases halt with ⟨rfl, m₂, hret⟩ | ⟨hne, heq⟩
  · cases execB_ret_var X hret
    exact ⟨k2, .normal, hmid, rfl⟩
  · cases heq
    exact ⟨k2, o, hmid, by cases o <;> first | exact absurd rfl hne | rfl⟩

theorem Wrapper.exit_enter (w : Wrapper) (stk : CtxStack) : w.exit (w.enter stk) = stk := by
  cases hu : w.userRequested <;> simp [Wrapper.exit, Wrapper.enter, hu]

theorem result_exc (w : Wrapper) (e : Exc) (τ : TSt) : w.result (.exc e) τ = .exc e := by
  simp [Wrapper.result, exitSwallows]

/-- The source has no `return`: the block inside the `with` is the functionalised body. -/
theorem wrapper_plain (X : Ext) (w : Wrapper) (hw : w.retVars = none) (q : ABlock) (D : List Name)
    (hyp : FuncHyp D q []) (hnr : noRetB q = true)
    (σ : St) (σ' : TSt) (hag : Agree (blockIn q []) σ σ') (hb : BoundSub σ D) (stk : CtxStack)
    (n : Nat) (o : Out) (σ₁ : St) (h : execB X n (eraseB q) σ = some (o, σ₁)) :
    ∃ m τ, callW X m w (funcB q) σ' stk = some (fnOutcome o, τ, stk) ∧ τ.log = σ₁.log := by
  obtain ⟨τ, ⟨m, hx⟩, hout⟩ :=
    (sim_all X n).2.1 q ExcCtx.top D [] σ σ' hyp.live hyp.decl hyp.defd hyp.jump hag hb o σ₁ h
  refine ⟨m, τ, ?_, hout.2⟩
  simp only [callW, Wrapper.inner, hw, hx, Wrapper.exit_enter]
  rcases ((src_all X n).2.1 q D σ hb o σ₁ h).1 hnr with rfl | ⟨e, rfl⟩
  · simp [Wrapper.result, hw, fnOutcome]
  · simp [result_exc, fnOutcome]

/-- The source state after `do_return = False; retval_ = None`, with `retval_` unbound instead. -/
def retSrcInit (dr rv : Name) (σ : St) : St :=
  { env := fun y => if y = rv then none else (σ.set dr (.int 0)).env y, log := σ.log }

/-- The target state after `do_return = False; retval_ = UndefinedReturnValue()`. -/
def retTgtInit (dr rv : Name) (σ' : TSt) : TSt := (σ'.set dr (.int 0)).setSlot rv .undef

/-- The placeholder and `None` both come back as `None`. -/
theorem fscopeRet_bound (rv : Name) {s : Slot} (h : s ≠ .unbound) : fscopeRet rv s = .ret (s.toOpt.getD .none) := by
  cases s <;> first | rfl | exact absurd rfl h

theorem fscopeRet_agree (rv : Name) (L : List Name) (hrvlive : rv ∈ L) (σm σmu : St) (τ : TSt)
    (hrelm : SentRel rv σm σmu) (hag : Agree L σmu τ) (hnu : τ.env rv ≠ .unbound) :
    fscopeRet rv (τ.env rv) = (match σm.env rv with | some v => .ret v | none => .exc (.nameError rv)) := by
  rw [fscopeRet_bound rv hnu, hag.1 rv hrvlive]
  rcases hrelm.2.2.1 with heq | ⟨hn, hu⟩
  · rw [← heq]
    cases hsv : σm.env rv with
    | none => exact absurd hsv hrelm.2.2.2
    | some v => rfl
  · rw [hn, hu]; rfl

/-- Shape (b): the two initialisations run first, and `retval_` is never unbound again. -/
theorem inner_rets {X : Ext} {w : Wrapper} {dr rv : Name} (hw : w.retVars = some (dr, rv)) {b : TBlock} {σ' : TSt}
    {o : Out} {τ : TSt} (h : RunNB X b (retTgtInit dr rv σ') (o, τ)) :
    RunNB X (w.inner b) σ' (o, τ) ∧ τ.env rv ≠ .unbound := by
  refine ⟨by simp only [Wrapper.inner, hw]; exact .cons (.assign rfl) (.cons .undefAssign h), ?_⟩
  obtain ⟨m, hm⟩ := h
  exact (nu_all X rv m).2.1 _ (retTgtInit dr rv σ') (by simp [retTgtInit, TSt.setSlot]) o τ hm

theorem Lowered.wf_rets {dr rv : Name} {i₁ i₂ i₃ : Info} {mid : ABlock} (h : (Lowered.rets dr rv i₁ i₂ i₃ mid).wf = true) :
    noRetB mid = true ∧ rv ∉ readsB mid := by
  simpa only [Lowered.wf, Bool.and_eq_true, Bool.not_eq_true', List.contains_eq_mem, decide_eq_false_iff_not] using h

/-- Shape (b): `do_return = False; retval_ = UndefinedReturnValue(); mid; return fscope.ret(retval_, do_return)`
against the `Malt.Sem` program `do_return = False; retval_ = None; mid; return retval_` of the jump-lowering model. -/
theorem wrapper_ret (X : Ext) (w : Wrapper) (dr rv : Name) (hw : w.retVars = some (dr, rv))
    (i₁ i₂ i₃ : Info) (mid : ABlock) (D : List Name)
    (hyp : FuncHyp D (retShape dr rv i₁ i₂ i₃ mid) []) (hnr : noRetB mid = true) (hrv : rv ∉ readsB mid)
    (σ : St) (σ' : TSt) (hag : Agree i₁.liveIn σ σ') (hb : BoundSub σ D) (stk : CtxStack)
    (n : Nat) (o : Out) (σ₁ : St) (h : execB X n (eraseB (retShape dr rv i₁ i₂ i₃ mid)) σ = some (o, σ₁)) :
    ∃ m τ, callW X m w (funcB mid) σ' stk = some (fnOutcome o, τ, stk) ∧ τ.log = σ₁.log := by
  obtain ⟨⟨_, hl1, _⟩, hs12, ⟨_, hl2, _⟩, hs2r, hlrest⟩ := hyp.live
  obtain ⟨hlmid, hlret⟩ := LiveB_append _ mid _ _ hlrest
  obtain ⟨hdmid, _⟩ := DeclB_append mid _ hyp.decl.2.2
  obtain ⟨hfmid, _⟩ := DefB_append _ mid _ hyp.defd.2.2
  have hrvlive : rv ∈ i₃.liveIn := hlret.1.1 (List.mem_singleton_self rv)
  simp only [retShape, eraseB, eraseS, eraseB_append] at h
  obtain ⟨k, om, hmid, ho⟩ := execB_retShape_inv X h
  have hrel : SentRel rv ((σ.set dr (.int 0)).set rv .none) (retSrcInit dr rv σ) := by
    refine ⟨fun y hy => by simp [retSrcInit, St.set, hy], rfl, Or.inr ⟨by simp [St.set], by simp [retSrcInit]⟩, by simp [St.set]⟩
  obtain ⟨σmu, hmidu, hrelm⟩ := (sent_all X rv _).2.1 mid _ _ hrv hrel om σ₁ hmid
  rw [blockIn_append] at hs2r
  have hag2 : Agree (blockIn mid i₃.liveIn) (retSrcInit dr rv σ) (retTgtInit dr rv σ') :=
    (hag.set dr (.int 0) fun y hy hyd => hl1 (List.mem_filter.mpr ⟨hs12 hy, by simpa using hyd⟩)).unset rv
      fun y hy hyr => hl2 (List.mem_filter.mpr ⟨hs2r hy, by simpa using hyr⟩)
  have hb2 : BoundSub (retSrcInit dr rv σ) (D ++ [dr] ++ [rv]) := by
    intro y hy
    simp only [retSrcInit] at hy
    split at hy
    · exact absurd rfl hy
    · exact List.mem_append.mpr (Or.inl (hb.set dr (.int 0) (List.subset_append_left _ _) (by simp) y hy))
  obtain ⟨τm, hx, hout⟩ :=
    (sim_all X _).2.1 mid ExcCtx.top (D ++ [dr] ++ [rv]) i₃.liveIn _ _ hlmid hdmid hfmid
      (noRet_retTopB mid hnr) hag2 hb2 om σmu hmidu
  obtain ⟨⟨m, hrun⟩, hnu⟩ := inner_rets hw hx
  refine ⟨m, τm, ?_, by rw [hout.2, ← hrelm.2.1]⟩
  simp only [callW, hrun, Wrapper.exit_enter]
  rcases ((src_all X _).2.1 mid _ _ hb2 om σmu hmidu).1 hnr with rfl | ⟨e, rfl⟩
  · -- the body ended normally: the source returns the value of `retval_`
    have hr := fscopeRet_agree rv i₃.liveIn hrvlive σ₁ σmu τm hrelm hout hnu
    subst ho
    simp only [Wrapper.result, hw, hr]
    cases σ₁.env rv <;> rfl
  · -- the body raised: the exception passes the `with`
    subst ho
    simp [result_exc, fnOutcome]

theorem annotB_append (A : Ann) : ∀ (a : Block) (k : Nat) (b : Block),
    annotB A k (a ++ b) = (match annotB A k a, annotB A (k + a.length) b with
      | some a', some b' => some (a' ++ b')
      | _, _ => none)
  | [], k, b => by
      simp only [List.nil_append, annotB, List.length_nil, Nat.add_zero]
      cases annotB A k b <;> rfl
  | s :: a, k, b => by
      simp only [List.cons_append, annotB, List.length_cons]
      rw [annotB_append A a (k+1) b]
      have : k + 1 + a.length = k + (a.length + 1) := by omega
      rw [this]
      cases annotS (fun p => A (k :: p)) s <;> cases annotB A (k+1) a <;>
        cases annotB A (k + (a.length + 1)) b <;> rfl

theorem annotL_erase (ann : Ann) (s : SrcLowered) (l : Lowered) (h : annotL ann s = some l) :
    eraseB l.prog = s.prog := by
  cases s with
  | plain p =>
    simp only [annotL, Option.map_eq_some_iff] at h
    obtain ⟨q, hq, rfl⟩ := h
    exact annotB_erase p ann 0 q hq
  | rets dr rv r =>
    simp only [annotL, Option.map_eq_some_iff] at h
    obtain ⟨mid, hq, rfl⟩ := h
    simp only [Lowered.prog, retShape, eraseB, eraseS, eraseB_append, SrcLowered.prog, annotB_erase r ann 2 mid hq]

/-- Both shapes; stated as `function_wrapper_correct` in `Props/C01Func`. -/
theorem wrapper_both (X : Ext) (l : Lowered) (hwf : l.wf = true) (name : String) (ur : Bool) (D : List Name)
    (hyp : FuncHyp D l.prog [])
    (σ : St) (σ' : TSt) (hag : Agree (blockIn l.prog []) σ σ') (hb : BoundSub σ D) (stk : CtxStack)
    (n : Nat) (o : Out) (σ₁ : St) (h : execB X n (eraseB l.prog) σ = some (o, σ₁)) :
    ∃ m τ, callConverted X m l name ur σ' stk = some (fnOutcome o, τ, stk) ∧ τ.log = σ₁.log := by
  cases l with
  | plain q =>
    exact wrapper_plain X _ rfl q D hyp hwf σ σ' hag hb stk n o σ₁ h
  | rets dr rv i₁ i₂ i₃ mid =>
    exact wrapper_ret X _ dr rv rfl i₁ i₂ i₃ mid D hyp (Lowered.wf_rets hwf).1 (Lowered.wf_rets hwf).2 σ σ' hag hb stk n o σ₁ h

end Malt.Func
