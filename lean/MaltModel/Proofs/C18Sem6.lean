import MaltModel.Proofs.C18Sem5
import MaltModel.Proofs.C18Stmt
namespace Malt.Anf
open Malt.Py Malt.SemAnf

abbrev SimB (O : Oracle) (orig : St → SR) (ss : List Stmt) : Prop := Sim2 Agree orig (execB O ss)

/-- Visiting a statement with nothing pending leaves nothing pending (so a block can be simulated statement by
statement), and what it returns simulates the original. -/
def StmtSim (O : Oracle) (cfg : Config) (s : Stmt) : Prop :=
  (∀ y ∈ namesS s, isTempName y = false) → ∀ n : Nat,
    Sat (visitS cfg s n []) fun (ss, _, pend') => pend' = [] ∧ SimB O (execS O s) ss

def BlockSim (O : Oracle) (cfg : Config) (l : List Stmt) : Prop :=
  (∀ y ∈ namesSs l, isTempName y = false) → ∀ n : Nat,
    Sat (visitSs cfg l n []) fun (ss, _, pend') => pend' = [] ∧ SimB O (execB O l) ss

def HandlersSim (O : Oracle) (cfg : Config) (hs : List Stmt) : Prop :=
  (∀ y ∈ namesSs hs, isTempName y = false) → ∀ n : Nat,
    Sat (visitSs cfg hs n []) fun (ss, _, pend') => pend' = [] ∧ ∀ x, Sim2 Agree (execH O hs x) (execH O ss x)

theorem simB_of_simK {α : Type} {O : Oracle} {G : List Stmt} {k k' : St → ER α} {fin fin' : α → St → SR} {s s' : Stmt}
    (hs : ∀ σ, execS O s σ = thenS k fin σ) (hs' : ∀ σ, execS O s' σ = thenS k' fin' σ)
    (hfin : ∀ a, Sim2 Agree (fin a) (fin' a)) (h : SimK O G k k') : SimB O (execS O s) (G ++ [s']) := by
  intro σ σ' hA
  rw [execB_append]
  rcases h.cases hA with ⟨σ2, r, σ1, τ1, hG, hk, hk', hag⟩ | ⟨x, σ1, σ2, hG, hk, hag⟩
  · simp only [hG, execB_single, hs, hs', thenS, hk, hk']
    cases r with
    | error x => exact ⟨rfl, hag⟩
    | ok a => exact hfin a σ1 τ1 hag
  · simp only [hG, hs, thenS, hk]
    exact ⟨trivial, hag⟩

theorem simE_of_simL {O : Oracle} {v v2 : Expr} {G : List Stmt} (h : SimL O [v] [v2] G) : SimE O v v2 G := by
  intro σ σ' hA
  have := h σ σ' hA
  simp only [evalOpts] at this
  revert this
  rcases execB O G σ' with ⟨o, σ2⟩
  rcases evalE O v σ with ⟨r, σ1⟩
  cases o with
  | normal =>
    simp only
    rcases evalE O v2 σ2 with ⟨r', σ1'⟩
    cases r <;> cases r' <;> simp
  | raise x => cases r <;> simp
  | _ => exact id

/-- The one ensured operand of `return`, `raise`, `if`, `for`: `simKids` with a single entry. -/
theorem simOne (O : Oracle) (cfg : Config) (pk fld : String) {v : Expr} (hf : fragE v = true) (hok : okT cfg v = true)
    (hnt : ∀ y ∈ namesE v, isTempName y = false) (n : Nat) :
    Sat (visitE cfg v n) fun (v1, d1, n1) => SimE O v (ensure cfg pk fld v1 n1).1 (d1 ++ (ensure cfg pk fld v1 n1).2.1) := by
  intro (v1, d1, n1) hv
  have hk := simKids O cfg pk (fks := [(fld, v)]) (n := n) (ks1 := [v1]) (D := d1 ++ []) (n1 := n1)
    (ks2 := [(ensure cfg pk fld v1 n1).1]) (H := (ensure cfg pk fld v1 n1).2.1 ++ []) (n2 := (ensure cfg pk fld v1 n1).2.2)
    (by simp [fragEs, hf]) (by simpa [namesEs] using hnt) (pairsOkT_single _ _ _)
    (by intro p hp
        simp only [List.mem_singleton] at hp; subst hp
        exact simE O cfg v hf hok hnt)
    (by simp [visitEs, hv, bind, Except.bind, pure, Except.pure]) (by simp [ensureFs])
  exact simE_of_simL (by simpa using hk)

theorem isNameT_spec {t : Expr} (h : isNameT t = true) : ∃ j x c, t = .name j x c := by
  cases t <;> simp [isNameT] at h
  exact ⟨_, _, _, rfl⟩

theorem isSingleName_spec {ts : List Expr} (h : isSingleName ts = true) : ∃ j x c, ts = [.name j x c] := by
  match ts, h with
  | [t], h =>
    obtain ⟨j, x, c, rfl⟩ := isNameT_spec h
    exact ⟨j, x, c, rfl⟩

theorem evalEmit_agree (O : Oracle) {o : Expr} (hf : fragE o = true) (hnt : ∀ y ∈ namesE o, isTempName y = false)
    (ev : Val → Event) :
    Sim2 Agree (thenS (evalE O o) fun x σ => (.normal, σ.emit (ev x))) (thenS (evalE O o) fun x σ => (.normal, σ.emit (ev x))) :=
  Sim2.thenS (evalE_agree O hf hnt) fun _ _ _ h => ⟨rfl, h.emit_both _⟩

theorem evalEmit2_agree (O : Oracle) {o s : Expr} (hfo : fragE o = true) (hfs : fragE s = true)
    (hnt : ∀ y ∈ namesE o ++ namesE s, isTempName y = false) (ev : Val → Val → Event) :
    Sim2 Agree (thenS (evalE O o) fun x => thenS (evalE O s) fun y σ => (.normal, σ.emit (ev x y)))
      (thenS (evalE O o) fun x => thenS (evalE O s) fun y σ => (.normal, σ.emit (ev x y))) :=
  Sim2.thenS (evalE_agree O hfo fun y hy => hnt y (List.mem_append_left _ hy)) fun _ =>
    Sim2.thenS (evalE_agree O hfs fun y hy => hnt y (List.mem_append_right _ hy)) fun _ _ _ h => ⟨rfl, h.emit_both _⟩

variable {O : Oracle} {cfg : Config}

theorem assignTo_attr (O : Oracle) (j : Nat) (o : Expr) (a : String) (c : Ctx) (v : Val) (σ : St) :
    assignTo O (.attr j o a c) v σ = thenS (evalE O o) (fun x σ => (.normal, σ.emit ⟨"setattr", a, [x, v], []⟩)) σ := by
  simp only [assignTo, thenS]
  rcases evalE O o σ with ⟨r, σ1⟩
  cases r <;> rfl

theorem assignTo_subscript (O : Oracle) (j : Nat) (o s : Expr) (c : Ctx) (v : Val) (σ : St) :
    assignTo O (.subscript j o s c) v σ =
      thenS (evalE O o) (fun x => thenS (evalE O s) fun y σ => (.normal, σ.emit ⟨"setitem", "", [x, y, v], []⟩)) σ := by
  simp only [assignTo, thenS]
  rcases evalE O o σ with ⟨r, σ1⟩
  cases r with
  | error e => rfl
  | ok x =>
    simp only
    rcases evalE O s σ1 with ⟨q, σ2⟩
    cases q <;> rfl

theorem assignAll_names_agree (O : Oracle) : ∀ (ts : List Expr) (vs : List Val), ts.all isNameT = true →
    Sim2 Agree (assignAll O ts vs) (assignAll O ts vs)
  | [], vs, _ => fun σ τ hA => by simp only [assignAll]; exact ⟨trivial, hA⟩
  | t :: ts, [], _ => fun σ τ hA => by simp only [assignAll]; exact ⟨trivial, hA⟩
  | t :: ts, v :: vs, ht => fun σ τ hA => by
      simp only [List.all_cons, Bool.and_eq_true] at ht
      obtain ⟨j, x, c, rfl⟩ := isNameT_spec ht.1
      simp only [assignAll, assignTo]
      exact assignAll_names_agree O ts vs ht.2 _ _ (hA.set_both x v)

theorem assignTo_agree (O : Oracle) {t : Expr} (ht : tgtOk t = true) (hnt : ∀ y ∈ namesE t, isTempName y = false)
    (v : Val) : Sim2 Agree (assignTo O t v) (assignTo O t v) := by
  cases t with
  | name j x c => exact fun σ τ hA => by simp only [assignTo]; exact ⟨trivial, hA.set_both x v⟩
  | attr j o a c => exact Sim2.congr (assignTo_attr O j o a c v) (assignTo_attr O j o a c v) (evalEmit_agree O ht hnt _)
  | subscript j o s c =>
    simp only [tgtOk, Bool.and_eq_true] at ht
    exact Sim2.congr (assignTo_subscript O j o s c v) (assignTo_subscript O j o s c v) (evalEmit2_agree O ht.1 ht.2 hnt _)
  | seq j k es c =>
    simp only [tgtOk, Bool.and_eq_true] at ht
    intro σ τ hA
    simp only [assignTo]
    split
    · split
      · exact assignAll_names_agree O es _ ht.2 σ τ hA
      · exact ⟨rfl, hA⟩
    · exact ⟨rfl, hA⟩
  | _ => simp [tgtOk] at ht

theorem assignEach_agree (O : Oracle) : ∀ (ts : List Expr), ts.all tgtOk = true →
    (∀ y ∈ namesEs ts, isTempName y = false) → ∀ x, Sim2 Agree (assignEach O ts x) (assignEach O ts x)
  | [], _, _, x => fun σ τ hA => by simp only [assignEach]; exact ⟨trivial, hA⟩
  | t :: ts, ht, hnt, x => by
      simp only [List.all_cons, Bool.and_eq_true] at ht
      simp only [namesEs, List.mem_append] at hnt
      exact Sim2.congr (f2 := seqS (assignTo O t x) (assignEach O ts x)) (fun _ => rfl) (fun _ => rfl)
        (Sim2.seqS (assignTo_agree O ht.1 (fun y hy => hnt y (Or.inl hy)) x)
          (assignEach_agree O ts ht.2 (fun y hy => hnt y (Or.inr hy)) x))

theorem exec_assign (O : Oracle) (i : Nat) (ts : List Expr) (v : Expr) (σ : St) :
    execS O (.assign i ts v) σ = thenS (evalE O v) (fun x τ => assignEach O ts x τ) σ := by
  simp only [execS, thenS]
  rcases evalE O v σ with ⟨r, σ1⟩
  cases r <;> rfl

theorem exec_assign_name (O : Oracle) (i j : Nat) (x : String) (c : Ctx) (v : Expr) (σ : St) :
    execS O (.assign i [.name j x c] v) σ = thenS (evalE O v) (fun val τ => (.normal, τ.set x val)) σ := by
  rw [exec_assign]
  simp only [assignEach, assignTo]

theorem sim_assign {i : Nat} {ts : List Expr} {v : Expr} (hf : fragS cfg (.assign i ts v) = true) :
    StmtSim O cfg (.assign i ts v) := by
  intro hnt n
  simp only [fragS, Bool.and_eq_true] at hf
  obtain ⟨⟨⟨⟨-, htg⟩, hqt⟩, hfv⟩, hokv⟩ := hf
  simp only [namesS, List.mem_append] at hnt
  unfold visitS
  refine .assert fun _ => .bind (revisits_sat hqt n) fun _ h1 => ?_
  subst h1
  refine .bind ((simE O cfg v hfv hokv fun y hy => hnt y (Or.inr hy)).sat n) fun (v1, d2, n2) hs => .pure ⟨rfl, ?_⟩
  exact simB_of_simK (exec_assign O i ts v) (exec_assign O i ts v1) (assignEach_agree O ts htg (fun y hy => hnt y (Or.inl hy))) hs

theorem sim_augAssign {i : Nat} {t : Expr} {op : String} {v : Expr} (hf : fragS cfg (.augAssign i t op v) = true) :
    StmtSim O cfg (.augAssign i t op v) := by
  intro hnt n
  simp only [fragS, Bool.and_eq_true] at hf
  obtain ⟨⟨⟨htn, hfv⟩, hokv⟩, hdis⟩ := hf
  obtain ⟨j, x, cx, rfl⟩ := isNameT_spec htn
  have hxw : x ∉ writesE v := disjoint_spec hdis x (by simp [namesE])
  simp only [namesS, namesE, List.mem_append, List.mem_singleton] at hnt
  have hxnt : isTempName x = false := hnt x (Or.inl rfl)
  unfold visitS
  refine .assert fun _ => .bind (Sat.ok _) fun _ h1 => ?_
  subst h1
  refine .bind (((simE O cfg v hfv hokv fun y hy => hnt y (Or.inr hy)).sat n).and
    ((visit_finv cfg).1 v hfv (· ∈ writesE v) (fun _ => True) n (fun _ hy => hy) fun _ _ => trivial)) fun (v1, d2, n2) ⟨hs, fv, _⟩ => .pure ⟨rfl, fun σ σ' hA => ?_⟩
  -- Python reads the old value of `x` before `v`, the output after the pending statements of `v`: the same value, since
  -- they rebind neither `x` (`disjoint` in `fragS`) nor, being temporaries, anything of the program
  have hfrx := hoists_frame O _ d2 _ _ σ' fv.hoists x hxw (fun k _ => ne_tmpName hxnt k)
  rw [List.nil_append, execB_append]
  simp only [execS, augAssign]
  rcases hs.cases hA with ⟨σ2', r, σ1, σ1', hd, hv, hv1, hag⟩ | ⟨e, σ1, σ2', hd, hv, hag⟩
  · rw [hd] at hfrx
    simp only [hd, hv, execB_single, execS, augAssign, hv1]
    cases r with
    | error e => exact ⟨rfl, hag⟩
    | ok y =>
      simp only
      rw [hfrx, ← hA.2 x hxnt]
      exact ⟨trivial, hag.set_both x _⟩
  · simp only [hd, hv]
    exact ⟨trivial, hag⟩

theorem exec_expr (O : Oracle) (i : Nat) (v : Expr) (σ : St) :
    execS O (.expr i v) σ = thenS (evalE O v) (fun _ τ => (.normal, τ)) σ := by
  simp only [execS, thenS]
  rcases evalE O v σ with ⟨r, σ1⟩
  cases r <;> rfl

theorem sim_expr {i : Nat} {v : Expr} (hf : fragS cfg (.expr i v) = true) : StmtSim O cfg (.expr i v) := by
  intro hnt n
  simp only [fragS, Bool.and_eq_true] at hf
  simp only [namesS] at hnt
  unfold visitS
  refine .assert fun _ => .bind ((simE O cfg v hf.1 hf.2 hnt).sat n) fun (v1, d1, n1) hs => .pure ⟨rfl, ?_⟩
  exact simB_of_simK (exec_expr O i v) (exec_expr O i v1) (fun _ => Sim2.pure _) hs

theorem exec_ret_value (O : Oracle) (i : Nat) (v : Expr) (σ : St) :
    execS O (.ret i [v]) σ = thenS (evalE O v) (fun x τ => (.ret x, τ)) σ := by
  simp only [execS, thenS]
  rcases evalE O v σ with ⟨r, σ1⟩
  cases r <;> rfl

theorem sim_ret_none {i : Nat} : StmtSim O cfg (.ret i []) := by
  intro _ n
  unfold visitS
  refine .assert fun _ => .bind (Sat.ok _) fun _ h1 => ?_
  subst h1
  refine .pure ⟨rfl, fun σ σ' hA => ?_⟩
  simp only [List.append_nil, List.nil_append, execB, execS]
  exact ⟨trivial, hA⟩

theorem sim_ret_value {i : Nat} {v : Expr} (hf : fragS cfg (.ret i [v]) = true) : StmtSim O cfg (.ret i [v]) := by
  intro hnt n
  simp only [fragS, Bool.and_eq_true] at hf
  simp only [namesS, namesEs, List.append_nil] at hnt
  unfold visitS
  refine .assert fun _ => .bind (Sat.one (simOne O cfg "Return" "value" hf.1 hf.2 hnt n)) fun (vs1, d1, n1) ⟨v1, e, hs⟩ => ?_
  subst e
  refine .pure ⟨rfl, ?_⟩
  simp only [ensureList, List.append_nil]
  exact simB_of_simK (exec_ret_value O i v) (exec_ret_value O i _) (fun _ => Sim2.pure _) hs

theorem exec_raise_value (O : Oracle) (i : Nat) (e : Expr) (σ : St) :
    execS O (.raise i [e] []) σ = thenS (evalE O e) (fun x τ => (.raise (raiseVal x), τ)) σ := by
  simp only [execS, thenS]
  rcases evalE O e σ with ⟨r, σ1⟩
  cases r <;> rfl

theorem sim_raise {i : Nat} {exc cause : List Expr} (hf : fragS cfg (.raise i exc cause) = true) :
    StmtSim O cfg (.raise i exc cause) := by
  intro hnt n
  simp only [fragS, Bool.and_eq_true, List.isEmpty_iff] at hf
  obtain ⟨hexc, rfl⟩ := hf
  obtain ⟨e, rfl⟩ : ∃ e, exc = [e] := by match exc, hexc with | [e], _ => exact ⟨e, rfl⟩
  simp only [Bool.and_eq_true] at hexc
  simp only [namesS, namesEs, List.append_nil] at hnt
  unfold visitS
  refine .assert fun _ => .bind (Sat.one (simOne O cfg "Raise" "exc" hexc.1 hexc.2 hnt n)) fun (vs1, d1, n1) ⟨v1, e1, hs⟩ =>
    .bind (Sat.ok _) fun _ h2 => ?_
  subst e1; subst h2
  refine .pure ⟨rfl, ?_⟩
  simp only [ensureList, List.append_nil]
  exact simB_of_simK (exec_raise_value O i e) (exec_raise_value O i _) (fun _ => Sim2.pure _) hs

def ifFin (O : Oracle) (b e : List Stmt) (c : Val) (τ : St) : SR := if O.truthy c then execB O b τ else execB O e τ

theorem exec_if (O : Oracle) (i : Nat) (t : Expr) (b e : List Stmt) (σ : St) :
    execS O (.if_ i t b e) σ = thenS (evalE O t) (ifFin O b e) σ := by
  simp only [execS, thenS, ifFin]
  rcases evalE O t σ with ⟨r, σ1⟩
  cases r <;> rfl

theorem ifFin_agree {b e b1 e1 : List Stmt} (hb : SimB O (execB O b) b1) (he : SimB O (execB O e) e1)
    (c : Val) : Sim2 Agree (ifFin O b e c) (ifFin O b1 e1 c) := by
  intro σ τ hA
  unfold ifFin
  split
  · exact hb σ τ hA
  · exact he σ τ hA

theorem sim_if {i : Nat} {t : Expr} {b e : List Stmt} (ihb : fragSs cfg b = true → BlockSim O cfg b)
    (ihe : fragSs cfg e = true → BlockSim O cfg e) (hf : fragS cfg (.if_ i t b e) = true) :
    StmtSim O cfg (.if_ i t b e) := by
  intro hnt n
  simp only [fragS, Bool.and_eq_true] at hf
  obtain ⟨⟨⟨hft, hokt⟩, hfb⟩, hfe⟩ := hf
  simp only [namesS, List.mem_append] at hnt
  unfold visitS
  refine .assert fun _ => .bind ((simOne O cfg "If" "test" hft hokt (fun y hy => hnt y (Or.inl (Or.inl hy))) n).and
    (visitE_sat cfg t n)) fun (t1, d1, n1) ⟨hs, i1⟩ => ?_
  refine .bind (revisit_sat (ensure_spec cfg "If" "test" t1 n1 i1.quiet).quiet _) fun _ h3 => ?_
  subst h3
  refine .bind (ihb hfb (fun y hy => hnt y (Or.inl (Or.inr hy))) _) fun (b1, n4, p2) ⟨hp2, sb⟩ => ?_
  subst hp2
  refine .bind (ihe hfe (fun y hy => hnt y (Or.inr hy)) _) fun (e1, n5, p3) ⟨_, se⟩ => .assert fun _ => .pure ⟨rfl, ?_⟩
  exact simB_of_simK (exec_if O i t b e) (exec_if O i _ b1 e1) (ifFin_agree sb se) hs

theorem forLoop_agree {bind bind' : Val → St → SR} {body body' : St → SR} (hb : ∀ v, Sim2 Agree (bind v) (bind' v))
    (hbody : Sim2 Agree body body') :
    ∀ (vs : List Val) (σ τ : St), Agree σ τ →
      ∃ o σ1 τ1 br, forLoop bind body vs σ = ((o, σ1), br) ∧ forLoop bind' body' vs τ = ((o, τ1), br) ∧ Agree σ1 τ1
  | [], σ, τ, h => ⟨.normal, σ, τ, false, rfl, rfl, h⟩
  | v :: vs, σ, τ, h => by
      obtain ⟨o, σ1, τ1, hx, hy, hag⟩ := (hb v).cases h
      simp only [forLoop, hx, hy]
      cases o with
      | normal =>
        obtain ⟨p, σ2, τ2, hx2, hy2, hag2⟩ := hbody.cases hag
        simp only [hx2, hy2]
        cases p with
        | normal => exact forLoop_agree hb hbody vs σ2 τ2 hag2
        | cont => exact forLoop_agree hb hbody vs σ2 τ2 hag2
        | _ => exact ⟨_, _, _, _, rfl, rfl, hag2⟩
      | _ => exact ⟨_, _, _, _, rfl, rfl, hag⟩

def forFin (O : Oracle) (x : String) (b e : List Stmt) (c : Val) (τ : St) : SR :=
  match O.iter c with
  | some vs =>
    match forLoop (fun v s => ((.normal, s.set x v) : SR)) (fun s => execB O b s) vs τ with
    | ((.normal, σ2), false) => execB O e σ2
    | (r, _) => r
  | none => (.raise typeError, τ)

theorem exec_for (O : Oracle) (i j : Nat) (x : String) (cx : Ctx) (it : Expr) (b e : List Stmt) (xt : List Expr) (σ : St) :
    execS O (.for_ i (.name j x cx) it b e xt false) σ = thenS (evalE O it) (forFin O x b e) σ := by
  simp only [execS, thenS, forFin, assignTo]
  rcases evalE O it σ with ⟨r, σ1⟩
  cases r <;> rfl

theorem forFin_agree {x : String} {b e b1 e1 : List Stmt} (hb : SimB O (execB O b) b1)
    (he : SimB O (execB O e) e1) (c : Val) : Sim2 Agree (forFin O x b e c) (forFin O x b1 e1 c) := by
  intro σ τ hA
  unfold forFin
  cases O.iter c with
  | none => exact ⟨rfl, hA⟩
  | some vs =>
    obtain ⟨o, σ2, τ2, br, hx, hy, hag⟩ := forLoop_agree (bind := fun v s => ((.normal, s.set x v) : SR))
      (bind' := fun v s => ((.normal, s.set x v) : SR)) (body := fun s => execB O b s) (body' := fun s => execB O b1 s)
      (fun v σ τ h => ⟨rfl, h.set_both x v⟩) (fun σ τ h => hb σ τ h) vs σ τ hA
    simp only [hx, hy]
    cases o <;> cases br <;> first | exact he σ2 τ2 hag | exact ⟨rfl, hag⟩

theorem sim_for {i : Nat} {tg it : Expr} {b e : List Stmt} {xt : List Expr} {isAsync : Bool}
    (ihb : fragSs cfg b = true → BlockSim O cfg b) (ihe : fragSs cfg e = true → BlockSim O cfg e)
    (hf : fragS cfg (.for_ i tg it b e xt isAsync) = true) : StmtSim O cfg (.for_ i tg it b e xt isAsync) := by
  intro hnt n
  simp only [fragS, Bool.and_eq_true, Bool.not_eq_true'] at hf
  obtain ⟨⟨⟨⟨⟨htg, has⟩, hft⟩, hokt⟩, hfb⟩, hfe⟩ := hf
  subst has
  obtain ⟨j, x, cx, rfl⟩ := isNameT_spec htg
  simp only [namesS, namesE, List.mem_append] at hnt
  unfold visitS
  refine .guard fun _ => .assert fun _ =>
    .bind ((simOne O cfg "For" "iter" hft hokt (fun y hy => hnt y (Or.inl (Or.inl (Or.inl (Or.inr hy))))) n).and
      (visitE_sat cfg it n)) fun (t1, d1, n1) ⟨hs, i1⟩ => .bind (Sat.ok _) fun _ htg => ?_
  subst htg
  refine .bind (revisit_sat (ensure_spec cfg "For" "iter" t1 n1 i1.quiet).quiet _) fun _ h3 => ?_
  subst h3
  refine .bind (ihb hfb (fun y hy => hnt y (Or.inl (Or.inl (Or.inr hy)))) _) fun (b1, n5, p2) ⟨hp2, sb⟩ => ?_
  subst hp2
  refine .bind (ihe hfe (fun y hy => hnt y (Or.inl (Or.inr hy))) _) fun (e1, n6, p3) ⟨_, se⟩ => .assert fun _ => .pure ⟨rfl, ?_⟩
  exact simB_of_simK (exec_for O i j x cx it b e xt) (exec_for O i j x cx _ b1 e1 xt) (forFin_agree sb se) hs

theorem finally_agree {f f1 : List Stmt} (sf : SimB O (execB O f) f1) {r r' : SR} (ho : r'.1 = r.1) (hag : Agree r.2 r'.2) :
    (match execB O f1 r'.2 with | (.normal, σ3) => (r'.1, σ3) | q => q).1
      = (match execB O f r.2 with | (.normal, σ3) => (r.1, σ3) | q => q).1 ∧
    Agree (match execB O f r.2 with | (.normal, σ3) => (r.1, σ3) | q => q).2
      (match execB O f1 r'.2 with | (.normal, σ3) => (r'.1, σ3) | q => q).2 := by
  obtain ⟨o, τ, τ', hx, hy, hag2⟩ := Sim2.cases sf hag
  simp only [hx, hy]
  cases o <;> first | exact ⟨ho, hag2⟩ | exact ⟨rfl, hag2⟩

theorem sim_try {i : Nat} {b hs e f : List Stmt} (ihb : fragSs cfg b = true → BlockSim O cfg b)
    (ihh : fragHs cfg hs = true → HandlersSim O cfg hs) (ihe : fragSs cfg e = true → BlockSim O cfg e)
    (ihf : fragSs cfg f = true → BlockSim O cfg f) (hf : fragS cfg (.try_ i b hs e f) = true) :
    StmtSim O cfg (.try_ i b hs e f) := by
  intro hnt n
  simp only [fragS, Bool.and_eq_true] at hf
  obtain ⟨⟨⟨hfb, hfh⟩, hfe⟩, hff⟩ := hf
  simp only [namesS, List.mem_append] at hnt
  unfold visitS
  refine .bind (ihb hfb (fun y hy => hnt y (Or.inl (Or.inl (Or.inl hy)))) n) fun (b1, n1, p1) ⟨hp1, sb⟩ => ?_
  subst hp1
  refine .bind (ihh hfh (fun y hy => hnt y (Or.inl (Or.inl (Or.inr hy)))) _) fun (hs1, n2, p2) ⟨hp2, sh⟩ => ?_
  subst hp2
  refine .bind (ihe hfe (fun y hy => hnt y (Or.inl (Or.inr hy))) _) fun (e1, n3, p3) ⟨hp3, se⟩ => ?_
  subst hp3
  refine .bind (ihf hff (fun y hy => hnt y (Or.inr hy)) _) fun (f1, n4, p4) ⟨hp4, sf⟩ => .pure ⟨hp4, fun σ σ' hA => ?_⟩
  simp only [execB_single, execS]
  obtain ⟨o, τ, τ', hx, hy, hag⟩ := Sim2.cases sb hA
  simp only [hx, hy]
  cases o with
  | raise x => exact finally_agree sf (sh x τ τ' hag).1 (sh x τ τ' hag).2
  | normal => exact finally_agree sf (se τ τ' hag).1 (se τ τ' hag).2
  | _ => exact finally_agree sf rfl hag

theorem sim_inert {s : Stmt} {o : Outcome} (hv : ∀ n pend, visitS cfg s n pend = .ok ([s], n, pend))
    (he : ∀ σ, execS O s σ = (o, σ)) : StmtSim O cfg s := by
  intro _ n
  rw [hv]
  refine .pure ⟨rfl, fun σ σ' hA => ?_⟩
  rw [execB_single, he, he]
  exact ⟨rfl, hA⟩

theorem Sat.functionDef {i : Nat} {nm : String} {as : Expr} {b : List Stmt} {ds rs : List Expr} {isAsync : Bool} {n : Nat}
    (hq : quiet cfg as = true) (hqd : quiets cfg ds = true) (hqr : quiets cfg rs = true)
    {P : List Stmt × Nat × List Stmt → Prop} (hb : Sat (visitSs cfg b n []) P) :
    Sat (visitS cfg (.functionDef i nm as b ds rs isAsync) n []) fun (ss, n', p') =>
      ∃ b1, P (b1, n', p') ∧ ss = [.functionDef i nm as b1 ds rs isAsync] := by
  unfold visitS
  refine .bind (revisit_sat hq n) fun _ h1 => ?_
  subst h1
  refine .bind hb fun (b1, n2, p1) hp => .bind (revisits_sat hqd _) fun _ h2 => .bind (revisits_sat hqr _) fun _ h3 => ?_
  subst h2; subst h3
  exact .pure ⟨b1, by simpa using hp, rfl⟩

theorem sim_functionDef {i : Nat} {nm : String} {as : Expr} {b : List Stmt} {ds rs : List Expr} {isAsync : Bool}
    (ihb : fragSs cfg b = true → BlockSim O cfg b) (hf : fragS cfg (.functionDef i nm as b ds rs isAsync) = true) :
    StmtSim O cfg (.functionDef i nm as b ds rs isAsync) := by
  intro hnt n
  simp only [fragS, Bool.and_eq_true, List.isEmpty_iff] at hf
  obtain ⟨⟨⟨⟨-, hq⟩, rfl⟩, rfl⟩, hfb⟩ := hf
  refine (Sat.functionDef hq rfl rfl (ihb hfb (fun y hy => hnt y (by simp [namesS, hy])) n)).mono
    fun (ss, n', p') ⟨b1, ⟨hp1, _⟩, e⟩ => ⟨hp1, fun σ σ' hA => ?_⟩
  subst e
  simp only [execB, execS]
  exact ⟨trivial, hA.set_both nm _⟩

theorem deleteOne_attr (O : Oracle) (j : Nat) (o : Expr) (a : String) (c : Ctx) (σ : St) :
    deleteOne O (.attr j o a c) σ = thenS (evalE O o) (fun x σ => (.normal, σ.emit ⟨"delattr", a, [x], []⟩)) σ := by
  simp only [deleteOne, thenS]
  rcases evalE O o σ with ⟨r, σ1⟩
  cases r <;> rfl

theorem deleteOne_subscript (O : Oracle) (j : Nat) (o s : Expr) (c : Ctx) (σ : St) :
    deleteOne O (.subscript j o s c) σ =
      thenS (evalE O o) (fun x => thenS (evalE O s) fun y σ => (.normal, σ.emit ⟨"delitem", "", [x, y], []⟩)) σ := by
  simp only [deleteOne, thenS]
  rcases evalE O o σ with ⟨r, σ1⟩
  cases r with
  | error e => rfl
  | ok x =>
    simp only
    rcases evalE O s σ1 with ⟨q, σ2⟩
    cases q <;> rfl

theorem deleteOne_agree (O : Oracle) {t : Expr} (ht : delOk t = true) (hnt : ∀ y ∈ namesE t, isTempName y = false) :
    Sim2 Agree (deleteOne O t) (deleteOne O t) := by
  cases t with
  | name j x c => exact fun σ τ hA => by simp only [deleteOne]; exact ⟨trivial, hA.set_both x _⟩
  | attr j o a c => exact Sim2.congr (deleteOne_attr O j o a c) (deleteOne_attr O j o a c) (evalEmit_agree O ht hnt _)
  | subscript j o s c =>
    simp only [delOk, Bool.and_eq_true] at ht
    exact Sim2.congr (deleteOne_subscript O j o s c) (deleteOne_subscript O j o s c) (evalEmit2_agree O ht.1 ht.2 hnt _)
  | _ => simp [delOk] at ht

theorem deleteAll_agree (O : Oracle) : ∀ (ts : List Expr), ts.all delOk = true → (∀ y ∈ namesEs ts, isTempName y = false) →
    Sim2 Agree (deleteAll O ts) (deleteAll O ts)
  | [], _, _ => fun σ τ hA => by simp only [deleteAll]; exact ⟨trivial, hA⟩
  | t :: ts, ht, hnt => by
      simp only [List.all_cons, Bool.and_eq_true] at ht
      simp only [namesEs, List.mem_append] at hnt
      exact Sim2.congr (f2 := seqS (deleteOne O t) (deleteAll O ts)) (fun _ => rfl) (fun _ => rfl)
        (Sim2.seqS (deleteOne_agree O ht.1 fun y hy => hnt y (Or.inl hy)) (deleteAll_agree O ts ht.2 fun y hy => hnt y (Or.inr hy)))

theorem sim_delete {i : Nat} {ts : List Expr} (hf : fragS cfg (.delete i ts) = true) : StmtSim O cfg (.delete i ts) := by
  intro hnt n
  simp only [fragS, Bool.and_eq_true] at hf
  simp only [namesS] at hnt
  unfold visitS
  refine .assert fun _ => .bind (revisits_sat hf.2 n) fun _ h1 => ?_
  subst h1
  refine .pure ⟨rfl, fun σ σ' hA => ?_⟩
  simp only [List.nil_append, execB_single, execS]
  exact deleteAll_agree O ts hf.1 hnt σ σ' hA

def assertFin (O : Oracle) (m : List Expr) (c : Val) (σ : St) : SR :=
  if O.truthy c then (.normal, σ) else
  match m with
  | [] => (.raise (.exc "AssertionError" .none), σ)
  | e :: _ => thenS (evalE O e) (fun x σ2 => (.raise (.exc "AssertionError" x), σ2)) σ

theorem exec_assert (O : Oracle) (i : Nat) (t : Expr) (m : List Expr) (σ : St) :
    execS O (.assert_ i t m) σ = thenS (evalE O t) (assertFin O m) σ := by
  simp only [execS, thenS, assertFin]
  rcases evalE O t σ with ⟨r, σ1⟩
  cases r with
  | error e => rfl
  | ok c =>
    simp only
    split
    · rfl
    · cases m with
      | nil => rfl
      | cons e _ =>
        simp only
        rcases evalE O e σ1 with ⟨q, σ2⟩
        cases q <;> rfl

theorem assert_agree (O : Oracle) (i : Nat) {t : Expr} {m : List Expr} (ht : fragE t = true)
    (hm : (match m with | [] => true | [x] => fragE x | _ => false) = true)
    (hnt : ∀ y ∈ namesE t ++ namesEs m, isTempName y = false) :
    Sim2 Agree (execS O (.assert_ i t m)) (execS O (.assert_ i t m)) := by
  simp only [List.mem_append] at hnt
  refine Sim2.congr (exec_assert O i t m) (exec_assert O i t m)
    (Sim2.thenS (evalE_agree O ht fun y hy => hnt y (Or.inl hy)) fun c => ?_)
  unfold assertFin
  split
  · exact Sim2.pure _
  · match m, hm with
    | [], _ => exact Sim2.pure _
    | [x], hm =>
      exact Sim2.thenS (evalE_agree O hm fun y hy => hnt y (Or.inr (by simp [namesEs, hy]))) fun _ => Sim2.pure _

theorem sim_assert {i : Nat} {t : Expr} {m : List Expr} (hf : fragS cfg (.assert_ i t m) = true) :
    StmtSim O cfg (.assert_ i t m) := by
  intro hnt n
  simp only [fragS, Bool.and_eq_true] at hf
  simp only [namesS] at hnt
  refine (visitS_assert_sat i t m n []).mono fun _ ⟨_, hr, _⟩ => ?_
  subst hr
  refine ⟨rfl, fun σ σ' hA => ?_⟩
  simp only [execB_single]
  exact assert_agree O i hf.1 hf.2 hnt σ σ' hA

theorem sim_handlers_nil : HandlersSim O cfg [] := by
  intro _ n
  unfold visitSs
  refine .pure ⟨rfl, fun x σ σ' hA => ?_⟩
  simp only [execH]; exact ⟨trivial, hA⟩

theorem sim_handlers_cons {i : Nat} {ty : List Expr} {nm : List String} {b hs : List Stmt}
    (ihb : fragSs cfg b = true → BlockSim O cfg b) (ihh : fragHs cfg hs = true → HandlersSim O cfg hs)
    (hf : fragHs cfg (.handler i ty nm b :: hs) = true) : HandlersSim O cfg (.handler i ty nm b :: hs) := by
  intro hnt n
  simp only [fragHs, Bool.and_eq_true, List.isEmpty_iff] at hf
  obtain ⟨⟨⟨hty, rfl⟩, hfb⟩, hfh⟩ := hf
  simp only [namesSs, namesS, List.mem_append, List.append_nil] at hnt
  -- the handler type is absent or a variable: visiting it changes nothing
  have hty' : ty = [] ∨ ∃ j y c, ty = [.name j y c] := by
    match ty, hty with
    | [], _ => exact Or.inl rfl
    | [t], hty => exact Or.inr (let ⟨j, y, c, e⟩ := isNameT_spec hty; ⟨j, y, c, by rw [e]⟩)
  have hqty : quiets cfg ty = true := by
    rcases hty' with rfl | ⟨j, y, c, rfl⟩ <;> rfl
  have hH : Sat (visitS cfg (.handler i ty [] b) n []) fun (r1, _, p1) =>
      p1 = [] ∧ ∃ b1, r1 = [.handler i ty [] b1] ∧ SimB O (execB O b) b1 := by
    unfold visitS
    refine .bind (revisits_sat hqty n) fun _ hvt => ?_
    subst hvt
    exact .bind (ihb hfb (fun y hy => hnt y (Or.inl (Or.inr hy))) n) fun (b1, m2, q1) ⟨hq1, sb⟩ => .pure ⟨hq1, b1, rfl, sb⟩
  unfold visitSs
  refine .bind hH fun (r1, n1, p1) ⟨hp1, b1, e1, sb⟩ => ?_
  subst hp1; subst e1
  refine .bind (ihh hfh (fun y hy => hnt y (Or.inr hy)) n1) fun (r2, n2, p2) ⟨hp, sh⟩ => .pure ⟨hp, fun x σ σ' hA => ?_⟩
  simp only [List.cons_append, List.nil_append, execH]
  rcases hty' with rfl | ⟨j, y, c, rfl⟩
  · exact sb σ σ' hA
  · simp only [evalE]
    rw [← hA.2 y (hnt y (Or.inl (Or.inl (by simp [namesEs, namesE]))))]
    split
    · exact sb σ σ' hA
    · exact sh x σ σ' hA

theorem SimB.seq {s : Stmt} {l r1 r2 : List Stmt} (h1 : SimB O (execS O s) r1) (h2 : SimB O (execB O l) r2) :
    SimB O (execB O (s :: l)) (r1 ++ r2) :=
  Sim2.congr (g2 := seqS (execB O r1) (execB O r2)) (fun _ => by simp only [execB]; rfl) (execB_append O r1 r2)
    (Sim2.seqS h1 h2)

theorem SimB.nil (O : Oracle) : SimB O (execB O []) [] :=
  Sim2.congr (fun _ => by simp only [execB]) (fun _ => by simp only [execB]) (Sim2.pure Outcome.normal)

theorem sim_block_nil : BlockSim O cfg [] := by
  intro _ n
  unfold visitSs
  exact .pure ⟨rfl, SimB.nil O⟩

theorem sim_block_cons {s : Stmt} {l : List Stmt} (ihs : fragS cfg s = true → StmtSim O cfg s)
    (ihl : fragSs cfg l = true → BlockSim O cfg l) (hf : fragSs cfg (s :: l) = true) : BlockSim O cfg (s :: l) := by
  intro hnt n
  simp only [fragSs, Bool.and_eq_true] at hf
  simp only [namesSs, List.mem_append] at hnt
  unfold visitSs
  refine .bind (ihs hf.1 (fun y hy => hnt y (Or.inl hy)) n) fun (r1, n1, p1) ⟨hp1, s1⟩ => ?_
  subst hp1
  exact .bind (ihl hf.2 (fun y hy => hnt y (Or.inr hy)) n1) fun (r2, n2, p2) ⟨hp2, s2⟩ => .pure ⟨hp2, SimB.seq s1 s2⟩

theorem sim_stmts (O : Oracle) (cfg : Config) :
    (∀ s, fragS cfg s = true → StmtSim O cfg s) ∧ (∀ hs, fragHs cfg hs = true → HandlersSim O cfg hs) ∧
      ∀ l, fragSs cfg l = true → BlockSim O cfg l := by
  apply fragS.mutual_induct
  · exact fun _ _ _ => sim_assign
  · exact fun _ _ _ _ => sim_augAssign
  · exact fun _ _ => sim_expr
  · exact fun _ _ => sim_ret_none
  · exact fun _ _ => sim_ret_value
  -- `eq_6`: `return` of two or more values; `eq_22`: the catch-all of `fragS`; `fragHs.eq_3`: the head is no handler
  · exact fun i vs h0 h1 hf => by rw [fragS.eq_6 cfg i vs h0 h1] at hf; cases hf
  · exact fun _ _ _ => sim_raise
  · exact fun _ _ _ _ => sim_if
  · exact fun _ _ _ _ _ _ _ => sim_for
  · exact fun _ _ _ _ _ => sim_try
  · exact fun _ _ _ _ _ _ _ => sim_functionDef
  · exact fun _ _ => sim_delete
  · exact fun _ _ _ => sim_assert
  · exact fun _ _ _ => sim_inert (fun _ _ => rfl) (fun _ => rfl)
  · exact fun _ _ _ => sim_inert (fun _ _ => rfl) (fun _ => rfl)
  · exact fun _ _ => sim_inert (fun _ _ => rfl) (fun _ => rfl)
  · exact fun _ _ => sim_inert (fun _ _ => rfl) (fun _ => rfl)
  · exact fun _ _ => sim_inert (fun _ _ => rfl) (fun _ => rfl)
  · exact fun s h1 h2 h3 h4 h5 h6 h7 h8 h9 h10 h11 h12 h13 h14 h15 h16 hf => by
      rw [fragS.eq_22 cfg s h1 h2 h3 h4 h5 h6 h7 h8 h9 h10 h11 h12 h13 h14 h15 h16] at hf; cases hf
  · exact fun _ => sim_handlers_nil
  · exact fun _ _ _ _ _ => sim_handlers_cons
  · exact fun s l h1 hf => by rw [fragHs.eq_3 cfg s l h1] at hf; cases hf
  · exact fun _ => sim_block_nil
  · exact fun _ _ => sim_block_cons

theorem simSs (O : Oracle) (cfg : Config) (l : List Stmt) (hf : fragSs cfg l = true) : BlockSim O cfg l := (sim_stmts O cfg).2.2 l hf

theorem simHs (O : Oracle) (cfg : Config) : ∀ (hs : List Stmt), fragHs cfg hs = true → (∀ y ∈ namesSs hs, isTempName y = false) →
    ∀ (n : Nat) (ss : List Stmt) (n' : Nat) (pend' : List Stmt), visitSs cfg hs n [] = .ok (ss, n', pend') →
    pend' = [] ∧ ∀ (x : Val) (σ σ' : St), Agree σ σ' →
      (execH O ss x σ').1 = (execH O hs x σ).1 ∧ Agree (execH O hs x σ).2 (execH O ss x σ').2 :=
  fun hs hf hn n _ _ _ h => (sim_stmts O cfg).2.1 hs hf hn n _ h

end Malt.Anf
