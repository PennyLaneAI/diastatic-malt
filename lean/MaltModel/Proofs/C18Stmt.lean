import MaltModel.Proofs.C18Quiet
namespace Malt.Anf
open Malt.Py

/-- `tmp_(1001+n) … tmp_(1000+n')` -/
def temps (n n' : Nat) : List String := (List.range' n (n' - n)).map tmpName

theorem temps_self (n : Nat) : temps n n = [] := by simp [temps]

theorem temps_append {n m n' : Nat} (h1 : n ≤ m) (h2 : m ≤ n') : temps n m ++ temps m n' = temps n n' := by
  obtain ⟨a, rfl⟩ := Nat.exists_eq_add_of_le h1
  obtain ⟨b, rfl⟩ := Nat.exists_eq_add_of_le h2
  rw [temps, temps, temps, Nat.add_sub_cancel_left, Nat.add_sub_cancel_left, Nat.add_assoc n, Nat.add_sub_cancel_left,
    ← List.map_append, List.range'_append_1]

theorem temps_nodup (n n' : Nat) : (temps n n').Nodup := by
  unfold temps
  rw [List.nodup_iff_pairwise_ne, List.pairwise_map]
  exact (List.nodup_range' (step := 1)).imp (fun hne h => hne (tmpName_inj h))

theorem tmpTargetsSs_append : ∀ (a b : List Stmt), tmpTargetsSs (a ++ b) = tmpTargetsSs a ++ tmpTargetsSs b
  | [], b => by simp [tmpTargetsSs]
  | s :: a, b => by simp [tmpTargetsSs, tmpTargetsSs_append a b, List.append_assoc]

theorem AnfSs_append (cfg : Config) : ∀ (a b : List Stmt), AnfSs cfg (a ++ b) ↔ AnfSs cfg a ∧ AnfSs cfg b
  | [], b => by simp [AnfSs]
  | s :: a, b => by simp [AnfSs, AnfSs_append cfg a b, and_assoc]

theorem gen_anf {cfg : Config} {t : Stmt} (h : Gen cfg t) : AnfS cfg t := by
  obtain ⟨k, x, rfl, hq⟩ := h
  exact Or.inr ⟨k, x, rfl, hq⟩

theorem gens_anf {cfg : Config} : ∀ {L : List Stmt}, (∀ t ∈ L, Gen cfg t) → AnfSs cfg L
  | [], _ => trivial
  | t :: L, h => ⟨gen_anf (h t (by simp)), gens_anf (fun u hu => h u (by simp [hu]))⟩

theorem tmpTargetsS_tmpAssign (k : Nat) (x : Expr) : tmpTargetsS (tmpAssign k x) = [tmpName k] := by
  simp [tmpAssign, tmpTargetsS, tmpTarget, isTempName_tmpName]

theorem HoistsOk.gen {cfg : Config} : ∀ {D : List Stmt} {n n' : Nat}, HoistsOk cfg n D n' → ∀ t ∈ D, Gen cfg t
  | _ :: _, n, _, ⟨⟨x, hs, hq⟩, h2⟩, t, ht => by
      rcases List.mem_cons.mp ht with rfl | ht
      · exact ⟨n, x, hs, hq⟩
      · exact h2.gen t ht

theorem HoistsOk.tmpTargets {cfg : Config} : ∀ {D : List Stmt} {n n' : Nat}, HoistsOk cfg n D n' → tmpTargetsSs D = temps n n'
  | [], n, n', h => by
      obtain rfl := HoistsOk.nil_iff.mp h
      simp [tmpTargetsSs, temps_self]
  | s :: D, n, n', h => by
      obtain ⟨⟨x, rfl, hq⟩, h2⟩ := h
      rw [tmpTargetsSs, tmpTargetsS_tmpAssign, h2.tmpTargets, ← temps_append (Nat.le_succ n) h2.le]
      simp [temps]

theorem visitE_eq_name {cfg : Config} {e : Expr} {n : Nat} {j : Nat} {s : String} {c : Ctx} {D : List Stmt} {n' : Nat}
    (h : visitE cfg e n = .ok (.name j s c, D, n')) : e = .name j s c := by
  have inv := visitE_inv h
  have hn := inv.isName
  cases e <;> simp [isNameT] at hn
  simp [visitE] at h
  obtain ⟨⟨rfl, rfl, rfl⟩, -, -⟩ := h
  rfl

theorem visitEs_single_name {cfg : Config} {ts : List Expr} {n : Nat} {j : Nat} {s : String} {c : Ctx} {D : List Stmt}
    {n' : Nat} (h : visitEs cfg ts n = .ok ([.name j s c], D, n')) : ts = [.name j s c] := by
  match ts, visitEs_length h with
  | [t], _ =>
    obtain ⟨v1, e, ht⟩ := Sat.one (Sat.self _) _ h
    cases e
    rw [visitE_eq_name ht]

theorem tmpTargetsS_visited_assign {cfg : Config} {ts ts1 : List Expr} {n n1 : Nat} {D : List Stmt} (i : Nat) (v : Expr)
    (h : visitEs cfg ts n = .ok (ts1, D, n1)) (hn : ∀ x ∈ namesEs ts, isTempName x = false) :
    tmpTargetsS (.assign i ts1 v) = [] := by
  simp only [tmpTargetsS]
  unfold tmpTarget
  split
  · next i2 j s v2 hts =>
    simp only [Stmt.assign.injEq] at hts
    obtain ⟨-, rfl, -⟩ := hts
    have := visitEs_single_name h
    subst this
    have := hn s (by simp [namesEs, namesE])
    simp [this]
  · rfl

/-- `names`: the identifiers of the visited code. In `temps` the statements still pending afterwards (`pend'`) are
counted with the output: they hold temporaries of the same numbering, whether or not `anf` drops them in the end. -/
structure SInv (cfg : Config) (names : List String) (n : Nat) (pend ss : List Stmt) (n' : Nat) (pend' : List Stmt) : Prop where
  le : n ≤ n'
  anf : (∀ t ∈ pend, Gen cfg t) → AnfSs cfg ss ∧ (∀ t ∈ pend', Gen cfg t)
  temps : (∀ x ∈ names, isTempName x = false) → tmpTargetsSs ss ++ tmpTargetsSs pend' = tmpTargetsSs pend ++ temps n n'

theorem mem_names_sub {a b : List String} (h : ∀ x ∈ a, x ∈ b) {P : String → Prop} (hb : ∀ x ∈ b, P x) : ∀ x ∈ a, P x :=
  fun x hx => hb x (h x hx)

theorem SInv.mono {cfg : Config} {names names' : List String} {n pend ss n' pend'}
    (h : SInv cfg names' n pend ss n' pend') (hsub : ∀ x ∈ names', x ∈ names) : SInv cfg names n pend ss n' pend' :=
  ⟨h.le, h.anf, fun hn => h.temps (mem_names_sub hsub hn)⟩

theorem SInv.seq {cfg : Config} {nm1 nm2 : List String} {n pend r1 n1 p1 r2 n2 p2}
    (h1 : SInv cfg nm1 n pend r1 n1 p1) (h2 : SInv cfg nm2 n1 p1 r2 n2 p2) :
    SInv cfg (nm1 ++ nm2) n pend (r1 ++ r2) n2 p2 := by
  refine ⟨Nat.le_trans h1.le h2.le, fun hp => ?_, fun hn => ?_⟩
  · have a1 := h1.anf hp
    have a2 := h2.anf a1.2
    exact ⟨(AnfSs_append cfg r1 r2).mpr ⟨a1.1, a2.1⟩, a2.2⟩
  · have t1 := h1.temps (fun x hx => hn x (by simp [hx]))
    have t2 := h2.temps (fun x hx => hn x (by simp [hx]))
    rw [tmpTargetsSs_append, List.append_assoc, t2, ← List.append_assoc, t1, List.append_assoc,
      temps_append h1.le h2.le]

theorem SInv.nil (cfg : Config) (names : List String) (n : Nat) (pend : List Stmt) : SInv cfg names n pend [] n pend :=
  ⟨Nat.le_refl n, fun hp => ⟨trivial, hp⟩, fun _ => by simp [tmpTargetsSs, temps_self]⟩

theorem SInv.leaf {cfg : Config} {names : List String} {n : Nat} {pend : List Stmt} {st : Stmt}
    (ha : AnfS cfg st) (ht : tmpTargetsS st = []) : SInv cfg names n pend [st] n pend :=
  ⟨Nat.le_refl n, fun hp => ⟨⟨ha, trivial⟩, hp⟩, fun _ => by simp [tmpTargetsSs, ht, temps_self]⟩

theorem SInv.strict {cfg : Config} {names : List String} {n n2 : Nat} {G : List Stmt} {st : Stmt}
    (hG : HoistsOk cfg n G n2) (ha : AnfS cfg st)
    (ht : (∀ x ∈ names, isTempName x = false) → tmpTargetsS st = []) : SInv cfg names n [] (G ++ [st]) n2 [] := by
  refine ⟨hG.le, fun _ => ⟨(AnfSs_append cfg G [st]).mpr ⟨gens_anf hG.gen, ha, trivial⟩, fun t ht => by simp at ht⟩, fun hn => ?_⟩
  simp [tmpTargetsSs_append, tmpTargetsSs, hG.tmpTargets, ht hn]

theorem SInv.compound {cfg : Config} {names nmb : List String} {n n2 n5 : Nat} {G body : List Stmt} {st : Stmt}
    (hG : HoistsOk cfg n G n2) (hb : SInv cfg nmb n2 [] body n5 []) (hsub : ∀ x ∈ nmb, x ∈ names)
    (ha : AnfSs cfg body → AnfS cfg st) (ht : tmpTargetsS st = tmpTargetsSs body) :
    SInv cfg names n [] (G ++ [st]) n5 [] := by
  refine ⟨Nat.le_trans hG.le hb.le, fun _ => ?_, fun hn => ?_⟩
  · have ab := hb.anf (fun t ht => by simp at ht)
    exact ⟨(AnfSs_append cfg G [st]).mpr ⟨gens_anf hG.gen, ha ab.1, trivial⟩, fun t ht => by simp at ht⟩
  · have tb := hb.temps (mem_names_sub hsub hn)
    simp only [tmpTargetsSs, List.append_nil, List.nil_append] at tb
    simp only [tmpTargetsSs_append, tmpTargetsSs, List.append_nil, List.nil_append, hG.tmpTargets, ht, tb]
    exact temps_append hG.le hb.le

theorem SInv.wrap {cfg : Config} {names : List String} {n n' : Nat} {pend pend' body : List Stmt} {st : Stmt}
    (hb : SInv cfg names n pend body n' pend') (ha : AnfSs cfg body → AnfS cfg st)
    (ht : tmpTargetsS st = tmpTargetsSs body) : SInv cfg names n pend [st] n' pend' := by
  refine ⟨hb.le, fun hp => ?_, fun hn => ?_⟩
  · have ab := hb.anf hp
    exact ⟨⟨ha ab.1, trivial⟩, ab.2⟩
  · have tb := hb.temps hn
    simpa [tmpTargetsSs, ht] using tb

theorem SInv.leakOnly {cfg : Config} {n n2 : Nat} {pend G : List Stmt}
    (hG : HoistsOk cfg n G n2) : SInv cfg [] n pend [] n2 (pend ++ G) := by
  refine ⟨hG.le, fun hp => ⟨trivial, ?_⟩, fun _ => ?_⟩
  · intro t ht
    rcases List.mem_append.mp ht with h | h
    · exact hp t h
    · exact hG.gen t h
  · simp [tmpTargetsSs_append, tmpTargetsSs, hG.tmpTargets]

macro "sopen" h:ident : tactic =>
  `(tactic| simp only [visitS, visitSs, bind_ok, Prod.exists, assert_ok] at $h:ident)
macro "sclose" h:ident : tactic =>
  `(tactic| (simp only [pure, Except.pure, Except.ok.injEq, Prod.mk.injEq] at $h:ident))

theorem assert_ok {p : List Stmt} {u : Unit} : assertNoPending p = .ok u ↔ p = [] := by
  unfold assertNoPending
  cases p <;> simp

theorem Sat.assert {β : Type} {p : List Stmt} {f : Unit → Except AnfErr β} {Q : β → Prop} (h : p = [] → Sat (f ()) Q) :
    Sat (assertNoPending p >>= f) Q :=
  .bind (P := fun _ => p = []) (fun _ hu => assert_ok.mp hu) fun _ hp => h hp

theorem visitS_assert_sat {cfg : Config} (i : Nat) (t : Expr) (m : List Expr) (n : Nat) (pend : List Stmt) :
    Sat (visitS cfg (.assert_ i t m) n pend) fun r =>
      pend = [] ∧ r = ([.assert_ i t m], n, []) ∧ AnfS cfg (.assert_ i t m) := by
  unfold visitS
  refine .assert fun hp => .bind (visitE_sat cfg t n) fun (t1, d1, n1) i1 => .bind (visitEs_sat cfg m n1) fun (m1, d2, n2) i2 =>
    .guard fun hnil => .pure ?_
  have he1 := ensure_spec cfg "Assert" "test" t1 n2 i1.quiet
  have he2 := ensureList_spec cfg "Assert" "msg" m1 (ensure cfg "Assert" "test" t1 n2).2.2 i2.quiet
  have hnil' : d1 ++ d2 ++ (ensure cfg "Assert" "test" t1 n2).2.1 ++
      (ensureList cfg "Assert" "msg" m1 (ensure cfg "Assert" "test" t1 n2).2.2).2.1 = [] := by simpa using hnil
  have hg := ((i1.hoists.append i2.hoists).append he1.hoists).append he2.hoists
  rw [hnil'] at hg
  have ha : AnfS cfg (.assert_ i _ _) := ⟨he1.quiet, he2.quiet, he1.ok, he2.ok⟩
  simp only [List.append_eq_nil_iff] at hnil'
  obtain ⟨⟨⟨a1, a2⟩, a3⟩, a4⟩ := hnil'
  rw [he2.same a4, he1.same a3, i1.same a1, i2.same a2] at ha ⊢
  rw [i1.same a1, i2.same a2] at hg
  exact ⟨hp, by rw [HoistsOk.nil_iff.mp hg], ha⟩

theorem visitS_while_sat {cfg : Config} (i : Nat) (t : Expr) (b e : List Stmt) (n : Nat) (pend : List Stmt) :
    Sat (visitS cfg (.while_ i t b e) n pend) fun _ => quiet cfg t = true ∧ okChild cfg "While" "test" t = true := by
  unfold visitS
  refine .assert fun _ => .bind (visitE_sat cfg t n) fun (t1, d1, n1) i1 => .guard fun hnil => fun _ _ => ?_
  have hnil' : d1 ++ (ensure cfg "While" "test" t1 n1).2.1 = [] := by simpa using hnil
  obtain ⟨hd, hg⟩ := List.append_eq_nil_iff.mp hnil'
  obtain rfl : t1 = t := i1.same hd
  have hen := ensure_spec cfg "While" "test" t1 n1 i1.quiet
  exact ⟨i1.quiet, hen.same hg ▸ hen.ok⟩

mutual
theorem visitS_sat (cfg : Config) : ∀ (s : Stmt) (n : Nat) (pend : List Stmt),
    Sat (visitS cfg s n pend) fun r => SInv cfg (namesS s) n pend r.1 r.2.1 r.2.2
  | .ret i v => fun n pend => by
      unfold visitS
      refine .assert fun hp => .bind (visitEs_sat cfg v n) fun (v1, d1, n1) iv => ?_
      subst hp
      have he := ensureList_spec cfg "Return" "value" v1 n1 iv.quiet
      exact .pure (SInv.strict (iv.hoists.append he.hoists) ⟨he.quiet, he.ok⟩ (fun _ => rfl))
  | .if_ i t b e => fun n pend => by
      unfold visitS
      refine .assert fun hp => .bind (visitE_sat cfg t n) fun (t1, d1, n1) i1 => ?_
      subst hp
      have hen := ensure_spec cfg "If" "test" t1 n1 i1.quiet
      refine .bind (revisit_sat hen.quiet _) fun _ h3 => ?_
      subst h3
      refine .bind (visitSs_sat cfg b _ _) fun (b1, n4, p2) ib => .bind (visitSs_sat cfg e _ _) fun (e1, n5, p3) ie => ?_
      refine .assert fun hp => .pure ?_
      subst hp
      refine SInv.compound (i1.hoists.append hen.hoists) (ib.seq ie) (fun x hx => by unfold namesS; grind) ?_ ?_
      · intro hab
        exact ⟨hen.quiet, hen.ok, ((AnfSs_append cfg _ _).mp hab).1, ((AnfSs_append cfg _ _).mp hab).2⟩
      · simp [tmpTargetsS, tmpTargetsSs_append]
  | .raise i e c => fun n pend => by
      unfold visitS
      refine .assert fun hp => .bind (visitEs_sat cfg e n) fun (e1, d1, n1) i1 => .bind (visitEs_sat cfg c n1) fun (c1, d2, n2) i2 => ?_
      subst hp
      have he1 := ensureList_spec cfg "Raise" "exc" e1 n2 i1.quiet
      have he2 := ensureList_spec cfg "Raise" "cause" c1 (ensureList cfg "Raise" "exc" e1 n2).2.2 i2.quiet
      exact .pure (SInv.strict (((i1.hoists.append i2.hoists).append he1.hoists).append he2.hoists)
        ⟨he1.quiet, he2.quiet, he1.ok, he2.ok⟩ (fun _ => rfl))
  | .delete i ts => fun n pend => by
      unfold visitS
      refine .assert fun hp => .bind (visitEs_sat cfg ts n) fun (t1, d1, n1) i1 => ?_
      subst hp
      exact .pure (SInv.strict i1.hoists i1.quiet (fun _ => rfl))
  | .assign i ts v => fun n pend => by
      unfold visitS
      refine .assert fun hp => .bind_eq fun (t1, d1, n1) h1 => .bind (visitE_sat cfg v n1) fun (v1, d2, n2) i2 => .pure ?_
      subst hp
      have i1 := visitEs_inv h1
      refine SInv.strict (i1.hoists.append i2.hoists) (Or.inl ⟨i1.quiet, i2.quiet⟩) (fun hn => ?_)
      exact tmpTargetsS_visited_assign i v1 h1 (fun x hx => hn x (by unfold namesS; simp [hx]))
  | .augAssign i t op v => fun n pend => by
      unfold visitS
      refine .assert fun hp => .bind (visitE_sat cfg t n) fun (t1, d1, n1) i1 => .bind (visitE_sat cfg v n1) fun (v1, d2, n2) i2 => ?_
      subst hp
      exact .pure (SInv.strict (i1.hoists.append i2.hoists) ⟨i1.quiet, i2.quiet⟩ (fun _ => rfl))
  | .expr i v => fun n pend => by
      unfold visitS
      refine .assert fun hp => .bind (visitE_sat cfg v n) fun (v1, d1, n1) i1 => ?_
      subst hp
      exact .pure (SInv.strict i1.hoists i1.quiet (fun _ => rfl))
  | .for_ i tg it b e x isAsync => fun n pend => by
      unfold visitS
      refine .guard fun _ => .assert fun hp => .bind (visitE_sat cfg it n) fun (it1, d1, n1) i1 => ?_
      subst hp
      have hen := ensure_spec cfg "For" "iter" it1 n1 i1.quiet
      refine .bind (visitE_sat cfg tg _) fun (tg1, p0, n3) itg => .bind (revisit_sat hen.quiet _) fun _ h3 => ?_
      subst h3
      refine .bind (visitSs_sat cfg b _ _) fun (b1, n5, p2) ib => .bind (visitSs_sat cfg e _ _) fun (e1, n6, p3) ie => ?_
      refine .assert fun hp => .pure ?_
      subst hp
      have hl := SInv.leakOnly (pend := []) itg.hoists
      simp only [List.nil_append, List.append_nil] at hl ib
      refine SInv.compound (i1.hoists.append hen.hoists) ((hl.seq ib).seq ie) (fun x hx => by unfold namesS; grind) ?_ ?_
      · intro hab
        simp only [List.nil_append] at hab
        exact ⟨itg.quiet, hen.quiet, hen.ok, ((AnfSs_append cfg _ _).mp hab).1, ((AnfSs_append cfg _ _).mp hab).2⟩
      · simp [tmpTargetsS, tmpTargetsSs_append]
  | .with_ i items b isAsync => fun n pend => by
      unfold visitS
      refine .guard fun _ => .assert fun hp => .bind (visitEs_sat cfg items n) fun (it1, d1, n1) i1 => ?_
      subst hp
      have hen := ensureList_spec cfg "With" "items" it1 n1 i1.quiet
      refine .bind (revisits_sat hen.quiet _) fun _ h3 => ?_
      subst h3
      refine .bind (visitSs_sat cfg b _ _) fun (b1, n4, p2) ib => .assert fun hp => .pure ?_
      subst hp
      refine SInv.compound (i1.hoists.append hen.hoists) ib (fun x hx => by unfold namesS; grind) ?_ ?_
      · intro hab
        exact ⟨hen.quiet, hen.ok, hab⟩
      · simp [tmpTargetsS]
  | .while_ i t b e => fun n pend => by
      unfold visitS
      refine .assert fun hp => .bind (visitE_sat cfg t n) fun (t1, d1, n1) i1 => ?_
      subst hp
      have hen := ensure_spec cfg "While" "test" t1 n1 i1.quiet
      refine .guard fun hnil => .bind (revisit_sat hen.quiet _) fun _ h3 => ?_
      subst h3
      refine .bind (visitSs_sat cfg b _ _) fun (b1, n4, p2) ib => .bind (visitSs_sat cfg e _ _) fun (e1, n5, p3) ie => .pure ?_
      have hg := i1.hoists.append hen.hoists
      rw [show d1 ++ (ensure cfg "While" "test" t1 n1).2.1 = [] by simpa using hnil] at hg
      obtain rfl := HoistsOk.nil_iff.mp hg
      refine SInv.wrap ((ib.seq ie).mono (fun x hx => by unfold namesS; grind)) ?_ ?_
      · intro hab
        exact ⟨hen.quiet, hen.ok, ((AnfSs_append cfg _ _).mp hab).1, ((AnfSs_append cfg _ _).mp hab).2⟩
      · simp [tmpTargetsS, tmpTargetsSs_append]
  | .assert_ i t m => fun n pend =>
      (visitS_assert_sat i t m n pend).mono fun _ ⟨hp, hr, ha⟩ => by
        subst hp; subst hr
        exact SInv.strict (G := []) rfl ha (fun _ => rfl)
  | .annAssign i t a v s => fun n pend => by
      unfold visitS
      refine .bind (visitE_sat cfg t n) fun (t1, d1, n1) i1 => .bind (visitE_sat cfg a n1) fun (a1, d2, n2) i2 =>
        .bind (visitEs_sat cfg v n2) fun (v1, d3, n3) i3 => .pure ?_
      have all := ((SInv.leakOnly (pend := pend) i1.hoists).seq (.leakOnly i2.hoists)).seq (.leakOnly i3.hoists)
      exact SInv.wrap (all.mono nofun) (fun _ => ⟨i1.quiet, i2.quiet, i3.quiet⟩) rfl
  | .functionDef i nm as b ds rs isAsync => fun n pend => by
      unfold visitS
      refine .bind (visitE_sat cfg as n) fun (as1, d1, n1) i1 => .bind (visitSs_sat cfg b _ _) fun (b1, n2, p1) ib =>
        .bind (visitEs_sat cfg ds n2) fun (ds1, d2, n3) i2 => .bind (visitEs_sat cfg rs n3) fun (rs1, d3, n4) i3 => .pure ?_
      have all := (((SInv.leakOnly i1.hoists).seq ib).seq (.leakOnly i2.hoists)).seq (.leakOnly i3.hoists)
      simp only [List.nil_append, List.append_nil] at all
      refine SInv.wrap (all.mono (fun x hx => by unfold namesS; grind)) ?_ ?_
      · intro hab; exact ⟨i1.quiet, hab, i2.quiet, i3.quiet⟩
      · simp [tmpTargetsS]
  | .classDef i nm bs ks b ds => fun n pend => by
      unfold visitS
      refine .bind (visitEs_sat cfg bs n) fun (bs1, d1, n1) i1 => .bind (visitEs_sat cfg ks n1) fun (ks1, d2, n2) i2 =>
        .bind (visitSs_sat cfg b _ _) fun (b1, n3, p1) ib => .bind (visitEs_sat cfg ds n3) fun (ds1, d3, n4) i3 => .pure ?_
      have all := (((SInv.leakOnly i1.hoists).seq (.leakOnly i2.hoists)).seq ib).seq (.leakOnly i3.hoists)
      simp only [List.nil_append, List.append_nil] at all
      refine SInv.wrap (all.mono (fun x hx => by unfold namesS; grind)) ?_ ?_
      · intro hab; exact ⟨i1.quiet, i2.quiet, hab, i3.quiet⟩
      · simp [tmpTargetsS]
  | .try_ i b hs e f => fun n pend => by
      unfold visitS
      refine .bind (visitSs_sat cfg b _ _) fun (b1, n1, p1) ib => .bind (visitSs_sat cfg hs _ _) fun (hs1, n2, p2) ih =>
        .bind (visitSs_sat cfg e _ _) fun (e1, n3, p3) ie => .bind (visitSs_sat cfg f _ _) fun (f1, n4, p4) iff => .pure ?_
      refine SInv.wrap ((((ib.seq ih).seq ie).seq iff).mono (fun x hx => by unfold namesS; grind)) ?_ ?_
      · intro hab
        have h1 := (AnfSs_append cfg _ _).mp hab
        have h2 := (AnfSs_append cfg _ _).mp h1.1
        have h3 := (AnfSs_append cfg _ _).mp h2.1
        exact ⟨h3.1, h3.2, h2.2, h1.2⟩
      · simp [tmpTargetsS, tmpTargetsSs_append]
  | .handler i ty nm b => fun n pend => by
      unfold visitS
      refine .bind (visitEs_sat cfg ty n) fun (ty1, d1, n1) i1 => .bind (visitSs_sat cfg b _ _) fun (b1, n2, p1) ib => .pure ?_
      have all := (SInv.leakOnly i1.hoists).seq ib
      simp only [List.nil_append] at all
      refine SInv.wrap (all.mono (fun x hx => by unfold namesS; grind)) ?_ ?_
      · intro hab; exact ⟨i1.quiet, hab⟩
      · simp [tmpTargetsS]
  | .import_ .. | .importFrom .. | .global .. | .nonlocal .. | .pass .. | .break_ .. | .continue_ .. => fun n pend =>
      Sat.pure (SInv.leaf trivial rfl)
  | .other .. => fun n pend => Sat.error
termination_by structural s => s
theorem visitSs_sat (cfg : Config) : ∀ (l : List Stmt) (n : Nat) (pend : List Stmt),
    Sat (visitSs cfg l n pend) fun r => SInv cfg (namesSs l) n pend r.1 r.2.1 r.2.2
  | [] => fun n pend => by
      unfold visitSs
      exact .pure (SInv.nil cfg _ n pend)
  | s :: l => fun n pend => by
      unfold visitSs
      exact .bind (visitS_sat cfg s n pend) fun (r1, n1, p1) h1 => .bind (visitSs_sat cfg l n1 p1) fun (r2, n2, p2) h2 =>
        .pure (h1.seq h2)
termination_by structural l => l
end

theorem visitS_inv {cfg : Config} {s : Stmt} {n : Nat} {pend ss : List Stmt} {n' : Nat} {pend' : List Stmt}
    (h : visitS cfg s n pend = .ok (ss, n', pend')) : SInv cfg (namesS s) n pend ss n' pend' :=
  visitS_sat cfg s n pend _ h

theorem visitSs_inv (cfg : Config) : ∀ (l : List Stmt) (n : Nat) (pend ss : List Stmt) (n' : Nat) (pend' : List Stmt),
    visitSs cfg l n pend = .ok (ss, n', pend') → SInv cfg (namesSs l) n pend ss n' pend' :=
  fun l n pend _ _ _ h => visitSs_sat cfg l n pend _ h

theorem anf_ok {cfg : Config} {p : Stmt} {q : List Stmt} (h : anf cfg p = .ok q) :
    ∃ n' pend', visitS cfg p 0 [] = .ok (q, n', pend') := by
  unfold anf at h
  cases hv : visitS cfg p 0 [] with
  | error e => rw [hv] at h; simp [Except.map] at h
  | ok r =>
    rw [hv] at h
    simp only [Except.map, Except.ok.injEq] at h
    obtain ⟨q', n', pend'⟩ := r
    exact ⟨n', pend', by simp at h; rw [h]⟩

end Malt.Anf
