import MaltModel.Proofs.C08Nested
import MaltModel.Spec.Outer

/-
Specification side only: the table entry of every block, and its free variables: the names of `outerB` that are visible from the
enclosing function-like blocks.
-/

namespace Malt.Analysis
open Malt.Py Malt.Spec

theorem BlockInfo.mem_names {b : BlockInfo} {p : Sym → Bool} {x : String} :
    x ∈ b.names p ↔ ∃ s ∈ b.syms, p s = true ∧ s.name = x := by
  simp only [BlockInfo.names, List.mem_map, List.mem_filter, and_assoc]

theorem mem_ownNames (b : Block) (x : String) :
    x ∈ ownNames b ↔ x ∈ b.params ∨ x ∈ b.binds ∨ x ∈ b.globals ∨ x ∈ b.nonlocals ∨ x ∈ b.uses ∨ x ∈ b.walrus := by
  simp only [ownNames, dedup, List.mem_eraseDups, List.mem_append, or_assoc]

/-- `scopeOf` as a truth table over its six membership tests, so that later proofs case on booleans only. -/
theorem scopeOf_table : ∀ g w e nl pb B : Bool,
    let s := if g then Scope.globalExplicit else if w then (if e then .globalExplicit else .free)
      else if nl then .free else if pb then .local else if B then .free else .globalImplicit
    (s = .local ↔ (pb && !g && !w && !nl) = true) ∧ (s = .globalExplicit ↔ (g || (w && e)) = true) ∧
      (s = .free ↔ (!g && ((w && !e) || (!w && (nl || (!pb && B))))) = true) := by decide

theorem scopeOf_eq_local (b : Block) (bound eg : List String) (n : String) :
    scopeOf b bound eg n = .local ↔ (n ∈ b.params ∨ n ∈ b.binds) ∧ n ∉ b.globals ∧ n ∉ b.walrus ∧ n ∉ b.nonlocals := by
  rw [scopeOf, (scopeOf_table _ _ _ _ _ _).1]
  simp only [Bool.and_eq_true, Bool.or_eq_true, Bool.not_eq_true', List.contains_eq_mem, decide_eq_true_eq,
    decide_eq_false_iff_not, and_assoc]

theorem scopeOf_eq_globalExplicit (b : Block) (bound eg : List String) (n : String) :
    scopeOf b bound eg n = .globalExplicit ↔ n ∈ b.globals ∨ (n ∈ b.walrus ∧ n ∈ eg) := by
  rw [scopeOf, (scopeOf_table _ _ _ _ _ _).2.1]
  simp only [Bool.and_eq_true, Bool.or_eq_true, List.contains_eq_mem, decide_eq_true_eq]

theorem scopeOf_eq_free (b : Block) (bound eg : List String) (n : String) :
    scopeOf b bound eg n = .free ↔ n ∉ b.globals ∧ ((n ∈ b.walrus ∧ n ∉ eg) ∨
      (n ∉ b.walrus ∧ (n ∈ b.nonlocals ∨ (¬ (n ∈ b.params ∨ n ∈ b.binds) ∧ n ∈ bound)))) := by
  rw [scopeOf, (scopeOf_table _ _ _ _ _ _).2.2]
  simp only [Bool.and_eq_true, Bool.or_eq_true, List.contains_eq_mem, decide_eq_true_eq,
    decide_eq_false_iff_not, Bool.not_eq_eq_eq_not, Bool.not_true, Bool.or_eq_false_iff, not_or]

/-- What `analyzeBlock` hands down to the blocks nested in `b` (`B'` below): `visibleIn` (`B`) as a set, de-duplicated; `eg` plays no
    part once `walrus = []`. -/
def newBound (b : Block) (bound eg : List String) : List String :=
  if b.kind.functionLike then
    dedup ((ownNames b).filter (fun n => scopeOf b bound eg n == .local) ++ bound.filter fun n => !b.globals.contains n)
  else bound

def newEncGlobals (b : Block) (eg : List String) : List String := if b.kind.isComp then eg else b.globals

def passing (b : Block) (bound eg : List String) : List String :=
  let cf := dedup (analyzeBlocks b.children b.id (newBound b bound eg) (newEncGlobals b eg)).2
  if b.kind.functionLike then cf.filter fun n => !((ownNames b).filter fun n => scopeOf b bound eg n == .local).contains n else cf

theorem analyzeBlock_eq (b : Block) (parent : Nat) (bound eg : List String) :
    analyzeBlock b parent bound eg =
      ({ id := b.id, parent := parent, kind := b.kind, name := b.name,
         syms := ((ownNames b).map fun n =>
             { name := n, scope := scopeOf b bound eg n, isParam := b.params.contains n,
               declNonlocal := b.nonlocals.contains n || (b.walrus.contains n && !eg.contains n && !b.globals.contains n) }) ++
           ((passing b bound eg).filter fun n => !(ownNames b).contains n && bound.contains n).map fun n =>
             { name := n, scope := .free, isParam := false, declNonlocal := false, propagated := true } } ::
        (analyzeBlocks b.children b.id (newBound b bound eg) (newEncGlobals b eg)).1,
       dedup ((ownNames b).filter (fun n => scopeOf b bound eg n == .free) ++ passing b bound eg)) := by
  cases b; simp only [analyzeBlock]; rfl

theorem mem_passing (b : Block) (bound eg : List String) (x : String) :
    x ∈ passing b bound eg ↔ x ∈ (analyzeBlocks b.children b.id (newBound b bound eg) (newEncGlobals b eg)).2 ∧
      (b.kind.functionLike = true → ¬ (x ∈ ownNames b ∧ scopeOf b bound eg x = .local)) := by
  unfold passing
  cases b.kind.functionLike <;> simp [dedup, List.mem_filter] <;> grind

theorem analyzeBlock_entry (b : Block) (parent : Nat) (bound eg : List String) :
    ∃ info, (analyzeBlock b parent bound eg).1 =
        info :: (analyzeBlocks b.children b.id (newBound b bound eg) (newEncGlobals b eg)).1 ∧
      info.id = b.id ∧
      ∀ (p : Sym → Bool) (x : String), x ∈ info.names p ↔
        (x ∈ ownNames b ∧
          p { name := x, scope := scopeOf b bound eg x, isParam := b.params.contains x,
              declNonlocal := b.nonlocals.contains x || (b.walrus.contains x && !eg.contains x && !b.globals.contains x) } = true) ∨
        ((x ∈ (analyzeBlocks b.children b.id (newBound b bound eg) (newEncGlobals b eg)).2 ∧ x ∉ ownNames b ∧ x ∈ bound) ∧
          p { name := x, scope := .free, isParam := false, declNonlocal := false, propagated := true } = true) := by
  rw [analyzeBlock_eq]
  refine ⟨_, rfl, rfl, fun p x => ?_⟩
  simp only [BlockInfo.mem_names, List.mem_append, List.mem_map, List.mem_filter, mem_passing, or_and_right, exists_or,
    Bool.and_eq_true, Bool.not_eq_true', List.contains_eq_mem, decide_eq_true_eq, decide_eq_false_iff_not]
  constructor
  · rintro (⟨s, ⟨n, hn, rfl⟩, hp, rfl⟩ | ⟨s, ⟨n, ⟨⟨h1, -⟩, h2, h3⟩, rfl⟩, hp, rfl⟩)
    · exact Or.inl ⟨hn, hp⟩
    · exact Or.inr ⟨⟨h1, h2, h3⟩, hp⟩
  · rintro (⟨hn, hp⟩ | ⟨⟨h1, h2, h3⟩, hp⟩)
    · exact Or.inl ⟨_, ⟨x, hn, rfl⟩, hp, rfl⟩
    · exact Or.inr ⟨_, ⟨x, ⟨⟨h1, fun _ h => h2 h.1⟩, h2, h3⟩, rfl⟩, hp, rfl⟩

theorem outerBs_eq (bs : List Block) : outerBs bs = bs.flatMap outerB :=
  eq_flatMap_of_nil_cons rfl (fun _ _ => rfl) bs

theorem outerBs_append (a b : List Block) : outerBs (a ++ b) = outerBs a ++ outerBs b := by
  simp only [outerBs_eq, List.flatMap_append]

theorem nlOkBs_eq (B : List String) (bs : List Block) : nlOkBs B bs = bs.all (nlOkB B) :=
  eq_all_of_nil_cons rfl (fun _ _ => rfl) bs

theorem ctxBlocksL_eq (B : List String) (bs : List Block) : ctxBlocksL B bs = bs.flatMap (ctxBlocks B) :=
  eq_flatMap_of_nil_cons rfl (fun _ _ => rfl) bs

theorem ctxBlocks_cons (B : List String) (b : Block) :
    ctxBlocks B b = (b, B) :: b.children.flatMap (ctxBlocks (visibleIn b.kind b.params b.binds b.globals b.nonlocals B)) := by
  cases b; rw [ctxBlocks, ctxBlocksL_eq]; rfl

theorem ctxBlocks_fst (b : Block) : ∀ B, (ctxBlocks B b).map Prod.fst = allBlocks b := by
  induction b using Block.ind with
  | _ b ih =>
    intro B
    rw [ctxBlocks_cons, allBlocks_cons, List.map_cons, List.map_flatMap, List.flatMap_def, List.flatMap_def,
      List.map_congr_left fun c hc => ih c hc _]

theorem ctx_of_mem (b : Block) (B : List String) : ∀ b' ∈ allBlocks b, ∃ Bb, (b', Bb) ∈ ctxBlocks B b := by
  intro b' hb'
  rw [← ctxBlocks_fst b B] at hb'
  obtain ⟨⟨_, Bb⟩, hp, rfl⟩ := List.mem_map.mp hb'
  exact ⟨Bb, hp⟩

theorem ctx_of_memL : (bs : List Block) → (B : List String) → ∀ b' ∈ allBlocksL bs, ∃ Bb, (b', Bb) ∈ ctxBlocksL B bs := by
  intro bs B b' hb'
  obtain ⟨c, hc, hb'⟩ := List.mem_flatMap.mp (allBlocksL_eq bs ▸ hb')
  obtain ⟨Bb, h⟩ := ctx_of_mem c B b' hb'
  exact ⟨Bb, ctxBlocksL_eq B bs ▸ List.mem_flatMap.mpr ⟨c, hc, h⟩⟩

theorem analyzeBlocks_eq (bs : List Block) (parent : Nat) (B eg : List String) :
    analyzeBlocks bs parent B eg =
      (bs.flatMap fun b => (analyzeBlock b parent B eg).1, bs.flatMap fun b => (analyzeBlock b parent B eg).2) := by
  induction bs with
  | nil => rfl
  | cons b r ih => rw [analyzeBlocks, ih]; rfl

theorem mem_visibleIn (kind : BlockKind) (params binds globals nonlocals B : List String) (x : String) :
    x ∈ visibleIn kind params binds globals nonlocals B ↔
      if kind.functionLike then ((x ∈ params ∨ x ∈ binds) ∧ x ∉ globals ∧ x ∉ nonlocals) ∨ (x ∈ B ∧ x ∉ globals) else x ∈ B := by
  cases hk : kind.functionLike <;> simp [visibleIn, hk]
  grind

theorem nlOkB_iff (B : List String) (b : Block) :
    nlOkB B b = true ↔ (∀ x ∈ b.nonlocals, x ∈ B) ∧
      ∀ c ∈ b.children, nlOkB (visibleIn b.kind b.params b.binds b.globals b.nonlocals B) c = true := by
  cases b
  simp only [nlOkB, nlOkBs_eq, Bool.and_eq_true, List.all_eq_true, List.contains_eq_mem, decide_eq_true_eq, Block.nonlocals,
    Block.children, Block.kind, Block.params, Block.binds, Block.globals]

theorem mem_outerB (b : Block) (x : String) :
    x ∈ outerB b ↔
      ((x ∈ b.nonlocals ∨ x ∈ b.uses ∨ x ∈ b.walrus) ∧ x ∉ b.globals ∧ (x ∈ b.nonlocals ∨ ¬ (x ∈ b.params ∨ x ∈ b.binds))) ∨
      (x ∈ outerBs b.children ∧
        (b.kind.functionLike = true → x ∉ b.globals ∧ (x ∈ b.nonlocals ∨ ¬ (x ∈ b.params ∨ x ∈ b.binds)))) := by
  obtain ⟨id, kind, name, params, binds, globals, nonlocals, uses, walrus, children⟩ := b
  cases hk : kind.functionLike <;>
    simp [outerB, hk, Block.nonlocals, Block.uses, Block.walrus, Block.globals, Block.params, Block.binds, Block.children,
      Block.kind] <;>
    grind

theorem mem_analyzeBlock_snd (b : Block) (parent : Nat) (bound eg : List String) (x : String) :
    x ∈ (analyzeBlock b parent bound eg).2 ↔ (x ∈ ownNames b ∧ scopeOf b bound eg x = .free) ∨
      (x ∈ (analyzeBlocks b.children b.id (newBound b bound eg) (newEncGlobals b eg)).2 ∧
        (b.kind.functionLike = true → ¬ (x ∈ ownNames b ∧ scopeOf b bound eg x = .local))) := by
  rw [analyzeBlock_eq]
  simp only [dedup, List.mem_eraseDups, List.mem_append, List.mem_filter, beq_iff_eq, mem_passing]

theorem mem_newBound (b : Block) (hw : b.walrus = []) (B B' eg : List String) (hB : ∀ x, x ∈ B' ↔ x ∈ B) (y : String) :
    y ∈ newBound b B' eg ↔ y ∈ visibleIn b.kind b.params b.binds b.globals b.nonlocals B := by
  rw [mem_visibleIn, newBound]
  split
  · simp only [dedup, List.mem_eraseDups, List.mem_append, List.mem_filter, beq_iff_eq, scopeOf_eq_local, mem_ownNames, hw, hB y,
      Bool.not_eq_true', List.contains_eq_mem, decide_eq_false_iff_not, List.not_mem_nil, not_false_eq_true, true_and, or_false]
    grind
  · exact hB y

/-- Holds of a block without named-expression targets, whatever is visible from the enclosing blocks. -/
def InfoFacts (b : Block) (info : BlockInfo) : Prop :=
  info.id = b.id ∧
  (∀ x, x ∈ info.params ↔ x ∈ b.params) ∧
  (∀ x, x ∈ info.locals ↔ (x ∈ b.params ∨ x ∈ b.binds) ∧ x ∉ b.globals ∧ x ∉ b.nonlocals) ∧
  (∀ x, x ∈ info.declaredGlobals ↔ x ∈ b.globals) ∧
  (∀ x, x ∈ info.declaredNonlocals ↔ x ∉ b.globals ∧ x ∈ b.nonlocals)

theorem InfoFacts.id {b : Block} {info : BlockInfo} (h : InfoFacts b info) : info.id = b.id := h.1
theorem InfoFacts.params {b : Block} {info : BlockInfo} (h : InfoFacts b info) : ∀ x, x ∈ info.params ↔ x ∈ b.params := h.2.1
theorem InfoFacts.declaredNonlocals {b : Block} {info : BlockInfo} (h : InfoFacts b info) :
    ∀ x, x ∈ info.declaredNonlocals ↔ x ∉ b.globals ∧ x ∈ b.nonlocals := h.2.2.2.2

theorem analyzeBlock_info (b : Block) (hw : b.walrus = []) (parent : Nat) (bound eg : List String) :
    ∃ info, (analyzeBlock b parent bound eg).1 =
        info :: (analyzeBlocks b.children b.id (newBound b bound eg) (newEncGlobals b eg)).1 ∧
      InfoFacts b info ∧
      ∀ x, x ∈ info.frees ↔ (x ∈ ownNames b ∧ scopeOf b bound eg x = .free) ∨
        (x ∈ (analyzeBlocks b.children b.id (newBound b bound eg) (newEncGlobals b eg)).2 ∧ x ∉ ownNames b ∧ x ∈ bound) := by
  obtain ⟨info, he, hid, hn⟩ := analyzeBlock_entry b parent bound eg
  refine ⟨info, he, ⟨hid, fun x => ?_, fun x => ?_, fun x => ?_, fun x => ?_⟩, fun x => ?_⟩
  · rw [BlockInfo.params, hn]; simp [mem_ownNames]; grind
  · rw [BlockInfo.locals, hn]; simp [mem_ownNames, scopeOf_eq_local, hw]; grind
  · rw [BlockInfo.declaredGlobals, hn]; simp [mem_ownNames, scopeOf_eq_globalExplicit, hw]; grind
  · rw [BlockInfo.declaredNonlocals, hn]; simp [mem_ownNames, scopeOf_eq_free, hw]; grind
  · rw [BlockInfo.frees, hn]; simp

theorem analyzeBlock_head (b : Block) (hw : b.walrus = []) :
    ∃ info rest, (analyzeBlock b 0 [] []).1 = info :: rest ∧ InfoFacts b info ∧ ∀ x, x ∈ info.frees ↔ x ∈ info.declaredNonlocals := by
  obtain ⟨info, he, hfacts, hfr⟩ := analyzeBlock_info b hw 0 [] []
  refine ⟨info, _, he, hfacts, fun x => ?_⟩
  rw [hfr, hfacts.declaredNonlocals]
  simp only [mem_ownNames, scopeOf_eq_free, hw, List.not_mem_nil]
  grind

theorem child_ctx {b c : Block} {B B' : List String} (eg : List String) (hw : ∀ b' ∈ allBlocks b, b'.walrus = [])
    (hB : ∀ x, x ∈ B' ↔ x ∈ B) (hc : c ∈ b.children) :
    (∀ b' ∈ allBlocks c, b'.walrus = []) ∧
      (∀ y, y ∈ newBound b B' eg ↔ y ∈ visibleIn b.kind b.params b.binds b.globals b.nonlocals B) ∧
      (nlOkB B b = true → nlOkB (visibleIn b.kind b.params b.binds b.globals b.nonlocals B) c = true) :=
  ⟨fun b' h => hw b' (mem_allBlocks_of_child hc h), mem_newBound b (hw b (mem_allBlocks_self b)) B B' eg hB,
    fun hv => ((nlOkB_iff B b).mp hv).2 c hc⟩

theorem analyzeBlocks_free (bs : List Block) (parent : Nat) (B B' eg : List String)
    (h : ∀ c ∈ bs, ∀ x, x ∈ (analyzeBlock c parent B' eg).2 ↔ x ∈ outerB c ∧ x ∈ B) :
    ∀ x, x ∈ (analyzeBlocks bs parent B' eg).2 ↔ x ∈ outerBs bs ∧ x ∈ B := by
  intro x
  simp only [analyzeBlocks_eq, outerBs_eq, List.mem_flatMap]
  exact ⟨fun ⟨c, hc, hx⟩ => ⟨⟨c, hc, ((h c hc x).mp hx).1⟩, ((h c hc x).mp hx).2⟩,
    fun ⟨⟨c, hc, hx⟩, hB⟩ => ⟨c, hc, (h c hc x).mpr ⟨hx, hB⟩⟩⟩

theorem children_free {b : Block} {B B' : List String} (eg : List String) (hw : ∀ b' ∈ allBlocks b, b'.walrus = [])
    (hB : ∀ x, x ∈ B' ↔ x ∈ B) (hv : nlOkB B b = true)
    (h : ∀ c ∈ b.children, ∀ (parent : Nat) (B B' eg : List String), (∀ b' ∈ allBlocks c, b'.walrus = []) → (∀ x, x ∈ B' ↔ x ∈ B) →
      nlOkB B c = true → ∀ x, x ∈ (analyzeBlock c parent B' eg).2 ↔ x ∈ outerB c ∧ x ∈ B) :
    ∀ x, x ∈ (analyzeBlocks b.children b.id (newBound b B' eg) (newEncGlobals b eg)).2 ↔
      x ∈ outerBs b.children ∧ x ∈ visibleIn b.kind b.params b.binds b.globals b.nonlocals B :=
  analyzeBlocks_free b.children b.id _ _ _ fun c hc =>
    have ⟨h1, h2, h3⟩ := child_ctx eg hw hB hc
    h c hc b.id _ _ _ h1 h2 (h3 hv)

/-- Second part: the `frees` clause of `analyzeBlock_info`; a class body keeps a name it binds local though it passes it on. -/
theorem block_free (b : Block) (parent : Nat) (B B' eg : List String) (hw0 : b.walrus = []) (hB : ∀ x, x ∈ B' ↔ x ∈ B)
    (hnl : ∀ x ∈ b.nonlocals, x ∈ B)
    (ihc : ∀ x, x ∈ (analyzeBlocks b.children b.id (newBound b B' eg) (newEncGlobals b eg)).2 ↔
      x ∈ outerBs b.children ∧ x ∈ visibleIn b.kind b.params b.binds b.globals b.nonlocals B) (x : String) :
    (x ∈ (analyzeBlock b parent B' eg).2 ↔ x ∈ outerB b ∧ x ∈ B) ∧
    (b.kind.functionLike = true →
      ((x ∈ ownNames b ∧ scopeOf b B' eg x = .free) ∨
        (x ∈ (analyzeBlocks b.children b.id (newBound b B' eg) (newEncGlobals b eg)).2 ∧ x ∉ ownNames b ∧ x ∈ B') ↔
       x ∈ outerB b ∧ x ∈ B)) := by
  have hvx := hnl x
  have hBx := hB x
  rw [mem_analyzeBlock_snd, mem_outerB]
  simp only [ihc, mem_ownNames, scopeOf_eq_free, scopeOf_eq_local, mem_visibleIn, hw0, hBx, List.not_mem_nil]
  cases b.kind.functionLike <;> simp <;> grind

theorem analyzeBlock_free (b : Block) : ∀ (parent : Nat) (B B' eg : List String),
    (∀ b' ∈ allBlocks b, b'.walrus = []) → (∀ x, x ∈ B' ↔ x ∈ B) → nlOkB B b = true →
    ∀ x, x ∈ (analyzeBlock b parent B' eg).2 ↔ x ∈ outerB b ∧ x ∈ B := by
  induction b using Block.ind with
  | _ b ih =>
    exact fun parent B B' eg hw hB hv x =>
      (block_free b parent B B' eg (hw b (mem_allBlocks_self b)) hB ((nlOkB_iff B b).mp hv).1 (children_free eg hw hB hv ih) x).1

theorem table_ctx (b : Block) : ∀ (parent : Nat) (B B' eg : List String),
    (∀ b' ∈ allBlocks b, b'.walrus = []) → (∀ x, x ∈ B' ↔ x ∈ B) →
    ∀ p ∈ ctxBlocks B b, ∃ info ∈ (analyzeBlock b parent B' eg).1, InfoFacts p.1 info ∧
      (nlOkB B b = true → p.1.kind.functionLike = true → ∀ x, x ∈ info.frees ↔ x ∈ outerB p.1 ∧ x ∈ p.2) := by
  induction b using Block.ind with
  | _ b ih =>
    intro parent B B' eg hw hB p hp
    have hw0 := hw b (mem_allBlocks_self b)
    obtain ⟨info, he, hfacts, hfr⟩ := analyzeBlock_info b hw0 parent B' eg
    rw [ctxBlocks_cons, List.mem_cons, List.mem_flatMap] at hp
    rw [he, analyzeBlocks_eq]
    rcases hp with rfl | ⟨c, hcc, hp⟩
    · exact ⟨info, List.mem_cons_self, hfacts, fun hv hk x => (hfr x).trans
        ((block_free b parent B B' eg hw0 hB ((nlOkB_iff B b).mp hv).1
          (children_free eg hw hB hv fun c _ => analyzeBlock_free c) x).2 hk)⟩
    · obtain ⟨h1, h2, h3⟩ := child_ctx eg hw hB hcc
      obtain ⟨i2, hi2, hf2, hfr2⟩ := ih c hcc b.id _ _ (newEncGlobals b eg) h1 h2 p hp
      exact ⟨i2, List.mem_cons_of_mem _ (List.mem_flatMap.mpr ⟨c, hcc, hi2⟩), hf2, fun hv => hfr2 (h3 hv)⟩

theorem table_all (b : Block) (parent : Nat) (bound eg : List String) (hw : ∀ b' ∈ allBlocks b, b'.walrus = []) :
    ∀ b' ∈ allBlocks b, ∃ info ∈ (analyzeBlock b parent bound eg).1, InfoFacts b' info := by
  intro b' hb'
  rw [← ctxBlocks_fst b bound] at hb'
  obtain ⟨p, hp, rfl⟩ := List.mem_map.mp hb'
  obtain ⟨i, hi, hf, -⟩ := table_ctx b parent bound bound eg hw (fun _ => Iff.rfl) p hp
  exact ⟨i, hi, hf⟩

theorem table_allL : (bs : List Block) → (parent : Nat) → (bound eg : List String) →
    (∀ b' ∈ allBlocksL bs, b'.walrus = []) →
    ∀ b' ∈ allBlocksL bs, ∃ info ∈ (analyzeBlocks bs parent bound eg).1, InfoFacts b' info := by
  intro bs parent bound eg hw b' hb'
  rw [analyzeBlocks_eq]
  obtain ⟨c, hc, hb'⟩ := List.mem_flatMap.mp (allBlocksL_eq bs ▸ hb')
  obtain ⟨i, hi, hf⟩ := table_all c parent bound eg (fun b'' hb'' => hw b'' (mem_allBlocksL hc hb'')) b' hb'
  exact ⟨i, List.mem_flatMap.mpr ⟨c, hc, hi⟩, hf⟩

theorem table_frees (b : Block) (parent : Nat) (B B' eg : List String)
    (hw : ∀ b' ∈ allBlocks b, b'.walrus = []) (hB : ∀ x, x ∈ B' ↔ x ∈ B) (hv : nlOkB B b = true) :
    ∀ p ∈ ctxBlocks B b, p.1.kind.functionLike = true →
      ∃ info ∈ (analyzeBlock b parent B' eg).1, InfoFacts p.1 info ∧ ∀ x, x ∈ info.frees ↔ x ∈ outerB p.1 ∧ x ∈ p.2 :=
  fun p hp hk =>
    have ⟨i, hi, hf, h⟩ := table_ctx b parent B B' eg hw hB p hp
    ⟨i, hi, hf, h hv hk⟩

theorem table_freesL : (bs : List Block) → (parent : Nat) → (B B' eg : List String) →
    (∀ b' ∈ allBlocksL bs, b'.walrus = []) → (∀ x, x ∈ B' ↔ x ∈ B) → nlOkBs B bs = true →
    ∀ p ∈ ctxBlocksL B bs, p.1.kind.functionLike = true →
      ∃ info ∈ (analyzeBlocks bs parent B' eg).1, InfoFacts p.1 info ∧ ∀ x, x ∈ info.frees ↔ x ∈ outerB p.1 ∧ x ∈ p.2 := by
  intro bs parent B B' eg hw hB hv p hp hk
  rw [analyzeBlocks_eq]
  rw [nlOkBs_eq, List.all_eq_true] at hv
  obtain ⟨c, hc, hp⟩ := List.mem_flatMap.mp (ctxBlocksL_eq B bs ▸ hp)
  obtain ⟨i, hi, hf⟩ := table_frees c parent B B' eg (fun b'' hb'' => hw b'' (mem_allBlocksL hc hb'')) hB (hv c hc) p hp hk
  exact ⟨i, List.mem_flatMap.mpr ⟨c, hc, hi⟩, hf⟩

theorem nlOkB_congr : (b : Block) → (B B' : List String) → (∀ x, x ∈ B' ↔ x ∈ B) → nlOkB B' b = nlOkB B b := by
  intro b
  induction b using Block.ind with
  | _ b ih =>
    intro B B' h
    have hv : ∀ x, x ∈ visibleIn b.kind b.params b.binds b.globals b.nonlocals B' ↔
        x ∈ visibleIn b.kind b.params b.binds b.globals b.nonlocals B := fun x => by simp only [mem_visibleIn, h x]
    rw [Bool.eq_iff_iff, nlOkB_iff, nlOkB_iff]
    simp only [h]
    exact and_congr_right fun _ => forall₂_congr fun c hc => by rw [ih c hc _ _ hv]

theorem nlOkBs_congr : (bs : List Block) → (B B' : List String) → (∀ x, x ∈ B' ↔ x ∈ B) → nlOkBs B' bs = nlOkBs B bs :=
  fun bs B B' h => by
    rw [nlOkBs_eq, nlOkBs_eq]
    exact List.all_congr rfl fun c => nlOkB_congr c B B' h

theorem outerB_sub_needsB (b : Block) : ∀ x, x ∈ outerB b → x ∈ needsB b := by
  induction b using Block.ind with
  | _ b ih =>
    intro x hx
    have ihc : x ∈ outerBs b.children → x ∈ needsBs b.children := by
      simp only [outerBs_eq, needsBs_eq, List.mem_flatMap]
      exact fun ⟨c, hc, hx⟩ => ⟨c, hc, ih c hc x hx⟩
    obtain ⟨id, kind, name, params, binds, globals, nonlocals, uses, walrus, children⟩ := b
    cases hk : kind.functionLike <;>
      simp only [outerB, needsB, hk, Bool.false_eq_true, ↓reduceIte, List.mem_append, List.mem_filter, Block.children] at hx ihc ⊢ <;>
      simp at hx ⊢ <;> grind

theorem outerBs_sub_needsBs (bs : List Block) : ∀ x, x ∈ outerBs bs → x ∈ needsBs bs := by
  intro x
  simp only [outerBs_eq, needsBs_eq, List.mem_flatMap]
  exact fun ⟨c, hc, hx⟩ => ⟨c, hc, outerB_sub_needsB c x hx⟩

end Malt.Analysis
