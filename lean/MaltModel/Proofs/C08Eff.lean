import MaltModel.Proofs.C08Plain
/-
The effect language: what a visit adds (`Eff`) as a bottom-up attribute of the syntax (meant on `FragE/C/S/SC` only);
`effC`, `effSC` thread the iteration variables of the open comprehensions.
-/
namespace Malt.Analysis
open Malt.Py

structure Eff where
  read : QSet := []
  modified : QSet := []
  deleted : QSet := []
  bound : QSet := []
  globals : QSet := []
  nonlocals : QSet := []
  annotations : QSet := []
  deriving Inhabited

def Eff.append (a b : Eff) : Eff :=
  { read := a.read ++ b.read, modified := a.modified ++ b.modified, deleted := a.deleted ++ b.deleted,
    bound := a.bound ++ b.bound, globals := a.globals ++ b.globals, nonlocals := a.nonlocals ++ b.nonlocals,
    annotations := a.annotations ++ b.annotations }

instance : Append Eff := ⟨Eff.append⟩

theorem Eff.append_assoc (a b c : Eff) : a ++ b ++ c = a ++ (b ++ c) := by
  show Eff.append (Eff.append a b) c = Eff.append a (Eff.append b c)
  simp only [Eff.append, List.append_assoc]

theorem Eff.append_empty (a : Eff) : a ++ {} = a := by
  show Eff.append a {} = a
  simp only [Eff.append, List.append_nil]

@[simp] theorem Eff.append_read (a b : Eff) : (a ++ b).read = a.read ++ b.read := rfl
@[simp] theorem Eff.append_modified (a b : Eff) : (a ++ b).modified = a.modified ++ b.modified := rfl
@[simp] theorem Eff.append_deleted (a b : Eff) : (a ++ b).deleted = a.deleted ++ b.deleted := rfl
@[simp] theorem Eff.append_bound (a b : Eff) : (a ++ b).bound = a.bound ++ b.bound := rfl
@[simp] theorem Eff.append_globals (a b : Eff) : (a ++ b).globals = a.globals ++ b.globals := rfl
@[simp] theorem Eff.append_nonlocals (a b : Eff) : (a ++ b).nonlocals = a.nonlocals ++ b.nonlocals := rfl
@[simp] theorem Eff.append_annotations (a b : Eff) : (a ++ b).annotations = a.annotations ++ b.annotations := rfl

structure Eff.Equiv (d e : Eff) : Prop where
  read : ∀ q, q ∈ d.read ↔ q ∈ e.read
  modified : ∀ q, q ∈ d.modified ↔ q ∈ e.modified
  deleted : ∀ q, q ∈ d.deleted ↔ q ∈ e.deleted
  bound : ∀ q, q ∈ d.bound ↔ q ∈ e.bound
  globals : ∀ q, q ∈ d.globals ↔ q ∈ e.globals
  nonlocals : ∀ q, q ∈ d.nonlocals ↔ q ∈ e.nonlocals
  annotations : ∀ q, q ∈ d.annotations ↔ q ∈ e.annotations

/-- `Scope.finalize`: what a finished scope adds to its parent. -/
def Eff.exported (iso : Bool) (d : Eff) : Eff :=
  if iso then { read := d.read.diff ((d.bound.diff d.nonlocals).diff d.globals), annotations := d.annotations.diff d.bound }
  else { d with deleted := [] }   -- `finalize` does not export `deleted`

@[simp] theorem Eff.exported_false_read (d : Eff) : (d.exported false).read = d.read := rfl
@[simp] theorem Eff.exported_false_modified (d : Eff) : (d.exported false).modified = d.modified := rfl
@[simp] theorem Eff.exported_false_bound (d : Eff) : (d.exported false).bound = d.bound := rfl
@[simp] theorem Eff.exported_false_globals (d : Eff) : (d.exported false).globals = d.globals := rfl
@[simp] theorem Eff.exported_false_nonlocals (d : Eff) : (d.exported false).nonlocals = d.nonlocals := rfl
@[simp] theorem Eff.exported_false_annotations (d : Eff) : (d.exported false).annotations = d.annotations := rfl
@[simp] theorem Eff.exported_false_deleted (d : Eff) : (d.exported false).deleted = [] := rfl
@[simp] theorem Eff.exported_false_bound' (d : Eff) : (d.exported false).bound = d.bound := rfl
@[simp] theorem Eff.exported_true_bound (d : Eff) : (d.exported true).bound = [] := rfl
@[simp] theorem Eff.exported_true_globals (d : Eff) : (d.exported true).globals = [] := rfl
@[simp] theorem Eff.exported_true_nonlocals (d : Eff) : (d.exported true).nonlocals = [] := rfl
@[simp] theorem Eff.exported_false_globals' (d : Eff) : (d.exported false).globals = d.globals := rfl
@[simp] theorem Eff.exported_false_nonlocals' (d : Eff) : (d.exported false).nonlocals = d.nonlocals := rfl
@[simp] theorem Eff.exported_true_read (d : Eff) :
    (d.exported true).read = d.read.diff ((d.bound.diff d.nonlocals).diff d.globals) := rfl

/-- `_in_constructor`. -/
def inCtor : List FnCtx → Bool
  | .fn _ name :: .cls _ :: _ => name == "__init__"
  | _ => false

/-- `_track_symbol` with no comprehension open. -/
def trackEff (q? : Option QN) (ctx : Ctx) (cwap aug anno : Bool) : Eff :=
  match q? with
  | none => {}
  | some qn =>
    match ctx with
    | .store =>
        { modified := qn :: (match qn.parent? with | some p => if cwap then [p] else [] | none => []),
          bound := [qn], read := if aug then [qn] else [] }
    | .load => { read := [qn], annotations := if anno then [qn] else [] }
    | .del => { read := [qn], bound := [qn], deleted := [qn] }

@[simp] theorem trackEff_globals (q? : Option QN) (c : Ctx) (cw aug anno : Bool) : (trackEff q? c cw aug anno).globals = [] := by
  cases q? with
  | none => rfl
  | some q => cases c <;> rfl

@[simp] theorem trackEff_nonlocals (q? : Option QN) (c : Ctx) (cw aug anno : Bool) : (trackEff q? c cw aug anno).nonlocals = [] := by
  cases q? with
  | none => rfl
  | some q => cases c <;> rfl

theorem trackEff_bound_sym (q? : Option QN) (c : Ctx) (cw aug anno : Bool) (x : String) :
    QN.sym x ∈ (trackEff q? c cw aug anno).bound ↔ q? = some (.sym x) ∧ c ≠ .load := by
  cases q? with
  | none => simp [trackEff]
  | some q => cases c <;> simp [trackEff, eq_comm]

theorem trackEff_read_sym (q? : Option QN) (c : Ctx) (cw aug anno : Bool) (x : String)
    (h : QN.sym x ∈ (trackEff q? c cw aug anno).read) : q? = some (.sym x) := by
  unfold trackEff at h
  cases q? with
  | none => simp at h
  | some q =>
    cases c <;> simp at h
    · rw [h]
    · rw [h.2]
    · rw [h]

/-- The `bound` effect of `visit_arg` over the parameters. -/
def argNames (as : List Expr) : QSet :=
  as.filterMap fun a => match a with
    | .arg _ n _ => some (.sym n)
    | _ => none

def paramNames (po ar va ko kw : List Expr) : QSet :=
  argNames po ++ argNames ar ++ argNames va ++ argNames ko ++ argNames kw

/-- `_track_symbol` with the comprehensions `cs` open. -/
def trackC (cs : List QSet) (q? : Option QN) (ctx : Ctx) (cwap aug anno : Bool) : Eff × List QSet :=
  match q? with
  | none => ({}, cs)
  | some qn =>
    if hiddenByComps cs qn then ({}, cs) else
    match ctx with
    | .store =>
        match cs with
        | l :: ls => ({}, (l.ins qn) :: ls)
        | [] => (trackEff (some qn) .store cwap aug anno, [])
    | .load => (trackEff (some qn) .load cwap aug anno, cs)
    | .del => (trackEff (some qn) .del cwap aug anno, cs)

mutual
/-- `aug`, `anno`: the flags `_in_aug_assign`, `_in_annotation` at the moment of the visit. -/
def effE (fns : List FnCtx) (aug anno : Bool) (e : Expr) : Eff :=
  match e with
  | .name _ s c => trackEff (some (.sym s)) c false aug anno
  | .const .. | .noneMarker => {}
  | .attr i v a c =>
      effE fns aug anno v ++ trackEff (qnOf (.attr i v a c)) c (inCtor fns && setsSelfAttribute (qnOf (.attr i v a c))) aug anno
  | .subscript i v s c =>
      effE fns aug anno v ++ effE fns aug anno s ++ trackEff (qnOf (.subscript i v s c)) c false aug anno
  | .call _ f as ks =>
      (effEs fns aug anno as ++ effEs fns aug anno ks).exported false ++ effE fns aug anno f
  | .keyword _ _ _ v => effE fns aug anno v
  | .boolop _ _ vs => effEs fns aug anno vs
  | .unary _ _ x => effE fns aug anno x
  | .binop _ _ l r => effE fns aug anno l ++ effE fns aug anno r
  | .compare _ l _ cs => effE fns aug anno l ++ effEs fns aug anno cs
  | .ifexp _ t b o => effE fns aug anno t ++ effE fns aug anno b ++ effE fns aug anno o
  | .lambda i args body =>
      match args with
      | .arguments _ po ar va ko kd kw df =>
          let fns' := FnCtx.lam i :: fns
          let params : QSet := argNames po ++ argNames ar ++ argNames va ++ argNames ko ++ argNames kw
          let defScope : Eff := effEs fns' aug anno kd ++ effEs fns' aug anno df ++ { bound := params }
          let inner : Eff := ({ bound := params } : Eff).exported false ++ (effE fns' aug anno body).exported false
          defScope.exported false ++ inner.exported true ++ { read := inner.read.diff inner.bound }
      | _ => {}
  | .seq _ _ es _ => effEs fns aug anno es
  | .starred _ v _ => effE fns aug anno v
  | .namedexpr _ t v => effE fns aug anno t ++ effE fns aug anno v
  | .comp .. | .comprehension .. | .arguments .. => {}
  | .arg _ n _ => { bound := [.sym n] }
  | .withitem _ c v => (effE fns aug anno c ++ effEs fns aug anno v).exported false
  | .other _ _ _ kids => effEs fns aug anno kids
def effEs (fns : List FnCtx) (aug anno : Bool) (es : List Expr) : Eff :=
  match es with
  | [] => {}
  | e :: rest => effE fns aug anno e ++ effEs fns aug anno rest
end

mutual
def effC (fns : List FnCtx) (aug anno : Bool) (cs : List QSet) (e : Expr) : Eff × List QSet :=
  match e with
  | .name _ s c => trackC cs (some (.sym s)) c false aug anno
  | .const .. | .noneMarker => ({}, cs)
  | .attr i v a c =>
      let r1 := effC fns aug anno cs v
      let r2 := trackC r1.2 (qnOf (.attr i v a c)) c (inCtor fns && setsSelfAttribute (qnOf (.attr i v a c))) aug anno
      (r1.1 ++ r2.1, r2.2)
  | .subscript i v s c =>
      let r1 := effC fns aug anno cs v
      let r2 := effC fns aug anno r1.2 s
      let r3 := trackC r2.2 (qnOf (.subscript i v s c)) c false aug anno
      (r1.1 ++ r2.1 ++ r3.1, r3.2)
  | .call _ f as ks =>
      let r1 := effCs fns aug anno cs as
      let r2 := effCs fns aug anno r1.2 ks
      let r3 := effC fns aug anno r2.2 f
      ((r1.1 ++ r2.1).exported false ++ r3.1, r3.2)
  | .keyword _ _ _ v => effC fns aug anno cs v
  | .boolop _ _ vs => effCs fns aug anno cs vs
  | .unary _ _ x => effC fns aug anno cs x
  | .binop _ _ l r =>
      let r1 := effC fns aug anno cs l
      let r2 := effC fns aug anno r1.2 r
      (r1.1 ++ r2.1, r2.2)
  | .compare _ l _ rs =>
      let r1 := effC fns aug anno cs l
      let r2 := effCs fns aug anno r1.2 rs
      (r1.1 ++ r2.1, r2.2)
  | .ifexp _ t b o =>
      let r1 := effC fns aug anno cs t
      let r2 := effC fns aug anno r1.2 b
      let r3 := effC fns aug anno r2.2 o
      (r1.1 ++ r2.1 ++ r3.1, r3.2)
  | .lambda i args body =>
      match args with
      | .arguments _ po ar va ko kd kw df =>
          let fns' := FnCtx.lam i :: fns
          let params : QSet := paramNames po ar va ko kw
          let r1 := effCs fns' aug anno cs kd
          let r2 := effCs fns' aug anno r1.2 df
          let r3 := effC fns' aug anno r2.2 body
          let defScope : Eff := r1.1 ++ r2.1 ++ { bound := params }
          let inner : Eff := ({ bound := params } : Eff).exported false ++ r3.1.exported false
          (defScope.exported false ++ inner.exported true ++ { read := inner.read.diff inner.bound }, r3.2)
      | _ => ({}, cs)
  | .seq _ _ es _ => effCs fns aug anno cs es
  | .starred _ v _ => effC fns aug anno cs v
  | .namedexpr _ t v =>
      let r1 := effC fns aug anno cs t
      let r2 := effC fns aug anno r1.2 v
      (r1.1 ++ r2.1, r2.2)
  | .comp _ _ elts gens =>
      let r1 := effCs fns aug anno ([] :: cs) gens
      let r2 := effCs fns aug anno r1.2 elts
      (r1.1 ++ r2.1, r2.2.tail)
  | .comprehension _ t it ifs _ =>
      let r1 := effC fns aug anno cs it
      let r2 := effC fns aug anno r1.2 t
      let r3 := effC fns aug anno r2.2 t
      let r4 := effC fns aug anno r3.2 it
      let r5 := effCs fns aug anno r4.2 ifs
      (r1.1 ++ r2.1 ++ r3.1 ++ r4.1 ++ r5.1, r5.2)
  | .arguments .. | .arg .. => ({}, cs)
  | .withitem _ c v =>
      let r1 := effC fns aug anno cs c
      let r2 := effCs fns aug anno r1.2 v
      ((r1.1 ++ r2.1).exported false, r2.2)
  | .other _ _ _ kids => effCs fns aug anno cs kids
def effCs (fns : List FnCtx) (aug anno : Bool) (cs : List QSet) (es : List Expr) : Eff × List QSet :=
  match es with
  | [] => ({}, cs)
  | e :: rest =>
      let r1 := effC fns aug anno cs e
      let r2 := effCs fns aug anno r1.2 rest
      (r1.1 ++ r2.1, r2.2)
end

theorem effE_plain {e : Expr} {ks : List Expr} (h : plainKids e = some ks) (fns : List FnCtx) (aug anno : Bool) :
    effE fns aug anno e = effEs fns aug anno ks := by
  cases e <;> cases h <;> simp only [effE, effEs, Eff.append_assoc, Eff.append_empty]

theorem effC_plain {e : Expr} {ks : List Expr} (h : plainKids e = some ks) (fns : List FnCtx) (aug anno : Bool)
    (cs : List QSet) : effC fns aug anno cs e = effCs fns aug anno cs ks := by
  cases e <;> cases h <;> simp only [effC, effCs, Eff.append_assoc, Eff.append_empty]

theorem trackC_nil (q? : Option QN) (c : Ctx) (cw aug anno : Bool) :
    trackC [] q? c cw aug anno = (trackEff q? c cw aug anno, []) := by
  cases q? with
  | none => rfl
  | some q => cases c <;> simp [trackC, hiddenByComps]

structure HeadOnly (cs cs' : List QSet) : Prop where
  length : cs'.length = cs.length
  tail : cs'.tail = cs.tail

theorem HeadOnly.refl (cs : List QSet) : HeadOnly cs cs := ⟨rfl, rfl⟩

theorem HeadOnly.trans {a b c : List QSet} (h1 : HeadOnly a b) (h2 : HeadOnly b c) : HeadOnly a c :=
  ⟨h2.length.trans h1.length, h2.tail.trans h1.tail⟩

theorem HeadOnly.popped {cs cs' : List QSet} (h : HeadOnly ([] :: cs) cs') : HeadOnly cs cs'.tail := by
  rw [h.tail]
  exact .refl cs

theorem HeadOnly.nil {cs' : List QSet} (h : HeadOnly [] cs') : cs' = [] := List.eq_nil_of_length_eq_zero h.length

theorem HeadOnly.isEmpty {cs cs' : List QSet} (h : HeadOnly cs cs') : cs'.isEmpty = cs.isEmpty := by
  have h1 := h.length
  cases cs <;> cases cs' <;> simp_all

theorem trackC_shape (cs : List QSet) (q? : Option QN) (ctx : Ctx) (cw aug anno : Bool) :
    HeadOnly cs (trackC cs q? ctx cw aug anno).2 := by
  unfold trackC
  cases q? with
  | none => exact .refl _
  | some qn =>
    simp only
    split
    · exact .refl _
    · cases ctx with
      | store => cases cs <;> exact ⟨rfl, rfl⟩
      | load => exact .refl _
      | del => exact .refl _

theorem effC_shape_all : (∀ e fns aug anno cs, HeadOnly cs (effC fns aug anno cs e).2) ∧
    (∀ es fns aug anno cs, HeadOnly cs (effCs fns aug anno cs es).2) := by
  apply Expr.plain_ind
  case nil => intro _ _ _ cs; exact .refl cs
  case cons => intro _ _ ihe ihs fns aug anno cs; simp only [effCs]; exact (ihe ..).trans (ihs ..)
  case plain => intro _ _ hk ih fns aug anno cs; rw [effC_plain hk]; exact ih ..
  case name => intro _ _ _ _ _ _ cs; simp only [effC]; exact trackC_shape ..
  case attr => intro _ _ _ _ ih fns aug anno cs; simp only [effC]; exact (ih ..).trans (trackC_shape ..)
  case subscript =>
    intro _ _ _ _ ihv ihs fns aug anno cs; simp only [effC]; exact ((ihv ..).trans (ihs ..)).trans (trackC_shape ..)
  case call => intro _ _ _ _ ihf ihas ihks fns aug anno cs; simp only [effC]; exact ((ihas ..).trans (ihks ..)).trans (ihf ..)
  case lambda =>
    intro _ args _ ih ihb fns aug anno cs
    cases args with
    | arguments =>
      obtain ⟨ihkd, ihdf⟩ := ih _ _ _ _ _ _ _ _ rfl
      simp only [effC]; exact ((ihkd ..).trans (ihdf ..)).trans (ihb ..)
    | _ => exact .refl cs
  case comp => intro _ _ _ _ ihe ihg _ fns aug anno cs; simp only [effC]; exact ((ihg ..).trans (ihe ..)).popped
  case comprehension =>
    intro _ _ _ _ _ iht ihit ihifs fns aug anno cs; simp only [effC]
    exact ((((ihit ..).trans (iht ..)).trans (iht ..)).trans (ihit ..)).trans (ihifs ..)
  case arguments => intros; exact .refl _
  case arg => intros; exact .refl _
  case withitem => intro _ _ _ ihc ihv fns aug anno cs; simp only [effC]; exact (ihc ..).trans (ihv ..)

theorem effC_nil (e : Expr) (fns : List FnCtx) (aug anno : Bool) : (effC fns aug anno [] e).2 = [] :=
  (effC_shape_all.1 e fns aug anno []).nil

theorem effCs_nil (es : List Expr) (fns : List FnCtx) (aug anno : Bool) : (effCs fns aug anno [] es).2 = [] :=
  (effC_shape_all.2 es fns aug anno []).nil

theorem effC_comp_snd (fns : List FnCtx) (aug anno : Bool) (cs : List QSet) (i : Nat) (k : CompKind) (elts gens : List Expr) :
    (effC fns aug anno cs (.comp i k elts gens)).2 = cs := by
  simp only [effC]
  exact ((effC_shape_all.2 gens fns aug anno ([] :: cs)).trans (effC_shape_all.2 elts fns aug anno _)).tail

def aliasEff (names : List (String × String)) : Eff :=
  { modified := names.map (fun a => .sym (aliasName a)), bound := names.map (fun a => .sym (aliasName a)) }

def globalEff (names : List String) : Eff :=
  { read := names.map .sym, globals := names.map .sym }

def nonlocalEff (names : List String) : Eff :=
  { read := names.map .sym, bound := names.map .sym, nonlocals := names.map .sym }

mutual
def effS (fns : List FnCtx) (s : Stmt) : Eff :=
  match s with
  | .functionDef i name args body decos returns _ =>
      match args with
      | .arguments _ po ar va ko kd kw df =>
          let fns' := FnCtx.fn i name :: fns
          let params := paramNames po ar va ko kw
          let defScope : Eff := effEs fns' false false decos ++ effEs fns' false true returns ++ effEs fns' false false kd ++
            effEs fns' false false df ++ { bound := params } ++ { modified := [.sym name] } ++ { bound := [.sym name] }
          let inner : Eff := ({ bound := params } : Eff).exported false ++ (effSs fns' body).exported false
          defScope.exported false ++ inner.exported true
      | _ => {}
  | .classDef i name bases kws body decos =>
      let fns' := FnCtx.cls i :: fns
      let defScope : Eff := effEs fns' false false decos ++ { modified := [.sym name] } ++ { bound := [.sym name] } ++
        effEs fns' false false bases ++ effEs fns' false false kws
      let inner : Eff := effEs fns' false false bases ++ effEs fns' false false kws ++ effSs fns' body ++ effEs fns' false false decos
      defScope.exported false ++ inner.exported true
  | .ret _ v => (effEs fns false false v).exported false
  | .delete _ ts => (effEs fns false false ts).exported false
  | .assign _ ts v => (effEs fns false false ts ++ effE fns false false v).exported false
  | .augAssign _ t _ v => (effE fns true false t ++ effE fns false false v).exported false
  | .annAssign _ t an v _ => (effE fns false false t ++ effEs fns false false v ++ effE fns false true an).exported false
  | .for_ _ t it body orelse _ _ =>
      (effE fns false false t ++ effE fns false false it).exported false ++ (effE fns false false t).exported false ++
        ((effSs fns body).exported false ++ (effSs fns orelse).exported false)
  | .while_ _ t body orelse =>
      (effE fns false false t).exported false ++ ((effSs fns body).exported false ++ (effSs fns orelse).exported false)
  | .if_ _ t body orelse =>
      (effE fns false false t).exported false ++ ((effSs fns body).exported false ++ (effSs fns orelse).exported false)
  | .with_ _ items body _ => (effEs fns false false items ++ effSs fns body).exported false
  | .raise _ e c => (effEs fns false false e ++ effEs fns false false c).exported false
  | .try_ _ b h o f => effSs fns b ++ effSs fns h ++ effSs fns o ++ effSs fns f
  | .handler _ ty _ body => (effEs fns false false ty ++ effSs fns body).exported false
  | .assert_ _ t m => (effE fns false false t ++ effEs fns false false m).exported false
  | .import_ _ names => (aliasEff names).exported false
  | .importFrom _ _ names _ => (aliasEff names).exported false
  | .global _ names => (globalEff names).exported false
  | .nonlocal _ names => (nonlocalEff names).exported false
  | .expr _ v => (effE fns false false v).exported false
  | .pass _ | .break_ _ | .continue_ _ => {}
  | .other _ _ es bs => effEs fns false false es ++ effSs fns bs
def effSs (fns : List FnCtx) (ss : List Stmt) : Eff :=
  match ss with
  | [] => {}
  | s :: rest => effS fns s ++ effSs fns rest
end

mutual
/-- `effS` with `effC … []` in place of `effE`. -/
def effSC (fns : List FnCtx) (s : Stmt) : Eff :=
  match s with
  | .functionDef i name args body decos returns _ =>
      match args with
      | .arguments _ po ar va ko kd kw df =>
          let fns' := FnCtx.fn i name :: fns
          let params := paramNames po ar va ko kw
          let defScope : Eff := (effCs fns' false false [] decos).1 ++ (effCs fns' false true [] returns).1 ++ (effCs fns' false false [] kd).1 ++
            (effCs fns' false false [] df).1 ++ { bound := params } ++ { modified := [.sym name] } ++ { bound := [.sym name] }
          let inner : Eff := ({ bound := params } : Eff).exported false ++ (effSCs fns' body).exported false
          defScope.exported false ++ inner.exported true
      | _ => {}
  | .classDef i name bases kws body decos =>
      let fns' := FnCtx.cls i :: fns
      let defScope : Eff := (effCs fns' false false [] decos).1 ++ { modified := [.sym name] } ++ { bound := [.sym name] } ++
        (effCs fns' false false [] bases).1 ++ (effCs fns' false false [] kws).1
      let inner : Eff := (effCs fns' false false [] bases).1 ++ (effCs fns' false false [] kws).1 ++ effSCs fns' body ++ (effCs fns' false false [] decos).1
      defScope.exported false ++ inner.exported true
  | .ret _ v => ((effCs fns false false [] v).1).exported false
  | .delete _ ts => ((effCs fns false false [] ts).1).exported false
  | .assign _ ts v => ((effCs fns false false [] ts).1 ++ (effC fns false false [] v).1).exported false
  | .augAssign _ t _ v => ((effC fns true false [] t).1 ++ (effC fns false false [] v).1).exported false
  | .annAssign _ t an v _ => ((effC fns false false [] t).1 ++ (effCs fns false false [] v).1 ++ (effC fns false true [] an).1).exported false
  | .for_ _ t it body orelse _ _ =>
      ((effC fns false false [] t).1 ++ (effC fns false false [] it).1).exported false ++ ((effC fns false false [] t).1).exported false ++
        ((effSCs fns body).exported false ++ (effSCs fns orelse).exported false)
  | .while_ _ t body orelse =>
      ((effC fns false false [] t).1).exported false ++ ((effSCs fns body).exported false ++ (effSCs fns orelse).exported false)
  | .if_ _ t body orelse =>
      ((effC fns false false [] t).1).exported false ++ ((effSCs fns body).exported false ++ (effSCs fns orelse).exported false)
  | .with_ _ items body _ => ((effCs fns false false [] items).1 ++ effSCs fns body).exported false
  | .raise _ e c => ((effCs fns false false [] e).1 ++ (effCs fns false false [] c).1).exported false
  | .try_ _ b h o f => effSCs fns b ++ effSCs fns h ++ effSCs fns o ++ effSCs fns f
  | .handler _ ty _ body => ((effCs fns false false [] ty).1 ++ effSCs fns body).exported false
  | .assert_ _ t m => ((effC fns false false [] t).1 ++ (effCs fns false false [] m).1).exported false
  | .import_ _ names => (aliasEff names).exported false
  | .importFrom _ _ names _ => (aliasEff names).exported false
  | .global _ names => (globalEff names).exported false
  | .nonlocal _ names => (nonlocalEff names).exported false
  | .expr _ v => ((effC fns false false [] v).1).exported false
  | .pass _ | .break_ _ | .continue_ _ => {}
  | .other _ _ es bs => (effCs fns false false [] es).1 ++ effSCs fns bs
def effSCs (fns : List FnCtx) (ss : List Stmt) : Eff :=
  match ss with
  | [] => {}
  | s :: rest => effSC fns s ++ effSCs fns rest
end

mutual
/-- `s` included; async ones too (`FragS` excludes them). -/
def defsS : Stmt → List Stmt
  | .functionDef i name args body decos returns isAsync =>
      .functionDef i name args body decos returns isAsync :: defsSs body
  | .classDef _ _ _ _ body _ => defsSs body
  | .for_ _ _ _ body orelse _ _ => defsSs body ++ defsSs orelse
  | .while_ _ _ body orelse => defsSs body ++ defsSs orelse
  | .if_ _ _ body orelse => defsSs body ++ defsSs orelse
  | .with_ _ _ body _ => defsSs body
  | .try_ _ b h o f => defsSs b ++ defsSs h ++ defsSs o ++ defsSs f
  | .handler _ _ _ body => defsSs body
  | .other _ _ _ bs => defsSs bs
  | _ => []
def defsSs : List Stmt → List Stmt
  | [] => []
  | s :: rest => defsS s ++ defsSs rest
end

theorem FragS.defs (s : Stmt) : FragS s = true → ∀ d ∈ defsS s, FragS d = true :=
  Stmt.rec (motive_1 := fun s => FragS s = true → ∀ d ∈ defsS s, FragS d = true)
    (motive_2 := fun ss => FragSs ss = true → ∀ d ∈ defsSs ss, FragS d = true)
    (functionDef := fun _ _ _ _ _ _ _ ihb h d hd => (List.mem_cons.mp hd).elim (fun e => e ▸ h) (ihb (and_right h) d))
    (classDef := fun _ _ _ _ _ _ ihb h => ihb (and_right h))
    (with_ := fun _ _ _ _ ihb h => ihb (and_right h))
    (handler := fun _ _ _ _ ihb h => ihb (and_right h))
    (other := fun _ _ _ _ ihb h => ihb (and_right h))
    (for_ := fun _ _ _ _ _ _ _ ihb iho h d hd =>
      (List.mem_append.mp hd).elim (ihb (and_right (and_left h)) d) (iho (and_right h) d))
    (while_ := fun _ _ _ _ ihb iho h d hd =>
      (List.mem_append.mp hd).elim (ihb (and_right (and_left h)) d) (iho (and_right h) d))
    (if_ := fun _ _ _ _ ihb iho h d hd =>
      (List.mem_append.mp hd).elim (ihb (and_right (and_left h)) d) (iho (and_right h) d))
    (try_ := fun _ _ _ _ _ ihb ihh iho ihf h d hd =>
      (List.mem_append.mp hd).elim (fun hd => (List.mem_append.mp hd).elim (fun hd => (List.mem_append.mp hd).elim
        (ihb (and_left (and_left (and_left h))) d) (ihh (and_right (and_left (and_left h))) d))
        (iho (and_right (and_left h)) d)) (ihf (and_right h) d))
    (ret := fun _ _ _ _ hd => nomatch hd) (delete := fun _ _ _ _ hd => nomatch hd) (assign := fun _ _ _ _ _ hd => nomatch hd)
    (augAssign := fun _ _ _ _ _ _ hd => nomatch hd) (annAssign := fun _ _ _ _ _ _ _ hd => nomatch hd)
    (raise := fun _ _ _ _ _ hd => nomatch hd) (assert_ := fun _ _ _ _ _ hd => nomatch hd)
    (import_ := fun _ _ _ _ hd => nomatch hd) (importFrom := fun _ _ _ _ _ _ hd => nomatch hd)
    (global := fun _ _ _ _ hd => nomatch hd) (nonlocal := fun _ _ _ _ hd => nomatch hd) (expr := fun _ _ _ _ hd => nomatch hd)
    (pass := fun _ _ _ hd => nomatch hd) (break_ := fun _ _ _ hd => nomatch hd) (continue_ := fun _ _ _ hd => nomatch hd)
    (nil := fun _ _ hd => nomatch hd)
    (cons := fun _ _ ihs ihr h d hd => (List.mem_append.mp hd).elim (ihs (and_left h) d) (ihr (and_right h) d)) s

theorem FragSs.defs : (ss : List Stmt) → FragSs ss = true → ∀ d ∈ defsSs ss, FragS d = true
  | [], _, _, hd => nomatch hd
  | s :: r, h, d, hd => (List.mem_append.mp hd).elim (FragS.defs s (and_left h) d) (FragSs.defs r (and_right h) d)

end Malt.Analysis
