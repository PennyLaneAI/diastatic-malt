import MaltModel.Proofs.C08Eff
/-
One lemma per primitive of the analyzer's scope stack (`Adds`; `AddsC` while comprehensions are open).
-/
namespace Malt.Analysis
open Malt.Py

/-- The scope `self.scope`. -/
def St.top (st : St) : Scope := st.stack.headD default

theorem St.stack_eq_top_cons {st : St} (h : st.stack ≠ []) : st.stack = st.top :: st.stack.tail := by
  unfold St.top
  cases hs : st.stack with
  | nil => exact absurd hs h
  | cons a r => rfl

theorem St.head?_eq_top {st : St} (h : st.stack ≠ []) : st.stack.head? = some st.top := by
  rw [St.stack_eq_top_cons h]; rfl

section modTop
variable (st : St) (f : Scope → Scope)
@[simp] theorem St.modTop_next : (st.modTop f).next = st.next := by unfold St.modTop; split <;> rfl
@[simp] theorem St.modTop_closed : (st.modTop f).closed = st.closed := by unfold St.modTop; split <;> rfl
@[simp] theorem St.modTop_annos : (st.modTop f).annos = st.annos := by unfold St.modTop; split <;> rfl
@[simp] theorem St.modTop_comps : (st.modTop f).comps = st.comps := by unfold St.modTop; split <;> rfl
@[simp] theorem St.modTop_fns : (st.modTop f).fns = st.fns := by unfold St.modTop; split <;> rfl
@[simp] theorem St.modTop_inAug : (st.modTop f).inAug = st.inAug := by unfold St.modTop; split <;> rfl
@[simp] theorem St.modTop_inAnno : (st.modTop f).inAnno = st.inAnno := by unfold St.modTop; split <;> rfl
@[simp] theorem St.modTop_annoOnly : (st.modTop f).annoOnly = st.annoOnly := by unfold St.modTop; split <;> rfl
@[simp] theorem St.modTop_err : (st.modTop f).err = st.err := by unfold St.modTop; split <;> rfl
@[simp] theorem St.modTop_tail : (st.modTop f).stack.tail = st.stack.tail := by
  unfold St.modTop; split <;> simp [*]
theorem St.modTop_top (h : st.stack ≠ []) : (st.modTop f).top = f st.top := by
  unfold St.modTop St.top; split <;> simp_all
@[simp] theorem St.modTop_ne_nil : (st.modTop f).stack ≠ [] ↔ st.stack ≠ [] := by
  unfold St.modTop; split <;> simp [*]
end modTop

@[simp] theorem St.enter_tail (st : St) (iso : Bool) (fn : Option String) :
    (st.enter iso fn).stack.tail = st.stack := by simp [St.enter]
@[simp] theorem St.enter_ne (st : St) (iso : Bool) (fn : Option String) : (st.enter iso fn).stack ≠ [] := by simp [St.enter]
@[simp] theorem St.enter_fns (st : St) (iso : Bool) (fn : Option String) : (st.enter iso fn).fns = st.fns := rfl
@[simp] theorem St.enter_inAug (st : St) (iso : Bool) (fn : Option String) : (st.enter iso fn).inAug = st.inAug := rfl
@[simp] theorem St.enter_inAnno (st : St) (iso : Bool) (fn : Option String) : (st.enter iso fn).inAnno = st.inAnno := rfl
@[simp] theorem St.enter_annos (st : St) (iso : Bool) (fn : Option String) : (st.enter iso fn).annos = st.annos := rfl

@[simp] theorem St.addRead_inAug (st : St) (q : QN) : (st.addRead q).inAug = st.inAug := by simp [St.addRead]
@[simp] theorem St.addModified_inAug (st : St) (q : QN) : (st.addModified q).inAug = st.inAug := by simp [St.addModified]
@[simp] theorem St.addBound_inAug (st : St) (q : QN) : (st.addBound q).inAug = st.inAug := by simp [St.addBound]
@[simp] theorem St.addRead_inAnno (st : St) (q : QN) : (st.addRead q).inAnno = st.inAnno := by simp [St.addRead]
theorem St.addModified_comps (st : St) (q : QN) : (st.addModified q).comps = st.comps := by simp [St.addModified]

theorem St.top_params_addBound (st : St) (q : QN) (h : st.stack ≠ []) : (st.addBound q).top.params = st.top.params := by
  simp [St.addBound, St.modTop_top _ _ h]

theorem St.top_params_addParam (st : St) (q : QN) (o : Nat) (h : st.stack ≠ []) :
    (st.addParam q o).top.params = (q, o) :: st.top.params := by
  simp [St.addParam, St.modTop_top _ _ h]

theorem St.modTop_setAnnoOnly (st : St) (f : Scope → Scope) (b : Bool) :
    St.modTop (st.setAnnoOnly b) f = (st.modTop f).setAnnoOnly b := by
  cases st with
  | mk stack next closed annos comps fns inAug inAnno annoOnly err =>
    cases stack <;> rfl

theorem St.setAnnoOnly_self {st : St} (h : st.annoOnly = false) : st.setAnnoOnly false = st := by
  cases st; simp_all [St.setAnnoOnly]

@[simp] theorem St.setAnnoOnly_setAnnoOnly (st : St) (a b : Bool) : (st.setAnnoOnly a).setAnnoOnly b = st.setAnnoOnly b := rfl

theorem St.annos_sub_exitWith (st : St) (recs : List (Nat × AnnoKey)) : ∀ x, x ∈ st.annos → x ∈ (st.exitWith recs).annos := by
  intro x hx
  unfold St.exitWith
  split
  · exact List.mem_append_right _ hx
  · exact hx

theorem copyFromStack_self (l : List Scope) : copyFromStack l l = l := by
  induction l with
  | nil => rfl
  | cons s r ih => cases s; simp [copyFromStack, Scope.copyFrom, ih]

@[simp] theorem QSet.union_self (a : QSet) : QSet.union a a = a := by
  unfold QSet.union
  have : a.filter (fun q => !a.contains q) = [] := by
    apply List.filter_eq_nil_iff.mpr
    intro q hq
    simp [hq]
  rw [this, List.append_nil]

theorem Scope.mergeFrom_self (s : Scope) : s.mergeFrom s = s := by
  cases s with
  | mk sid parent isolated functionName isolatedNames read modified deleted bound globals nonlocals annotations params =>
    simp only [Scope.mergeFrom, QSet.union_self]
    simp
    exact fun a b h => ⟨b, h⟩

theorem mergeFromStack_self (l : List Scope) : mergeFromStack l l = l := by
  induction l with
  | nil => rfl
  | cons s r ih => simp [mergeFromStack, Scope.mergeFrom_self, ih]

theorem St.restore_self (st : St) : st.restore st.stack = st := by
  simp [St.restore, copyFromStack_self]

structure ScopeAdds (s s' : Scope) (d : Eff) : Prop where
  sid : s'.sid = s.sid
  parent : s'.parent = s.parent
  isolated : s'.isolated = s.isolated
  functionName : s'.functionName = s.functionName
  isolatedNames : s'.isolatedNames = s.isolatedNames
  read : ∀ q, q ∈ s'.read ↔ q ∈ s.read ∨ q ∈ d.read
  modified : ∀ q, q ∈ s'.modified ↔ q ∈ s.modified ∨ q ∈ d.modified
  deleted : ∀ q, q ∈ s'.deleted ↔ q ∈ s.deleted ∨ q ∈ d.deleted
  bound : ∀ q, q ∈ s'.bound ↔ q ∈ s.bound ∨ q ∈ d.bound
  globals : ∀ q, q ∈ s'.globals ↔ q ∈ s.globals ∨ q ∈ d.globals
  nonlocals : ∀ q, q ∈ s'.nonlocals ↔ q ∈ s.nonlocals ∨ q ∈ d.nonlocals
  annotations : ∀ q, q ∈ s'.annotations ↔ q ∈ s.annotations ∨ q ∈ d.annotations

theorem ScopeAdds.refl (s : Scope) : ScopeAdds s s {} :=
  ⟨rfl, rfl, rfl, rfl, rfl, by simp, by simp, by simp, by simp, by simp, by simp, by simp⟩

theorem ScopeAdds.trans {a b c : Scope} {d1 d2 : Eff} (h1 : ScopeAdds a b d1) (h2 : ScopeAdds b c d2) :
    ScopeAdds a c (d1 ++ d2) where
  sid := h2.sid.trans h1.sid
  parent := h2.parent.trans h1.parent
  isolated := h2.isolated.trans h1.isolated
  functionName := h2.functionName.trans h1.functionName
  isolatedNames := h2.isolatedNames.trans h1.isolatedNames
  read q := by simp [h2.read, h1.read, or_assoc]
  modified q := by simp [h2.modified, h1.modified, or_assoc]
  deleted q := by simp [h2.deleted, h1.deleted, or_assoc]
  bound q := by simp [h2.bound, h1.bound, or_assoc]
  globals q := by simp [h2.globals, h1.globals, or_assoc]
  nonlocals q := by simp [h2.nonlocals, h1.nonlocals, or_assoc]
  annotations q := by simp [h2.annotations, h1.annotations, or_assoc]

theorem ScopeAdds.congr {a b : Scope} {d e : Eff} (h : ScopeAdds a b d) (he : Eff.Equiv d e) : ScopeAdds a b e where
  sid := h.sid
  parent := h.parent
  isolated := h.isolated
  functionName := h.functionName
  isolatedNames := h.isolatedNames
  read q := by rw [h.read, he.read]
  modified q := by rw [h.modified, he.modified]
  deleted q := by rw [h.deleted, he.deleted]
  bound q := by rw [h.bound, he.bound]
  globals q := by rw [h.globals, he.globals]
  nonlocals q := by rw [h.nonlocals, he.nonlocals]
  annotations q := by rw [h.annotations, he.annotations]

theorem ScopeAdds.insRead (s : Scope) (q : QN) : ScopeAdds s { s with read := s.read.ins q } { read := [q] } :=
  { ScopeAdds.refl s with read := by intro x; simp [or_comm] }

theorem ScopeAdds.insModified (s : Scope) (q : QN) : ScopeAdds s { s with modified := s.modified.ins q } { modified := [q] } :=
  { ScopeAdds.refl s with modified := by intro x; simp [or_comm] }

theorem ScopeAdds.insDeleted (s : Scope) (q : QN) : ScopeAdds s { s with deleted := s.deleted.ins q } { deleted := [q] } :=
  { ScopeAdds.refl s with deleted := by intro x; simp [or_comm] }

theorem ScopeAdds.insBound (s : Scope) (q : QN) : ScopeAdds s { s with bound := s.bound.ins q } { bound := [q] } :=
  { ScopeAdds.refl s with bound := by intro x; simp [or_comm] }

theorem ScopeAdds.insGlobal (s : Scope) (q : QN) : ScopeAdds s { s with globals := s.globals.ins q } { globals := [q] } :=
  { ScopeAdds.refl s with globals := by intro x; simp [or_comm] }

theorem ScopeAdds.insNonlocal (s : Scope) (q : QN) : ScopeAdds s { s with nonlocals := s.nonlocals.ins q } { nonlocals := [q] } :=
  { ScopeAdds.refl s with nonlocals := by intro x; simp [or_comm] }

theorem ScopeAdds.insAnnotation (s : Scope) (q : QN) :
    ScopeAdds s { s with annotations := s.annotations.ins q } { annotations := [q] } :=
  { ScopeAdds.refl s with annotations := by intro x; simp [or_comm] }

theorem ScopeAdds.consParam (s : Scope) (q : QN) (o : Nat) : ScopeAdds s { s with params := (q, o) :: s.params } {} :=
  { ScopeAdds.refl s with }

structure Fresh (s : Scope) (iso : Bool) : Prop where
  isolated : s.isolated = iso
  isolatedNames : s.isolatedNames = []
  read : s.read = []
  modified : s.modified = []
  deleted : s.deleted = []
  bound : s.bound = []
  globals : s.globals = []
  nonlocals : s.nonlocals = []
  annotations : s.annotations = []

theorem St.enter_top_fresh (st : St) (iso : Bool) (fn : Option String) : Fresh (st.enter iso fn).top iso := by
  simp only [St.enter, St.top, List.headD_cons]
  exact ⟨rfl, rfl, rfl, rfl, rfl, rfl, rfl, rfl, rfl⟩

/-- The scope `_exit_scope` pops when the visits since `_enter_scope` added `d`.  `isolatedNames` is written only
    where the model sets `err`. -/
structure Popped (c : Scope) (iso : Bool) (d : Eff) : Prop where
  isolated : c.isolated = iso
  isolatedNames : c.isolatedNames = []
  read : ∀ q, q ∈ c.read ↔ q ∈ d.read
  modified : ∀ q, q ∈ c.modified ↔ q ∈ d.modified
  deleted : ∀ q, q ∈ c.deleted ↔ q ∈ d.deleted
  bound : ∀ q, q ∈ c.bound ↔ q ∈ d.bound
  globals : ∀ q, q ∈ c.globals ↔ q ∈ d.globals
  nonlocals : ∀ q, q ∈ c.nonlocals ↔ q ∈ d.nonlocals
  annotations : ∀ q, q ∈ c.annotations ↔ q ∈ d.annotations

theorem popped_of_adds {s c : Scope} {iso : Bool} {d : Eff} (hf : Fresh s iso) (h : ScopeAdds s c d) : Popped c iso d where
  isolated := h.isolated.trans hf.isolated
  isolatedNames := h.isolatedNames.trans hf.isolatedNames
  read q := by simp [h.read, hf.read]
  modified q := by simp [h.modified, hf.modified]
  deleted q := by simp [h.deleted, hf.deleted]
  bound q := by simp [h.bound, hf.bound]
  globals q := by simp [h.globals, hf.globals]
  nonlocals q := by simp [h.nonlocals, hf.nonlocals]
  annotations q := by simp [h.annotations, hf.annotations]

theorem finalizeInto_adds {c p : Scope} {iso : Bool} {d : Eff} (hc : Popped c iso d) :
    ScopeAdds p (c.finalizeInto p) (d.exported iso) := by
  cases iso with
  | true =>
    -- isolated: `passedOn` and the unbound annotations only
    rw [Scope.finalizeInto, if_pos hc.isolated]
    exact ⟨rfl, rfl, rfl, rfl, rfl,
      fun q => by simp [Scope.passedOn, Eff.exported, hc.read, hc.bound, hc.nonlocals, hc.globals],
      fun q => by simp [Eff.exported], fun q => by simp [Eff.exported], fun q => by simp [Eff.exported],
      fun q => by simp [Eff.exported], fun q => by simp [Eff.exported],
      fun q => by simp [Eff.exported, hc.annotations, hc.bound]⟩
  | false =>
    -- plain: everything except `deleted`
    rw [Scope.finalizeInto, if_neg (by simp [hc.isolated])]
    exact ⟨rfl, rfl, rfl, rfl, rfl,
      fun q => by simp [Eff.exported, hc.isolatedNames, QSet.diff, hc.read],
      fun q => by simp [Eff.exported, hc.isolatedNames, QSet.diff, hc.modified],
      fun q => by simp [Eff.exported],
      fun q => by simp [Eff.exported, hc.isolatedNames, QSet.diff, hc.bound],
      fun q => by simp [Eff.exported, hc.globals], fun q => by simp [Eff.exported, hc.nonlocals],
      fun q => by simp [Eff.exported, hc.annotations]⟩

/-- A scope is open, no comprehension is being processed, `_track_annotations_only` is off. -/
structure Plain (st : St) : Prop where
  ne : st.stack ≠ []
  comps : st.comps = []
  annoOnly : st.annoOnly = false

structure PlainC (st : St) : Prop where
  ne : st.stack ≠ []
  annoOnly : st.annoOnly = false

structure InCtx (st : St) (fns : List FnCtx) (aug anno : Bool) : Prop where
  fns : st.fns = fns
  inAug : st.inAug = aug
  inAnno : st.inAnno = anno

structure Ready (st : St) (fns : List FnCtx) (aug anno : Bool) (cs : List QSet) : Prop where
  plain : PlainC st
  ctx : InCtx st fns aug anno
  comps : st.comps = cs

/-- Statement level: neither `_in_aug_assign` nor `_in_annotation` is set. -/
structure PlainS (st : St) (fns : List FnCtx) : Prop where
  plain : Plain st
  ctx : InCtx st fns false false

theorem Plain.toC {st : St} (h : Plain st) : PlainC st := ⟨h.ne, h.annoOnly⟩

theorem Plain.enter {st : St} (h : Plain st) (iso : Bool) (fn : Option String) : Plain (st.enter iso fn) :=
  ⟨St.enter_ne _ _ _, h.comps, h.annoOnly⟩

theorem Plain.pushFn {st : St} (h : Plain st) (f : FnCtx) : Plain (st.pushFn f) := ⟨h.ne, h.comps, h.annoOnly⟩

theorem Plain.ready {st : St} (h : Plain st) : Ready st st.fns st.inAug st.inAnno [] := ⟨h.toC, ⟨rfl, rfl, rfl⟩, h.comps⟩

theorem InCtx.enter {st : St} {fns aug anno} (c : InCtx st fns aug anno) (iso : Bool) (fn : Option String) :
    InCtx (st.enter iso fn) fns aug anno := ⟨c.fns, c.inAug, c.inAnno⟩

theorem InCtx.pushFn {st : St} {fns aug anno} (c : InCtx st fns aug anno) (f : FnCtx) : InCtx (st.pushFn f) (f :: fns) aug anno :=
  ⟨by simp [St.pushFn, c.fns], c.inAug, c.inAnno⟩

theorem Ready.refl {st : St} (h : PlainC st) : Ready st st.fns st.inAug st.inAnno st.comps := ⟨h, ⟨rfl, rfl, rfl⟩, rfl⟩

theorem Ready.enter {st fns aug anno cs} (r : Ready st fns aug anno cs) (iso : Bool) (fn : Option String) :
    Ready (st.enter iso fn) fns aug anno cs :=
  ⟨⟨St.enter_ne _ _ _, r.plain.annoOnly⟩, r.ctx.enter iso fn, r.comps⟩

theorem Ready.pushFn {st fns aug anno cs} (r : Ready st fns aug anno cs) (f : FnCtx) :
    Ready (st.pushFn f) (f :: fns) aug anno cs :=
  ⟨⟨r.plain.ne, r.plain.annoOnly⟩, r.ctx.pushFn f, r.comps⟩

theorem Ready.pushComp {st fns aug anno cs} (r : Ready st fns aug anno cs) : Ready st.pushComp fns aug anno ([] :: cs) :=
  ⟨⟨r.plain.ne, r.plain.annoOnly⟩, ⟨r.ctx.fns, r.ctx.inAug, r.ctx.inAnno⟩, by simp [St.pushComp, r.comps]⟩

theorem Ready.inConstructor {st fns aug anno cs} (r : Ready st fns aug anno cs) : st.inConstructor = inCtor fns := by
  rw [← r.ctx.fns]; unfold St.inConstructor inCtor; rfl

theorem PlainS.ready {st : St} {fns} (p : PlainS st fns) : Ready st fns false false [] := ⟨p.plain.toC, p.ctx, p.plain.comps⟩

theorem Ready.plainS {st : St} {fns} (r : Ready st fns false false []) : PlainS st fns :=
  ⟨⟨r.plain.ne, r.comps, r.plain.annoOnly⟩, r.ctx⟩

theorem PlainS.enter {st : St} {fns} (p : PlainS st fns) (iso : Bool) (fn : Option String) : PlainS (st.enter iso fn) fns :=
  ⟨p.plain.enter iso fn, p.ctx.enter iso fn⟩

theorem PlainS.pushFn {st : St} {fns} (p : PlainS st fns) (f : FnCtx) : PlainS (st.pushFn f) (f :: fns) :=
  ⟨p.plain.pushFn f, p.ctx.pushFn f⟩

theorem PlainS.readyAug {st : St} {fns} (p : PlainS st fns) : Ready (st.setInAug true) fns true false [] :=
  ⟨⟨p.plain.ne, p.plain.annoOnly⟩, ⟨p.ctx.fns, rfl, p.ctx.inAnno⟩, p.plain.comps⟩

theorem PlainS.readyAnno {st : St} {fns} (p : PlainS st fns) : Ready (st.setInAnno true) fns false true [] :=
  ⟨⟨p.plain.ne, p.plain.annoOnly⟩, ⟨p.ctx.fns, p.ctx.inAug, rfl⟩, p.plain.comps⟩

/-- `d` added to the top scope, sets compared by membership; `annos` grow. -/
structure Adds (st st' : St) (d : Eff) : Prop where
  ne : st'.stack ≠ []
  tail : st'.stack.tail = st.stack.tail
  top : ScopeAdds st.top st'.top d
  fns : st'.fns = st.fns
  inAug : st'.inAug = st.inAug
  inAnno : st'.inAnno = st.inAnno
  annoOnly : st'.annoOnly = false
  comps : st'.comps = []
  ext : ∃ new, st'.annos = new ++ st.annos

/-- `Adds` with the comprehension stack `cs` before and `cs'` after. -/
structure AddsC (cs cs' : List QSet) (st st' : St) (d : Eff) : Prop where
  ne : st'.stack ≠ []
  tail : st'.stack.tail = st.stack.tail
  top : ScopeAdds st.top st'.top d
  fns : st'.fns = st.fns
  inAug : st'.inAug = st.inAug
  inAnno : st'.inAnno = st.inAnno
  annoOnly : st'.annoOnly = false
  cin : st.comps = cs
  cout : st'.comps = cs'
  ext : ∃ new, st'.annos = new ++ st.annos

theorem AddsC.plain {cs cs' st st' d} (h : AddsC cs cs' st st' d) : PlainC st' := ⟨h.ne, h.annoOnly⟩

theorem AddsC.ready {cs cs' a b d fns aug anno} (h : AddsC cs cs' a b d) (r : Ready a fns aug anno cs) :
    Ready b fns aug anno cs' :=
  ⟨h.plain, ⟨h.fns.trans r.ctx.fns, h.inAug.trans r.ctx.inAug, h.inAnno.trans r.ctx.inAnno⟩, h.cout⟩

theorem AddsC.refl {st : St} (h : PlainC st) : AddsC st.comps st.comps st st {} :=
  ⟨h.ne, rfl, ScopeAdds.refl _, rfl, rfl, rfl, h.annoOnly, rfl, rfl, ⟨[], rfl⟩⟩

theorem AddsC.trans {c0 c1 c2 a b c d1 d2} (h1 : AddsC c0 c1 a b d1) (h2 : AddsC c1 c2 b c d2) : AddsC c0 c2 a c (d1 ++ d2) :=
  ⟨h2.ne, h2.tail.trans h1.tail, h1.top.trans h2.top, h2.fns.trans h1.fns, h2.inAug.trans h1.inAug,
   h2.inAnno.trans h1.inAnno, h2.annoOnly, h1.cin, h2.cout,
   by obtain ⟨n1, e1⟩ := h1.ext; obtain ⟨n2, e2⟩ := h2.ext; exact ⟨n2 ++ n1, by rw [e2, e1, List.append_assoc]⟩⟩

theorem AddsC.then {c0 c1 a b c d1 d2} (h1 : AddsC c0 c1 a b d1) (h2 : AddsC b.comps b.comps b c d2) :
    AddsC c0 c1 a c (d1 ++ d2) :=
  h1.trans (h1.cout ▸ h2)

theorem AddsC.congr {cs cs' a b d e} (h : AddsC cs cs' a b d) (he : Eff.Equiv d e) : AddsC cs cs' a b e :=
  { h with top := h.top.congr he }

theorem AddsC.toAdds {st st' d} (h : AddsC [] [] st st' d) : Adds st st' d :=
  ⟨h.ne, h.tail, h.top, h.fns, h.inAug, h.inAnno, h.annoOnly, h.cout, h.ext⟩

theorem Adds.toC {st st' : St} {d : Eff} (h : Adds st st' d) (hc : st.comps = []) : AddsC [] [] st st' d :=
  ⟨h.ne, h.tail, h.top, h.fns, h.inAug, h.inAnno, h.annoOnly, hc, h.comps, h.ext⟩

theorem Adds.plain {st st' : St} {d : Eff} (h : Adds st st' d) : Plain st' := ⟨h.ne, h.comps, h.annoOnly⟩

theorem Adds.plainS {a b : St} {d : Eff} {fns} (h : Adds a b d) (p : PlainS a fns) : PlainS b fns :=
  ⟨h.plain, h.fns.trans p.ctx.fns, h.inAug.trans p.ctx.inAug, h.inAnno.trans p.ctx.inAnno⟩

theorem Adds.annos_sub {a b : St} {d : Eff} (h : Adds a b d) : ∀ x, x ∈ a.annos → x ∈ b.annos := by
  obtain ⟨n, e⟩ := h.ext
  exact fun x hx => by rw [e]; exact List.mem_append_right _ hx

theorem Adds.refl {st : St} (h : Plain st) : Adds st st {} :=
  ⟨h.ne, rfl, ScopeAdds.refl _, rfl, rfl, rfl, h.annoOnly, h.comps, ⟨[], rfl⟩⟩

theorem Adds.trans {a b c : St} {d1 d2 : Eff} (h1 : Adds a b d1) (h2 : Adds b c d2) : Adds a c (d1 ++ d2) :=
  ⟨h2.ne, h2.tail.trans h1.tail, h1.top.trans h2.top, h2.fns.trans h1.fns, h2.inAug.trans h1.inAug,
   h2.inAnno.trans h1.inAnno, h2.annoOnly, h2.comps,
   by obtain ⟨n1, e1⟩ := h1.ext; obtain ⟨n2, e2⟩ := h2.ext; exact ⟨n2 ++ n1, by rw [e2, e1, List.append_assoc]⟩⟩

theorem Adds.congr {a b : St} {d e : Eff} (h : Adds a b d) (he : Eff.Equiv d e) : Adds a b e :=
  { h with top := h.top.congr he }

theorem AddsC.modTop {st : St} (h : PlainC st) (f : Scope → Scope) (d : Eff) (hf : ScopeAdds st.top (f st.top) d) :
    AddsC st.comps st.comps st (st.modTop f) d :=
  ⟨by simpa using h.ne, by simp, by rw [St.modTop_top _ _ h.ne]; exact hf, by simp, by simp, by simp,
   by simpa using h.annoOnly, rfl, by simp, ⟨[], by simp⟩⟩

theorem AddsC.addRead {st : St} (h : PlainC st) (q : QN) : AddsC st.comps st.comps st (st.addRead q) { read := [q] } :=
  AddsC.modTop h _ _ (.insRead _ q)

theorem AddsC.addModified {st : St} (h : PlainC st) (q : QN) : AddsC st.comps st.comps st (st.addModified q) { modified := [q] } :=
  AddsC.modTop h _ _ (.insModified _ q)

theorem AddsC.addDeleted {st : St} (h : PlainC st) (q : QN) : AddsC st.comps st.comps st (st.addDeleted q) { deleted := [q] } :=
  AddsC.modTop h _ _ (.insDeleted _ q)

theorem AddsC.addBound {st : St} (h : PlainC st) (q : QN) : AddsC st.comps st.comps st (st.addBound q) { bound := [q] } :=
  AddsC.modTop h _ _ (.insBound _ q)

theorem AddsC.addAnnotation {st : St} (h : PlainC st) (q : QN) : AddsC st.comps st.comps st (st.addAnnotation q) { annotations := [q] } :=
  AddsC.modTop h _ _ (.insAnnotation _ q)

theorem AddsC.addParam {st : St} (h : PlainC st) (q : QN) (o : Nat) : AddsC st.comps st.comps st (st.addParam q o) {} :=
  AddsC.modTop h _ _ (.consParam _ q o)

theorem Adds.modTop {st : St} (h : Plain st) (f : Scope → Scope) (d : Eff) (hf : ScopeAdds st.top (f st.top) d) :
    Adds st (st.modTop f) d :=
  (h.comps ▸ AddsC.modTop h.toC f d hf : AddsC [] [] st (st.modTop f) d).toAdds

theorem Adds.addRead {st : St} (h : Plain st) (q : QN) : Adds st (st.addRead q) { read := [q] } :=
  Adds.modTop h _ _ (.insRead _ q)

theorem Adds.addModified {st : St} (h : Plain st) (q : QN) : Adds st (st.addModified q) { modified := [q] } :=
  Adds.modTop h _ _ (.insModified _ q)

theorem Adds.addBound {st : St} (h : Plain st) (q : QN) : Adds st (st.addBound q) { bound := [q] } :=
  Adds.modTop h _ _ (.insBound _ q)

theorem Adds.addGlobal {st : St} (h : Plain st) (q : QN) : Adds st (st.addGlobal q) { globals := [q] } :=
  Adds.modTop h _ _ (.insGlobal _ q)

theorem Adds.addNonlocal {st : St} (h : Plain st) (q : QN) : Adds st (st.addNonlocal q) { nonlocals := [q] } :=
  Adds.modTop h _ _ (.insNonlocal _ q)

/-- `visit_Lambda`: `self.scope.read.update(lambda_scope.read - lambda_scope.bound)`. -/
theorem AddsC.readFree {st : St} (h : PlainC st) {c : Scope} {iso : Bool} {d : Eff} (hc : Popped c iso d) :
    AddsC st.comps st.comps st (st.modTop fun s => { s with read := s.read.union (c.read.diff c.bound) })
      { read := d.read.diff d.bound } :=
  AddsC.modTop h _ _ { ScopeAdds.refl _ with read := by intro q; simp [hc.read, hc.bound] }

theorem Adds.popFn {st b : St} {f : FnCtx} {d : Eff} (h : Adds (st.pushFn f) b d) : Adds st b.popFn d :=
  { h with fns := by simp [St.popFn, h.fns, St.pushFn] }

theorem AddsC.popFn {cs cs' st b f d} (h : AddsC cs cs' (st.pushFn f) b d) : AddsC cs cs' st b.popFn d :=
  { h with fns := by simp [St.popFn, h.fns, St.pushFn] }

theorem AddsC.condRecord {cs cs' a b d} (h : AddsC cs cs' a b d) (n : Nat) (k : AnnoKey) :
    AddsC cs cs' a (if b.hasAnno n k then b else b.recordTop n k) d := by
  unfold St.recordTop
  split
  · exact h
  · split
    · obtain ⟨m, e⟩ := h.ext
      exact { h with ext := ⟨_ :: m, by rw [e]; rfl⟩ }
    · exact h

/-- `with self.state[_Comprehension]`. -/
theorem AddsC.compBracket {cs cs' st X d} (h : AddsC ([] :: cs) cs' st.pushComp X d) : AddsC cs cs'.tail st X.popComp d :=
  { h with cin := List.tail_eq_of_cons_eq h.cin, cout := by simp [St.popComp, h.cout] }

/-- `_in_aug_assign = True; visit; _in_aug_assign = False`. -/
theorem aug_bracket {st X : St} {d : Eff} {fns} (p : PlainS st fns) (h : Adds (st.setInAug true) X d) :
    Adds st (X.setInAug false) d :=
  { h with inAug := p.ctx.inAug.symm ▸ rfl }

/-- `_process_annotation`. -/
theorem anno_bracket {st X : St} {d : Eff} {fns} (p : PlainS st fns) (h : Adds (st.setInAnno true) X d) :
    Adds st (X.setInAnno false) d :=
  { h with inAnno := p.ctx.inAnno.symm ▸ rfl }

/-- `st2`: where the visits since `enter` ended. -/
structure ScopedC (cs cs' : List QSet) (st st2 : St) (iso : Bool) (d : Eff) (recs : List (Nat × AnnoKey)) (st3 : St) : Prop where
  adds : AddsC cs cs' st st3 (d.exported iso)
  ne : st2.stack ≠ []
  popped : Popped st2.top iso d
  annos : st3.annos = (recs.map fun (n, k) => (n, k, st2.top)).reverse ++ st2.annos

theorem ScopedC.recorded {cs cs' st st2 iso d recs st3} (S : ScopedC cs cs' st st2 iso d recs st3) {n : Nat} {k : AnnoKey}
    (h : (n, k) ∈ recs) : (n, k, st2.top) ∈ st3.annos := by
  rw [S.annos]
  exact List.mem_append_left _ (List.mem_reverse.mpr (List.mem_map.mpr ⟨(n, k), h, rfl⟩))

theorem ScopedC.annos_sub {cs cs' st st2 iso d recs st3} (S : ScopedC cs cs' st st2 iso d recs st3) :
    ∀ x, x ∈ st2.annos → x ∈ st3.annos := fun x hx => by rw [S.annos]; exact List.mem_append_right _ hx

theorem scoped_blockC {cs cs' : List QSet} {st st2 : St} (h : PlainC st) (iso : Bool) (fn : Option String) {d : Eff}
    (h2 : AddsC cs cs' (st.enter iso fn) st2 d) (recs : List (Nat × AnnoKey)) :
    ScopedC cs cs' st st2 iso d recs (st2.exitWith recs) := by
  have hstack : st2.stack = st2.top :: st.top :: st.stack.tail := by
    rw [St.stack_eq_top_cons h2.ne, h2.tail, St.enter_tail, ← St.stack_eq_top_cons h.ne]
  have hpop := popped_of_adds (St.enter_top_fresh st iso fn) h2.top
  have hex : st2.exitWith recs =
      { st2 with stack := st2.top.finalizeInto st.top :: st.stack.tail, closed := st2.top :: st2.closed,
                 annos := (recs.map fun (n, k) => (n, k, st2.top)).reverse ++ st2.annos } := by
    simp [St.exitWith, hstack]
  rw [hex]
  exact ⟨⟨by simp, by simp, finalizeInto_adds hpop, h2.fns, h2.inAug, h2.inAnno, h2.annoOnly, h2.cin, h2.cout,
    by obtain ⟨n2, e2⟩ := h2.ext; exact ⟨(recs.map fun (n, k) => (n, k, st2.top)).reverse ++ n2, by simp [e2]⟩⟩,
    h2.ne, hpop, rfl⟩

theorem AddsC.scopedAdds {cs cs' st st2} (h : PlainC st) (iso : Bool) (fn : Option String) {d : Eff}
    (h2 : AddsC cs cs' (st.enter iso fn) st2 d) (recs : List (Nat × AnnoKey)) :
    AddsC cs cs' st (st2.exitWith recs) (d.exported iso) := (scoped_blockC h iso fn h2 recs).adds

theorem Adds.scopedAdds {st st2 : St} (h : Plain st) (iso : Bool) (fn : Option String) {d : Eff}
    (h2 : Adds (st.enter iso fn) st2 d) (recs : List (Nat × AnnoKey)) :
    Adds st (st2.exitWith recs) (d.exported iso) := (scoped_blockC h.toC iso fn (h2.toC h.comps) recs).adds.toAdds

theorem track_addsC {st fns aug anno cs} (r : Ready st fns aug anno cs) (q? : Option QN) (ctx : Ctx) (cwap : Bool) :
    AddsC cs (trackC cs q? ctx cwap aug anno).2 st (track q? ctx cwap st) (trackC cs q? ctx cwap aug anno).1 := by
  obtain ⟨h, ⟨-, rfl, rfl⟩, rfl⟩ := r
  unfold track trackC
  have hA : (st.annoOnly && !st.inAnno) = false := by simp [h.annoOnly]
  simp only [hA, Bool.false_eq_true, ↓reduceIte]
  cases q? with
  | none => exact AddsC.refl h
  | some qn =>
    simp only
    by_cases hH : hiddenByComps st.comps qn = true
    · simp only [hH, ↓reduceIte]; exact AddsC.refl h
    · simp only [hH, Bool.false_eq_true, ↓reduceIte]
      cases ctx with
      | store =>
        cases hcs : st.comps with
        | cons l ls =>
          simp only
          exact { AddsC.refl h with cin := hcs, cout := rfl }
        | nil =>
          have h1 := AddsC.addModified h qn
          have h12 := h1.then (AddsC.addBound h1.plain qn)
          rw [hcs] at h12
          have h3 := fun p => h12.then (AddsC.addModified h12.plain p)
          simp only [trackEff]
          cases qn.parent? <;> cases cwap <;>
            simp only [St.addBound_inAug, St.addModified_inAug, Bool.false_eq_true, ↓reduceIte] <;>
            cases st.inAug <;> simp only [Bool.false_eq_true, ↓reduceIte] <;>
            first
            | exact h12 | exact h12.then (AddsC.addRead h12.plain qn)
            | exact h3 _ | exact (h3 _).then (AddsC.addRead (h3 _).plain qn)
      | load =>
        have h1 := AddsC.addRead h qn
        simp only [trackEff, St.addRead_inAnno]
        cases hg : st.inAnno with
        | false => simp only [Bool.false_eq_true, ↓reduceIte]; exact h1
        | true =>
          simp only [↓reduceIte]
          exact h1.then (AddsC.addAnnotation h1.plain qn)
      | del =>
        have h1 := AddsC.addRead h qn
        have h2 := h1.then (AddsC.addBound h1.plain qn)
        simp only [trackEff]
        exact h2.then (AddsC.addDeleted h2.plain qn)

theorem visitArgs_annoOnly (as : List Expr) (ha : as.all isPlainArg = true) (st : St) (b : Bool) :
    visitEs as (st.setAnnoOnly b) = (visitEs as st).setAnnoOnly b := by
  induction as generalizing st with
  | nil => simp [visitEs]
  | cons a rest ih =>
    simp only [List.all_cons, Bool.and_eq_true] at ha
    obtain ⟨i, n, rfl⟩ := (isPlainArg_iff a).mp ha.1
    simp only [visitEs, visitE, St.addBound, St.addParam, St.modTop_setAnnoOnly]
    exact ih ha.2 _

theorem visitArgs_addsC (as : List Expr) (ha : as.all isPlainArg = true) {st fns aug anno cs} (r : Ready st fns aug anno cs) :
    AddsC cs cs st (visitEs as st) { bound := argNames as } := by
  induction as generalizing st with
  | nil => simpa [visitEs, argNames, r.comps] using AddsC.refl r.plain
  | cons a rest ih =>
    simp only [List.all_cons, Bool.and_eq_true] at ha
    obtain ⟨i, n, rfl⟩ := (isPlainArg_iff a).mp ha.1
    simp only [visitEs, visitE]
    have h1 := r.comps ▸ AddsC.addBound r.plain (.sym n)
    have h2 := h1.then (AddsC.addParam h1.plain (.sym n) st.ownerId)
    exact h2.trans (ih ha.2 (h2.ready r))

/-- `params` is the one field `ScopeAdds` does not follow. -/
theorem visitArgs_params (as : List Expr) (ha : as.all isPlainArg = true) {st : St} (h : PlainC st) :
    ∀ q, q ∈ (visitEs as st).top.paramNames ↔ q ∈ argNames as ∨ q ∈ st.top.paramNames := by
  induction as generalizing st with
  | nil => simp [visitEs, argNames]
  | cons a rest ih =>
    simp only [List.all_cons, Bool.and_eq_true] at ha
    obtain ⟨i, n, rfl⟩ := (isPlainArg_iff a).mp ha.1
    intro q
    simp only [visitEs, visitE]
    have h1 := AddsC.addBound h (.sym n)
    have h2 := h1.then (AddsC.addParam h1.plain (.sym n) st.ownerId)
    rw [ih ha.2 h2.plain q]
    simp only [Scope.paramNames, St.top_params_addParam _ _ _ h1.ne, St.top_params_addBound _ _ h.ne, argNames,
      List.filterMap_cons, List.map_cons, List.mem_cons]
    grind

/-- `_visit_arg_declarations`. -/
def visitParams (po ar va ko kw : List Expr) (st : St) : St :=
  visitEs kw (visitEs ko (visitEs va (visitEs ar (visitEs po st))))

theorem visitParams_fold (po ar va ko kw : List Expr) (st : St) :
    visitEs kw (visitEs ko (visitEs va (visitEs ar (visitEs po st)))) = visitParams po ar va ko kw st := rfl

theorem visitEs_append (a b : List Expr) (st : St) : visitEs (a ++ b) st = visitEs b (visitEs a st) := by
  induction a generalizing st with
  | nil => simp [visitEs]
  | cons e r ih => simp [visitEs, ih]

theorem visitParams_cat (po ar va ko kw : List Expr) (st : St) :
    visitParams po ar va ko kw st = visitEs (po ++ ar ++ va ++ ko ++ kw) st := by
  simp only [visitParams, visitEs_append]

theorem paramNames_cat (po ar va ko kw : List Expr) : paramNames po ar va ko kw = argNames (po ++ ar ++ va ++ ko ++ kw) := by
  simp only [paramNames, argNames, List.filterMap_append]

section
variable {po ar va ko kw : List Expr} (hp : PlainParams po ar va ko kw)
include hp

theorem PlainParams.all : (po ++ ar ++ va ++ ko ++ kw).all isPlainArg = true := by
  simp [List.all_append, hp.po, hp.ar, hp.va, hp.ko, hp.kw]

theorem visitParams_addsC {st fns aug anno cs} (r : Ready st fns aug anno cs) :
    AddsC cs cs st (visitParams po ar va ko kw st) { bound := paramNames po ar va ko kw } := by
  rw [visitParams_cat, paramNames_cat]
  exact visitArgs_addsC _ hp.all r

/-- `visit_arg` does not look at `_track_annotations_only`. -/
theorem visitParams_annoOnly {st : St} (h : PlainC st) :
    (visitParams po ar va ko kw (st.setAnnoOnly true)).setAnnoOnly false = visitParams po ar va ko kw st := by
  rw [visitParams_cat, visitParams_cat, visitArgs_annoOnly _ hp.all, St.setAnnoOnly_setAnnoOnly]
  exact St.setAnnoOnly_self (visitArgs_addsC _ hp.all (Ready.refl h)).annoOnly

theorem visitParams_params {st : St} (h : PlainC st) :
    ∀ q, q ∈ (visitParams po ar va ko kw st).top.paramNames ↔ q ∈ paramNames po ar va ko kw ∨ q ∈ st.top.paramNames := by
  rw [visitParams_cat, paramNames_cat]
  exact visitArgs_params _ hp.all h

end

theorem visitAliases_adds (names : List (String × String)) {st : St} (h : Plain st) :
    Adds st (visitAliases names st) (aliasEff names) := by
  unfold visitAliases
  induction names generalizing st with
  | nil => simpa [aliasEff] using Adds.refl h
  | cons a rest ih =>
    simp only [List.foldl_cons]
    have h1 := Adds.addModified h (.sym (aliasName a))
    have h2 := h1.trans (Adds.addBound h1.plain (.sym (aliasName a)))
    exact h2.trans (ih h2.plain)

theorem declGlobals_adds (names : List String) {st : St} (h : Plain st) :
    Adds st (declGlobals names st) (globalEff names) := by
  unfold declGlobals
  induction names generalizing st with
  | nil => simpa [globalEff] using Adds.refl h
  | cons a rest ih =>
    simp only [List.foldl_cons]
    have h1 := Adds.addRead h (.sym a)
    have h2 := h1.trans (Adds.addGlobal h1.plain (.sym a))
    exact h2.trans (ih h2.plain)

theorem declNonlocals_adds (names : List String) {st : St} (h : Plain st) :
    Adds st (declNonlocals names st) (nonlocalEff names) := by
  unfold declNonlocals
  induction names generalizing st with
  | nil => simpa [nonlocalEff] using Adds.refl h
  | cons a rest ih =>
    simp only [List.foldl_cons]
    have h1 := Adds.addRead h (.sym a)
    have h2 := h1.trans (Adds.addBound h1.plain (.sym a))
    have h3 := h2.trans (Adds.addNonlocal h2.plain (.sym a))
    exact h3.trans (ih h3.plain)

theorem setErr_adds {st : St} (h : Plain st) (name : List String) :
    Adds st (if name.isEmpty = true then st else st.setErr) {} := by
  split
  · exact Adds.refl h
  · exact { Adds.refl h with }

/-- `self.scope.copy_from(before_parent)` does not copy `globals` and `nonlocals`, so these stay. -/
theorem restore_adds {st st1 : St} {d1 : Eff} (h : Plain st) (A1 : Adds st st1 d1) :
    Adds st (st1.restore st.stack) { globals := d1.globals, nonlocals := d1.nonlocals } := by
  have e0 := St.stack_eq_top_cons h.ne
  have e1 := St.stack_eq_top_cons A1.ne
  have hstack : (st1.restore st.stack).stack = st1.top.copyFrom st.top :: st.stack.tail := by
    simp only [St.restore]
    rw [e1, e0, A1.tail]
    simp [copyFromStack, copyFromStack_self]
  have htop : (st1.restore st.stack).top = st1.top.copyFrom st.top := by
    simp [St.top, hstack]
  refine { A1 with ne := by rw [hstack]; simp, tail := by rw [hstack]; simp, top := ?_ }
  rw [htop]
  exact ⟨A1.top.sid, A1.top.parent, A1.top.isolated, A1.top.functionName, rfl, by simp [Scope.copyFrom],
    by simp [Scope.copyFrom], by simp [Scope.copyFrom], by simp [Scope.copyFrom],
    by intro q; simpa [Scope.copyFrom] using A1.top.globals q,
    by intro q; simpa [Scope.copyFrom] using A1.top.nonlocals q, by simp [Scope.copyFrom]⟩

/-- `(s2 ∪ s1) ∪ s2` is the shape `merge_from` gives each set in `parallel_adds`. -/
theorem mem_merge {s s1 s2 e1 e2 : QSet} {q : QN} (h1 : q ∈ s1 ↔ q ∈ s ∨ q ∈ e1) (h2 : q ∈ s2 ↔ q ∈ s ∨ q ∈ e2) :
    q ∈ (s2.union s1).union s2 ↔ q ∈ s ∨ q ∈ e1 ++ e2 := by
  simp only [QSet.mem_union, List.mem_append, h1, h2]
  grind

/-- `_process_parallel_blocks`. -/
theorem parallel_adds {st st1 st2 : St} {d1 d2 : Eff} (h : Plain st) (A1 : Adds st st1 d1)
    (A2 : Adds (st1.restore st.stack) st2 d2) :
    Adds st (st2.mergeAfter st1.stack st2.stack) (d1 ++ d2) := by
  have R := restore_adds h A1
  have A02 := R.trans A2
  have e1 := St.stack_eq_top_cons A1.ne
  have e2 := St.stack_eq_top_cons A02.ne
  have hstack : (st2.mergeAfter st1.stack st2.stack).stack =
      (st2.top.mergeFrom st1.top).mergeFrom st2.top :: st.stack.tail := by
    simp only [St.mergeAfter]
    rw [e2, e1, A1.tail, A02.tail]
    simp [mergeFromStack, mergeFromStack_self]
  have htop : (st2.mergeAfter st1.stack st2.stack).top = (st2.top.mergeFrom st1.top).mergeFrom st2.top := by
    simp [St.top, hstack]
  refine { A02 with ne := by rw [hstack]; simp, tail := by rw [hstack]; simp, top := ?_ }
  rw [htop]
  have T1 := A1.top
  have T2 := A02.top
  refine ⟨T2.sid, T2.parent, T2.isolated, T2.functionName, ?_, ?_, ?_, ?_, ?_, ?_, ?_, ?_⟩
  · show QSet.union (QSet.union st2.top.isolatedNames st1.top.isolatedNames) st2.top.isolatedNames = _
    rw [T2.isolatedNames, T1.isolatedNames, QSet.union_self, QSet.union_self]
  · exact fun q => mem_merge (T1.read q) (T2.read q)
  · exact fun q => mem_merge (T1.modified q) (T2.modified q)
  · exact fun q => mem_merge (T1.deleted q) (T2.deleted q)
  · exact fun q => mem_merge (T1.bound q) (T2.bound q)
  -- kept by `copy_from` (`restore_adds`), untouched by `merge_from`
  · exact T2.globals
  · exact T2.nonlocals
  · exact fun q => mem_merge (T1.annotations q) (T2.annotations q)

/-- `enter true; enter false; parameters; exit [(ai, scope)]; enter false; body; exit [(i, bodyScope)];
    exit [(i, argsAndBodyScope)]`. -/
theorem fnScopes {po ar va ko kw : List Expr} (hpp : PlainParams po ar va ko kw) {s : St} {fns aug anno cs}
    (r : Ready s fns aug anno cs) (fn : Option String) (ai i : Nat) (body : St → St) {cs' : List QSet} {dB : Eff}
    (hbody : ∀ sb, Ready sb fns aug anno cs → AddsC cs cs' sb (body sb) dB) :
    ∃ sb, Ready sb fns aug anno cs ∧
      sb = ((visitParams po ar va ko kw ((s.enter true fn).enter false fn)).exitWith [(ai, .scope)]).enter false fn ∧
      ScopedC cs cs' s ((body sb).exitWith [(i, .bodyScope)]) true
        (({ bound := paramNames po ar va ko kw } : Eff).exported false ++ dB.exported false) [(i, .argsAndBodyScope)]
        (((body sb).exitWith [(i, .bodyScope)]).exitWith [(i, .argsAndBodyScope)]) ∧
      ∃ ca, (ai, AnnoKey.scope, ca) ∈ sb.annos ∧ ∀ q, q ∈ ca.paramNames ↔ q ∈ paramNames po ar va ko kw := by
  have rI := r.enter true fn
  have rA := rI.enter false fn
  have SBa := scoped_blockC rI.plain false fn (visitParams_addsC hpp rA) [(ai, .scope)]
  have rB := (SBa.adds.ready rI).enter false fn
  have SBb := AddsC.scopedAdds (SBa.adds.ready rI).plain false fn (hbody _ rB) [(i, .bodyScope)]
  refine ⟨_, rB, rfl, scoped_blockC r.plain true fn (SBa.adds.trans SBb) [(i, .argsAndBodyScope)],
    (visitParams po ar va ko kw ((s.enter true fn).enter false fn)).top, SBa.recorded List.mem_cons_self, fun q => ?_⟩
  rw [visitParams_params hpp rA.plain q]
  simp [Scope.paramNames, St.top, St.enter]

theorem init_plainS : PlainS St.init [] :=
  ⟨⟨by simp [St.init], rfl, rfl⟩, ⟨rfl, rfl, rfl⟩⟩

private theorem find_of_unique (l : List Anno) (hu : uniqueAnnos l = true) (i : Nat) (k : AnnoKey) (c : Scope)
    (hm : (i, k, c) ∈ l) : l.find? (fun a => a.1 == i && a.2.1 == k) = some (i, k, c) := by
  induction l with
  | nil => cases hm
  | cons a r ih =>
    simp only [uniqueAnnos, Bool.and_eq_true, List.all_eq_true] at hu
    rcases List.mem_cons.mp hm with rfl | hm
    · simp
    · have hne : (a.1 == i && a.2.1 == k) = false := by simpa only [Bool.not_eq_true'] using hu.1 _ hm
      rw [List.find?_cons, hne]
      exact ih hu.2 hm

theorem anno?_of_mem {st : St} (hu : uniqueAnnos st.annos = true) {i : Nat} {k : AnnoKey} {c : Scope}
    (hm : (i, k, c) ∈ st.annos) : st.anno? i k = some c := by
  rw [St.anno?, find_of_unique _ hu _ _ _ hm]
  rfl

end Malt.Analysis
