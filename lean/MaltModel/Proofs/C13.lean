import MaltModel.Rt.Policy
/-! The closed forms here name the constants of `Generated/Policy.lean`, so a changed table breaks them. -/
namespace Malt.Policy
open Malt.Gen.Policy

theorem firstMatch_eq_find? (m : Rule → Bool) (rules : List Rule) : firstMatch m rules = rules.find? m := by
  induction rules with
  | nil => rfl
  | cons r rs ih =>
    rw [firstMatch, List.find?_cons, ih]
    cases m r <;> rfl

theorem decideIn_nil (p : Bool) (d : Desc) (env : Env) (o : Opts) : decideIn [] p d env o = .stuck := rfl

theorem decideIn_cons (s : Step) (ss : List Step) (p : Bool) (d : Desc) (env : Env) (o : Opts) :
    decideIn (s :: ss) p d env o = if fires p d env o s.check = true then actionOf s else decideIn ss p d env o := by
  unfold decideIn
  rw [List.find?_cons]
  cases fires p d env o s.check <;> rfl

theorem actionOf_convert_iff (s : Step) : actionOf s = .convert ↔ s.check = .convert := by
  obtain ⟨c, u⟩ := s
  cases c <;> simp [actionOf]

/-- On a `functools.partial` only the first three checks can answer; the fourth unwraps. -/
theorem decide_part (d : Desc) (env : Env) (o : Opts) :
    decide true d env o =
      if d.inCache = true then .skip .cacheHit false
      else if env.status = .disabled then .skip .ctxDisabled false
      else if d.artifact = true then .skip .artifact true
      else .unwrap := by
  simp only [decide, chain, decideIn_cons, fires, actionOf, beq_iff_eq, if_true]

theorem decide_base (d : Desc) (env : Env) (o : Opts) :
    decide false d env o =
      if d.inCache = true then .skip .cacheHit false
      else if env.status = .disabled then .skip .ctxDisabled false
      else if d.artifact = true then .skip .artifact true
      else if d.builtin ≠ .notBuiltin then .builtin
      else if isUnsupported d = true then .skip .unsupported true
      else if o.userRequested = false ∧ allowlisted d.ent = true then .skip .allowlisted true
      else if o.internalConvert = false then .skip .notInternal true
      else if d.kind = .other then .unknownKind
      else if d.targetHasCode = false then .skip .noCode true
      else if d.targetStringFile = true then .skip .stringFile true
      else .convert := by
  simp only [decide, chain, decideIn_cons, fires, actionOf, allowlistSkippedWhenUserRequested, beq_iff_eq, bne_iff_ne,
    Bool.false_eq_true, if_false, if_true, Bool.not_true, Bool.false_or, Bool.and_eq_true,
    Bool.not_eq_eq_eq_not, ne_eq]

theorem ite_ind {α} {P : α → Prop} {c : Prop} [Decidable c] {a b : α} (ht : c → P a) (he : ¬ c → P b) :
    P (if c then a else b) := by
  by_cases h : c
  · rw [if_pos h]; exact ht h
  · rw [if_neg h]; exact he h

/-- One case per branch of `converted_call`, each under the test of that branch. -/
theorem decide_base_cases {P : Action → Prop} (d : Desc) (env : Env) (o : Opts)
    (cacheHit : d.inCache = true → P (.skip .cacheHit false))
    (ctxDisabled : env.status = .disabled → P (.skip .ctxDisabled false))
    (artifact : d.artifact = true → P (.skip .artifact true))
    (builtin : d.builtin ≠ .notBuiltin → P .builtin)
    (unsupported : isUnsupported d = true → P (.skip .unsupported true))
    (allowlist : o.userRequested = false ∧ allowlisted d.ent = true → P (.skip .allowlisted true))
    (notInternal : o.internalConvert = false → P (.skip .notInternal true))
    (kind : d.kind = .other → P .unknownKind)
    (noCode : d.targetHasCode = false → P (.skip .noCode true))
    (stringFile : d.targetStringFile = true → P (.skip .stringFile true))
    (convert : ¬ Excluded d env o → P .convert) : P (decide false d env o) := by
  rw [decide_base]
  exact ite_ind cacheHit fun h1 => ite_ind ctxDisabled fun h2 => ite_ind artifact fun h3 => ite_ind builtin fun h4 =>
    ite_ind unsupported fun h5 => ite_ind allowlist fun h6 => ite_ind notInternal fun h7 => ite_ind kind fun h8 =>
    ite_ind noCode fun h9 => ite_ind stringFile fun h10 => convert (by
      rintro (h | h | h | h | h | h | h | h | h | h) <;> contradiction)

theorem decide_base_ne_unwrap_stuck (d : Desc) (env : Env) (o : Opts) :
    decide false d env o ≠ .unwrap ∧ decide false d env o ≠ .stuck := by
  apply decide_base_cases (P := fun a => a ≠ .unwrap ∧ a ≠ .stuck) <;> exact fun _ => ⟨nofun, nofun⟩

section AllowTests
variable (f : EntFacts) (callRes defRes checkCall ntSub : Bool)

theorem runAllowTests_nil : runAllowTests [] f callRes defRes checkCall ntSub = false := rfl

theorem runAllowTests_cons (t : AllowTest) (ts : List AllowTest) :
    runAllowTests (t :: ts) f callRes defRes checkCall ntSub =
      (allowStep f callRes defRes checkCall ntSub t).getD (runAllowTests ts f callRes defRes checkCall ntSub) := by
  rw [runAllowTests]
  cases allowStep f callRes defRes checkCall ntSub t <;> rfl

/-- "allowed" or pass on: all that a test of `is_allowlisted` after the module rules can say. -/
def allowIf (b : Bool) : Option Bool := if b then some true else none

theorem getD_allowIf (b x : Bool) : (allowIf b).getD x = (b || x) := by
  cases b <;> rfl

theorem allowStep_moduleRules : allowStep f callRes defRes checkCall ntSub .moduleRules = moduleRulesResult f.modName := rfl

theorem allowStep_generator :
    allowStep f callRes defRes checkCall ntSub .generator = allowIf f.genFn := rfl

theorem allowStep_callOverride :
    allowStep f callRes defRes checkCall ntSub .callOverride = allowIf (checkCall && !f.isClass && f.hasCall && f.callTypeDiffers && callRes) := rfl

theorem allowStep_methodOwner :
    allowStep f callRes defRes checkCall ntSub .methodOwner = allowIf (f.isMethod && f.ownerKnown && (f.ownerIsTestCase || defRes)) := by
  simp only [allowStep, methodsOfTestCaseAllowed, Bool.true_and]
  cases f.isMethod <;> cases f.ownerKnown <;> cases f.ownerIsTestCase <;> cases defRes <;> rfl

theorem allowStep_namedtuple :
    allowStep f callRes defRes checkCall ntSub .namedtuple = allowIf (f.isNamedtuple && (!ntSub || !f.ntBaseIsNamedtuple)) := by
  simp only [allowStep]
  cases f.isNamedtuple <;> cases ntSub <;> cases f.ntBaseIsNamedtuple <;> rfl

end AllowTests

section Level
variable {α : Type} (env : Env) (d : Desc) (self : Option α) (c : Callable α) (args : List α) (kw : Option (Kw α))

/-- Unless the wrapper itself raised, the target ran once with the binding of the direct call. -/
def Transparent {α} (e : Effect α) (c : Callable α) (args : List α) (kw : Option (Kw α)) : Prop :=
  e.raised = false → e.invocations = 1 ∧ e.binding = direct c args (kw.getD [])

def mayRemember (d : Desc) : Action → Bool
  | .skip _ upd => upd
  | .unknownKind => true
  | .convert => d.fail.isSome
  | _ => false

theorem unconvertedEff_eq (att w : Bool) :
    unconvertedEff c args kw att w = ⟨1, direct c args (kw.getD []), false, att, w, false, false, false⟩ := by
  simp [unconvertedEff, callUnconvertedHandlesNoneKwargs]

theorem remember_eq (upd : Bool) :
    d.remember upd = if (upd && d.cacheable) = true then { d with inCache := true } else d := by
  simp [Desc.remember, callUnconvertedUpdatesCache]

theorem remember_cases (upd : Bool) :
    d.remember upd = d ∨ (d.remember upd = { d with inCache := true } ∧ upd = true) := by
  rw [remember_eq]
  cases upd <;> cases d.cacheable
  · exact .inl rfl
  · exact .inl rfl
  · exact .inl rfl
  · exact .inr ⟨rfl, rfl⟩

/-- Both `except Exception` handlers of `converted_call`. -/
theorem handleFailure_eq (exc : ExcClass) (att : Bool) :
    handleFailure true true env d c args kw exc att =
      if env.strict = true then (Effect.raise att false, d)
      else (unconvertedEff c args kw att (fallbackWarns exc env d), d.remember true) := by
  simp [handleFailure, fallbackUpdatesCache]

theorem level_skip (chk : Check) (upd : Bool) :
    level (.skip chk upd) env d self c args kw =
      (unconvertedEff c args kw false (chk == .unsupported && unsupportedWarns d), d.remember upd) := rfl

theorem level_builtin :
    level .builtin env d self c args kw =
      (⟨1, direct c args (kw.getD []), false, false, false, false, d.builtin == .overloaded, d.builtin == .special⟩,
       d) := by
  simp [level, builtinKwargsOnlyWhenTruthy, builtinUsesOverload]

theorem level_unknownKind :
    level .unknownKind env d self c args kw = handleFailure true true env d c args kw .other false := rfl

theorem level_convert_ok (h : d.fail = none) :
    level .convert env d self c args kw =
      (⟨1, ⟨effectiveArgs d.kind self args, kw.getD []⟩, true, true, false, false, false, false⟩, d) := by
  simp [level, h, invokeHandlesNoneKwargs]

theorem level_convert_fail (f : Stage × ExcClass) (h : d.fail = some f) :
    level .convert env d self c args kw = handleFailure true true env d c args kw f.2 true := by
  simp only [level, h]
  rfl

theorem unconvertedEff_transparent (att w : Bool) :
    Transparent (unconvertedEff c args kw att w) c args kw := by
  rw [unconvertedEff_eq]
  exact fun _ => ⟨rfl, rfl⟩

theorem handleFailure_transparent (exc : ExcClass) (att : Bool) :
    Transparent (handleFailure true true env d c args kw exc att).1 c args kw := by
  rw [handleFailure_eq]
  by_cases hs : env.strict = true
  · rw [if_pos hs]; intro h; cases h
  · rw [if_neg hs]; exact unconvertedEff_transparent _ _ _ _ _

theorem level_transparent (a : Action)
    (hconv : a = .convert → direct c args (kw.getD []) = ⟨effectiveArgs d.kind self args, kw.getD []⟩) :
    Transparent (level a env d self c args kw).1 c args kw := by
  cases a with
  | skip chk upd => exact unconvertedEff_transparent _ _ _ _ _
  | builtin => rw [level_builtin]; exact fun _ => ⟨rfl, rfl⟩
  | unknownKind => exact handleFailure_transparent _ _ _ _ _ _ _
  | convert =>
    cases hf : d.fail with
    | none => rw [level_convert_ok _ _ _ _ _ _ hf]; exact fun _ => ⟨rfl, (hconv rfl).symm⟩
    | some f => rw [level_convert_fail _ _ _ _ _ _ f hf]; exact handleFailure_transparent _ _ _ _ _ _ _
  | unwrap => intro h; cases h
  | stuck => intro h; cases h

theorem level_not_raised (a : Action)
    (hs : env.strict = false) (ha : a ≠ .unwrap ∧ a ≠ .stuck) :
    (level a env d self c args kw).1.raised = false := by
  have hf (exc att) : (handleFailure true true env d c args kw exc att).1.raised = false := by
    rw [handleFailure_eq, hs, unconvertedEff_eq]; rfl
  cases a with
  | skip chk upd => rw [level_skip, unconvertedEff_eq]
  | builtin => rw [level_builtin]
  | unknownKind => exact hf _ _
  | convert =>
    cases hd : d.fail with
    | none => rw [level_convert_ok _ _ _ _ _ _ hd]
    | some f => rw [level_convert_fail _ _ _ _ _ _ f hd]; exact hf _ _
  | unwrap => exact absurd rfl ha.1
  | stuck => exact absurd rfl ha.2

theorem handleFailure_attempted_converted (exc : ExcClass) (att : Bool) :
    (handleFailure true true env d c args kw exc att).1.attempted = att ∧
    (handleFailure true true env d c args kw exc att).1.converted = false := by
  rw [handleFailure_eq]
  by_cases hs : env.strict = true
  · rw [if_pos hs]; exact ⟨rfl, rfl⟩
  · rw [if_neg hs, unconvertedEff_eq]; exact ⟨rfl, rfl⟩

theorem level_attempted_converted (a : Action) :
    ((level a env d self c args kw).1.attempted = true ↔ a = .convert) ∧
    ((level a env d self c args kw).1.converted = true ↔ (a = .convert ∧ d.fail = none)) := by
  cases a with
  | skip chk upd => simp [level_skip, unconvertedEff_eq]
  | builtin => simp [level_builtin]
  | unknownKind => simp [level_unknownKind, handleFailure_attempted_converted]
  | convert =>
    cases hf : d.fail with
    | none => simp [level_convert_ok _ _ _ _ _ _ hf]
    | some f => simp [level_convert_fail _ _ _ _ _ _ f hf, handleFailure_attempted_converted]
  | unwrap => simp [level, Effect.raise]
  | stuck => simp [level, Effect.raise]

theorem handleFailure_remembers (exc : ExcClass) (att : Bool) :
    (handleFailure true true env d c args kw exc att).2 = d ∨
    (handleFailure true true env d c args kw exc att).2 = { d with inCache := true } := by
  rw [handleFailure_eq]
  by_cases hs : env.strict = true
  · rw [if_pos hs]; exact .inl rfl
  · rw [if_neg hs]; exact (remember_cases d true).imp_right And.left

theorem level_remembers (a : Action) :
    (level a env d self c args kw).2 = d ∨
    ((level a env d self c args kw).2 = { d with inCache := true } ∧ mayRemember d a = true) := by
  cases a with
  | skip chk upd => exact remember_cases d upd
  | builtin => rw [level_builtin]; exact .inl rfl
  | unknownKind => exact (handleFailure_remembers ..).imp_right fun h => ⟨h, rfl⟩
  | convert =>
    obtain hf | ⟨f, hf⟩ := Option.eq_none_or_eq_some d.fail
    · rw [level_convert_ok _ _ _ _ _ _ hf]; exact .inl rfl
    · rw [level_convert_fail _ _ _ _ _ _ f hf]
      exact (handleFailure_remembers ..).imp_right fun h => ⟨h, by rw [mayRemember, hf]; rfl⟩
  | unwrap => exact .inl rfl
  | stuck => exact .inl rfl

theorem level_none_empty (a : Action) :
    level a env d self c args none = level a env d self c args (some []) := by
  cases a with
  | skip chk upd => simp only [level_skip, unconvertedEff_eq]; rfl
  | builtin => simp only [level_builtin]; rfl
  | unknownKind => simp only [level_unknownKind, handleFailure_eq, unconvertedEff_eq]; rfl
  | convert =>
    cases hf : d.fail with
    | none => simp only [level_convert_ok _ _ _ _ _ _ hf]; rfl
    | some f => simp only [level_convert_fail _ _ _ _ _ _ f hf, handleFailure_eq, unconvertedEff_eq]; rfl
  | unwrap => rfl
  | stuck => rfl

end Level

/-- The level lets the call through to the callable it wraps: the first three checks are negative. -/
def Desc.through (d : Desc) (env : Env) : Prop :=
  d.inCache = false ∧ env.status ≠ .disabled ∧ d.artifact = false

theorem mergeArgs_eq {α} (a0 args : List α) : mergeArgs a0 args = a0 ++ args := rfl

theorem mergeKw_eq {α} (k0 : Kw α) (kw : Option (Kw α)) : mergeKw k0 kw = dictUpdate k0 (kw.getD []) := rfl

theorem call_part_through {α} (env : Env) (o : Opts) (d : Desc) (a0 : List α) (k0 : Kw α) (inner : Callable α)
    (args : List α) (kw : Option (Kw α)) (h : d.through env) :
    call env o (.part d a0 k0 inner) args kw =
      ((call env o inner (a0 ++ args) (some (dictUpdate k0 (kw.getD [])))).1,
       .part d a0 k0 (call env o inner (a0 ++ args) (some (dictUpdate k0 (kw.getD [])))).2) := by
  obtain ⟨h1, h2, h3⟩ := h
  have hd : decide true d env o = .unwrap := by
    rw [decide_part, if_neg (by simp [h1]), if_neg h2, if_neg (by simp [h3])]
  simp only [call, hd, mergeArgs_eq, mergeKw_eq]

/-- A level that answers for itself remembers the partial object only if it is an artifact. -/
theorem call_part_stopped {α} (env : Env) (o : Opts) (d : Desc) (h : ¬ d.through env) :
    ∃ upd, (upd = true → d.artifact = true) ∧
      ∀ (a0 : List α) (k0 : Kw α) (inner : Callable α) (args : List α) (kw : Option (Kw α)),
        call env o (.part d a0 k0 inner) args kw =
          (unconvertedEff (.part d a0 k0 inner) args kw false false, .part (d.remember upd) a0 k0 inner) := by
  by_cases h1 : d.inCache = true
  · exact ⟨false, nofun, fun _ _ _ _ _ => by simp only [call, decide_part, if_pos h1]; rfl⟩
  by_cases h2 : env.status = .disabled
  · exact ⟨false, nofun, fun _ _ _ _ _ => by simp only [call, decide_part, if_neg h1, if_pos h2]; rfl⟩
  by_cases h3 : d.artifact = true
  · exact ⟨true, fun _ => h3, fun _ _ _ _ _ => by simp only [call, decide_part, if_neg h1, if_neg h2, if_pos h3]; rfl⟩
  · exact absurd ⟨by simpa using h1, h2, by simpa using h3⟩ h

/-- `passes` is the part of `through` that does not depend on the context. -/
theorem passes_part_iff {α} (d : Desc) (a0 : List α) (k0 : Kw α) (inner : Callable α) (env : Env) (o : Opts) :
    ((Callable.part d a0 k0 inner).passes = true ∧ ¬ Excluded (Callable.part d a0 k0 inner).baseDesc env o) ↔
      (d.through env ∧ inner.passes = true ∧ ¬ Excluded inner.baseDesc env o) := by
  simp only [Callable.passes, Callable.baseDesc, Desc.through, Bool.and_eq_true, Bool.not_eq_eq_eq_not, Bool.not_true]
  constructor
  · rintro ⟨⟨⟨h1, h2⟩, h3⟩, hx⟩
    exact ⟨⟨h1, fun hd => hx (.inr (.inl hd)), h2⟩, h3, hx⟩
  · rintro ⟨⟨h1, _, h2⟩, h3, hx⟩
    exact ⟨⟨⟨h1, h2⟩, h3⟩, hx⟩

theorem direct_remembered {α} (c : Callable α) (args : List α) (kw : Kw α) :
    direct c.remembered args kw = direct c args kw := by
  induction c generalizing args kw with
  | base d self binds => simp [Callable.remembered, direct]
  | part d a0 k0 inner ih => simp [Callable.remembered, direct, ih]

theorem dictGet_dictSet {α} (d : Kw α) (k k' : String) (v : α) :
    dictGet k' (dictSet d k v) = if k = k' then some v else dictGet k' d := by
  fun_induction dictSet d k v with
  | case1 => rfl
  | case2 v1 r => rw [dictGet, dictGet]; by_cases h2 : k = k' <;> simp only [h2, if_true, if_false]
  | case3 k1 v1 r h1 ih =>
    rw [dictGet, dictGet, ih]
    by_cases h2 : k1 = k'
    · rw [if_pos h2, if_pos h2, if_neg (fun e => h1 (h2.trans e.symm))]
    · rw [if_neg h2, if_neg h2]

theorem dictGet_dictUpdate {α} (d u : Kw α) (k : String) :
    dictGet k (dictUpdate d u) = match lastIn k u with
                                 | some v => some v
                                 | none => dictGet k d := by
  induction u generalizing d with
  | nil => simp [dictUpdate, lastIn]
  | cons p r ih =>
    obtain ⟨k1, v1⟩ := p
    have : dictUpdate d ((k1, v1) :: r) = dictUpdate (dictSet d k1 v1) r := by simp [dictUpdate]
    rw [this, ih, dictGet_dictSet]
    cases h : lastIn k r <;> by_cases hk : k1 = k <;> simp [lastIn, h, hk]

theorem keys_dictSet {α} (d : Kw α) (k : String) (v : α) :
    keys (dictSet d k v) = if k ∈ keys d then keys d else keys d ++ [k] := by
  fun_induction dictSet d k v with
  | case1 => rfl
  | case2 v1 r => exact (if_pos List.mem_cons_self).symm
  | case3 k1 v1 r h1 ih =>
    show k1 :: keys (dictSet r k v) = if k ∈ k1 :: keys r then k1 :: keys r else k1 :: keys r ++ [k]
    rw [ih]
    by_cases hm : k ∈ keys r
    · rw [if_pos hm, if_pos (List.mem_cons_of_mem _ hm)]
    · rw [if_neg hm, if_neg (fun h => (List.mem_cons.mp h).elim (fun e => h1 e.symm) hm)]; rfl

theorem nodup_dictSet {α} (d : Kw α) (k : String) (v : α) (h : (keys d).Nodup) : (keys (dictSet d k v)).Nodup := by
  rw [keys_dictSet]
  by_cases hm : k ∈ keys d
  · simp [hm, h]
  · simp only [hm, if_false]
    rw [List.nodup_append]
    refine ⟨h, by simp, ?_⟩
    intro a ha b hb
    simp at hb
    subst hb
    intro e; subst e; exact hm ha

theorem nodup_dictUpdate {α} (d u : Kw α) (h : (keys d).Nodup) : (keys (dictUpdate d u)).Nodup := by
  induction u generalizing d with
  | nil => simpa [dictUpdate] using h
  | cons p r ih =>
    have : dictUpdate d (p :: r) = dictUpdate (dictSet d p.1 p.2) r := by simp [dictUpdate]
    rw [this]
    exact ih _ (nodup_dictSet d p.1 p.2 h)

theorem dictGet_none_of_not_mem {α} (d : Kw α) (k : String) (h : k ∉ keys d) : dictGet k d = none := by
  fun_induction dictGet k d with
  | case1 => rfl
  | case2 v r => exact absurd List.mem_cons_self h
  | case3 k1 v r h1 ih => exact ih fun hm => h (List.mem_cons_of_mem _ hm)

theorem lastIn_eq_dictGet {α} (u : Kw α) (k : String) (h : (keys u).Nodup) : lastIn k u = dictGet k u := by
  have hcons : ∀ {k1 : String} {v : α} {r : Kw α}, (keys ((k1, v) :: r)).Nodup → k1 ∉ keys r ∧ (keys r).Nodup :=
    fun h => List.nodup_cons.mp h
  fun_induction lastIn k u with
  | case1 => rfl
  | case2 k1 v r w hw ih =>  -- `k` is bound again further on: then it is not the first key
    have hg : dictGet k r = some w := ih (hcons h).2 ▸ hw
    have hk : ¬ k1 = k := fun e => (hcons h).1 (e ▸ Decidable.byContradiction fun hm => by
      rw [dictGet_none_of_not_mem r k hm] at hg; cases hg)
    rw [dictGet, if_neg hk, hg]
  | case3 v r hn ih => rw [dictGet, if_pos rfl]
  | case4 k1 v r hn h1 ih => rw [dictGet, if_neg h1, ← ih (hcons h).2, hn]

end Malt.Policy
