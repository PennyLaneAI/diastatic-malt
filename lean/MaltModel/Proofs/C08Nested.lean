import MaltModel.Analysis.ActivityHyp

/-
The block tree of the specification: what every block hands down to its children holds at every block (`allBlocks_forall`; instances:
`leaksB`, `declBelowB`, `shadowB`, `disjB`).
-/

namespace Malt.Analysis
open Malt.Py Malt.Spec

mutual
def allBlocks : Block → List Block
  | .mk id kind name params binds globals nonlocals uses walrus children =>
      .mk id kind name params binds globals nonlocals uses walrus children :: allBlocksL children
def allBlocksL : List Block → List Block
  | [] => []
  | b :: rest => allBlocks b ++ allBlocksL rest
end

mutual
theorem Block.ind {P : Block → Prop} (step : ∀ b, (∀ c ∈ b.children, P c) → P b) : ∀ b, P b
  | .mk .. => step _ (Block.indL step _)
theorem Block.indL {P : Block → Prop} (step : ∀ b, (∀ c ∈ b.children, P c) → P b) : ∀ (bs : List Block), ∀ c ∈ bs, P c
  | [] => nofun
  | b :: bs => List.forall_mem_cons.mpr ⟨Block.ind step b, Block.indL step bs⟩
end

theorem eq_flatMap_of_nil_cons {α β : Type} {f : α → List β} {fs : List α → List β} (hn : fs [] = [])
    (hc : ∀ a l, fs (a :: l) = f a ++ fs l) (l : List α) : fs l = l.flatMap f := by
  induction l with
  | nil => exact hn
  | cons a r ih => rw [hc, ih, List.flatMap_cons]

theorem eq_all_of_nil_cons {α : Type} {f : α → Bool} {fs : List α → Bool} (hn : fs [] = true)
    (hc : ∀ a l, fs (a :: l) = (f a && fs l)) (l : List α) : fs l = l.all f := by
  induction l with
  | nil => exact hn
  | cons a r ih => rw [hc, ih, List.all_cons]

theorem allBlocksL_eq (bs : List Block) : allBlocksL bs = bs.flatMap allBlocks :=
  eq_flatMap_of_nil_cons rfl (fun _ _ => rfl) bs

theorem allBlocksL_append (a b : List Block) : allBlocksL (a ++ b) = allBlocksL a ++ allBlocksL b := by
  simp only [allBlocksL_eq, List.flatMap_append]

theorem allBlocks_cons (b : Block) : allBlocks b = b :: b.children.flatMap allBlocks := by
  cases b; rw [allBlocks, allBlocksL_eq]; rfl

theorem mem_allBlocks_self (b : Block) : b ∈ allBlocks b := by
  rw [allBlocks_cons]; exact List.mem_cons_self

theorem mem_allBlocks_of_child {b c b' : Block} (hc : c ∈ b.children) (h : b' ∈ allBlocks c) : b' ∈ allBlocks b := by
  rw [allBlocks_cons]; exact List.mem_cons_of_mem _ (List.mem_flatMap.mpr ⟨c, hc, h⟩)

theorem mem_allBlocksL {b c : Block} {bs : List Block} (hc : c ∈ bs) (hb : b ∈ allBlocks c) : b ∈ allBlocksL bs := by
  rw [allBlocksL_eq]; exact List.mem_flatMap.mpr ⟨c, hc, hb⟩

theorem allBlocks_forall {H R : Block → Prop} (step : ∀ b, H b → R b ∧ ∀ c ∈ b.children, H c) (b : Block) (h : H b) :
    ∀ b' ∈ allBlocks b, R b' := by
  induction b using Block.ind with
  | _ b ih =>
    intro b' hb'
    rw [allBlocks_cons, List.mem_cons, List.mem_flatMap] at hb'
    rcases hb' with rfl | ⟨c, hc, hb'⟩
    · exact (step _ h).1
    · exact ih c hc ((step _ h).2 c hc) b' hb'

theorem allBlocksL_forall {H R : Block → Prop} (step : ∀ b, H b → R b ∧ ∀ c ∈ b.children, H c) (bs : List Block)
    (h : ∀ c ∈ bs, H c) : ∀ b' ∈ allBlocksL bs, R b' := by
  intro b' hb'
  rw [allBlocksL_eq, List.mem_flatMap] at hb'
  obtain ⟨c, hc, hb'⟩ := hb'
  exact allBlocks_forall step c (h c hc) b' hb'

theorem leaksBs_eq (enc : List String) (bs : List Block) : leaksBs enc bs = bs.flatMap (leaksB enc) :=
  eq_flatMap_of_nil_cons rfl (fun _ _ => rfl) bs

theorem leaksBs_append (enc : List String) (a b : List Block) : leaksBs enc (a ++ b) = leaksBs enc a ++ leaksBs enc b := by
  simp only [leaksBs_eq, List.flatMap_append]

theorem leaksBs_eq_nil_iff (enc : List String) (bs : List Block) : leaksBs enc bs = [] ↔ ∀ c ∈ bs, leaksB enc c = [] := by
  rw [leaksBs_eq, List.flatMap_eq_nil_iff]

theorem leaksB_eq_nil_iff (enc : List String) (b : Block) :
    leaksB enc b = [] ↔
      ((b.kind == .function || b.kind == .lambda) = true → ∀ p ∈ b.params, p ∈ enc) ∧
      leaksBs (if b.kind.isComp then enc else b.params ++ b.binds ++ b.globals ++ b.nonlocals) b.children = [] := by
  obtain ⟨id, kind, name, params, binds, globals, nonlocals, uses, walrus, children⟩ := b
  simp only [leaksB, List.append_eq_nil_iff, Block.kind, Block.params, Block.binds, Block.globals, Block.nonlocals, Block.children]
  cases (kind == .function || kind == .lambda) <;> simp [List.filter_eq_nil_iff]

theorem leakFree_step (b : Block)
    (h : ∃ enc, leaksBs (if b.kind.isComp then enc else b.params ++ b.binds ++ b.globals ++ b.nonlocals) b.children = []) :
    (b.kind.isComp = false → leaksBs (b.params ++ b.binds ++ b.globals ++ b.nonlocals) b.children = []) ∧
      ∀ c ∈ b.children,
        ∃ enc, leaksBs (if c.kind.isComp then enc else c.params ++ c.binds ++ c.globals ++ c.nonlocals) c.children = [] := by
  obtain ⟨enc, h⟩ := h
  exact ⟨fun hk => by simpa [hk] using h, fun c hc => ⟨_, ((leaksB_eq_nil_iff _ c).mp ((leaksBs_eq_nil_iff _ _).mp h c hc)).2⟩⟩

theorem leakFree_all (b : Block) (h : leaksBs (b.params ++ b.binds ++ b.globals ++ b.nonlocals) b.children = []) :
    ∀ b' ∈ allBlocks b, b'.kind.isComp = false →
      leaksBs (b'.params ++ b'.binds ++ b'.globals ++ b'.nonlocals) b'.children = [] :=
  allBlocks_forall leakFree_step b ⟨b.params ++ b.binds ++ b.globals ++ b.nonlocals, by simpa using h⟩

theorem declBelowBs_eq (g : Bool) (enc : List String) (bs : List Block) :
    declBelowBs g enc bs = bs.flatMap (declBelowB g enc) :=
  eq_flatMap_of_nil_cons rfl (fun _ _ => rfl) bs

theorem declBelowBs_append (g : Bool) (enc : List String) (a b : List Block) :
    declBelowBs g enc (a ++ b) = declBelowBs g enc a ++ declBelowBs g enc b := by
  simp only [declBelowBs_eq, List.flatMap_append]

theorem declBelowBs_eq_nil_iff (g : Bool) (enc : List String) (bs : List Block) :
    declBelowBs g enc bs = [] ↔ ∀ c ∈ bs, declBelowB g enc c = [] := by
  rw [declBelowBs_eq, List.flatMap_eq_nil_iff]

theorem declBelowB_eq_nil_iff (g : Bool) (enc : List String) (b : Block) :
    declBelowB g enc b = [] ↔
      (∀ x ∈ (if g then b.globals else b.nonlocals), x ∈ enc) ∧
      declBelowBs g (if (b.kind == .function || b.kind == .lambda) then b.params ++ b.binds ++ b.globals ++ b.nonlocals else enc)
        b.children = [] := by
  obtain ⟨id, kind, name, params, binds, globals, nonlocals, uses, walrus, children⟩ := b
  simp [declBelowB, List.filter_eq_nil_iff, Block.kind, Block.params, Block.binds, Block.globals, Block.nonlocals, Block.children]

theorem declBelow_step (g : Bool) (b : Block)
    (h : ∃ enc, declBelowBs g (if (b.kind == .function || b.kind == .lambda) then b.params ++ b.binds ++ b.globals ++ b.nonlocals else enc)
      b.children = []) :
    ((b.kind == .function || b.kind == .lambda) = true →
        declBelowBs g (b.params ++ b.binds ++ b.globals ++ b.nonlocals) b.children = []) ∧
      ∀ c ∈ b.children, ∃ enc, declBelowBs g
        (if (c.kind == .function || c.kind == .lambda) then c.params ++ c.binds ++ c.globals ++ c.nonlocals else enc) c.children = [] := by
  obtain ⟨enc, h⟩ := h
  exact ⟨fun hk => by simpa [hk] using h,
    fun c hc => ⟨_, ((declBelowB_eq_nil_iff g _ c).mp ((declBelowBs_eq_nil_iff _ _ _).mp h c hc)).2⟩⟩

theorem declBelow_all (g : Bool) (b : Block) (h : declBelowBs g (b.params ++ b.binds ++ b.globals ++ b.nonlocals) b.children = []) :
    ∀ b' ∈ allBlocks b, (b'.kind == .function || b'.kind == .lambda) = true →
      declBelowBs g (b'.params ++ b'.binds ++ b'.globals ++ b'.nonlocals) b'.children = [] :=
  allBlocks_forall (declBelow_step g) b ⟨b.params ++ b.binds ++ b.globals ++ b.nonlocals, by simpa using h⟩

theorem shadowBs_eq (bs : List Block) : shadowBs bs = bs.flatMap shadowB :=
  eq_flatMap_of_nil_cons rfl (fun _ _ => rfl) bs

theorem shadowBs_append (a b : List Block) : shadowBs (a ++ b) = shadowBs a ++ shadowBs b := by
  simp only [shadowBs_eq, List.flatMap_append]

theorem shadowBs_eq_nil_iff (bs : List Block) : shadowBs bs = [] ↔ ∀ c ∈ bs, shadowB c = [] := by
  rw [shadowBs_eq, List.flatMap_eq_nil_iff]

theorem needsBs_eq (bs : List Block) : needsBs bs = bs.flatMap needsB :=
  eq_flatMap_of_nil_cons rfl (fun _ _ => rfl) bs

theorem shadowB_eq_nil_iff (b : Block) :
    shadowB b = [] ↔
      (b.kind = .class_ → ∀ x ∈ b.binds ++ b.nonlocals, x ∉ needsBs b.children) ∧ shadowBs b.children = [] := by
  obtain ⟨id, kind, name, params, binds, globals, nonlocals, uses, walrus, children⟩ := b
  simp only [shadowB, List.append_eq_nil_iff, Block.kind, Block.binds, Block.nonlocals, Block.children]
  by_cases hk : kind = .class_ <;> simp [hk, List.filter_eq_nil_iff, or_imp, forall_and]

theorem shadow_step (b : Block) (h : shadowB b = []) : shadowBs b.children = [] ∧ ∀ c ∈ b.children, shadowB c = [] :=
  have hc := ((shadowB_eq_nil_iff b).mp h).2
  ⟨hc, (shadowBs_eq_nil_iff _).mp hc⟩

theorem shadow_all (b : Block) (h : shadowB b = []) : ∀ b' ∈ allBlocks b, shadowBs b'.children = [] :=
  allBlocks_forall shadow_step b h

theorem shadow_allL : (bs : List Block) → shadowBs bs = [] → ∀ b' ∈ allBlocksL bs, shadowBs b'.children = [] :=
  fun bs h => allBlocksL_forall shadow_step bs ((shadowBs_eq_nil_iff _).mp h)

theorem disjBs_eq (bs : List Block) : disjBs bs = bs.all disjB :=
  eq_all_of_nil_cons rfl (fun _ _ => rfl) bs

theorem disj_step (b : Block) (h : disjB b = true) :
    (∀ x, ¬ (x ∈ b.globals ∧ x ∈ b.nonlocals)) ∧ ∀ c ∈ b.children, disjB c = true := by
  obtain ⟨id, kind, name, params, binds, globals, nonlocals, uses, walrus, children⟩ := b
  simp only [disjB, Bool.and_eq_true, List.all_eq_true, disjBs_eq] at h
  exact ⟨fun x hx => by simpa [show x ∈ nonlocals from hx.2] using h.1 x hx.1, h.2⟩

theorem disj_all (b : Block) (h : disjB b = true) : ∀ b' ∈ allBlocks b, ∀ x, ¬ (x ∈ b'.globals ∧ x ∈ b'.nonlocals) :=
  allBlocks_forall disj_step b h

theorem disj_allL : (bs : List Block) → disjBs bs = true → ∀ b' ∈ allBlocksL bs, ∀ x, ¬ (x ∈ b'.globals ∧ x ∈ b'.nonlocals) :=
  fun bs h => allBlocksL_forall disj_step bs (by simpa [disjBs_eq] using h)

end Malt.Analysis
