import MaltModel.Analysis.ActivityHyp
/-
Twelve of the 22 kinds of expression node are, to every function of this chain, nothing but the list of their children
(`plainKids`); `Expr.plain_ind` has one case for all of them.
-/
namespace Malt.Analysis
open Malt.Py Malt.Spec

theorem and_left {a b : Bool} (h : (a && b) = true) : a = true := (Bool.and_eq_true_iff.mp h).1

theorem and_right {a b : Bool} (h : (a && b) = true) : b = true := (Bool.and_eq_true_iff.mp h).2

theorem and_imp_and {a b c d : Bool} (h1 : a = true → c = true) (h2 : b = true → d = true) (h : (a && b) = true) :
    (c && d) = true :=
  Bool.and_eq_true_iff.mpr ⟨h1 (and_left h), h2 (and_right h)⟩

def plainKids : Expr → Option (List Expr)
  | .const .. | .noneMarker => some []
  | .keyword _ _ _ v | .unary _ _ v | .starred _ v _ => some [v]
  | .binop _ _ a b | .namedexpr _ a b => some [a, b]
  | .ifexp _ t b o => some [t, b, o]
  | .boolop _ _ es | .seq _ _ es _ | .other _ _ _ es => some es
  | .compare _ l _ rs => some (l :: rs)
  | _ => none

/-- Grandchildren: an `arguments` node is never visited as an expression. -/
def PlainParts (P : Expr → Prop) (Ps : List Expr → Prop) : Expr → Prop
  | .arguments _ _ _ _ _ kd _ df => Ps kd ∧ Ps df
  | .comprehension _ t it ifs _ => P t ∧ P it ∧ Ps ifs
  | _ => True

section
variable {P : Expr → Prop} {Ps : List Expr → Prop} (nil : Ps []) (cons : ∀ e es, P e → Ps es → Ps (e :: es))
  (plain : ∀ e ks, plainKids e = some ks → Ps ks → P e)
  (name : ∀ i s c, P (.name i s c))
  (attr : ∀ i v a c, P v → P (.attr i v a c))
  (subscript : ∀ i v s c, P v → P s → P (.subscript i v s c))
  (call : ∀ i f as ks, P f → Ps as → Ps ks → P (.call i f as ks))
  (lambda : ∀ i args body, (∀ ai po ar va ko kd kw df, args = .arguments ai po ar va ko kd kw df → Ps kd ∧ Ps df) → P body →
    P (.lambda i args body))
  (comp : ∀ i k elts gens, Ps elts → Ps gens →
    (∀ gi t it ifs ia rest, gens = .comprehension gi t it ifs ia :: rest → P t ∧ P it ∧ Ps ifs ∧ Ps rest) →
    P (.comp i k elts gens))
  (comprehension : ∀ i t it ifs a, P t → P it → Ps ifs → P (.comprehension i t it ifs a))
  (arguments : ∀ i po ar va ko kd kw df, P (.arguments i po ar va ko kd kw df))
  (arg : ∀ i n an, Ps an → P (.arg i n an))
  (withitem : ∀ i c v, P c → Ps v → P (.withitem i c v))
include nil cons plain name attr subscript call lambda comp comprehension arguments arg withitem

theorem Expr.plain_ind_aux (e : Expr) : P e ∧ PlainParts P Ps e :=
  Expr.rec (motive_1 := fun e => P e ∧ PlainParts P Ps e)
    (motive_2 := fun es => Ps es ∧ ∀ g rest, es = g :: rest → PlainParts P Ps g ∧ Ps rest)
    (name := fun i s c => ⟨name i s c, trivial⟩)
    (const := fun _ _ _ => ⟨plain _ [] rfl nil, trivial⟩)
    (attr := fun i v a c ih => ⟨attr i v a c ih.1, trivial⟩)
    (subscript := fun i v s c ihv ihs => ⟨subscript i v s c ihv.1 ihs.1, trivial⟩)
    (call := fun i f as ks ihf ihas ihks => ⟨call i f as ks ihf.1 ihas.1 ihks.1, trivial⟩)
    (keyword := fun _ _ _ v ih => ⟨plain _ [v] rfl (cons _ _ ih.1 nil), trivial⟩)
    (boolop := fun _ _ es ih => ⟨plain _ es rfl ih.1, trivial⟩)
    (unary := fun _ _ v ih => ⟨plain _ [v] rfl (cons _ _ ih.1 nil), trivial⟩)
    (binop := fun _ _ a b iha ihb => ⟨plain _ [a, b] rfl (cons _ _ iha.1 (cons _ _ ihb.1 nil)), trivial⟩)
    (compare := fun _ l _ rs ihl ihrs => ⟨plain _ (l :: rs) rfl (cons _ _ ihl.1 ihrs.1), trivial⟩)
    (ifexp := fun _ t b o iht ihb iho =>
      ⟨plain _ [t, b, o] rfl (cons _ _ iht.1 (cons _ _ ihb.1 (cons _ _ iho.1 nil))), trivial⟩)
    (lambda := fun i args body iha ihb =>
      ⟨lambda i args body (fun _ _ _ _ _ _ _ _ h => by subst h; exact iha.2) ihb.1, trivial⟩)
    (seq := fun _ _ es _ ih => ⟨plain _ es rfl ih.1, trivial⟩)
    (starred := fun _ v _ ih => ⟨plain _ [v] rfl (cons _ _ ih.1 nil), trivial⟩)
    (namedexpr := fun _ a b iha ihb => ⟨plain _ [a, b] rfl (cons _ _ iha.1 (cons _ _ ihb.1 nil)), trivial⟩)
    (comp := fun i k elts gens ihe ihg => ⟨comp i k elts gens ihe.1 ihg.1 (fun _ _ _ _ _ _ h =>
      have ⟨hp, hr⟩ := ihg.2 _ _ h; ⟨hp.1, hp.2.1, hp.2.2, hr⟩), trivial⟩)
    (comprehension := fun i t it ifs a iht ihit ihifs =>
      ⟨comprehension i t it ifs a iht.1 ihit.1 ihifs.1, iht.1, ihit.1, ihifs.1⟩)
    (arguments := fun i po ar va ko kd kw df _ _ _ _ ihkd _ ihdf => ⟨arguments i po ar va ko kd kw df, ihkd.1, ihdf.1⟩)
    (arg := fun i n an ih => ⟨arg i n an ih.1, trivial⟩)
    (withitem := fun i c v ihc ihv => ⟨withitem i c v ihc.1 ihv.1, trivial⟩)
    (noneMarker := ⟨plain _ [] rfl nil, trivial⟩)
    (other := fun _ _ _ es ih => ⟨plain _ es rfl ih.1, trivial⟩)
    (nil := ⟨nil, fun _ _ h => nomatch h⟩)
    (cons := fun e es ihe ihes => ⟨cons e es ihe.1 ihes.1, fun _ _ h => by cases h; exact ⟨ihe.2, ihes.1⟩⟩) e

theorem Expr.plain_ind : (∀ e, P e) ∧ (∀ es, Ps es) :=
  have h := fun e =>
    (Expr.plain_ind_aux nil cons plain name attr subscript call lambda comp comprehension arguments arg withitem e).1
  ⟨h, fun es => List.rec nil (fun e es ih => cons e es (h e) ih) es⟩

end

section
variable {e : Expr} {ks : List Expr} (h : plainKids e = some ks)
include h

theorem visitE_plain (st : St) : visitE e st = visitEs ks st := by
  cases e <;> cases h <;> rfl

theorem FragC_plain : FragC e = FragCs ks := by
  cases e <;> cases h <;> simp only [FragC, FragCs, Bool.and_true, Bool.and_assoc]

theorem FragE_plain : FragE e = FragEs ks := by
  cases e <;> cases h <;> simp only [FragE, FragEs, Bool.and_true, Bool.and_assoc]

theorem storesOkE_plain (b : Bool) (hid : List String) : storesOkE b hid e = storesOkEs b hid ks := by
  cases e <;> cases h <;> simp only [storesOkE, storesOkEs, Bool.and_true, Bool.and_assoc]

theorem readsE_plain (hid : List String) : readsE hid e = readsEs hid ks := by
  cases e <;> cases h <;> simp only [readsE, readsEs, List.append_nil, List.append_assoc]

theorem writesE_plain (hid : List String) : writesE hid e = writesEs hid ks := by
  cases e <;> cases h <;> simp only [writesE, writesEs, List.append_nil, List.append_assoc]

end

theorem isPlainArg_iff (a : Expr) : isPlainArg a = true ↔ ∃ i n, a = .arg i n [] := by
  fun_cases isPlainArg a
  · simp
  · rename_i h; simpa using fun i n e => h i n e

structure PlainParams (po ar va ko kw : List Expr) : Prop where
  po : po.all isPlainArg = true
  ar : ar.all isPlainArg = true
  va : va.all isPlainArg = true
  ko : ko.all isPlainArg = true
  kw : kw.all isPlainArg = true

theorem FragC.lambda {i : Nat} {args body : Expr} (h : FragC (.lambda i args body) = true) :
    ∃ ai po ar va ko kd kw df, args = .arguments ai po ar va ko kd kw df ∧ PlainParams po ar va ko kw ∧
      FragCs kd = true ∧ FragCs df = true ∧ FragC body = true := by
  refine Classical.byContradiction fun h' => ?_
  rw [FragC] at h
  · cases h
  · intro ai po ar va ko kd kw df e
    subst e
    simp only [FragC, Bool.and_eq_true] at h
    obtain ⟨⟨⟨⟨⟨⟨⟨hpo, har⟩, hva⟩, hko⟩, hkw⟩, hkd⟩, hdf⟩, hbody⟩ := h
    exact h' ⟨_, _, _, _, _, _, _, _, rfl, ⟨hpo, har, hva, hko, hkw⟩, hkd, hdf, hbody⟩

theorem FragE.lambda {i : Nat} {args body : Expr} (h : FragE (.lambda i args body) = true) :
    ∃ ai po ar va ko kd kw df, args = .arguments ai po ar va ko kd kw df ∧ PlainParams po ar va ko kw ∧
      FragEs kd = true ∧ FragEs df = true ∧ FragE body = true := by
  refine Classical.byContradiction fun h' => ?_
  rw [FragE] at h
  · cases h
  · intro ai po ar va ko kd kw df e
    subst e
    simp only [FragE, Bool.and_eq_true] at h
    obtain ⟨⟨⟨⟨⟨⟨⟨hpo, har⟩, hva⟩, hko⟩, hkw⟩, hkd⟩, hdf⟩, hbody⟩ := h
    exact h' ⟨_, _, _, _, _, _, _, _, rfl, ⟨hpo, har, hva, hko, hkw⟩, hkd, hdf, hbody⟩

theorem isWithitem_iff (a : Expr) : isWithitem a = true ↔ ∃ i c v, a = .withitem i c v := by
  fun_cases isWithitem a
  · simp
  · rename_i h; simpa using fun i c v e => h i c v e

theorem qnOf_attr_ne_sym (i : Nat) (v : Expr) (a : String) (c : Ctx) (x : String) : qnOf (.attr i v a c) ≠ some (.sym x) := by
  simp only [qnOf]
  cases qnOf v <;> simp

theorem qnOf_subscript_ne_sym (i : Nat) (v s : Expr) (c : Ctx) (x : String) : qnOf (.subscript i v s c) ≠ some (.sym x) := by
  unfold qnOf
  repeat' split
  all_goals first | simp | (cases qnOf v <;> simp)

end Malt.Analysis
