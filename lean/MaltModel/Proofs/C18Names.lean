import MaltModel.Proofs.C18Sem2
namespace Malt.Anf
open Malt.Py Malt.SemAnf

theorem names_adjust :
    (∀ (ov : Option Ctx) (e : Expr), namesE (adjustCtx ov e) = namesE e) ∧
    (∀ (ov : Option Ctx) (es : List Expr), namesEs (adjustCtxs ov es) = namesEs es) := by
  apply adjustCtx.mutual_induct <;> intros <;> simp_all [adjustCtx, adjustCtxs, namesE, namesEs]

theorem namess_adjust : ∀ (es : List Expr) (ov : Option Ctx), namesEs (adjustCtxs ov es) = namesEs es :=
  fun es ov => names_adjust.2 ov es

theorem visitE_selected {cfg : Config} {pk fld : String} {e : Expr} {n : Nat} {e' : Expr} {D : List Stmt} {n' : Nat}
    (h : visitE cfg e n = .ok (e', D, n')) : selected cfg pk fld e' = selected cfg pk fld e := by
  unfold selected
  rw [(visitE_inv h).kind, (visitE_inv h).trivial]

theorem visitE_okChild {cfg : Config} {pk f : String} {e : Expr} {n : Nat} {e' : Expr} {D : List Stmt} {n' : Nat}
    (hf : fragE e = true) (h : visitE cfg e n = .ok (e', D, n')) :
    okChild cfg pk f e' = okChild cfg pk f e := by
  have hk := visitE_inv h
  rw [okChild_plain cfg pk f e' (fragE_not_wrapper (visitE_frag hf h)), okChild_plain cfg pk f e (fragE_not_wrapper hf), hk.kind, hk.trivial]

theorem selected_eq_not_okChild (cfg : Config) (pk fld : String) (x : Expr) (hf : fragE x = true) :
    selected cfg pk fld x = !okChild cfg pk fld x := by
  rw [okChild_plain cfg pk fld x (fragE_not_wrapper hf)]
  unfold selected
  cases isTrivial x <;> cases shouldTransform cfg pk fld (kindOf x) <;> rfl

theorem ensure_pure {cfg : Config} {pk fld : String} {x : Expr} (n : Nat) (hf : fragE x = true)
    (h : pureE x = true ∨ selected cfg pk fld x = true) : pureE (ensure cfg pk fld x n).1 = true := by
  rcases ensure_frag_cases cfg pk fld x n hf with ⟨h1, hok⟩ | ⟨h1, hok⟩
  · rw [h1]
    rcases h with h | h
    · exact h
    · rw [selected_eq_not_okChild cfg pk fld x hf, hok] at h; simp at h
  · rw [h1]; rfl

theorem zip_map_fst_snd {α β : Type} : ∀ (l : List (α × β)), (l.map (·.1)).zip (l.map (·.2)) = l
  | [] => rfl
  | p :: l => by simp [zip_map_fst_snd l]

theorem resKids_mem {cfg : Config} {pk fld : String} : ∀ {es : List Expr}, resKids cfg pk fld es = true →
    ∀ x ∈ es, (selected cfg pk fld x || resPure cfg x) = true
  | [], _, x, hx => by simp at hx
  | e :: es, h, x, hx => by
      simp only [resKids, Bool.and_eq_true] at h
      rcases List.mem_cons.mp hx with rfl | hx
      · exact h.1
      · exact resKids_mem h.2 x hx

theorem resPure_node {cfg : Config} {e : Expr} (hn : nodeE e = true) (hr : resPure cfg e = true) :
    storeSeq e = false ∧ (∀ p ∈ kidsOf e, (selected cfg (kindOf e) p.1 p.2 || resPure cfg p.2) = true) ∧
      ∀ ks, ks.length = (kids e).length → pureEs ks = true → pureE (withKids e ks) = true := by
  have htag : ∀ {pk fld es}, resKids cfg pk fld es = true →
      ∀ p ∈ tag fld es, (selected cfg pk p.1 p.2 || resPure cfg p.2) = true := by
    intro pk fld es h p hp
    simp only [tag, List.mem_map] at hp
    obtain ⟨x, hx, rfl⟩ := hp
    exact resKids_mem h x hx
  revert hn
  fun_cases nodeE e <;> intro hn
  case case8 => cases hn
  case case3 => simp [resPure] at hr
  case case1 | case4 =>
    simp only [resPure] at hr
    exact ⟨rfl, by simpa [kidsOf, kindOf] using hr, fun ks hl hp => by
      match ks, hl with | [v], _ => simpa [withKids, pureE, pureEs] using hp⟩
  case case2 | case5 =>
    simp only [resPure, Bool.and_eq_true] at hr
    exact ⟨rfl, by simpa [kidsOf, kindOf] using hr, fun ks hl hp => by
      match ks, hl with | [v, s], _ => simpa [withKids, pureE, pureEs] using hp⟩
  case case6 i l ops rs =>
    simp only [resPure, Bool.and_eq_true, beq_iff_eq] at hr
    obtain ⟨⟨⟨h1, h2⟩, h3⟩, h4⟩ := hr
    refine ⟨rfl, fun p hp => ?_, fun ks hl hp => ?_⟩
    · rcases List.mem_cons.mp hp with rfl | hp
      · exact h1
      · exact htag h2 p hp
    · match ks, hl with
      | l' :: rs', hl =>
        simp [kids, kidsOf, tag] at hl
        have : rs.length = 1 := h3 ▸ h4
        simpa [withKids, pureE, pureEs, h4, hl, this] using hp
  case case7 i k es c =>
    cases k <;> simp only [resPure, Bool.and_eq_true, bne_iff_ne, ne_eq] at hr
    · exact ⟨by simpa [storeSeq] using hr.1.1, htag hr.1.2, fun ks _ hp => by simpa [withKids, pureE] using hp⟩
    · exact ⟨by simpa [storeSeq] using hr.1.1, htag hr.1.2, fun ks _ hp => by simpa [withKids, pureE] using hp⟩
    · exact ⟨rfl, htag hr.1, fun ks _ hp => by simpa [withKids, pureE] using hp⟩

theorem visit_respure (cfg : Config) :
    (∀ e, fragE e = true → ∀ (n : Nat), resPure cfg e = true → Sat (visitE cfg e n) fun (e', _, _) => pureE e' = true) ∧
    (∀ es, fragEs es = true → ∀ (fs : List String) (pk : String) (n : Nat),
      (∀ p ∈ fs.zip es, (selected cfg pk p.1 p.2 || resPure cfg p.2) = true) →
      Sat (visitEs cfg es n) fun (es', _, _) => ∀ m, pureEs (ensureFs cfg pk fs es' m).1 = true) := by
  refine fragE_ind ?name ?const ?node ?walrus ?nil ?cons
  case name => exact fun i s c n _ => Sat.pure rfl
  case const => exact fun i k r n _ => Sat.pure rfl
  case node =>
    intro e hn hf ih n hr
    obtain ⟨hst, hk, hp⟩ := resPure_node hn hr
    refine .node hn hf (ih _ _ n (by rw [zip_map_fst_snd]; exact hk)) fun ks1 d1 n1 ks2 H n2 hp1 _ hE hlen _ => hp _ hlen ?_
    have := hp1 n1
    rwa [← show (ensureKids cfg e ks1 n1).1 = ks2 from congrArg (·.1) hE, ensureKids, hst, if_neg Bool.false_ne_true]
  case walrus =>
    intro i j s v _ n hr
    simp [resPure] at hr
  case nil => exact fun fs pk n _ => Sat.pure fun m => by cases fs <;> rfl
  case cons =>
    intro e es hfe ihe ihes fs pk n hk
    match fs with
    | [] => exact fun _ _ _ => rfl
    | f :: fs =>
      simp only [List.zip_cons_cons, List.mem_cons, forall_eq_or_imp] at hk
      refine .cons (Sat.self _) fun e1 d1 n1 hv => Sat.mono (ihes fs pk n1 hk.2) fun (es1, d2, n2) is m => ?_
      simp only [ensureFs, pureEs, Bool.and_eq_true]
      refine ⟨ensure_pure m (visitE_frag hfe hv) ?_, is _⟩
      rcases (Bool.or_eq_true _ _).mp hk.1 with h1 | h1
      · exact Or.inr ((visitE_selected hv).trans h1)
      · exact Or.inl (ihe n h1 _ hv)

theorem visitE_respure {cfg : Config} {e : Expr} {n : Nat} {e' : Expr} {D : List Stmt} {n' : Nat} (hf : fragE e = true)
    (hr : resPure cfg e = true) (h : visitE cfg e n = .ok (e', D, n')) : pureE e' = true :=
  (visit_respure cfg).1 e hf n hr _ h

theorem visitEs_reskids (cfg : Config) (pk fld : String) : ∀ (es : List Expr) (n : Nat) (es' : List Expr) (D : List Stmt)
    (n' : Nat), fragEs es = true → resKids cfg pk fld es = true → visitEs cfg es n = .ok (es', D, n') →
    ∀ x ∈ es', pureE x = true ∨ selected cfg pk fld x = true
  | [], n, es', D, n', _, _, h => by
      cases h
      intro x hx; simp at hx
  | e :: es, n, es', D, n', hf, hr, h => by
      simp only [fragEs, Bool.and_eq_true] at hf
      simp only [resKids, Bool.and_eq_true, Bool.or_eq_true] at hr
      refine Sat.cons (Q := fun r => ∀ x ∈ r.1, pureE x = true ∨ selected cfg pk fld x = true) (Sat.self _)
        (fun e1 d1 n1 hv => Sat.mono (Sat.self _) fun (es1, d2, n2) hs x hx => ?_) _ h
      rcases List.mem_cons.mp hx with rfl | hx
      · rcases hr.1 with h1 | h1
        · exact Or.inr ((visitE_selected hv).trans h1)
        · exact Or.inl (visitE_respure hf.1 h1 hv)
      · exact visitEs_reskids cfg pk fld es n1 es1 d2 n2 hf.2 hr.2 hs x hx

theorem writes_sub_names :
    (∀ e, fragE e = true → ∀ y ∈ writesE e, y ∈ namesE e) ∧ (∀ es, fragEs es = true → ∀ y ∈ writesEs es, y ∈ namesEs es) := by
  refine fragE_ind ?name ?const ?node ?walrus ?nil ?cons
  case name => intro i s c y h; simp [writesE] at h
  case const => intro i k r y h; simp [writesE] at h
  case node =>
    intro e hn hf ih y h
    rw [namesE_node hn hf]
    exact ih y (writesE_node hn hf ▸ h)
  case walrus =>
    intro i j s v ih y h
    simp only [writesE, namesE, List.mem_append] at h ⊢
    exact h.imp id (ih y)
  case nil => intro y h; simp [writesEs] at h
  case cons =>
    intro e es _ ihe ihes y h
    simp only [writesEs, namesEs, List.mem_append] at h ⊢
    exact h.imp (ihe y) (ihes y)

theorem disjoint_spec {a b : List String} (h : disjoint a b = true) : ∀ x ∈ a, x ∉ b := by
  intro x hx hb
  simp only [disjoint, List.all_eq_true] at h
  have := h x hx
  simp [hb] at this

theorem quiets_of_all_notMoved {cfg : Config} {pk : String} {hi : Bool} : ∀ {fks : List (String × Expr)},
    fks.all (notMoved cfg pk hi) = true → quiets cfg (fks.map (·.2)) = true
  | [], _ => rfl
  | p :: fks, h => by
      simp only [List.all_cons, Bool.and_eq_true, notMoved] at h
      simp [quiets, h.1.1, quiets_of_all_notMoved h.2]

def ValsP (P : Expr → Prop) (D : List Stmt) : Prop := ∀ s ∈ D, ∃ t v, s = Stmt.assign 0 [.name 0 t .store] v ∧ P v

theorem ValsP.nil (P : Expr → Prop) : ValsP P [] := by intro s hs; simp at hs

theorem ValsP.append {P : Expr → Prop} {A B : List Stmt} (ha : ValsP P A) (hb : ValsP P B) : ValsP P (A ++ B) := by
  intro s hs
  rcases List.mem_append.mp hs with h | h
  · exact ha s h
  · exact hb s h

theorem ValsP.mono {P Q : Expr → Prop} {D : List Stmt} (h : ValsP P D) (hpq : ∀ v, P v → Q v) : ValsP Q D := by
  intro s hs
  obtain ⟨t, v, e, hp⟩ := h s hs
  exact ⟨t, v, e, hpq v hp⟩

end Malt.Anf
