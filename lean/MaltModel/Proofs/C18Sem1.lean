import MaltModel.Proofs.C18Basic
namespace Malt.Anf
open Malt.Py Malt.SemAnf

theorem get_set (σ : St) (x y : String) (v : Val) : (σ.set x v).get y = if y = x then v else σ.get y := by
  simp [St.set, St.get, lookup]

theorem log_set (σ : St) (x : String) (v : Val) : (σ.set x v).log = σ.log := rfl
theorem get_emit (σ : St) (e : Event) (y : String) : (σ.emit e).get y = σ.get y := rfl
theorem log_emit (σ : St) (e : Event) : (σ.emit e).log = e :: σ.log := rfl

def AgreeX (X : String → Prop) (σ τ : St) : Prop := σ.log = τ.log ∧ ∀ y, ¬ X y → σ.get y = τ.get y

theorem AgreeX.refl (X : String → Prop) (σ : St) : AgreeX X σ σ := ⟨rfl, fun _ _ => rfl⟩

theorem AgreeX.set_both {X : String → Prop} {σ τ : St} (h : AgreeX X σ τ) (x : String) (v : Val) :
    AgreeX X (σ.set x v) (τ.set x v) := by
  refine ⟨h.1, fun y hy => ?_⟩
  rw [get_set, get_set]
  split
  · rfl
  · exact h.2 y hy

theorem AgreeX.emit_both {X : String → Prop} {σ τ : St} (h : AgreeX X σ τ) (e : Event) :
    AgreeX X (σ.emit e) (τ.emit e) := ⟨by simp [log_emit, h.1], fun y hy => h.2 y hy⟩

def Agree (σ τ : St) : Prop := σ.log = τ.log ∧ ∀ x, isTempName x = false → σ.get x = τ.get x

theorem agree_iff_agreeX (σ τ : St) : Agree σ τ ↔ AgreeX (fun y => isTempName y = true) σ τ := by
  unfold Agree AgreeX
  constructor
  · rintro ⟨h1, h2⟩
    exact ⟨h1, fun y hy => h2 y (by simpa using hy)⟩
  · rintro ⟨h1, h2⟩
    exact ⟨h1, fun y hy => h2 y (by simp [hy])⟩

theorem Agree.refl (σ : St) : Agree σ σ := ⟨rfl, fun _ _ => rfl⟩

theorem Agree.set_both {σ τ : St} (h : Agree σ τ) (x : String) (v : Val) : Agree (σ.set x v) (τ.set x v) :=
  (agree_iff_agreeX _ _).mpr (((agree_iff_agreeX _ _).mp h).set_both x v)

theorem Agree.emit_both {σ τ : St} (h : Agree σ τ) (e : Event) : Agree (σ.emit e) (τ.emit e) :=
  (agree_iff_agreeX _ _).mpr (((agree_iff_agreeX _ _).mp h).emit_both e)

def Sim2 {β : Type} (R : St → St → Prop) (f g : St → β × St) : Prop :=
  ∀ σ τ, R σ τ → (g τ).1 = (f σ).1 ∧ R (f σ).2 (g τ).2

theorem Sim2.congr {β : Type} {R : St → St → Prop} {f g f2 g2 : St → β × St} (hf : ∀ σ, f σ = f2 σ) (hg : ∀ σ, g σ = g2 σ)
    (h : Sim2 R f2 g2) : Sim2 R f g := fun σ τ hR => by rw [hf σ, hg τ]; exact h σ τ hR

theorem Sim2.pure {β : Type} {R : St → St → Prop} (b : β) : Sim2 R (fun σ => (b, σ)) (fun σ => (b, σ)) :=
  fun _ _ hR => ⟨rfl, hR⟩

theorem Sim2.cases {β : Type} {R : St → St → Prop} {f g : St → β × St} (h : Sim2 R f g) {σ τ : St} (hR : R σ τ) :
    ∃ b σ1 τ1, f σ = (b, σ1) ∧ g τ = (b, τ1) ∧ R σ1 τ1 :=
  ⟨(f σ).1, (f σ).2, (g τ).2, rfl, Prod.ext (h σ τ hR).1 rfl, (h σ τ hR).2⟩

def seqS (f g : St → SR) (σ : St) : SR :=
  match f σ with
  | (.normal, σ1) => g σ1
  | r => r

def bindK {α β : Type} (k : St → ER α) (g : α → St → ER β) (σ : St) : ER β :=
  match k σ with
  | (.ok a, σ1) => g a σ1
  | (.error x, σ1) => (.error x, σ1)

def thenS {α : Type} (k : St → ER α) (fin : α → St → SR) (σ : St) : SR :=
  match k σ with
  | (.ok a, σ1) => fin a σ1
  | (.error x, σ1) => (.raise x, σ1)

theorem Sim2.bindK {α β : Type} {R : St → St → Prop} {k k' : St → ER α} {g g' : α → St → ER β} (h : Sim2 R k k')
    (hg : ∀ a, Sim2 R (g a) (g' a)) : Sim2 R (bindK k g) (bindK k' g') := by
  intro σ τ hR
  obtain ⟨r, σ1, τ1, hx, hy, h2⟩ := h.cases hR
  simp only [Malt.Anf.bindK, hx, hy]
  cases r with
  | ok a => exact hg a σ1 τ1 h2
  | error x => exact ⟨rfl, h2⟩

theorem Sim2.thenS {α : Type} {R : St → St → Prop} {k k' : St → ER α} {fin fin' : α → St → SR} (h : Sim2 R k k')
    (hf : ∀ a, Sim2 R (fin a) (fin' a)) : Sim2 R (thenS k fin) (thenS k' fin') := by
  intro σ τ hR
  obtain ⟨r, σ1, τ1, hx, hy, h2⟩ := h.cases hR
  simp only [Malt.Anf.thenS, hx, hy]
  cases r with
  | ok a => exact hf a σ1 τ1 h2
  | error x => exact ⟨rfl, h2⟩

theorem Sim2.seqS {R : St → St → Prop} {f f' g g' : St → SR} (h : Sim2 R f f') (hg : Sim2 R g g') :
    Sim2 R (seqS f g) (seqS f' g') := by
  intro σ τ hR
  obtain ⟨o, σ1, τ1, hx, hy, h2⟩ := h.cases hR
  simp only [Malt.Anf.seqS, hx, hy]
  cases o with
  | normal => exact hg σ1 τ1 h2
  | _ => exact ⟨rfl, h2⟩

theorem Sim2.of_agreeX {β : Type} {f g : St → β × St} (h : Sim2 (AgreeX fun y => isTempName y = true) f g) :
    Sim2 Agree f g := fun σ τ hA =>
  have c := h σ τ ((agree_iff_agreeX σ τ).mp hA)
  ⟨c.1, (agree_iff_agreeX _ _).mpr c.2⟩

macro "notfrag" h:ident : tactic => `(tactic| (simp [fragE] at $h:ident))

theorem tag_map_fst (f : String) (es : List Expr) : (tag f es).map (·.1) = es.map (fun _ => f) := by
  simp [tag]
theorem tag_map_snd (f : String) (es : List Expr) : (tag f es).map (·.2) = es := by
  simp [tag, Function.comp_def]

/-! Every node of the fragment other than a variable, a constant and `:=` is treated alike by the transformer and by the
semantics: its operands are visited left to right, then (but for a Store tuple / list) ensured left to right (`visitE_node`), and evaluation is
"operands left to right, then one step" (`evalE_node`). So facts about visits or evaluation are proved for a list of
operands and carried over to the node through `withKids`. -/

/-- `fun_cases nodeE e` numbers its cases 1 attr, 2 subscript, 3 call, 4 unary, 5 binop, 6 compare, 7 seq, 8 anything else. -/
def nodeE : Expr → Bool
  | .attr .. | .subscript .. | .call .. | .unary .. | .binop .. | .compare .. | .seq .. => true
  | _ => false

/-- Operands with the `ast` fields they sit in, in evaluation order. -/
def kidsOf : Expr → List (String × Expr)
  | .attr _ v _ _ => [("value", v)]
  | .subscript _ v s _ => [("value", v), ("slice", s)]
  | .call _ f as _ => ("func", f) :: tag "args" as
  | .unary _ _ e => [("operand", e)]
  | .binop _ _ l r => [("left", l), ("right", r)]
  | .compare _ l _ rs => ("left", l) :: tag "comparators" rs
  | .seq _ _ es _ => tag "elts" es
  | _ => []

abbrev kids (e : Expr) : List Expr := (kidsOf e).map (·.2)

def withKids : Expr → List Expr → Expr
  | .attr i v a c, ks => .attr i (ks.headD v) a c
  | .subscript i v s c, ks => .subscript i (ks.headD v) (ks.tail.headD s) c
  | .call i f _ kw, ks => .call i (ks.headD f) ks.tail kw
  | .unary i op e, ks => .unary i op (ks.headD e)
  | .binop i op l r, ks => .binop i op (ks.headD l) (ks.tail.headD r)
  | .compare i l ops _, ks => .compare i (ks.headD l) ops ks.tail
  | .seq i k _ c, ks => .seq i k ks c
  | e, _ => e

theorem names_withKids {e : Expr} {ks : List Expr} (hn : nodeE e = true) (hf : fragE e = true)
    (hlen : ks.length = (kids e).length) :
    namesE (withKids e ks) = namesEs ks ∧ writesE (withKids e ks) = writesEs ks := by
  revert hn
  fun_cases nodeE e <;> intro hn
  case case8 => cases hn
  case case1 | case4 => match ks, hlen with | [v], _ => simp [withKids, namesE, namesEs, writesE, writesEs]
  case case2 | case5 => match ks, hlen with | [v, s], _ => simp [withKids, namesE, namesEs, writesE, writesEs]
  case case3 =>
    simp only [fragE, Bool.and_eq_true, List.isEmpty_iff] at hf
    obtain ⟨-, rfl⟩ := hf
    match ks, hlen with | f :: as, _ => simp [withKids, namesE, namesEs, writesE, writesEs]
  case case6 => match ks, hlen with | l :: rs, _ => simp [withKids, namesE, namesEs, writesE, writesEs]
  case case7 i k es c => simp [withKids, namesE, writesE]

theorem withKids_kids {e : Expr} (hn : nodeE e = true) : withKids e (kids e) = e := by
  revert hn
  fun_cases nodeE e <;> intro hn
  case case8 => cases hn
  all_goals simp [withKids, kids, kidsOf, tag_map_snd]

theorem kids_withKids {e : Expr} {ks : List Expr} (hn : nodeE e = true) (hlen : ks.length = (kids e).length) :
    nodeE (withKids e ks) = true ∧ kids (withKids e ks) = ks := by
  refine ⟨by cases e <;> first | exact hn | rfl, ?_⟩
  revert hn
  fun_cases nodeE e <;> intro hn
  case case8 => cases hn
  case case1 | case4 => match ks, hlen with | [v], _ => rfl
  case case2 | case5 => match ks, hlen with | [v, s], _ => rfl
  case case3 | case6 => match ks, hlen with | f :: as, _ => simp [withKids, kids, kidsOf, tag_map_snd]
  case case7 => simp [withKids, kids, kidsOf, tag_map_snd]

theorem namesE_node {e : Expr} (hn : nodeE e = true) (hf : fragE e = true) : namesE e = namesEs (kids e) := by
  have := (names_withKids hn hf (ks := kids e) rfl).1
  rwa [withKids_kids hn] at this

theorem writesE_node {e : Expr} (hn : nodeE e = true) (hf : fragE e = true) : writesE e = writesEs (kids e) := by
  have := (names_withKids hn hf (ks := kids e) rfl).2
  rwa [withKids_kids hn] at this

theorem noWalrus_node {e : Expr} (hn : nodeE e = true) (hf : fragE e = true) : noWalrus e = noWalruss (kids e) := by
  revert hn
  fun_cases nodeE e <;> intro hn
  case case8 => cases hn
  case case3 =>
    simp only [fragE, Bool.and_eq_true, List.isEmpty_iff] at hf
    obtain ⟨-, rfl⟩ := hf
    simp [noWalrus, noWalruss, kids, kidsOf, tag_map_snd]
  all_goals simp [noWalrus, noWalruss, kids, kidsOf, tag_map_snd]

theorem fragE_kids {e : Expr} (hn : nodeE e = true) (hf : fragE e = true) : fragEs (kids e) = true := by
  revert hn
  fun_cases nodeE e <;> intro hn
  case case8 => cases hn
  all_goals simp only [fragE, Bool.and_eq_true] at hf
  all_goals simp [kids, kidsOf, fragEs, tag_map_snd, *]

theorem fragE_ind {P : Expr → Prop} {Ps : List Expr → Prop}
    (name : ∀ i s c, P (.name i s c)) (const : ∀ i k r, P (.const i k r))
    (node : ∀ e, nodeE e = true → fragE e = true → Ps (kids e) → P e)
    (walrus : ∀ i j s v, P v → P (.namedexpr i (.name j s .store) v))
    (nil : Ps []) (cons : ∀ e es, fragE e = true → P e → Ps es → Ps (e :: es)) :
    (∀ e, fragE e = true → P e) ∧ (∀ es, fragEs es = true → Ps es) := by
  have one : ∀ v, fragE v = true → P v → Ps [v] := fun v hv pv => cons v [] hv pv nil
  apply fragE.mutual_induct (motive_1 := fun e => fragE e = true → P e) (motive_2 := fun es => fragEs es = true → Ps es)
  · exact fun i s c _ => name i s c
  · exact fun i k r _ => const i k r
  · intro i v a c ih h
    have hv : fragE v = true := by simp only [fragE, Bool.and_eq_true] at h; exact h.1
    exact node _ rfl h (one v hv (ih hv))
  · intro i v s c ihv ihs h
    have hh : fragE v = true ∧ fragE s = true := by simp only [fragE, Bool.and_eq_true] at h; exact h.1.1
    exact node _ rfl h (cons v [s] hh.1 (ihv hh.1) (one s hh.2 (ihs hh.2)))
  · intro i f as ks ihf ihas h
    have hh : fragE f = true ∧ fragEs as = true := by simp only [fragE, Bool.and_eq_true] at h; exact h.1
    refine node _ rfl h ?_
    simpa [kids, kidsOf, tag_map_snd] using cons f as hh.1 (ihf hh.1) (ihas hh.2)
  · intro i op v ih h
    have hv : fragE v = true := by simpa only [fragE] using h
    exact node _ rfl h (one v hv (ih hv))
  · intro i op l r ihl ihr h
    have hh : fragE l = true ∧ fragE r = true := by simpa only [fragE, Bool.and_eq_true] using h
    exact node _ rfl h (cons l [r] hh.1 (ihl hh.1) (one r hh.2 (ihr hh.2)))
  · intro i l ops rs ihl ihrs h
    have hh : fragE l = true ∧ fragEs rs = true := by simp only [fragE, Bool.and_eq_true] at h; exact h.1.1
    refine node _ rfl h ?_
    simpa [kids, kidsOf, tag_map_snd] using cons l rs hh.1 (ihl hh.1) (ihrs hh.2)
  · intro i k es c ih h
    have hh : fragEs es = true := by simp only [fragE, Bool.and_eq_true] at h; exact h.1
    refine node _ rfl h ?_
    simpa [kids, kidsOf, tag_map_snd] using ih hh
  · intro i j s v ih h
    have hv : fragE v = true := by simpa only [fragE] using h
    exact walrus i j s v (ih hv)
  · intro t h1 h2 h3 h4 h5 h6 h7 h8 h9 h10 h
    -- `eq_11`: the catch-all alternative of `fragE`
    rw [fragE.eq_11 t h1 h2 h3 h4 h5 h6 h7 h8 h9 h10] at h
    cases h
  · exact fun _ => nil
  · intro e es ihe ihes h
    simp only [fragEs, Bool.and_eq_true] at h
    exact cons e es h.1 (ihe h.1) (ihes h.2)

theorem noWalrus_iff_writes_empty :
    (∀ e, fragE e = true → (noWalrus e = true ↔ ∀ y, y ∉ writesE e)) ∧
    (∀ es, fragEs es = true → (noWalruss es = true ↔ ∀ y, y ∉ writesEs es)) := by
  refine fragE_ind ?name ?const ?node ?walrus ?nil ?cons
  case name => intros; simp [noWalrus, writesE]
  case const => intros; simp [noWalrus, writesE]
  case node =>
    intro e hn hf ih
    rw [noWalrus_node hn hf, writesE_node hn hf]
    exact ih
  case walrus =>
    intro i j s v _
    exact ⟨fun h => by simp [noWalrus] at h, fun h => absurd (by simp [writesE, namesE]) (h s)⟩
  case nil => simp [noWalruss, writesEs]
  case cons =>
    intro e es _ ihe ihes
    simp only [noWalruss, writesEs, Bool.and_eq_true, ihe, ihes, List.mem_append, not_or, forall_and]

/-- `hw` is needed because a node that carries a context must have no `:=` inside: then its new operands have none either. -/
theorem fragE_withKids {e : Expr} {ks : List Expr} (hn : nodeE e = true) (hf : fragE e = true)
    (hlen : ks.length = (kids e).length) (hk : fragEs ks = true) (hw : ∀ y ∈ writesEs ks, y ∈ writesE e) :
    fragE (withKids e ks) = true := by
  have hnw : noWalruss (kids e) = true → noWalruss ks = true := fun h =>
    (noWalrus_iff_writes_empty.2 ks hk).mpr (fun y hy => (noWalrus_iff_writes_empty.2 _ (fragE_kids hn hf)).mp h y (writesE_node hn hf ▸ hw y hy))
  revert hn
  fun_cases nodeE e <;> intro hn
  case case8 => cases hn
  all_goals simp only [fragE, Bool.and_eq_true, List.isEmpty_iff, beq_iff_eq] at hf
  case case1 =>
    match ks, hlen with
    | [v], _ => simpa [withKids, fragE, fragEs, noWalruss, kids, kidsOf, hf.2] using And.intro hk hnw
  case case2 =>
    match ks, hlen with
    | [v, s], _ => simpa [withKids, fragE, fragEs, noWalruss, kids, kidsOf, hf.1.2, hf.2, and_assoc] using And.intro hk hnw
  case case3 =>
    obtain ⟨-, rfl⟩ := hf
    match ks, hlen with | f :: as, _ => simpa [withKids, fragE, fragEs] using hk
  case case4 => match ks, hlen with | [v], _ => simpa [withKids, fragE, fragEs] using hk
  case case5 => match ks, hlen with | [l, r], _ => simpa [withKids, fragE, fragEs] using hk
  case case6 =>
    match ks, hlen with
    | l :: rs, hlen =>
      simp [kids, kidsOf, tag] at hlen
      simpa [withKids, fragE, fragEs, hf.1.2, hlen, hf.2] using hk
  case case7 i k es c => simpa [withKids, fragE, kids, kidsOf, tag_map_snd, hf.2, hk] using hnw

def consR (v : Val) (r : ER (List Val)) : ER (List Val) :=
  match r with
  | (.ok as, σ2) => (.ok (v :: as), σ2)
  | (.error x, σ2) => (.error x, σ2)

theorem consR_snd (v : Val) (r : ER (List Val)) : (consR v r).2 = r.2 := by
  rcases r with ⟨q, τ⟩; cases q <;> rfl

theorem consR_fst_congr (v : Val) {r r' : ER (List Val)} (h : r'.1 = r.1) : (consR v r').1 = (consR v r).1 := by
  rcases r with ⟨q, τ⟩; rcases r' with ⟨q', τ'⟩
  simp only at h; subst h
  cases q' <;> rfl

theorem evalOpts_cons (O : Oracle) (e : Expr) (es : List Expr) (σ : St) :
    evalOpts O (e :: es) σ =
      match evalE O e σ with
      | (.ok a, σ1) => consR a (evalOpts O es σ1)
      | (.error x, σ1) => (.error x, σ1) := by
  simp only [evalOpts]
  rcases evalE O e σ with ⟨r, σ1⟩
  cases r with
  | error x => rfl
  | ok a =>
    simp only [consR]
    rcases evalOpts O es σ1 with ⟨r2, σ2⟩
    cases r2 <;> rfl

theorem evalOpts_cons_bindK (O : Oracle) (e : Expr) (es : List Expr) (σ : St) :
    evalOpts O (e :: es) σ = bindK (evalE O e) (fun a σ1 => consR a (evalOpts O es σ1)) σ := by
  rw [evalOpts_cons]
  simp only [bindK]
  rcases evalE O e σ with ⟨r, σ1⟩
  cases r <;> rfl

theorem evalArgs_cons_frag (O : Oracle) {e : Expr} (h : fragE e = true) (es : List Expr) (σ : St) :
    evalArgs O (e :: es) σ =
      match evalE O e σ with
      | (.ok x, σ1) => consArg (.pos x) (evalArgs O es σ1)
      | (.error x, σ1) => (.error x, σ1) :=
  -- `eq_4`: the head is neither `Starred` nor `keyword`
  evalArgs.eq_4 O σ e es (fun _ _ _ he => by subst he; simp [fragE] at h)
    (fun _ _ _ _ he => by subst he; simp [fragE] at h)

theorem evalArgs_eq_evalOpts (O : Oracle) : ∀ (es : List Expr) (σ : St), fragEs es = true →
    evalArgs O es σ = match evalOpts O es σ with
      | (.ok vs, σ1) => (.ok (vs.map .pos), σ1)
      | (.error x, σ1) => (.error x, σ1)
  | [], σ, _ => by simp [evalArgs, evalOpts]
  | e :: es, σ, h => by
      simp only [fragEs, Bool.and_eq_true] at h
      rw [evalArgs_cons_frag O h.1, evalOpts_cons]
      rcases evalE O e σ with ⟨r, σ1⟩
      cases r with
      | error x => rfl
      | ok v =>
        simp only [evalArgs_eq_evalOpts O es σ1 h.2, consR, consArg]
        rcases evalOpts O es σ1 with ⟨r2, σ2⟩
        cases r2 <;> rfl

theorem spreadArgs_pos (O : Oracle) : ∀ (vs : List Val), spreadArgs O (vs.map .pos) = some (vs, [])
  | [] => rfl
  | v :: vs => by simp [spreadArgs, spreadArgs_pos O vs]

def step1 (f : Val → Val) : List Val → St → ER Val
  | [x], τ => (.ok (f x), τ)
  | _, τ => (.error unsupported, τ)

def step2 (f : Val → Val → Val) : List Val → St → ER Val
  | [x, y], τ => (.ok (f x y), τ)
  | _, τ => (.error unsupported, τ)

def stepE (O : Oracle) : Expr → List Val → St → ER Val
  | .attr _ _ a _ => step1 (O.getattr · a)
  | .subscript .. => step2 O.getitem
  | .call .. => fun vs τ => doCall O (vs.headD .none) (vs.tail.map .pos) τ
  | .unary _ op _ => step1 (O.unop op)
  | .binop _ op _ _ => step2 (O.binop op)
  | .compare _ _ ops _ => step2 (O.cmp (ops.headD ""))    -- `fragE` admits a comparison with exactly one operator
  | .seq _ k _ _ => fun vs τ => (.ok (match k with | .tuple => .tuple vs | .list => .list vs | .set => .set vs), τ)
  | _ => fun _ τ => (.error unsupported, τ)

theorem evalE_node (O : Oracle) {e : Expr} (hn : nodeE e = true) (hf : fragE e = true) (σ : St) :
    evalE O e σ = bindK (evalOpts O (kids e)) (stepE O e) σ := by
  revert hn
  fun_cases nodeE e <;> intro hn
  case case8 => cases hn
  all_goals simp only [fragE, Bool.and_eq_true, List.isEmpty_iff, beq_iff_eq] at hf
  case case1 _ v _ _ | case4 _ _ v =>
    simp only [evalE, bindK, kids, kidsOf, List.map_cons, List.map_nil, evalOpts_cons, evalOpts, stepE, step1]
    rcases evalE O v σ with ⟨r, σ1⟩
    cases r <;> rfl
  case case2 _ v s _ | case5 _ _ v s =>
    simp only [evalE, bindK, kids, kidsOf, List.map_cons, List.map_nil, evalOpts_cons, evalOpts, stepE, step2]
    rcases evalE O v σ with ⟨r1, σ1⟩
    cases r1 with
    | error x => rfl
    | ok x =>
      simp only
      rcases evalE O s σ1 with ⟨r2, σ2⟩
      cases r2 <;> rfl
  case case6 i l ops rs =>
    obtain ⟨op, rfl⟩ : ∃ op, ops = [op] := by match ops, hf.1.2 with | [op], _ => exact ⟨op, rfl⟩
    obtain ⟨r, rfl⟩ : ∃ r, rs = [r] := by match rs, hf.2 with | [r], _ => exact ⟨r, rfl⟩
    simp only [evalE, evalCmp, bindK, kids, kidsOf, tag, List.map_cons, List.map_nil, evalOpts_cons, evalOpts, stepE, step2, List.headD]
    rcases evalE O l σ with ⟨r1, σ1⟩
    cases r1 with
    | error x => rfl
    | ok x =>
      simp only
      rcases evalE O r σ1 with ⟨r2, σ2⟩
      cases r2 <;> rfl
  case case3 i f as ks =>
    obtain ⟨⟨-, hfa⟩, rfl⟩ := hf
    simp only [evalE, bindK, kids, kidsOf, List.map_cons, tag_map_snd, evalOpts_cons]
    rcases evalE O f σ with ⟨r1, σ1⟩
    cases r1 with
    | error x => rfl
    | ok fv =>
      simp only [evalArgs_eq_evalOpts O as σ1 hfa, consR]
      rcases evalOpts O as σ1 with ⟨r2, σ2⟩
      cases r2 with
      | error x => rfl
      | ok avs => simp [evalArgs, stepE]
  case case7 i k es c =>
    simp only [evalE, bindK, kids, kidsOf, tag_map_snd, evalArgs_eq_evalOpts O es σ hf.1]
    rcases evalOpts O es σ with ⟨r, σ1⟩
    cases r with
    | error x => rfl
    | ok vs => simp only [spreadArgs_pos]; rfl

theorem stepE_withKids (O : Oracle) (e : Expr) (ks : List Expr) : stepE O (withKids e ks) = stepE O e := by
  cases e <;> rfl

theorem evalE_namedexpr (O : Oracle) (i j : Nat) (s : String) (v : Expr) (σ : St) :
    evalE O (.namedexpr i (.name j s .store) v) σ = bindK (evalE O v) (fun x τ => (.ok x, τ.set s x)) σ := by
  simp only [evalE, bindK]
  rcases evalE O v σ with ⟨r1, σ1⟩
  cases r1 <;> rfl

theorem doCall_frame (O : Oracle) (f : Val) (as : List Arg) (σ : St) (y : String) :
    (doCall O f as σ).2.get y = σ.get y := by
  unfold doCall
  split <;> simp [get_emit]

theorem bindK_frame {α β : Type} {k : St → ER α} {g : α → St → ER β} {y : String} (σ : St)
    (hk : (k σ).2.get y = σ.get y) (hg : ∀ a τ, (g a τ).2.get y = τ.get y) : (bindK k g σ).2.get y = σ.get y := by
  revert hk
  unfold bindK
  rcases k σ with ⟨r, σ1⟩
  intro hk
  cases r with
  | ok a => exact (hg a σ1).trans hk
  | error x => exact hk

theorem step1_stateless (f : Val → Val) : ∀ vs, ∃ r, ∀ τ, step1 f vs τ = (r, τ)
  | [] | [_] | _ :: _ :: _ => ⟨_, fun _ => rfl⟩

theorem step2_stateless (f : Val → Val → Val) : ∀ vs, ∃ r, ∀ τ, step2 f vs τ = (r, τ)
  | [] | [_] | [_, _] | _ :: _ :: _ :: _ => ⟨_, fun _ => rfl⟩

theorem stepE_cases (O : Oracle) (e : Expr) (vs : List Val) :
    (∃ r, ∀ τ, stepE O e vs τ = (r, τ)) ∨ ∃ f as, ∀ τ, stepE O e vs τ = doCall O f as τ := by
  cases e
  case call => exact .inr ⟨_, _, fun _ => rfl⟩
  case attr | unary => exact .inl (step1_stateless _ vs)
  case subscript | binop | compare => exact .inl (step2_stateless _ vs)
  all_goals exact .inl ⟨_, fun _ => rfl⟩

theorem stepE_frame (O : Oracle) (e : Expr) (vs : List Val) (τ : St) (y : String) : (stepE O e vs τ).2.get y = τ.get y := by
  rcases stepE_cases O e vs with ⟨r, h⟩ | ⟨f, as, h⟩
  · rw [h]
  · rw [h]; exact doCall_frame O f as τ y

theorem eval_frame (O : Oracle) :
    (∀ e, fragE e = true → ∀ (σ : St) (y : String), y ∉ writesE e → (evalE O e σ).2.get y = σ.get y) ∧
    (∀ es, fragEs es = true → ∀ (σ : St) (y : String), y ∉ writesEs es → (evalOpts O es σ).2.get y = σ.get y) := by
  refine fragE_ind ?name ?const ?node ?walrus ?nil ?cons
  case name => intro i s c σ y _; simp [evalE]
  case const => intro i k r σ y _; simp [evalE]
  case node =>
    intro e hn hf ih σ y hy
    rw [evalE_node O hn hf]
    exact bindK_frame σ (ih σ y (writesE_node hn hf ▸ hy)) (fun vs τ => stepE_frame O e vs τ y)
  case walrus =>
    intro i j s v ih σ y hy
    simp only [writesE, namesE, List.mem_append, List.mem_singleton, not_or] at hy
    rw [evalE_namedexpr]
    exact bindK_frame σ (ih σ y hy.2) (fun x τ => by simp only [get_set, if_neg hy.1])
  case nil => intro σ y _; simp [evalOpts]
  case cons =>
    intro e es _ ihe ihes σ y hy
    simp only [writesEs, List.mem_append, not_or] at hy
    rw [evalOpts_cons_bindK]
    exact bindK_frame σ (ihe σ y hy.1) (fun a τ => by rw [consR_snd]; exact ihes τ y hy.2)

theorem evalE_frame (O : Oracle) (e : Expr) (σ : St) (y : String) (hf : fragE e = true) (hy : y ∉ writesE e) :
    (evalE O e σ).2.get y = σ.get y := (eval_frame O).1 e hf σ y hy

theorem evalArgs_frame (O : Oracle) : ∀ (es : List Expr) (σ : St) (y : String), fragEs es = true → y ∉ writesEs es →
    (evalArgs O es σ).2.get y = σ.get y := by
  intro es σ y hf hy
  have := (eval_frame O).2 es hf σ y hy
  revert this
  rw [evalArgs_eq_evalOpts O es σ hf]
  rcases evalOpts O es σ with ⟨r, σ1⟩
  cases r <;> exact id

theorem evalCmp_cons (O : Oracle) (x : Val) (op : String) (ops : List String) (r : Expr) (rs : List Expr) (σ : St) :
    evalCmp O x (op :: ops) (r :: rs) σ = bindK (evalE O r) (fun v σ1 =>
      match ops with
      | [] => (.ok (O.cmp op x v), σ1)
      | _ => if O.truthy (O.cmp op x v) then evalCmp O v ops rs σ1 else (.ok (O.cmp op x v), σ1)) σ := by
  simp only [evalCmp, bindK]
  rcases evalE O r σ with ⟨r1, σ1⟩
  cases r1 <;> rfl

theorem evalCmp_frame (O : Oracle) : ∀ (rs : List Expr) (x : Val) (ops : List String) (σ : St) (y : String),
    fragEs rs = true → y ∉ writesEs rs → (evalCmp O x ops rs σ).2.get y = σ.get y
  | [], x, ops, σ, y, _, _ => by cases ops <;> simp [evalCmp]
  | r :: rs, x, [], σ, y, _, _ => by simp [evalCmp]
  | r :: rs, x, op :: ops, σ, y, h, hy => by
      simp only [fragEs, Bool.and_eq_true] at h
      simp only [writesEs, List.mem_append, not_or] at hy
      rw [evalCmp_cons]
      refine bindK_frame σ (evalE_frame O r σ y h.1 hy.1) fun v τ => ?_
      split
      · rfl
      · split
        · exact evalCmp_frame O rs _ _ τ y h.2 hy.2
        · rfl

end Malt.Anf
