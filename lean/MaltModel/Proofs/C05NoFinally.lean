import MaltModel.Proofs.C05Frame
/-!
# C05: the builder methods while no `try … finally` is in scope

The finally-free reading of the builder: every registered jump has an empty guard list (`AllNil`), so `exit_section` turns the
registered exits into leaves and `exit_loop_section` connects the registered continues to the loop entry.
-/
namespace Malt.Cfg
open Malt.Py

/-- Every registered jump has an empty guard list: there is no `finally` section for it to pass. -/
def AllNil (b : B) : Prop := ∀ n gs, aget n b.finallySections = some gs → gs = []

theorem allNil_of_fs_eq {b b' : B} (h : b'.finallySections = b.finallySections) (ha : AllNil b) : AllNil b' := by
  intro n gs hn; rw [h] at hn; exact ha n gs hn

theorem allNil_addOrdinaryNode {b : B} (n : Nat) (ha : AllNil b) : AllNil (b.addOrdinaryNode n) :=
  allNil_of_fs_eq (by simp) ha

theorem allNil_addOrdinaryNodes (ns : List Nat) : ∀ {b : B}, AllNil b → AllNil (addOrdinaryNodes b ns) := by
  induction ns with
  | nil => intro b h; exact h
  | cons n ns ih => intro b h; exact ih (allNil_addOrdinaryNode n h)

theorem emit_addOrdinaryNodes (ns : List Nat) : ∀ (b : B) (cur : List Nat), InLeaves b cur →
    Sub (emit cur ns).1 (addOrdinaryNodes b ns).edges ∧ InLeaves (addOrdinaryNodes b ns) (emit cur ns).2 := by
  induction ns with
  | nil => intro b cur h; exact ⟨sub_nil _, h⟩
  | cons n ns ih =>
    intro b cur h
    have h1 := B.cross_sub_addOrdinaryNode b n cur h
    have h2 := ih (b.addOrdinaryNode n) [n] (by intro x hx; simpa using hx)
    have hf := (frame_addOrdinaryNodes [] ns (b.addOrdinaryNode n)).edges
    simp only [emit, sub_append]
    exact ⟨⟨fun p hp => hf p (h1 p hp), h2.1⟩, h2.2⟩

theorem allNil_aset {b : B} (n : Nat) (ha : AllNil b) : ∀ m gs, aget m (aset n [] b.finallySections) = some gs → gs = [] := by
  intro m gs h
  rw [aget_aset] at h
  by_cases hm : m = n
  · simp only [hm, if_true, Option.some.injEq] at h; exact h.symm
  · simp only [hm, if_false] at h; exact ha m gs h

theorem allNil_addJumpNode {b : B} (n : Nat) (ha : AllNil b) : AllNil (b.addJumpNode n []) := by
  intro m gs h
  rw [B.finallySections_addJumpNode] at h
  exact allNil_aset n ha m gs h

theorem addJumpNode_effect (b : B) (n : Nat) (cur : List Nat) (hc : InLeaves b cur) (ha : AllNil b) :
    Sub (cross cur n) (b.addJumpNode n []).edges ∧ (b.addJumpNode n []).leafSet = [] ∧ AllNil (b.addJumpNode n []) := by
  refine ⟨fun p hp => ?_, B.leafSet_addJumpNode b n [], allNil_addJumpNode n ha⟩
  rw [B.edges_addJumpNode]
  obtain ⟨c, hc', rfl⟩ := List.mem_map.mp hp
  exact List.mem_append.mpr (Or.inr (List.mem_map.mpr ⟨c, hc c hc', rfl⟩))

theorem addExitNode_effect (b : B) (n sec : Nat) (ex : List Nat) (hx : aget sec b.exits = some ex) (cur : List Nat)
    (hc : InLeaves b cur) (ha : AllNil b) :
    Sub (cross cur n) (b.addExitNode n sec []).edges ∧ (b.addExitNode n sec []).leafSet = [] ∧
    aget sec (b.addExitNode n sec []).exits = some (ex ++ [n]) ∧ AllNil (b.addExitNode n sec []) := by
  obtain ⟨h1, h2, h3⟩ := addJumpNode_effect b n cur hc ha
  simp only [B.addExitNode, hx]
  exact ⟨(B.putExits_edges ..).symm ▸ h1, (B.leafSet_putExits ..).trans h2, (aget_aset sec sec _ _).trans (if_pos rfl),
    allNil_of_fs_eq (B.putExits_finallySections ..) h3⟩

theorem addContinueNode_effect (b : B) (n sec : Nat) (cs : List Nat) (hx : aget sec b.continues = some cs) (cur : List Nat)
    (hc : InLeaves b cur) (ha : AllNil b) :
    Sub (cross cur n) (b.addContinueNode n sec []).edges ∧ (b.addContinueNode n sec []).leafSet = [] ∧
    aget sec (b.addContinueNode n sec []).continues = some (cs ++ [n]) ∧ AllNil (b.addContinueNode n sec []) := by
  obtain ⟨h1, h2, h3⟩ := addJumpNode_effect b n cur hc ha
  simp only [B.addContinueNode, hx]
  exact ⟨(B.putContinues_edges ..).symm ▸ h1, (B.leafSet_putContinues ..).trans h2, (aget_aset sec sec _ _).trans (if_pos rfl),
    allNil_of_fs_eq (B.putContinues_finallySections ..) h3⟩

/-- With empty guard lists a jump is connected to nothing and stays its own cursor. -/
theorem connectJump_allNil (b : B) (e : Nat) (ha : AllNil b) :
    (b.connectJump e).2 = [e] ∧ ((b.connectJump e).1 = b ∨ (b.connectJump e).1 = b.delFinallySections e) := by
  unfold B.connectJump
  split
  · exact ⟨rfl, Or.inl rfl⟩
  · rename_i gs hg
    have := ha e gs hg
    subst this
    exact ⟨rfl, Or.inr rfl⟩

theorem allNil_delFinallySections {b : B} (e : Nat) (ha : AllNil b) : AllNil (b.delFinallySections e) := by
  intro m gs h
  have h' : aget m (adel e b.finallySections) = some gs := h
  rw [aget_adel] at h'
  by_cases hm : m = e
  · simp [hm] at h'
  · simp only [hm, if_false] at h'; exact ha m gs h'

theorem allNil_connectJump {b : B} (e : Nat) (ha : AllNil b) : AllNil (b.connectJump e).1 := by
  rcases (connectJump_allNil b e ha).2 with h | h <;> rw [h]
  · exact ha
  · exact allNil_delFinallySections e ha

theorem leafSet_connectJump (b : B) (e : Nat) (ha : AllNil b) : (b.connectJump e).1.leafSet = b.leafSet := by
  rcases (connectJump_allNil b e ha).2 with h | h <;> rw [h]
  rfl

theorem valid_connectJump (b : B) (e : Nat) (ha : AllNil b) (hv : Valid b) : Valid (b.connectJump e).1 := by
  rcases (connectJump_allNil b e ha).2 with h | h <;> rw [h]
  · exact hv
  · exact ⟨hv.leaves, hv.condEntry⟩

theorem exitFold_effect (ex : List Nat) : ∀ (b : B), AllNil b → Valid b →
    AllNil (ex.foldl B.exitStep b) ∧ (∀ x, (x ∈ b.leafSet ∨ x ∈ ex) → x ∈ (ex.foldl B.exitStep b).leafSet) := by
  induction ex with
  | nil => intro b ha _; exact ⟨ha, fun x h => h.elim id (fun h => by cases h)⟩
  | cons e ex ih =>
    intro b ha hv
    have hcj := connectJump_allNil b e ha
    have ha1 : AllNil (b.exitStep e) := allNil_of_fs_eq (b := (b.connectJump e).1) rfl (allNil_connectJump e ha)
    have hv0 := valid_connectJump b e ha hv
    have hv1 : Valid (b.exitStep e) := (B.frame_leavesUnion [] _ _).valid hv0
    have hl : ∀ x, (x ∈ b.leafSet ∨ x = e) → x ∈ (b.exitStep e).leafSet := by
      intro x hx
      show x ∈ ((b.connectJump e).1.leavesUnion (b.connectJump e).2).leafSet
      rw [B.mem_leafSet_leavesUnion _ _ hv0.leaves, leafSet_connectJump b e ha, hcj.1]
      simpa using hx
    obtain ⟨ih1, ih2⟩ := ih (b.exitStep e) ha1 hv1
    refine ⟨ih1, ?_⟩
    intro x hx
    simp only [List.foldl_cons]
    apply ih2
    rcases hx with hx | hx
    · exact Or.inl (hl x (Or.inl hx))
    · rcases List.mem_cons.mp hx with hx | hx
      · exact Or.inl (hl x (Or.inr hx))
      · exact Or.inr hx

theorem exitSection_effect (b : B) (i : Nat) (ex : List Nat) (hx : aget i b.exits = some ex) (ha : AllNil b) (hv : Valid b) :
    AllNil (b.exitSection i) ∧ (∀ x, (x ∈ b.leafSet ∨ x ∈ ex) → x ∈ (b.exitSection i).leafSet) := by
  simp only [B.exitSection, hx]
  obtain ⟨h1, h2⟩ := exitFold_effect ex b ha hv
  exact ⟨allNil_of_fs_eq (b := ex.foldl B.exitStep b) rfl h1, fun x hx => by simpa using h2 x hx⟩

theorem reentryFold_effect (entry : Nat) (cs : List Nat) : ∀ (b : B), AllNil b →
    AllNil (cs.foldl (B.reentryStep entry) b) ∧ Sub (cross cs entry) (cs.foldl (B.reentryStep entry) b).edges ∧
    (cs.foldl (B.reentryStep entry) b).leafSet = b.leafSet ∧ (cs.foldl (B.reentryStep entry) b).heap = b.heap ∧
    (cs.foldl (B.reentryStep entry) b).exits = b.exits := by
  induction cs with
  | nil => intro b ha; exact ⟨ha, sub_nil _, rfl, rfl, rfl⟩
  | cons c cs ih =>
    intro b ha
    have hcj := connectJump_allNil b c ha
    have ha1 : AllNil (B.reentryStep entry b c) := allNil_of_fs_eq (b := (b.connectJump c).1) rfl (allNil_connectJump c ha)
    obtain ⟨i1, i2, i3, i4, i5⟩ := ih (B.reentryStep entry b c) ha1
    have he1 : (B.reentryStep entry b c).exits = b.exits := by
      show ((b.connectJump c).1.connect _ entry).exits = _
      rcases hcj.2 with h | h <;> rw [h] <;> rfl
    have hedge : (c, entry) ∈ (B.reentryStep entry b c).edges := by
      show (c, entry) ∈ ((b.connectJump c).1.connect (b.connectJump c).2 entry).edges
      rw [hcj.1]
      simp [B.connect]
    have hmono := (B.frame_foldl [] (B.reentryStep entry) (B.frame_reentryStep [] entry) cs (B.reentryStep entry b c)).edges
    have hl1 : (B.reentryStep entry b c).leafSet = b.leafSet := by
      show ((b.connectJump c).1.connect _ entry).leafSet = _
      simp [leafSet_connectJump b c ha]
    have hh1 : (B.reentryStep entry b c).heap = b.heap := by
      show ((b.connectJump c).1.connect _ entry).heap = _
      rcases hcj.2 with h | h <;> rw [h] <;> rfl
    refine ⟨i1, ?_, by simp only [List.foldl_cons]; rw [i3, hl1], by simp only [List.foldl_cons]; rw [i4, hh1],
      by simp only [List.foldl_cons]; rw [i5, he1]⟩
    intro p hp
    simp only [cross, List.map_cons, List.mem_cons] at hp
    simp only [List.foldl_cons]
    rcases hp with hp | hp
    · subst hp; exact hmono _ hedge
    · exact i2 p hp

theorem exitLoopSection_effect (b : B) (i entry : Nat) (cs : List Nat) (he : aget i b.sectionEntry = some entry)
    (hc : aget i b.continues = some cs) (ha : AllNil b) :
    AllNil (b.exitLoopSection i) ∧ Sub (cross b.leafSet entry) (b.exitLoopSection i).edges ∧
    Sub (cross cs entry) (b.exitLoopSection i).edges ∧ (b.exitLoopSection i).leafSet = [entry] ∧
    (b.exitLoopSection i).exits = b.exits := by
  simp only [B.exitLoopSection, he, hc]
  obtain ⟨h1, h2, _, _, h5⟩ := reentryFold_effect entry cs (b.connect b.leafSet entry) (allNil_of_fs_eq (b := b) rfl ha)
  have hmono := (B.frame_foldl [] (B.reentryStep entry) (B.frame_reentryStep [] entry) cs (b.connect b.leafSet entry)).edges
  refine ⟨allNil_of_fs_eq (b := cs.foldl (B.reentryStep entry) (b.connect b.leafSet entry)) rfl h1, ?_, ?_, by simp,
    by simpa using h5⟩
  · intro p hp
    show p ∈ (cs.foldl (B.reentryStep entry) (b.connect b.leafSet entry)).edges
    apply hmono
    simp only [B.connect, List.mem_append]
    exact Or.inr hp
  · intro p hp
    exact h2 p hp

end Malt.Cfg
