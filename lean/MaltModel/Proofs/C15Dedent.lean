import MaltModel.Proofs.C15Lines
/-
For `C15_dedent_text`: `dedent_block` on a well-formed annotated token stream only rewrites the first-on-line
gaps.  `compat` is followed one token at a time (`matchLines_compat`, over `MatchesFrom`).  Then `adjustGo_spec`: the
adjusted stream satisfies the token-level specification `dedentSpec`.
-/
namespace Malt.Dedent

/-- the kinds of the single-line visible tokens (one arm of `wfGo`) -/
def isWord (k : Kind) : Bool :=
  k = .NAME || k = .NUMBER || k = .OP || k = .COMMENT || k = .FSTRING_START || k = .FSTRING_END

def isText (k : Kind) : Bool := isWord k || k = .STRING

theorem ne_of_class {f : Kind → Bool} {k k' : Kind} (h : f k = true) (h' : f k' = false) : k ≠ k' := by
  rintro rfl
  rw [h'] at h
  cases h

theorem zeroWidth_eq_false {k : Kind} :
    zeroWidth k = false ↔ k ≠ .INDENT ∧ k ≠ .DEDENT ∧ k ≠ .ENDMARKER ∧ k ≠ .ENCODING := by
  simp [zeroWidth, and_assoc]

theorem isWord_not_zeroWidth {k : Kind} (h : isWord k = true) : zeroWidth k = false := by
  cases k <;> first | rfl | cases h

theorem stripTok_of_ne {lvl : Nat} {t : Tok} (h : t.kind ≠ .INDENT) : stripTok lvl t = t := by
  simp [stripTok, h]

theorem stripTok_indent {lvl : Nat} {t : Tok} (h : t.kind = .INDENT) (hle : lvl ≤ t.text.length) :
    stripTok lvl t = { t with text := t.text.drop lvl } := by
  simp [stripTok, h, hle]

theorem stripTok_kind (lvl : Nat) (t : Tok) : (stripTok lvl t).kind = t.kind := by
  simp only [stripTok]; split <;> rfl

theorem vis_of_ne {t : Tok} (hInd : t.kind ≠ .INDENT) (hMid : t.kind ≠ .FSTRING_MIDDLE) : vis t = t.text := by
  simp [vis, hInd, hMid]

theorem vis_indent {t : Tok} (h : t.kind = .INDENT) : vis t = [] := by
  simp [vis, h]

theorem vis_middle {t : Tok} (h : t.kind = .FSTRING_MIDDLE) : vis t = escapeBraces t.text := by
  simp [vis, h]

/-- the token stream `dedent_block` hands to `untokenize` -/
def stripped (lvl : Nat) (as : List ATok) : List Tok := as.map fun a => stripTok lvl a.tok

theorem map_stripTok_toks (lvl : Nat) (as : List ATok) : (as.map (·.tok)).map (stripTok lvl) = stripped lvl as := by
  simp [stripped, List.map_map, Function.comp_def]

theorem stripped_cons (lvl : Nat) (a : ATok) (as : List ATok) : stripped lvl (a :: as) = stripTok lvl a.tok :: stripped lvl as := rfl

theorem renderA_cons (a : ATok) (as : List ATok) : renderA (a :: as) = a.gap ++ (vis a.tok ++ renderA as) := by
  simp [renderA]

theorem compat_vis {stack : List Str} {sl ps : Bool} {t : Tok} {ts : List Tok} (hs : stack ≠ [])
    (hEnc : t.kind ≠ .ENCODING) (hInd : t.kind ≠ .INDENT) (hDed : t.kind ≠ .DEDENT) (hNewl : t.kind ≠ .NEWLINE)
    (hNl : t.kind ≠ .NL) (hMid : t.kind ≠ .FSTRING_MIDDLE) :
    compat ⟨stack, sl, ps⟩ (t :: ts) =
      (if sl = true then stack.headD [] else []) ++
        ((if t.kind = .STRING ∧ ps = true then [' '] else []) ++ (t.text ++
          ((if t.kind = .NAME ∨ t.kind = .NUMBER then [' '] else []) ++
            compat ⟨stack, false, decide (t.kind = .STRING)⟩ ts))) := by
  have hv : (if t.kind = .STRING ∧ ps = true then [' '] else []) ++ t.text ++
        (if t.kind = .NAME ∨ t.kind = .NUMBER then [' '] else []) =
      (let v0 : Str := if t.kind = .NAME ∨ t.kind = .NUMBER then t.text ++ [' '] else t.text
       if t.kind = .STRING ∧ ps = true then ' ' :: v0 else v0) := by
    by_cases hn : t.kind = .NAME ∨ t.kind = .NUMBER <;> by_cases hp : t.kind = .STRING ∧ ps = true <;> simp [hn, hp]
  have : compat ⟨stack, sl, ps⟩ (t :: ts) =
      (if sl = true then stack.headD [] else []) ++
        ((if t.kind = .STRING ∧ ps = true then [' '] else []) ++ t.text ++
          (if t.kind = .NAME ∨ t.kind = .NUMBER then [' '] else [])) ++
        compat ⟨stack, false, decide (t.kind = .STRING)⟩ ts := by
    rw [hv]
    cases sl <;> simp [compat, hEnc, hInd, hDed, hNewl, hNl, hMid, hs]
  simpa only [List.append_assoc] using this

theorem compat_nl {stack : List Str} {sl ps : Bool} {t : Tok} {ts : List Tok}
    (h : t.kind = .NEWLINE ∨ t.kind = .NL) :
    compat ⟨stack, sl, ps⟩ (t :: ts) = t.text ++ compat ⟨stack, true, false⟩ ts := by
  rcases h with h | h <;> simp [compat, h]

theorem compat_indent {stack : List Str} {sl ps : Bool} {t : Tok} {ts : List Tok} (h : t.kind = .INDENT) :
    compat ⟨stack, sl, ps⟩ (t :: ts) = compat ⟨t.text :: stack, sl, false⟩ ts := by
  simp [compat, h]

theorem compat_dedent {stack : List Str} {sl ps : Bool} {t : Tok} {ts : List Tok} (h : t.kind = .DEDENT) :
    compat ⟨stack, sl, ps⟩ (t :: ts) = compat ⟨stack.tail, sl, false⟩ ts := by
  simp [compat, h]

theorem compat_middle {stack : List Str} {ps : Bool} {t : Tok} {ts : List Tok} (h : t.kind = .FSTRING_MIDDLE) :
    compat ⟨stack, false, ps⟩ (t :: ts) = escapeBraces t.text ++ compat ⟨stack, false, false⟩ ts := by
  simp [compat, h]

theorem compat_endmarker_nil {sl ps : Bool} {t : Tok} (h : t.kind = .ENDMARKER) (ht : t.text = []) :
    compat ⟨[], sl, ps⟩ [t] = [] := by
  simp [compat, h, ht]

section
variable {lvl : Nat} {stack : List Str} {sl : Bool} {g : Str} {t : Tok} {as : List ATok}

theorem adjustGo_vis (hInd : t.kind ≠ .INDENT) (hDed : t.kind ≠ .DEDENT) (hNewl : t.kind ≠ .NEWLINE)
    (hNl : t.kind ≠ .NL) :
    adjustGo lvl stack sl (⟨g, t⟩ :: as) =
      ⟨if sl = true then trimTo (stack.headD []).length g else g, t⟩ ::
        adjustGo lvl stack false as := by
  simp [adjustGo, hInd, hDed, hNewl, hNl]

theorem adjustGo_indent (h : t.kind = .INDENT) :
    adjustGo lvl stack sl (⟨g, t⟩ :: as) = ⟨g, t⟩ :: adjustGo lvl (t.text.drop lvl :: stack) sl as := by
  rw [adjustGo, if_pos h]

theorem adjustGo_dedent (h : t.kind = .DEDENT) : adjustGo lvl stack sl (⟨g, t⟩ :: as) = ⟨g, t⟩ :: adjustGo lvl stack.tail sl as := by
  rw [adjustGo, if_neg (by rw [h]; nofun), if_pos h]

theorem adjustGo_nl (h : t.kind = .NEWLINE ∨ t.kind = .NL) :
    adjustGo lvl stack sl (⟨g, t⟩ :: as) =
      ⟨if sl = true then [] else g, t⟩ :: adjustGo lvl stack true as := by
  rw [adjustGo, if_neg (by rcases h with h | h <;> rw [h] <;> nofun),
    if_neg (by rcases h with h | h <;> rw [h] <;> nofun), if_pos h]

end

/-- What `wfGo` demands of the first token `⟨g, t⟩` in state `st`, by class of token kind, and the state in which
the rest of the stream is checked. -/
inductive WfHead (p : Str) (st : WState) (g : Str) (t : Tok) (as : List ATok) : Prop
  | indent : t.kind = .INDENT → g = [] → t.text.all isBlank = true → p.length ≤ t.text.length →
      mixes (p.contains '\t') t.text = false → st.afterMiddle = false →
      wfGo p ⟨st.depth + 1, st.startline, false⟩ as = true → WfHead p st g t as
  | dedent : t.kind = .DEDENT → g = [] → t.text = [] → st.depth ≠ 0 → st.afterMiddle = false →
      wfGo p ⟨st.depth - 1, st.startline, false⟩ as = true → WfHead p st g t as
  | endmarker : t.kind = .ENDMARKER → g = [] → t.text = [] → st.depth = 0 → as = [] → WfHead p st g t as
  | nl : t.kind = .NEWLINE ∨ t.kind = .NL → t.text = ['\n'] → (st.afterMiddle = true → g = []) →
      wfGo p ⟨st.depth, true, false⟩ as = true → WfHead p st g t as
  | middle : t.kind = .FSTRING_MIDDLE → g = [] → st.startline = false →
      wfGo p ⟨st.depth, false, true⟩ as = true → WfHead p st g t as
  | string : t.kind = .STRING → headNonSpace t.text = true → lastNonSpace t.text = true → st.depth ≠ 0 →
      st.afterMiddle = false → wfGo p ⟨st.depth, false, false⟩ as = true → WfHead p st g t as
  | word : isWord t.kind = true → wordLike t.text = true → st.depth ≠ 0 → (st.afterMiddle = true → g = []) →
      wfGo p ⟨st.depth, false, false⟩ as = true → WfHead p st g t as

theorem eq_nil_of_true {b : Bool} {g : Str} (h : b = false ∨ g = []) : b = true → g = [] := by
  rintro rfl
  exact h.resolve_left nofun

theorem wfGo_cons {p : Str} {st : WState} {g : Str} {t : Tok} {as : List ATok}
    (h : wfGo p st (⟨g, t⟩ :: as) = true) : g.all isBlank = true ∧ WfHead p st g t as := by
  simp only [wfGo, Bool.and_eq_true] at h
  refine ⟨h.1, ?_⟩
  have h := h.2
  cases hk : t.kind <;> simp only [hk, Bool.and_eq_true, beq_iff_eq, decide_eq_true_eq, Bool.not_eq_true',
    List.isEmpty_iff, bne_iff_ne, ne_eq, Bool.or_eq_true, Bool.false_eq_true] at h
  case INDENT => obtain ⟨⟨⟨⟨⟨h1, h2⟩, h3⟩, h4⟩, h5⟩, h6⟩ := h; exact .indent hk h1 h2 h3 h4 h5 h6
  case DEDENT => obtain ⟨⟨⟨⟨h1, h2⟩, h3⟩, h4⟩, h5⟩ := h; exact .dedent hk h1 h2 h3 h4 h5
  case ENDMARKER => obtain ⟨⟨⟨h1, h2⟩, h3⟩, h4⟩ := h; exact .endmarker hk h1 h2 h3 h4
  case NEWLINE => exact .nl (.inl hk) h.1.1 (eq_nil_of_true h.1.2) h.2
  case NL => exact .nl (.inr hk) h.1.1 (eq_nil_of_true h.1.2) h.2
  case FSTRING_MIDDLE => exact .middle hk h.1.1 h.1.2 h.2
  case STRING => obtain ⟨⟨⟨⟨h1, h2⟩, h3⟩, h4⟩, h5⟩ := h; exact .string hk h1 h2 h3 h4 h5
  all_goals -- ENCODING and OTHER are refused (`h` is `False` by now); the six kinds left are the words
    obtain ⟨⟨⟨hw, hd⟩, hgam⟩, hwf'⟩ := h
    exact .word (by rw [hk]; rfl) hw hd (eq_nil_of_true hgam) hwf'

theorem wfGo_depth {p : Str} {st : WState} {a : ATok} {as : List ATok} (h : wfGo p st (a :: as) = true) :
    (a.tok.kind = .INDENT ∧ mixes (p.contains '\t') a.tok.text = false ∧
      ∃ sl am, wfGo p ⟨st.depth + 1, sl, am⟩ as = true) ∨
    (a.tok.kind = .DEDENT ∧ st.depth ≠ 0 ∧ ∃ sl am, wfGo p ⟨st.depth - 1, sl, am⟩ as = true) ∨
    (a.tok.kind ≠ .INDENT ∧ a.tok.kind ≠ .DEDENT ∧ ∃ sl am, wfGo p ⟨st.depth, sl, am⟩ as = true) := by
  obtain ⟨g, t⟩ := a
  cases (wfGo_cons h).2 with
  | indent hk _ _ _ hmix _ hwf' => exact .inl ⟨hk, hmix, _, _, hwf'⟩
  | dedent hk _ _ hd _ hwf' => exact .inr (.inl ⟨hk, hd, _, _, hwf'⟩)
  | endmarker hk _ _ _ has => exact .inr (.inr ⟨by rw [hk]; nofun, by rw [hk]; nofun, true, false, has ▸ rfl⟩)
  | nl hk _ _ hwf' =>
    exact .inr (.inr ⟨by rcases hk with h | h <;> rw [h] <;> nofun, by rcases hk with h | h <;> rw [h] <;> nofun,
      _, _, hwf'⟩)
  | middle hk _ _ hwf' => exact .inr (.inr ⟨by rw [hk]; nofun, by rw [hk]; nofun, _, _, hwf'⟩)
  | string hk _ _ _ _ hwf' => exact .inr (.inr ⟨by rw [hk]; nofun, by rw [hk]; nofun, _, _, hwf'⟩)
  | word hk _ _ _ hwf' => exact .inr (.inr ⟨ne_of_class hk rfl, ne_of_class hk rfl, _, _, hwf'⟩)

theorem wfGo_no_mixed {p : Str} {as : List ATok} {st : WState} (hwf : wfGo p st as = true) :
    (as.map (·.tok)).any (fun t => t.kind = .INDENT && mixes (p.contains '\t') t.text) = false := by
  induction as generalizing st with
  | nil => rfl
  | cons a as ih =>
    rw [List.map_cons, List.any_cons, Bool.or_eq_false_iff]
    rcases wfGo_depth hwf with ⟨_, hmix, _, _, h⟩ | ⟨hD, _, _, _, h⟩ | ⟨hI, _, _, _, h⟩
    · exact ⟨by rw [hmix, Bool.and_false], ih h⟩
    · exact ⟨by rw [hD]; rfl, ih h⟩
    · exact ⟨by rw [decide_eq_false hI, Bool.false_and], ih h⟩

theorem wfGo_popUnderflow {p : Str} (lvl : Nat) {as : List ATok} {st : WState} (hwf : wfGo p st as = true) :
    popUnderflow st.depth (stripped lvl as) = false := by
  induction as generalizing st with
  | nil => rfl
  | cons a as ih =>
    rw [stripped_cons]
    simp only [popUnderflow, stripTok_kind]
    rcases wfGo_depth hwf with ⟨hI, _, _, _, h⟩ | ⟨hD, hd, _, _, h⟩ | ⟨hI, hD, _, _, h⟩
    · rw [if_pos hI]; exact (ih h :)
    · rw [if_neg (by rw [hD]; nofun), if_pos hD, Bool.or_eq_false_iff]
      exact ⟨decide_eq_false hd, (ih h :)⟩
    · rw [if_neg hI, if_neg hD]; exact (ih h :)

/-- what `wf` says of the first two tokens: the INDENT that announces `p`, then a code token -/
structure WfShape (p : Str) (t : Tok) (b : ATok) (rest : List ATok) : Prop where
  indent : t.kind = .INDENT
  text : t.text = p
  ne : p ≠ []
  blank : p.all isBlank = true
  unmixed : mixes (p.contains '\t') p = false
  code : zeroWidth b.tok.kind = false
  notMiddle : b.tok.kind ≠ .FSTRING_MIDDLE
  tail_wf : wfGo p ⟨1, true, false⟩ (b :: rest) = true

theorem wf_shape {p : Str} {as : List ATok} (h : wf p as = true) :
    ∃ t b rest, as = ⟨[], t⟩ :: b :: rest ∧ WfShape p t b rest := by
  match as, h with
  | ⟨g, t⟩ :: b :: rest, h =>
    simp only [wf, Bool.and_eq_true, decide_eq_true_eq, beq_iff_eq, bne_iff_ne, ne_eq, Bool.not_eq_true'] at h
    obtain ⟨⟨⟨⟨⟨⟨⟨⟨hk, htx⟩, rfl⟩, hpne⟩, hpb⟩, hpm⟩, hbz⟩, hbm⟩, hwf⟩ := h
    exact ⟨t, b, rest, rfl, hk, htx, hpne, hpb, hpm, hbz, hbm, hwf⟩

theorem WfShape.whole_wf {p : Str} {t : Tok} {b : ATok} {rest : List ATok} (w : WfShape p t b rest) :
    wfGo p ⟨0, true, false⟩ (⟨[], t⟩ :: b :: rest) = true := by
  rw [wfGo]
  simp only [w.indent, w.text, List.all_nil, beq_self_eq_true, w.blank, Nat.le_refl, decide_true, w.unmixed,
    Bool.not_false, Bool.and_true, Bool.true_and, Nat.zero_add]
  exact w.tail_wf

theorem wfGo_of_wf (p : Str) (as : List ATok) (h : wf p as = true) : wfGo p ⟨0, true, false⟩ as = true := by
  obtain ⟨t, b, rest, rfl, w⟩ := wf_shape h
  exact w.whole_wf

/-- the statement of the induction, as a predicate on the tail: `wfGo`'s depth is the height of `compat`'s
`indents`; `ps` (a STRING was just emitted) excludes the start of a line -/
def MatchLinesCompat (p : Str) (as : List ATok) : Prop :=
  ∀ (stack : List Str) (sl ps am : Bool),
    wfGo p ⟨stack.length, sl, am⟩ as = true → (∀ i ∈ stack, i.all isBlank = true) → (ps = true → sl = false) →
    MatchesFrom sl am (renderA as) (compat ⟨stack, sl, ps⟩ (stripped p.length as))
      (renderA (adjustGo p.length stack sl as))

theorem headD_blank {stack : List Str} (h : ∀ i ∈ stack, i.all isBlank = true) :
    (stack.headD []).all isBlank = true := by
  cases stack with
  | nil => rfl
  | cons i r => exact h i (by simp)

/-- A word or a string literal.  The blank that `compat` appends to a name or number is counted with the rest of its
output: the line is closed by then, so it changes nothing. -/
theorem matchLines_compat_text {p : Str} {g : Str} {t : Tok} {as : List ATok} (ih : MatchLinesCompat p as)
    {stack : List Str} {sl ps am : Bool}
    (hg : g.all isBlank = true) (hk : isText t.kind = true) (hcl : Closing t.text) (hd : stack.length ≠ 0)
    (hgam : am = true → g = []) (hstr : t.kind = .STRING → am = false)
    (hwf : wfGo p ⟨stack.length, false, false⟩ as = true)
    (hbl : ∀ i ∈ stack, i.all isBlank = true) (hps : ps = true → sl = false) :
    MatchesFrom sl am (renderA (⟨g, t⟩ :: as)) (compat ⟨stack, sl, ps⟩ (stripped p.length (⟨g, t⟩ :: as)))
      (renderA (adjustGo p.length stack sl (⟨g, t⟩ :: as))) := by
  have hne : stack ≠ [] := by intro h; subst h; exact hd rfl
  have hEnc : t.kind ≠ .ENCODING := ne_of_class hk rfl
  have hInd : t.kind ≠ .INDENT := ne_of_class hk rfl
  have hDed : t.kind ≠ .DEDENT := ne_of_class hk rfl
  have hNewl : t.kind ≠ .NEWLINE := ne_of_class hk rfl
  have hNl : t.kind ≠ .NL := ne_of_class hk rfl
  have hMid : t.kind ≠ .FSTRING_MIDDLE := ne_of_class hk rfl
  rw [renderA_cons, stripped_cons, stripTok_of_ne hInd, compat_vis hne hEnc hInd hDed hNewl hNl hMid,
    adjustGo_vis hInd hDed hNewl hNl, renderA_cons]
  simp only [vis_of_ne hInd hMid]
  -- the separator only follows a string: not at the start of a line, not after the literal part of an f-string
  have hsp0 : sl = true ∨ am = true → (if t.kind = .STRING ∧ ps = true then [' '] else [] : Str) = [] := by
    intro h
    refine if_neg fun ⟨hks, hp⟩ => ?_
    rcases h with h | h
    · rw [hps hp] at h; cases h
    · rw [hstr hks] at h; cases h
  exact .text hg hgam (headD_blank hbl) (by split <;> rfl) hsp0 hcl
    (.pad (by split <;> rfl) (ih stack false (decide (t.kind = .STRING)) false hwf hbl (fun _ => rfl)))

theorem matchLines_compat (p : Str) : ∀ (rest : List ATok), MatchLinesCompat p rest := by
  intro rest
  induction rest with
  | nil => intro stack sl ps am _ _ _; exact .nil
  | cons a as ih =>
    intro stack sl ps am hwf hbl hps
    obtain ⟨g, t⟩ := a
    obtain ⟨hg, hhead⟩ := wfGo_cons hwf
    cases hhead with
    | indent hk hg0 htb hle _ ham hwf' =>
      subst hg0; cases ham
      rw [renderA_cons, stripped_cons, stripTok_indent hk hle, compat_indent (by simpa using hk), adjustGo_indent hk,
        renderA_cons]
      simp only [vis_indent hk, List.nil_append]
      exact ih (t.text.drop p.length :: stack) sl false false hwf'
        (List.forall_mem_cons.2 ⟨all_blank_drop _ htb, hbl⟩)
        (fun h => Bool.noConfusion h)
    | dedent hk hg0 ht0 hd ham hwf' =>
      subst hg0; cases ham
      have hInd : t.kind ≠ .INDENT := by simp [hk]
      rw [renderA_cons, stripped_cons, stripTok_of_ne hInd, compat_dedent hk, adjustGo_dedent hk,
        renderA_cons]
      simp only [vis_of_ne hInd (by simp [hk]), ht0, List.nil_append]
      exact ih stack.tail sl false false (by rw [List.length_tail]; exact hwf')
        (fun i hi => hbl i (List.mem_of_mem_tail hi)) (fun h => Bool.noConfusion h)
    | endmarker hk hg0 ht0 hd has =>
      subst hg0; subst has
      have hs : stack = [] := List.eq_nil_of_length_eq_zero hd
      subst hs
      have hInd : t.kind ≠ .INDENT := by simp [hk]
      rw [renderA_cons, stripped_cons, stripTok_of_ne hInd]
      have : stripped p.length ([] : List ATok) = [] := rfl
      rw [this, compat_endmarker_nil hk ht0]
      simp only [adjustGo, hk, reduceCtorEq, if_false, false_or, renderA, List.flatMap_cons, List.flatMap_nil, vis,
        ht0, List.append_nil, List.headD_nil, List.length_nil, trimTo_eq, List.drop_nil, ite_self]
      exact .nil
    | nl hk ht hgam hwf' =>
      have hInd : t.kind ≠ .INDENT := by rcases hk with h | h <;> simp [h]
      have hMid : t.kind ≠ .FSTRING_MIDDLE := by rcases hk with h | h <;> simp [h]
      rw [renderA_cons, stripped_cons, stripTok_of_ne hInd, compat_nl hk, adjustGo_nl hk,
        renderA_cons]
      simp only [vis_of_ne hInd hMid, ht]
      exact .nl hg hgam (ih stack true false false hwf' hbl (fun h => Bool.noConfusion h))
    | middle hk hg0 hsl hwf' =>
      subst hg0; cases hsl
      have hInd : t.kind ≠ .INDENT := by simp [hk]
      rw [renderA_cons, stripped_cons, stripTok_of_ne hInd, compat_middle hk,
        adjustGo_vis hInd (by simp [hk]) (by simp [hk]) (by simp [hk]), renderA_cons]
      simp only [vis_middle hk, Bool.false_eq_true, if_false, List.nil_append]
      -- the literal part may end in a whitespace-only line: the line after it need not be closed (phase `spaces`)
      exact .common (escapeBraces t.text) (ih stack false false true hwf' hbl (fun h => Bool.noConfusion h))
    | string hk _ hl hd ham hwf' =>
      cases ham
      exact matchLines_compat_text ih hg (by rw [hk]; rfl) (Closing.of_lastNonSpace hl) hd nofun (fun _ => rfl) hwf'
        hbl hps
    | word hk hw hd hgam hwf' =>
      exact matchLines_compat_text ih hg (by rw [isText, hk]; rfl) (Closing.of_wordLike hw) hd hgam
        (fun h => absurd h (ne_of_class hk rfl)) hwf' hbl hps

theorem compat_startline_irrel {stack : List Str} {ps : Bool} {t : Tok} {ts : List Tok}
    (hEnc : t.kind ≠ .ENCODING) (hInd : t.kind ≠ .INDENT) (hDed : t.kind ≠ .DEDENT) (hMid : t.kind ≠ .FSTRING_MIDDLE) :
    compat ⟨[] :: stack, false, ps⟩ (t :: ts) = compat ⟨[] :: stack, true, ps⟩ (t :: ts) := by
  by_cases h : t.kind = .NEWLINE ∨ t.kind = .NL
  · rw [compat_nl h, compat_nl h]
  · have hNewl : t.kind ≠ .NEWLINE := fun e => h (Or.inl e)
    have hNl : t.kind ≠ .NL := fun e => h (Or.inr e)
    rw [compat_vis (by simp) hEnc hInd hDed hNewl hNl hMid, compat_vis (by simp) hEnc hInd hDed hNewl hNl hMid]
    simp

/-- `untokenize` enters `compat` at the first INDENT with `startline = false`; stripped, that INDENT is empty, so for
the code token that follows it makes no difference (`compat_startline_irrel`): `compat` can start at a line start. -/
theorem untokenize_stripped {t : Tok} {b : ATok} {rest : List ATok} (w : WfShape t.text t b rest) :
    untokenize (stripped t.text.length (⟨[], t⟩ :: b :: rest)) =
      some (compat ⟨[[]], true, false⟩ (stripped t.text.length (b :: rest))) := by
  have hk := w.indent
  have hst : stripTok t.text.length t = { t with text := [] } := by
    rw [stripTok_indent hk (Nat.le_refl _), List.drop_length]
  obtain ⟨hInd, hDed, _, hEnc⟩ := zeroWidth_eq_false.mp w.code
  rw [stripped_cons, hst]
  simp only [untokenize]
  simp only [untokFull, hk, if_true, popUnderflow]
  rw [wfGo_popUnderflow t.text.length w.tail_wf]
  simp only [Bool.false_eq_true, if_false, Option.some.injEq]
  rw [compat_indent (by simpa using hk), stripped_cons,
    compat_startline_irrel (by rw [stripTok_kind]; exact hEnc) (by rw [stripTok_kind]; exact hInd)
      (by rw [stripTok_kind]; exact hDed) (by rw [stripTok_kind]; exact w.notMiddle)]

theorem dedentCore_wf (p : Str) (as : List ATok) (h : wf p as = true) :
    dedentCore (renderA as) (as.map (·.tok)) = .ok (renderA (adjust p as)) := by
  obtain ⟨t, b, rest, rfl, w⟩ := wf_shape h
  cases w.text
  have hk := w.indent
  have hbi : blockIndent ((⟨[], t⟩ :: b :: rest : List ATok).map (·.tok)) = some t.text := by
    simp [blockIndent, hk]
  have hmain := matchLines_compat t.text (b :: rest) [[]] true false false w.tail_wf
    (List.forall_mem_cons.2 ⟨rfl, nofun⟩) (fun h => Bool.noConfusion h) |>.start
  have hrender : ∀ as, renderA (⟨[], t⟩ :: as) = renderA as := fun as => by
    rw [renderA_cons, vis_indent hk]; rfl
  have hadj : renderA (adjust t.text (⟨[], t⟩ :: b :: rest)) =
      renderA (adjustGo t.text.length [[]] true (b :: rest)) := by
    rw [adjust, adjustGo_indent hk, hrender, List.drop_length]
  rw [hadj, hrender]
  unfold dedentCore
  rw [hbi]
  simp only [w.ne, if_false]
  rw [wfGo_no_mixed w.whole_wf]
  simp only [Bool.false_eq_true, if_false]
  rw [map_stripTok_toks, untokenize_stripped w]
  simp [hmain]

section
variable {p : Str} {lg sl : Bool} {g : Str} {t : Tok} {as bs : List ATok}

theorem dedentSpecGo_zero (hz : zeroWidth t.kind = true) :
    dedentSpecGo p lg sl (⟨g, t⟩ :: as) (⟨g, t⟩ :: bs) = dedentSpecGo p lg sl as bs := by
  rw [dedentSpecGo, if_pos hz, beq_self_eq_true, beq_self_eq_true, Bool.true_and, Bool.true_and]

theorem dedentSpecGo_nl (hk : t.kind = .NEWLINE ∨ t.kind = .NL) :
    dedentSpecGo p lg sl (⟨g, t⟩ :: as) (⟨if sl = true then [] else g, t⟩ :: bs) =
      dedentSpecGo p (lg || decide (t.kind = .NEWLINE)) true as bs := by
  have hz : ¬ zeroWidth t.kind = true := by rcases hk with h | h <;> rw [h] <;> nofun
  rw [dedentSpecGo, if_neg hz, if_pos hk, beq_self_eq_true, Bool.true_and]
  cases sl <;> simp

theorem dedentSpecGo_comment (k : Nat) (hk : t.kind = .COMMENT) :
    dedentSpecGo p lg sl (⟨g, t⟩ :: as) (⟨if sl = true then trimTo k g else g, t⟩ :: bs) =
      dedentSpecGo p lg false as bs := by
  have hz : ¬ zeroWidth t.kind = true := by rw [hk]; nofun
  have hn : ¬ (t.kind = .NEWLINE ∨ t.kind = .NL) := by rw [hk]; nofun
  rw [dedentSpecGo, if_neg hz, if_neg hn, if_pos hk, beq_self_eq_true, Bool.true_and]
  cases sl
  · simp
  · simp only [if_true, beq_iff_eq.mpr (trimTo_suffix k g), Bool.true_and]

theorem dedentSpecGo_code (k : Nat) (hz : zeroWidth t.kind = false) (hNewl : t.kind ≠ .NEWLINE) (hNl : t.kind ≠ .NL)
    (hCom : t.kind ≠ .COMMENT) (hgap : sl = true → lg = true → g = p ++ trimTo k g) :
    dedentSpecGo p lg sl (⟨g, t⟩ :: as) (⟨if sl = true then trimTo k g else g, t⟩ :: bs) =
      dedentSpecGo p false false as bs := by
  have hz' : ¬ zeroWidth t.kind = true := by rw [hz]; nofun
  have hn : ¬ (t.kind = .NEWLINE ∨ t.kind = .NL) := fun h => h.elim hNewl hNl
  rw [dedentSpecGo, if_neg hz', if_neg hn, if_neg hCom, beq_self_eq_true, Bool.true_and]
  cases sl
  · simp
  · cases lg
    · simp only [if_true, Bool.and_false, Bool.false_eq_true, if_false, beq_iff_eq.mpr (trimTo_suffix k g),
        Bool.true_and]
    · simp only [if_true, Bool.and_self, beq_iff_eq.mpr (hgap rfl rfl), Bool.true_and]

theorem startsOkGo_nl {stack : List Str} (h : t.kind = .NEWLINE ∨ t.kind = .NL) :
    startsOkGo p stack lg (⟨g, t⟩ :: as) = startsOkGo p stack (lg || decide (t.kind = .NEWLINE)) as := by
  rcases h with h | h <;> simp [startsOkGo, h]

end

/-- adjust's stack is the tokenizer's stack `full` with the block prefix stripped -/
def AdjustGoSpec (p : Str) (as : List ATok) : Prop :=
  ∀ (sl am logical : Bool) (full : List Str),
    wfGo p ⟨full.length, sl, am⟩ as = true → startsOkGo p full logical as = true →
    (∀ i ∈ full, p.isPrefixOf i = true) →
    dedentSpecGo p logical sl as (adjustGo p.length (full.map (List.drop p.length)) sl as) = true

theorem headD_map_drop (full : List Str) (n : Nat) :
    (full.map (List.drop n)).headD [] = (full.headD []).drop n := by
  cases full <;> simp

theorem adjustGo_spec_code {p g : Str} {t : Tok} {as : List ATok} (ih : AdjustGoSpec p as) {sl logical : Bool}
    {full : List Str} {am' : Bool} (hz : zeroWidth t.kind = false) (hNewl : t.kind ≠ .NEWLINE) (hNl : t.kind ≠ .NL)
    (hCom : t.kind ≠ .COMMENT) (hd : sl = true → full.length ≠ 0) (hwf' : wfGo p ⟨full.length, false, am'⟩ as = true)
    (hso : startsOkGo p full logical (⟨g, t⟩ :: as) = true) (hpre : ∀ i ∈ full, p.isPrefixOf i = true) :
    dedentSpecGo p logical sl (⟨g, t⟩ :: as)
      (adjustGo p.length (full.map (List.drop p.length)) sl (⟨g, t⟩ :: as)) = true := by
  obtain ⟨hInd, hDed, hEnd, hEnc⟩ := zeroWidth_eq_false.mp hz
  simp only [startsOkGo, hInd, hDed, hNewl, hNl, hCom, hEnd, if_false, or_self, Bool.and_eq_true, Bool.or_eq_true,
    Bool.not_eq_true', beq_iff_eq] at hso
  obtain ⟨hgap, hso'⟩ := hso
  rw [adjustGo_vis hInd hDed hNewl hNl, dedentSpecGo_code _ hz hNewl hNl hCom]
  · exact ih false am' false full hwf' hso' hpre
  · -- at the start of a logical line the gap is the top of the stack, which extends `p`
    rintro rfl rfl
    have hgap' : g = full.headD [] := by simpa using hgap
    have hmem : full.headD [] ∈ full := by
      cases full with
      | nil => exact absurd rfl (hd rfl)
      | cons i r => exact List.mem_cons_self
    show g = p ++ trimTo ((full.map (List.drop p.length)).headD []).length g
    rw [headD_map_drop, ← hgap']
    exact trimTo_drop_prefix p g (hgap' ▸ hpre _ hmem)

theorem adjustGo_spec (p : Str) : ∀ as, AdjustGoSpec p as := by
  intro as
  induction as with
  | nil => intro _ _ _ _ _ _ _; rfl
  | cons a as ih =>
    intro sl am logical full hwf hso hpre
    obtain ⟨g, t⟩ := a
    cases (wfGo_cons hwf).2 with
    | indent hk _ _ _ _ _ hwf' =>
      simp only [startsOkGo, hk, if_true, Bool.and_eq_true] at hso
      rw [adjustGo_indent hk, dedentSpecGo_zero (by rw [hk]; rfl)]
      have := ih sl false logical (t.text :: full) hwf' hso.2
        (List.forall_mem_cons.2 ⟨hso.1, hpre⟩)
      simpa using this
    | dedent hk _ _ _ _ hwf' =>
      simp only [startsOkGo, hk, reduceCtorEq, if_false, if_true] at hso
      rw [adjustGo_dedent hk, dedentSpecGo_zero (by rw [hk]; rfl)]
      have := ih sl false logical full.tail (by rw [List.length_tail]; exact hwf') hso
        (fun i hi => hpre i (List.mem_of_mem_tail hi))
      simpa [List.map_tail] using this
    | endmarker hk hg0 _ _ has =>
      subst hg0; subst has
      simp [adjustGo, hk, dedentSpecGo, zeroWidth, trimTo]
    | nl hk _ _ hwf' =>
      rw [adjustGo_nl hk, dedentSpecGo_nl hk]
      rw [startsOkGo_nl hk] at hso
      exact ih true false _ full hwf' hso hpre
    | middle hk _ hsl hwf' =>
      cases hsl
      exact adjustGo_spec_code ih (by rw [hk]; rfl) (by rw [hk]; nofun) (by rw [hk]; nofun) (by rw [hk]; nofun) nofun hwf'
        hso hpre
    | string hk _ _ hd _ hwf' =>
      exact adjustGo_spec_code ih (by rw [hk]; rfl) (by rw [hk]; nofun) (by rw [hk]; nofun) (by rw [hk]; nofun)
        (fun _ => hd) hwf' hso hpre
    | word hk _ hd _ hwf' =>
      by_cases hc : t.kind = .COMMENT
      · simp only [startsOkGo, hc, reduceCtorEq, if_false, or_true, true_or, if_true] at hso
        rw [adjustGo_vis (by rw [hc]; nofun) (by rw [hc]; nofun) (by rw [hc]; nofun)
          (by rw [hc]; nofun), dedentSpecGo_comment _ hc]
        exact ih false false logical full hwf' hso hpre
      · exact adjustGo_spec_code ih (isWord_not_zeroWidth hk) (ne_of_class hk rfl) (ne_of_class hk rfl) hc (fun _ => hd)
          hwf' hso hpre

theorem or_of_ite_eq_true {c : Prop} [Decidable c] {x y : Bool} (h : (if c then x else y) = true) :
    x = true ∨ y = true := by
  by_cases hc : c
  · exact Or.inl (by rwa [if_pos hc] at h)
  · exact Or.inr (by rwa [if_neg hc] at h)

theorem dedentSpecGo_cons {p : Str} {lg sl : Bool} {a b : ATok} {as bs : List ATok}
    (h : dedentSpecGo p lg sl (a :: as) (b :: bs) = true) :
    a.tok = b.tok ∧ ∃ lg' sl', dedentSpecGo p lg' sl' as bs = true := by
  simp only [dedentSpecGo, Bool.and_eq_true, beq_iff_eq] at h
  obtain ⟨htok, h⟩ := h
  refine ⟨htok, ?_⟩
  rcases or_of_ite_eq_true h with h | h
  · exact ⟨_, _, (Bool.and_eq_true_iff.mp h).2⟩
  rcases or_of_ite_eq_true h with h | h
  · exact ⟨_, _, (Bool.and_eq_true_iff.mp h).2⟩
  rcases or_of_ite_eq_true h with h | h <;> exact ⟨_, _, (Bool.and_eq_true_iff.mp h).2⟩

theorem dedentSpecGo_toks {p : Str} {lg sl : Bool} {as bs : List ATok} (h : dedentSpecGo p lg sl as bs = true) :
    bs.map (·.tok) = as.map (·.tok) := by
  induction as generalizing lg sl bs with
  | nil =>
    cases bs with
    | nil => rfl
    | cons b bs => simp [dedentSpecGo] at h
  | cons a as ih =>
    cases bs with
    | nil => simp [dedentSpecGo] at h
    | cons b bs =>
      obtain ⟨htok, lg', sl', h'⟩ := dedentSpecGo_cons h
      rw [List.map_cons, List.map_cons, htok, ih h']

end Malt.Dedent
