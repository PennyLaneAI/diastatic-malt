import MaltModel.Proofs.C05Paths3Exit
/-!
# C05, Lemma B: what is carried through a visit

What a frame needs to transport the pending facts (`keeps_tr`), `Todo`, `Neutral`, and the `finally`-section protocol.
-/
namespace Malt.Cfg
open Malt.Py

theorem scopeKeys_sk : ∀ (σ : List Scope) (k : Nat), k ∈ scopeKeys σ → ∃ t, k = sk t := by
  intro σ
  induction σ with
  | nil => intro k h; cases h
  | cons sc σ ih =>
    intro k h
    cases sc with
    | try_ i f hs =>
      simp only [scopeKeys, List.mem_append, List.mem_map] at h
      rcases h with ⟨t, _, ht⟩ | h
      · exact ⟨t, ht.symm⟩
      · exact ih k h
    | fn i => simp only [scopeKeys, List.mem_cons] at h; exact h.elim (fun e => ⟨_, e⟩) (ih k)
    | lam i => simp only [scopeKeys, List.mem_cons] at h; exact h.elim (fun e => ⟨_, e⟩) (ih k)
    | cls i => simp only [scopeKeys, List.mem_cons] at h; exact h.elim (fun e => ⟨_, e⟩) (ih k)
    | loop i => simp only [scopeKeys, List.mem_cons] at h; exact h.elim (fun e => ⟨_, e⟩) (ih k)

theorem ck_not_scopeKeys (σ : List Scope) (i : Nat) : ck i ∉ scopeKeys σ := by
  intro h
  obtain ⟨t, ht⟩ := scopeKeys_sk σ _ h
  exact sk_ne_ck t i ht.symm

theorem Tr.cons_ck {σ : List Scope} {K : List Nat} {b : B} (h : Tr σ K b) (i : Nat) : Tr σ (ck i :: K) b := by
  refine ⟨?_, ?_, h.lin⟩
  · intro k hk hk'
    rcases List.mem_cons.mp hk' with e | hk'
    · exact ck_not_scopeKeys σ i (e ▸ hk)
    · exact h.disj k hk hk'
  · intro k hk
    rcases List.mem_cons.mp hk with e | hk
    · rw [e]; exact ck_not_old i b
    · exact h.old k hk

theorem Tr.nil (σ : List Scope) {b : B} (hl : ListsInNodes b) : Tr σ [] b :=
  ⟨fun _ _ h => (List.not_mem_nil h).elim, fun _ h => (List.not_mem_nil h).elim, hl⟩

/-- the waiting section of the pending nodes is not touched -/
def TOk (curP : List Nat) (T : Nat) (K : List Nat) : Prop := curP = [] ∨ sk T ∉ K

theorem TOk.sub {curP : List Nat} {T : Nat} {K K' : List Nat} (h : TOk curP T K) (hs : ∀ k, k ∈ K' → k ∈ K) : TOk curP T K' :=
  h.imp id (fun h hk => h (hs _ hk))
theorem TOk.cons_ck {curP : List Nat} {T : Nat} {K : List Nat} (h : TOk curP T K) (i : Nat) : TOk curP T (ck i :: K) := by
  refine h.imp id (fun h hk => ?_)
  rcases List.mem_cons.mp hk with e | hk
  · exact sk_ne_ck T i e
  · exact h hk
theorem TOk.nil (T : Nat) (K : List Nat) : TOk [] T K := Or.inl rfl
theorem TOk.empty (curP : List Nat) (T : Nat) : TOk curP T [] := Or.inr (fun h => (List.not_mem_nil h).elim)

def Keeps (σ : List Scope) (T : Nat) (curP : List Nat) (b b' : B) : Prop := ∀ R, Pend σ T curP b R → Pend σ T curP b' R

theorem Keeps.trans {σ : List Scope} {T : Nat} {curP : List Nat} {a b c : B} (h1 : Keeps σ T curP a b) (h2 : Keeps σ T curP b c) :
    Keeps σ T curP a c := fun R h => h2 R (h1 R h)

theorem keeps_tr {σ : List Scope} {T : Nat} {curP : List Nat} {K : List Nat} {b b' : B} (ht : Tr σ K b) (h : FF K b b')
    (hT : TOk curP T K) : Keeps σ T curP b b' :=
  fun _ hR => hR.transport ht h hT

theorem keeps_exit {σ : List Scope} {T : Nat} {curP : List Nat} {b b' : B} {c0 : Bool} {i : Nat} (h : ExitOk c0 i b b')
    (hσ : sk i ∉ scopeKeys σ) : Keeps σ T curP b b' :=
  fun _ hR => hR.exit h hσ

theorem FF.cons {K : List Nat} {b b' : B} (h : FF K b b') (k : Nat) : FF (k :: K) b b' :=
  h.weaken (fun _ hx => List.mem_cons_of_mem _ hx)
theorem FF.own {k : Nat} {b b' : B} (h : FF [k] b b') (K : List Nat) : FF (k :: K) b b' :=
  h.weaken (fun _ hx => List.mem_singleton.mp hx ▸ List.mem_cons_self ..)
theorem FF.left {k : Nat} {A : List Nat} {b b' : B} (h : FF (k :: A) b b') (C : List Nat) : FF (k :: (A ++ C)) b b' :=
  h.weaken (fun _ hx => (List.mem_cons.mp hx).elim (fun e => e ▸ List.mem_cons_self ..)
    (fun hx => List.mem_cons_of_mem _ (List.mem_append.mpr (Or.inl hx))))
theorem FF.after {k : Nat} {C : List Nat} {b b' : B} (h : FF (k :: C) b b') (A : List Nat) : FF (k :: (A ++ C)) b b' :=
  h.weaken (fun _ hx => (List.mem_cons.mp hx).elim (fun e => e ▸ List.mem_cons_self ..)
    (fun hx => List.mem_cons_of_mem _ (List.mem_append.mpr (Or.inr hx))))
theorem FF.appL {A : List Nat} {b b' : B} (h : FF A b b') (C : List Nat) : FF (A ++ C) b b' :=
  h.weaken (fun _ hx => List.mem_append.mpr (Or.inl hx))
theorem FF.appR {C : List Nat} {b b' : B} (h : FF C b b') (A : List Nat) : FF (A ++ C) b b' :=
  h.weaken (fun _ hx => List.mem_append.mpr (Or.inr hx))
theorem FF.right {C : List Nat} {b b' : B} (h : FF C b b') (k : Nat) (A : List Nat) : FF (k :: (A ++ C)) b b' :=
  h.weaken (fun _ hx => List.mem_cons_of_mem _ (List.mem_append.mpr (Or.inr hx)))

theorem NodeStep.left {k : Nat} {A : List Nat} {b b' : B} (h : NodeStep (k :: A) b b') (C : List Nat) : NodeStep (k :: (A ++ C)) b b' :=
  h.weaken (fun _ hx => (List.mem_cons.mp hx).elim (fun e => e ▸ List.mem_cons_self ..)
    (fun hx => List.mem_cons_of_mem _ (List.mem_append.mpr (Or.inl hx))))

theorem not_old_of_frame {K : List Nat} {b b' : B} {k : Nat} (h : k ∉ Old b) (hx : FrameX K b b') (hk : k ∉ K) : k ∉ Old b' :=
  fun ho => (hx.old k ho).elim h hk

theorem TOk.head {curP : List Nat} {T k : Nat} {K : List Nat} (h : TOk curP T (k :: K)) : TOk curP T [k] :=
  h.sub (fun _ hx => List.mem_singleton.mp hx ▸ List.mem_cons_self ..)
theorem TOk.tail {curP : List Nat} {T k : Nat} {K : List Nat} (h : TOk curP T (k :: K)) : TOk curP T K :=
  h.sub (fun _ hx => List.mem_cons_of_mem _ hx)
theorem TOk.cons_left {curP : List Nat} {T k : Nat} {A C : List Nat} (h : TOk curP T (k :: (A ++ C))) : TOk curP T (k :: A) :=
  h.sub (fun _ hx => (List.mem_cons.mp hx).elim (fun e => e ▸ List.mem_cons_self ..)
    (fun hx => List.mem_cons_of_mem _ (List.mem_append.mpr (Or.inl hx))))
theorem TOk.startedAt {curP : List Nat} {T : Nat} {K : List Nat} {b b' : B} {x y : Nat} (h : TOk curP T K) (hx : FrameX K b b')
    (h1 : x ∈ curP) (h2 : StartedAt b T y) : StartedAt b' T y :=
  h.elim (fun e => by rw [e] at h1; cases h1) (fun hT => startedAt_mono hx hT h2)
theorem TOk.left {curP : List Nat} {T : Nat} {A C : List Nat} (h : TOk curP T (A ++ C)) : TOk curP T A :=
  h.sub (fun _ hx => List.mem_append.mpr (Or.inl hx))
theorem TOk.right {curP : List Nat} {T : Nat} {A C : List Nat} (h : TOk curP T (A ++ C)) : TOk curP T C :=
  h.sub (fun _ hx => List.mem_append.mpr (Or.inr hx))

/-- While a compound statement with own key `own` is visited: the keys `L` of its parts not yet visited are fresh and
pairwise distinct, and `own` is none of them and belongs to no open scope. -/
structure Todo (σ : List Scope) (own : Nat) (L : List Nat) (b : B) : Prop where
  pre : Pre σ L b
  nd : L.Nodup
  own_not : own ∉ L
  own_scope : own ∉ scopeKeys σ

theorem Todo.start {σ : List Scope} {own : Nat} {L : List Nat} {b : B} (hnd : (own :: L).Nodup) (hp : Pre σ (own :: L) b) :
    Todo σ own L b :=
  ⟨hp.sub (fun _ hk => List.mem_cons_of_mem _ hk), (List.nodup_cons.mp hnd).2, (List.nodup_cons.mp hnd).1,
   fun h => hp.disj _ h (List.mem_cons_self ..)⟩

/-- the key of a conditional section belongs to no scope -/
theorem Todo.of_ck {σ : List Scope} {rep : Nat} {L : List Nat} {b : B} (hp : Pre σ L b) (hnd : L.Nodup) (hrep : ck rep ∉ L) :
    Todo σ (ck rep) L b := ⟨hp, hnd, hrep, ck_not_scopeKeys σ rep⟩

theorem Todo.step {σ : List Scope} {own : Nat} {P rest : List Nat} {b b1 : B} (h : Todo σ own (P ++ rest) b)
    (f : FF (own :: P) b b1) (hl : ListsDisjoint b1) : Todo σ own rest b1 := by
  obtain ⟨_, ndR, dPR⟩ := List.nodup_append.mp h.nd
  refine ⟨(h.pre.sub (fun _ hk => List.mem_append.mpr (Or.inr hk))).move f.f f.x ?_ ?_ hl, ndR,
    fun hm => h.own_not (List.mem_append.mpr (Or.inr hm)), h.own_scope⟩
  · intro k hk hm
    rcases List.mem_cons.mp hm with e | hm
    · exact h.own_scope (e ▸ hk)
    · exact h.pre.disj k hk (List.mem_append.mpr (Or.inl hm))
  · intro k hk hm
    rcases List.mem_cons.mp hm with e | hm
    · exact h.own_not (List.mem_append.mpr (Or.inr (e ▸ hk)))
    · exact dPR k hm k hk rfl

theorem Todo.head {σ : List Scope} {own : Nat} {P rest : List Nat} {b : B} (h : Todo σ own (P ++ rest) b) : Todo σ own P b :=
  ⟨h.pre.sub (fun _ hk => List.mem_append.mpr (Or.inl hk)), (List.nodup_append.mp h.nd).1,
   fun hm => h.own_not (List.mem_append.mpr (Or.inl hm)), h.own_scope⟩

theorem Todo.assoc {σ : List Scope} {own : Nat} {A C D : List Nat} {b : B} (h : Todo σ own (A ++ (C ++ D)) b) :
    Todo σ own ((A ++ C) ++ D) b := by
  rw [List.append_assoc]; exact h

theorem Todo.keeps_ck {σ : List Scope} {i : Nat} {L : List Nat} {b b' : B} {T : Nat} {curP : List Nat} (h : Todo σ (ck i) L b)
    (f : FF (ck i :: L) b b') (hT : TOk curP T L) : Keeps σ T curP b b' :=
  keeps_tr (h.pre.toTr.cons_ck i) f (hT.cons_ck i)

structure Neutral (b b' : B) : Prop where
  exits : b'.exits = b.exits
  continues : b'.continues = b.continues
  finallySections : b'.finallySections = b.finallySections
  finallySub : b'.finallySub = b.finallySub
  pendingFinally : b'.pendingFinally = b.pendingFinally

theorem Neutral.refl (b : B) : Neutral b b := ⟨rfl, rfl, rfl, rfl, rfl⟩
theorem Neutral.trans {a b c : B} (h1 : Neutral a b) (h2 : Neutral b c) : Neutral a c :=
  ⟨by rw [h2.exits, h1.exits], by rw [h2.continues, h1.continues], by rw [h2.finallySections, h1.finallySections],
   by rw [h2.finallySub, h1.finallySub], by rw [h2.pendingFinally, h1.pendingFinally]⟩
theorem Neutral.ldj {b b' : B} (h : Neutral b b') (hl : ListsDisjoint b) : ListsDisjoint b' := ldj_of_eq h.exits h.continues hl
theorem Neutral.src {b b' : B} (h : Neutral b b') (hl : b'.leafSet = b.leafSet) {T : Nat} {curP : List Nat} {x : Nat}
    (hs : Src b T curP x) : Src b' T curP x := src_of_same hl h.finallySub h.pendingFinally hs

theorem Neutral.inert (b : B) (hd : Option NodeId) (es ns : List NodeId) (hp : List (List NodeId)) (lv : Ref) (act : List Nat)
    (ow : List (NodeId × List Nat)) (ed : List (NodeId × NodeId)) (fd : List (Nat × Bool)) (se : List (Nat × NodeId))
    (rs : List (Nat × List NodeId)) (ce : List (Nat × Ref)) (cl : List (Nat × List Ref)) (rt : List NodeId) (er : Option String) :
    Neutral b { b with head := hd, errors := es, nodes := ns, heap := hp, leaves := lv, activeStmts := act, owners := ow,
                       edges := ed, finallyDirect := fd, sectionEntry := se, raises := rs, condEntry := ce, condLeaves := cl,
                       roots := rt, err := er } :=
  ⟨rfl, rfl, rfl, rfl, rfl⟩

theorem neutral_check (b : B) (c : Bool) (m : String) : Neutral b (b.check c m) := by
  cases c
  · exact Neutral.refl b
  · exact Neutral.inert ..

theorem neutral_beginStatement (b : B) (i : Nat) : Neutral b (b.beginStatement i) := Neutral.inert ..
theorem neutral_endStatement (b : B) (i : Nat) : Neutral b (b.endStatement i) := (neutral_check b _ _).trans (Neutral.inert ..)
theorem neutral_enterCondSection (b : B) (i : Nat) : Neutral b (b.enterCondSection i) :=
  (neutral_check b _ _).trans (Neutral.inert ..)
theorem neutral_newCondBranch (b : B) (i : Nat) : Neutral b (b.newCondBranch i) := by
  unfold B.newCondBranch
  split
  · exact Neutral.inert ..
  · split <;> exact Neutral.inert ..
theorem neutral_exitCondSection (b : B) (i : Nat) : Neutral b (b.exitCondSection i) := by
  unfold B.exitCondSection
  split
  · exact Neutral.inert ..
  · exact ((foldl_rel Neutral.refl Neutral.trans B.unionStep _ b (fun b r _ => Neutral.inert ..)).trans (neutral_check _ _ _)).trans (Neutral.inert ..)
theorem neutral_enterExceptSection (b : B) (i : Nat) : Neutral b (b.enterExceptSection i) := by
  unfold B.enterExceptSection
  split
  · exact Neutral.inert ..
  · exact Neutral.refl b
theorem Pre.neutral {σ : List Scope} {K : List Nat} {b b' : B} (h : Pre σ K b) (f : FF [] b b') (n : Neutral b b') : Pre σ K b' :=
  h.move f.f f.x (fun _ _ h => nomem _ h) (fun _ _ h => nomem _ h) (n.ldj h.ldj)

theorem Pre.beginStatement {σ : List Scope} {K : List Nat} {b : B} (h : Pre σ K b) (i : Nat) : Pre σ K (b.beginStatement i) :=
  h.neutral (ff_beginStatement [] b i) (neutral_beginStatement b i)

theorem ldj_addOrdinaryNodes (ns : List Nat) (b : B) (hl : ListsDisjoint b) : ListsDisjoint (addOrdinaryNodes b ns) :=
  ldj_of_eq (addOrdinaryNodes_exits ns b) (addOrdinaryNodes_continues ns b) hl

theorem ldj_enterLoopSection {b : B} (i h : Nat) (hl : ListsDisjoint b) : ListsDisjoint (b.enterLoopSection i h) := by
  have h1 : ListsDisjoint ((b.check (ahas i b.sectionEntry || ahas i b.continues) "assert: loop section entered twice").putContinues i []) := by
    refine ldj_put (b.check (ahas i b.sectionEntry || ahas i b.continues) "assert: loop section entered twice") true i [] _ ?_
      (fun x hx => (List.not_mem_nil hx).elim) (ldj_of_eq (by simp) (by simp) hl)
    intro c; cases c <;> rfl
  exact ldj_of_eq (by simp [B.enterLoopSection]) (by simp [B.enterLoopSection]) h1

theorem keeps_weak {σ : List Scope} {T : Nat} {curP : List Nat} {b b' : B} (W : WRel b b')
    (he : b'.exits = b.exits) (hc : b'.continues = b.continues) (hf : b'.finallySections = b.finallySections)
    (her : b'.errors = b.errors) (hr : b'.raises = b.raises)
    (hst : ∀ y, StartedAt b T y → StartedAt b' T y) : Keeps σ T curP b b' := by
  have hd := dictOf_congr he hc
  refine fun R h => h.transfer ?_ (fun c _ t G x _ hp => W.pj hp (by rw [hd]) (fun _ _ _ _ => by rw [hf]))
    (fun x hx => by rw [her]; exact hx) (fun hd' _ l x hl hxl => ⟨l, by rw [hr]; exact hl, hxl⟩)
  intro p hp
  rcases hp with h1 | ⟨c, t, htg, h1⟩ | ⟨h1, h2⟩
  · exact Or.inl (W.edges p h1)
  · exact Or.inr (Or.inl ⟨c, t, htg, W.ppat h1 (by rw [hd]) (fun _ _ _ _ => by rw [hf])⟩)
  · exact Or.inr (Or.inr ⟨h1, hst _ h2⟩)

theorem keeps_same {σ : List Scope} {T : Nat} {curP : List Nat} {b b' : B} (S : SRel b b') (N : Neutral b b') : Keeps σ T curP b b' :=
  keeps_weak S.w N.exits N.continues N.finallySections S.errors S.raises
    (fun _ h => S.startedAt h)

theorem srel_endStatement (b : B) (i : Nat) : SRel b (b.endStatement i) :=
  ⟨fun p h => by simpa using h, fun r x h => by simpa [B.deref] using h, by simp, by simp, by simp, by simp⟩

theorem keeps_endStatement {σ : List Scope} {T : Nat} {curP : List Nat} (b : B) (i : Nat) : Keeps σ T curP b (b.endStatement i) :=
  keeps_same (srel_endStatement b i) (neutral_endStatement b i)

theorem addOrdinaryNodes_append (b : B) (a c : List Nat) : addOrdinaryNodes b (a ++ c) = addOrdinaryNodes (addOrdinaryNodes b a) c := by
  simp [addOrdinaryNodes, List.foldl_append]

theorem addOrdinaryNodes_snoc (b : B) (ns : List Nat) (n : Nat) :
    addOrdinaryNodes b (ns ++ [n]) = (addOrdinaryNodes b ns).addOrdinaryNode n := by
  simp [addOrdinaryNodes, List.foldl_append]

theorem sk_ne_tnodes {i : Nat} {l : List Nat} : sk i ∉ tnodes l := sk_not_tnodes i l
theorem basicExprs_eq (σ : List Scope) : ∀ (items : List Expr) (b : B) (a : Acc),
    (basicExprs σ items b a).1 = addOrdinaryNodes b (withItemNodes items)
  | [], b, a => rfl
  | e :: es, b, a => by
    simp only [basicExprs, withItemNodes, basicExpr]
    rw [basicExprs_eq σ es]
    have : e.kidLams ++ e.id :: withItemNodes es = (e.kidLams ++ [e.id]) ++ withItemNodes es := by simp
    rw [this, addOrdinaryNodes_append, addOrdinaryNodes_snoc]

theorem processExit_jump (σ : List Scope) (b : B) (n : Nat) (stop : Stop) (t : Nat)
    (h1 : (enclosingFinally stop σ).1 = some t) :
    processExit σ b n stop false = b.addExitNode n t (guardsOf stop σ) := by
  have : enclosingFinally stop σ = (some t, guardsOf stop σ) := Prod.ext h1 rfl
  simp only [processExit, this, Bool.false_eq_true, if_false]

theorem processExit_raise (σ : List Scope) (b : B) (n : Nat) (stop : Stop) (t : Nat)
    (h1 : (enclosingFinally stop σ).1 = some t) :
    processExit σ b n stop true = (b.addExitNode n t (guardsOf stop σ)).connectRaiseNode n (enclosingExcept stop σ) := by
  have : enclosingFinally stop σ = (some t, guardsOf stop σ) := Prod.ext h1 rfl
  simp only [processExit, this, if_true]

theorem processContinue_eq (σ : List Scope) (b : B) (n : Nat) (t : Nat)
    (h1 : (enclosingFinally .loop σ).1 = some t) :
    processContinue σ b n = b.addContinueNode n t (guardsOf .loop σ) := by
  have : enclosingFinally .loop σ = (some t, guardsOf .loop σ) := Prod.ext h1 rfl
  simp only [processContinue, this]

theorem raiseFold_effect (node : Nat) (gs : List Nat) : ∀ (rs : List (Nat × List Nat)) (h : Nat), h ∈ gs →
    ∃ l, aget h (gs.foldl (B.raiseStep node) rs) = some l ∧ node ∈ l := by
  induction gs with
  | nil => intro rs h hh; cases hh
  | cons g gs ih =>
    intro rs h hh
    simp only [List.foldl_cons]
    rcases List.mem_cons.mp hh with hh | hh
    · subst hh
      have h1 : ∃ l, aget h (B.raiseStep node rs h) = some l ∧ node ∈ l := by
        unfold B.raiseStep
        split
        · rename_i old _
          exact ⟨old ++ [node], by rw [aget_aset]; simp, by simp⟩
        · exact ⟨[node], by rw [aget_aset]; simp, by simp⟩
      obtain ⟨l1, hl1, hn1⟩ := h1
      obtain ⟨l2, hl2, hs2⟩ := B.raises_foldl_grow node gs _ h l1 hl1
      exact ⟨l2, hl2, hs2 node hn1⟩
    · exact ih _ h hh

/-- `n` becomes an error node registered with every handler of `hs`; only `raises` and `errors` change. -/
theorem raise_effect (b : B) (n : Nat) (hs : List Nat) :
    Neutral b ((b.connectRaiseNode n hs).pushError n) ∧ ((b.connectRaiseNode n hs).pushError n).edges = b.edges ∧
    n ∈ ((b.connectRaiseNode n hs).pushError n).errors ∧
    ∀ h, h ∈ hs → ∃ l, aget h ((b.connectRaiseNode n hs).pushError n).raises = some l ∧ n ∈ l :=
  ⟨⟨rfl, rfl, rfl, rfl, rfl⟩, rfl, List.mem_append.mpr (Or.inr (List.mem_singleton.mpr rfl)),
    fun h hh => raiseFold_effect n hs b.raises h hh⟩

theorem mem_cons_self' {k : Nat} {l : List Nat} : k ∈ k :: l := List.mem_cons_self ..

theorem exitFinally_spec (b : B) (i beg : Nat) (direct : Bool)
    (hs : aget i b.finallySub = some (some beg, none)) (hnp : i ∉ b.pendingFinally)
    (hd : aget i b.finallyDirect = some direct) :
    WRel b (b.exitFinallySection i) ∧
    ((b.exitFinallySection i).exits = b.exits ∧ (b.exitFinallySection i).continues = b.continues ∧
      (b.exitFinallySection i).finallySections = b.finallySections ∧ (b.exitFinallySection i).errors = b.errors ∧
      (b.exitFinallySection i).raises = b.raises) ∧
    (∃ ends, aget i (b.exitFinallySection i).finallySub = some (some beg, some ends) ∧
      ∀ x, x ∈ b.leafSet → x ∈ (b.exitFinallySection i).deref ends) ∧
    (∀ g, g ≠ i → aget g (b.exitFinallySection i).finallySub = aget g b.finallySub) ∧
    (direct = true → (b.exitFinallySection i).leafSet = b.leafSet) := by
  -- the `assert` passes, so the section is closed in `b` itself; then the leaves are dropped unless control flowed in directly
  have hck : b.check (b.pendingFinally.contains i) "assert: Empty finally?" = b := by
    rw [show b.pendingFinally.contains i = false by simpa using hnp]; rfl
  have hb : b.exitFinallySection i =
      if direct then b.closeFinally i (some beg) else (b.closeFinally i (some beg)).setLeavesFresh [] := by
    simp only [B.exitFinallySection, hs, hd, hck]
  have f1 : ∀ g, g ≠ i → aget g (aset i (some beg, some b.leaves) b.finallySub) = aget g b.finallySub :=
    fun g hg => by rw [aget_aset, if_neg hg]
  have f2 : ∀ g bg e, aget g b.finallySub = some (some bg, some e) →
      aget g (aset i (some beg, some b.leaves) b.finallySub) = some (some bg, some e) := by
    intro g bg e hg
    rw [f1 g (fun e' => by rw [e', hs] at hg; cases hg)]; exact hg
  have f3 : aget i (aset i (some beg, some b.leaves) b.finallySub) = some (some beg, some b.leaves) := by
    rw [aget_aset, if_pos rfl]
  cases direct with
  | true =>
    rw [hb, if_pos rfl]
    exact ⟨⟨fun _ h => h, fun _ _ h => h, f2, rfl⟩, ⟨rfl, rfl, rfl, rfl, rfl⟩, ⟨b.leaves, f3, fun _ h => h⟩, f1, fun _ => rfl⟩
  | false =>
    rw [hb, if_neg Bool.false_ne_true]
    exact ⟨⟨fun _ h => h, fun r x h => B.deref_setLeavesFresh _ _ r x h, f2, rfl⟩, ⟨rfl, rfl, rfl, rfl, rfl⟩,
      ⟨b.leaves, f3, fun x h => B.deref_setLeavesFresh _ _ _ x h⟩, f1, (fun h => nomatch h)⟩

/-- `enter_finally_section i` at `b3`, a visit up to `b6` that gives the section its first node, `exit_finally_section i` -/
structure FinSection (i : Nat) (b3 b6 : B) : Prop where
  wait : Wait (b3.enterFinallySection i) i
  keeps : ∀ (σ : List Scope) (T : Nat) (curP : List Nat), Keeps σ T curP b6 (b6.exitFinallySection i)
  ldj : ListsDisjoint b6 → ListsDisjoint (b6.exitFinallySection i)
  complete : Complete (b6.exitFinallySection i) i
  ends : ∃ beg ends, aget i (b6.exitFinallySection i).finallySub = some (some beg, some ends) ∧
    ∀ x, x ∈ b6.leafSet → x ∈ (b6.exitFinallySection i).deref ends
  direct : b3.leafSet ≠ [] → (b6.exitFinallySection i).leafSet = b6.leafSet

theorem finallySection_spec {Kf : List Nat} {b3 b6 : B} {i : Nat} (hi : sk i ∉ Kf) (ff : FF Kf (b3.enterFinallySection i) b6)
    (hst : Wait (b3.enterFinallySection i) i → Started b6 i) : FinSection i b3 b6 := by
  have hsub5 : aget i (b3.enterFinallySection i).finallySub = some (none, none) := by
    show aget i (aset i _ _) = _
    rw [aget_aset]; simp
  have wait5 : Wait (b3.enterFinallySection i) i := by
    refine ⟨?_, none, none, hsub5⟩
    show i ∈ (if b3.pendingFinally.contains i then b3.pendingFinally else b3.pendingFinally ++ [i])
    split
    · rename_i h; simpa using h
    · simp
  have hdir5 : aget i (b3.enterFinallySection i).finallyDirect = some (!b3.leafSet.isEmpty) := by
    show aget i (aset i _ _) = _
    rw [aget_aset]; simp
  obtain ⟨hnp6, beg, e, hs6⟩ := hst wait5
  -- the visit does not close the section
  have he : e = none := by
    have := ff.x.fends i hi
    rw [hs6, hsub5] at this
    simpa using this
  subst he
  have hdir6 : aget i b6.finallyDirect = some (!b3.leafSet.isEmpty) := by rw [ff.x.fdir i hi]; exact hdir5
  obtain ⟨W, ⟨xe, xc, xf, xer, xr⟩, ⟨ends, hends, hsubE⟩, hoth, hdT⟩ := exitFinally_spec b6 i beg _ hs6 hnp6 hdir6
  refine ⟨wait5, fun σ T' _ => keeps_weak W xe xc xf xer xr ?_, ldj_of_eq xe xc,
    ⟨by rw [W.pendingFinally]; exact hnp6, beg, ends, hends⟩, ⟨beg, ends, hends, hsubE⟩,
    fun h => hdT (by simpa using h)⟩
  -- a started section stays started: section `i` gets its end set, the others are untouched
  intro y ⟨h1, e', h2⟩
  by_cases hTi : i = T'
  · subst hTi
    rw [hs6] at h2
    simp only [Option.some.injEq, Prod.mk.injEq] at h2
    exact ⟨by rw [W.pendingFinally]; exact h1, some ends, by rw [← h2.1]; exact hends⟩
  · exact ⟨by rw [W.pendingFinally]; exact h1, e', by rw [hoth T' (fun e => hTi e.symm)]; exact h2⟩

theorem pp_of_started {b : B} {c : Bool} {t i : Nat} {G : List Nat} {x' y : Nat} (hpj : PJ c b t (i :: G) x')
    (hst : StartedAt b i y) (hC : Complete b i) : PPat b c t (x', y) := by
  obtain ⟨l, j, pre, h1, h2, h3, h4, h5⟩ := hpj
  have hbeg : BeginOf b i y := by
    obtain ⟨_, bg, ends, hc⟩ := hC
    obtain ⟨hn, e, he⟩ := hst
    rw [hc] at he
    simp only [Option.some.injEq, Prod.mk.injEq] at he
    obtain ⟨he1, _⟩ := he
    exact ⟨hn, ends, by rw [hc, he1]⟩
  refine ⟨l, j, pre ++ i :: G, h1, h2, h3, ?_⟩
  rcases h5 with ⟨hp, hx⟩ | ⟨g, bg, ends, hl, hg, hx⟩
  · subst hp
    exact Or.inl ⟨i, G, rfl, hx, hbeg⟩
  · obtain ⟨pre', hp⟩ := List.getLast?_eq_some_iff.mp hl
    subst hp
    have hgc := h4 g (by simp)
    exact Or.inr ⟨pre', g, i, G, bg, ends, by simp, hgc.1, hg, hx, hbeg⟩

/-- The end nodes of the block are where the jump is after passing `i`. -/
theorem pj_after {b : B} {c : Bool} {t i : Nat} {G : List Nat} {x' x : Nat} (hpj : PJ c b t (i :: G) x') (hC : Complete b i)
    {bg ends : Nat} (hi : aget i b.finallySub = some (some bg, some ends)) (hx : x ∈ b.deref ends) : PJ c b t G x := by
  obtain ⟨l, j, pre, h1, h2, h3, h4, _⟩ := hpj
  refine ⟨l, j, pre ++ [i], h1, h2, by rw [h3]; simp, ?_, Or.inr ⟨i, bg, ends, by simp, hi, hx⟩⟩
  intro g hg
  rcases List.mem_append.mp hg with hg | hg
  · exact h4 g hg
  · simp only [List.mem_singleton] at hg; rw [hg]; exact hC

/-- The `finally` block run with a pending outcome: its pairs from the pending nodes become pending pairs of their jumps,
its normal ends are that outcome, one guard further. -/
theorem fin_convert (σ : List Scope) (T : Nat) (curP : List Nat) (i : Nat) (b : B) (Pj : List Nat) (F0 : Flow) (c : Bool)
    (tgt : Option Nat) (G : List Nat) (hC : Complete b i)
    (hends : ∃ bg ends, aget i b.finallySub = some (some bg, some ends) ∧ ∀ x, x ∈ F0.normal → x ∈ b.deref ends)
    (hne : F0.normal ≠ [] → ∃ x', x' ∈ Pj)
    (hPJ : ∀ x', x' ∈ Pj → ∃ t, tgt = some t ∧ PJ c b t (i :: G) x')
    (htg : ∀ t, tgt = some t → Tgt σ c t)
    (h : Pend σ i Pj b F0) :
    Pend σ T curP b { F0 with normal := [] } ∧ (∀ x, x ∈ F0.normal → ∃ t, tgt = some t ∧ PJ c b t G x) := by
  refine ⟨⟨?_, h.brk, h.cont, h.ret, h.raise, h.exempt⟩, ?_⟩
  · intro p hp
    rcases h.req p hp with h1 | h1 | ⟨h1, h2⟩
    · exact Or.inl h1
    · exact Or.inr (Or.inl h1)
    · obtain ⟨t, ht, hpj⟩ := hPJ p.1 h1
      exact Or.inr (Or.inl ⟨c, t, htg t ht, pp_of_started hpj h2 hC⟩)
  · intro x hx
    obtain ⟨x', hx'⟩ := hne (fun e => by rw [e] at hx; cases hx)
    obtain ⟨t, ht, hpj⟩ := hPJ x' hx'
    obtain ⟨bg, ends, he, hsub⟩ := hends
    exact ⟨t, ht, pj_after hpj hC he (hsub x hx)⟩

end Malt.Cfg
