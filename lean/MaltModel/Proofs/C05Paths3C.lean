import MaltModel.Proofs.C05Paths3T
/-!
# C05, Lemma B by induction over the statements, and Lemma C

`lemB_stmt`/`lemB_stmts`/`lemB_handlers` instantiate the rules of the visit judgement with `visitStmt`, `keys3` and `flowStmt`;
`pathCheck_build3` reads the result at the root function.
-/
namespace Malt.Cfg
open Malt.Py

/-- no `return`, and (outside a loop of this piece of code) no `break`/`continue` outcome -/
def NoEsc (il : Bool) (R : Flow) : Prop := R.ret = [] ∧ (il = false → R.brk = [] ∧ R.cont = [])

theorem noEsc_empty (il : Bool) (n : List Nat) (r : List (Nat × Nat)) : NoEsc il { req := r, normal := n } :=
  ⟨rfl, fun _ => ⟨rfl, rfl⟩⟩

theorem noEsc_seq {il : Bool} {R1 R2 : Flow} (h1 : NoEsc il R1) (h2 : NoEsc il R2) : NoEsc il (R1.seq R2) :=
  ⟨by simp [Flow.seq, h1.1, h2.1], fun h => by simp [Flow.seq, (h1.2 h).1, (h1.2 h).2, (h2.2 h).1, (h2.2 h).2]⟩

/-- `NoEsc` does not look at `normal`, the only part in which `alt` differs from `seq` -/
theorem noEsc_alt {il : Bool} {R1 R2 : Flow} (h1 : NoEsc il R1) (h2 : NoEsc il R2) : NoEsc il (R1.alt R2) :=
  noEsc_seq h1 h2

theorem noEsc_loopFlow {il : Bool} (hdr : Nat) (pre : List Nat) {body orelse : List Stmt}
    (hb : ∀ c, NoEsc true (flowBlock body c)) (ho : NoEsc il (flowBlock orelse [hdr])) :
    NoEsc il (loopFlow hdr pre body orelse) :=
  noEsc_seq (noEsc_empty il [] _) ⟨by simp [loopSum, (hb _).1, ho.1], ho.2⟩

theorem noEsc_resumeInto {il : Bool} {F : Flow} {put : List Nat → Flow} (hF : NoEsc il F) (hp : NoEsc il (put F.normal)) :
    NoEsc il (F.resumeInto put) :=
  noEsc_alt hp ⟨hF.1, hF.2⟩

/-- Each run of the `finally` block resumes an outcome the protected part `P` has. -/
theorem noEsc_try {il : Bool} {P : Flow} {final : List Stmt} (hP : NoEsc il P) (hF : ∀ c, NoEsc il (flowBlock final c)) :
    NoEsc il (tryFin P final) := by
  unfold tryFin
  split
  · exact hP
  have hn := flowBlock_nil_normal final
  refine noEsc_alt ⟨rfl, fun _ => ⟨rfl, rfl⟩⟩ (noEsc_alt (noEsc_resumeInto (hF _) ⟨rfl, fun _ => ⟨rfl, rfl⟩⟩)
    (noEsc_alt (noEsc_resumeInto (hF _) ⟨rfl, fun hil => ⟨?_, rfl⟩⟩) (noEsc_alt (noEsc_resumeInto (hF _) ⟨rfl, fun hil => ⟨rfl, ?_⟩⟩)
      (noEsc_resumeInto (hF _) ⟨?_, fun _ => ⟨rfl, rfl⟩⟩))))
  · show (flowBlock final P.brk).normal = []
    rw [(hP.2 hil).1]; exact hn
  · show (flowBlock final P.cont).normal = []
    rw [(hP.2 hil).2]; exact hn
  · show (flowBlock final P.ret).normal = []
    rw [hP.1]; exact hn

mutual
theorem flowStmt_noesc (s : Stmt) (il : Bool) (cur : List Nat) (h : stmtEscapes il s = false) : NoEsc il (flowStmt s cur) := by
  cases s with
  | ret i v => cases h
  | break_ i | continue_ i =>
    cases il with
    | false => cases h
    | true => exact ⟨rfl, fun h => nomatch h⟩
  | if_ i test body orelse =>
    obtain ⟨hb, ho⟩ := Bool.or_eq_false_iff.mp h
    exact noEsc_seq (noEsc_empty il [] _) (noEsc_alt (flowBlock_noesc body il _ hb) (flowBlock_noesc orelse il _ ho))
  | while_ i test body orelse =>
    obtain ⟨hb, ho⟩ := Bool.or_eq_false_iff.mp h
    exact noEsc_seq (noEsc_empty il [] _)
      (noEsc_loopFlow test.id [] (fun c => flowBlock_noesc body true c hb) (flowBlock_noesc orelse il _ ho))
  | for_ i target iter body orelse extra isAsync =>
    obtain ⟨hb, ho⟩ := Bool.or_eq_false_iff.mp h
    cases isAsync with
    | true => exact noEsc_empty il cur []
    | false =>
      exact noEsc_seq (noEsc_empty il [] _)
        (noEsc_loopFlow iter.id _ (fun c => flowBlock_noesc body true c hb) (flowBlock_noesc orelse il _ ho))
  | with_ i items body isAsync =>
    cases isAsync with
    | true => exact noEsc_empty il cur []
    | false => exact noEsc_seq (noEsc_empty il [] _) (flowBlock_noesc body il _ h)
  | try_ i body handlers orelse final =>
    obtain ⟨hbho, hf⟩ := Bool.or_eq_false_iff.mp h
    obtain ⟨hbh, ho⟩ := Bool.or_eq_false_iff.mp hbho
    obtain ⟨hb, hh⟩ := Bool.or_eq_false_iff.mp hbh
    have hb' := flowBlock_noesc body il cur hb
    exact noEsc_try (P := tryPre body handlers orelse cur)
      (noEsc_alt ⟨hb'.1, hb'.2⟩ (noEsc_alt (flowBlock_noesc orelse il (flowBlock body cur).normal ho)
        (flowHandlers_noesc handlers il (flowBlock body cur).raise hh))) (fun c => flowBlock_noesc final il c hf)
  | functionDef i name args body decs rets isAsync => cases isAsync <;> exact ⟨rfl, fun _ => ⟨rfl, rfl⟩⟩
  | _ => exact ⟨rfl, fun _ => ⟨rfl, rfl⟩⟩

theorem flowBlock_noesc : ∀ (ss : List Stmt) (il : Bool) (cur : List Nat), escapesL il ss = false → NoEsc il (flowBlock ss cur)
  | [], il, cur, _ => noEsc_empty il _ _
  | s :: ss, il, cur, h => by
    obtain ⟨h1, h2⟩ := Bool.or_eq_false_iff.mp h
    show NoEsc il (if cur.isEmpty then {} else _)
    split
    · exact noEsc_empty il [] []
    · exact noEsc_seq (flowStmt_noesc s il cur h1) (flowBlock_noesc ss il _ h2)

theorem flowHandlers_noesc (hs : List Stmt) (il : Bool) (rs : List Nat) (h : escapesL il hs = false) :
    NoEsc il (flowHandlers hs rs) := by
  match hs with
  | [] => exact noEsc_empty il [] []
  | s :: hs =>
    obtain ⟨h1, h2⟩ := Bool.or_eq_false_iff.mp h
    have ih := flowHandlers_noesc hs il rs h2
    cases s with
    | handler i ty nm hb =>
      refine noEsc_alt ?_ ih
      show NoEsc il (if rs.isEmpty then {} else _)
      split
      · exact noEsc_empty il [] []
      · exact noEsc_seq (noEsc_empty il [] _) (flowBlock_noesc hb il _ h1)
    | _ => exact ih
end

theorem frag3_emits : ∀ (il : Bool) (s : Stmt), frag3 il s = true → stmtEmits s = true := by
  intro il s h
  cases s with
  | functionDef => exact h
  | handler | other => cases h
  | for_ =>
    change (_ && _) = true at h
    simp only [Bool.and_eq_true] at h
    exact h.1.1.1
  | with_ =>
    change (_ && _) = true at h ⊢
    simp only [Bool.and_eq_true, Bool.or_eq_true] at h ⊢
    exact ⟨h.1.1, Or.inl h.2⟩
  | try_ =>
    change (_ && _) = true at h
    simp only [Bool.and_eq_true] at h
    exact h.2
  | _ => rfl

theorem withItemNodes_ne_nil {items : List Expr} (h : items ≠ []) : withItemNodes items ≠ [] := by
  cases items with
  | nil => exact (h rfl).elim
  | cons e es => simp [withItemNodes]

/- Each case is a rule at `(visitStmt σ s b a).1`, `keys3 s`, `flowStmt s cur`, which unfold to what the rule is stated with. -/
mutual
theorem lemB_stmt (s : Stmt) (σ : List Scope) (b : B) (a : Acc) (il : Bool) (cur : List Nat) (T : Nat) (curP : List Nat)
    (hfr : frag3 il s = true) (ho : OwnPre σ il) (E : Entry σ T curP (keys3 s) cur b) :
    Visit σ T curP (keys3 s) true b (visitStmt σ s b a).1 (flowStmt s cur) := by
  cases s with
  | ret i v => exact Visit.ret_ (lamsL v) i E
  | raise i e c =>
    show Visit σ T curP _ true b _ { req := (emit cur (lamsL e ++ (lamsL c ++ [i]))).1, raise := (emit cur (lamsL e ++ (lamsL c ++ [i]))).2 }
    rw [← List.append_assoc]
    exact Visit.raise_ (lamsL e ++ lamsL c) i E
  | break_ i => exact (ho.loop (hfr : il = true)).elim fun L hL => Visit.break_ i L E hL
  | continue_ i => exact (ho.loop (hfr : il = true)).elim fun L hL => Visit.continue_ i L E hL
  | functionDef i name args body decs rets isAsync =>
    cases isAsync with
    | true => cases hfr
    | false => exact Visit.nodes σ T curP b cur [i] true (fun _ => by simp) E.src E.pre.ldj
  | classDef i name bases kws body decs => exact Visit.nodes σ T curP b cur [i] true (fun _ => by simp) E.src E.pre.ldj
  | with_ i items body isAsync =>
    change (_ && _) = true at hfr
    simp only [Bool.and_eq_true, Bool.not_eq_true', List.isEmpty_eq_false_iff] at hfr
    obtain ⟨⟨has, hfb⟩, hit⟩ := hfr
    subst has
    have V := Visit.seq E
      (fun E => Visit.nodes σ T curP b cur (withItemNodes items) true (fun _ => withItemNodes_ne_nil hit) E.src E.pre.ldj) (Or.inl rfl)
      (lemB_stmts body σ il T [] hfb ho _ (basicExprs σ items b a).2 _)
    rw [← basicExprs_eq σ items b a] at V
    exact V
  | if_ i test body orelse =>
    obtain ⟨hfb, hfo⟩ := Bool.and_eq_true_iff.mp hfr
    show Visit σ T curP _ true b _ (Flow.seq { req := (emit cur (test.kidLams ++ [test.id])).1 }
      (Flow.alt (flowBlock body (emit cur (test.kidLams ++ [test.id])).2) (flowBlock orelse (emit cur (test.kidLams ++ [test.id])).2)))
    exact (Visit.if_ i test.kidLams test.id (E.beginStatement i) (lemB_stmts body σ il T [] hfb ho _ _ _)
      (lemB_stmts orelse σ il T [] hfo ho _ _ _)).bracket i
  | while_ i test body orelse =>
    obtain ⟨hfb, hfo⟩ := Bool.and_eq_true_iff.mp hfr
    show Visit σ T curP _ true b _ (Flow.seq { req := (emit cur test.kidLams).1 ++ cross (emit cur test.kidLams).2 test.id }
      (loopSum test.id (flowBlock body [test.id]) (flowBlock orelse [test.id])))
    exact (Visit.loop i test.id test.kidLams (E.beginStatement i)
      (lemB_stmts body (Scope.loop i :: σ) true T [] hfb (ho.loop_scope i) _ _ _) (lemB_stmts orelse σ il T [] hfo ho _ _ _)).bracket i
  | for_ i target iter body orelse extra isAsync =>
    change (_ && _) = true at hfr
    simp only [Bool.and_eq_true, Bool.not_eq_true', List.isEmpty_iff] at hfr
    obtain ⟨⟨⟨has, hex⟩, hfb⟩, hfo⟩ := hfr
    subst has; subst hex
    show Visit σ T curP _ true b _ (Flow.seq { req := (emit cur iter.kidLams).1 ++ cross (emit cur iter.kidLams).2 iter.id }
      (loopSum iter.id (flowBlock body [iter.id]) (flowBlock orelse [iter.id])))
    exact (Visit.loop i iter.id iter.kidLams (E.beginStatement i)
      (lemB_stmts body (Scope.loop i :: σ) true T [] hfb (ho.loop_scope i) _ _ _) (lemB_stmts orelse σ il T [] hfo ho _ _ _)).bracket i
  | try_ i body handlers orelse final =>
    change (_ && _) = true at hfr
    simp only [Bool.and_eq_true] at hfr
    obtain ⟨⟨⟨⟨⟨hfb, hfh⟩, hfo⟩, hff⟩, hfin⟩, hemB⟩ := hfr
    rw [flowStmt_try]
    have ho' := ho.try_scope i (!final.isEmpty) (handlerIds handlers)
    have hperm := tryKeys_perm i body handlers orelse final
    have E' := (E.beginStatement i).perm hperm
    let r1 := visitStmts (Scope.try_ i (!final.isEmpty) (handlerIds handlers) :: σ) body (b.beginStatement i) a
    let r2 := tryR2 i (Scope.try_ i (!final.isEmpty) (handlerIds handlers) :: σ) orelse r1
    have P := Visit.protected_ (H := flowHandlers handlers) i (!final.isEmpty) (handlerIds handlers) E'
      (fun hid h => List.mem_append.mpr (Or.inr (sk_handlerIds_mem3 il handlers hfh hid h)))
      (fun E1 => hemB ▸ lemB_stmts body _ il T curP hfb ho' _ a cur E1)
      (fun E1 => orelse_section i _ orelse r1.1 r1.2 _ T E1 (lemB_stmts orelse _ il T [] hfo ho'))
      (fun E1 hrs => handlers_section σ handlers r2.1 r2.2 _ _ T E1 hrs (lemB_handlers handlers σ il T hfh ho))
    cases final with
    | nil =>
      show Visit σ T curP _ true b _ (tryPre body handlers orelse cur)
      exact ((Visit.try_nofin P).weaken (fun _ hk => hperm.mem_iff.mpr hk)).bracket i
    | cons f0 frest =>
      obtain ⟨hemF, hesc⟩ := Bool.and_eq_true_iff.mp hfin
      have hN := flowHandlers_noesc handlers false (flowBlock body cur).raise (by simpa using hesc)
      show Visit σ T curP _ true b _ (tryFinF (tryPre body handlers orelse cur) (flowBlock (f0 :: frest)))
      exact ((Visit.try_fin P (fun _ hk => List.mem_append_right _ (List.mem_append_right _ (List.mem_append_right _ hk))) E'.tok
        (fun cur' cP E1 => hemF ▸ lemB_stmts (f0 :: frest) σ il i cP hff ho _ _ cur' E1)
        (flowBlock_nil_cur _ (by simp)) ⟨(hN.2 rfl).1, (hN.2 rfl).2, hN.1⟩).weaken (fun _ hk => hperm.mem_iff.mpr hk)).bracket i
  | handler | other => cases hfr
  -- delete, assign, augAssign, annAssign, assert_, import_, importFrom, global, nonlocal, expr, pass
  | _ => exact Visit.simple σ T curP b cur _ _ E.pre.ldj E.src

theorem lemB_stmts (ss : List Stmt) (σ : List Scope) (il : Bool) (T : Nat) (curP : List Nat) (hfr : frag3L il ss = true)
    (ho : OwnPre σ il) (b : B) (a : Acc) (cur : List Nat) (E : Entry σ T curP (keysL3 ss) cur b) :
    Visit σ T curP (keysL3 ss) (blockEmits ss) b (visitStmts σ ss b a).1 (flowBlock ss cur) := by
  match ss with
  | [] => exact Visit.nodes σ T curP b cur [] false nofun E.src E.pre.ldj
  | s :: ss =>
    obtain ⟨hf1, hf2⟩ := Bool.and_eq_true_iff.mp hfr
    have V := Visit.seq E (lemB_stmt s σ b a il cur T curP hf1 ho) (Or.inl rfl)
      (lemB_stmts ss σ il T [] hf2 ho _ (visitStmt σ s b a).2 _)
    rw [show blockEmits (s :: ss) = true from frag3_emits il s hf1]
    show Visit σ T curP _ true b _ (if cur.isEmpty then {} else Flow.seq (flowStmt s cur) (flowBlock ss (flowStmt s cur).normal))
    split
    · exact V.dead
    · exact V

theorem lemB_handlers (hs : List Stmt) (σ : List Scope) (il : Bool) (T : Nat) (hH : frag3H il hs = true) (ho : OwnPre σ il)
    (rep L0 : Nat) (rs : List Nat) (b : B) (a : Acc) (E N : List Nat) (I : BranchIn σ rep L0 (keysL3 hs) b E N)
    (hrs : ∀ hid, hid ∈ handlerIds hs → ∀ x, x ∈ rs → ∃ l, aget hid b.raises = some l ∧ x ∈ l) :
    Branches σ T rep (keysL3 hs) b (((visitHandlers σ rep hs b a).1.newCondBranch rep).exitCondSection rep) N E
      (flowHandlers hs rs) := by
  match hs with
  | [] => exact Branches.close I
  | s :: hs =>
    cases s with
    | handler hid ty nm hb =>
      change (_ && _) = true at hH
      simp only [Bool.and_eq_true, List.isEmpty_iff] at hH
      obtain ⟨⟨hnm, hfb⟩, hHs⟩ := hH
      subst hnm
      exact handlers_cons σ rep L0 hid ty hb hs rs b a E N il T hHs I hrs
        (lemB_stmts hb σ il T [] hfb ho) (lemB_handlers hs σ il T hHs ho)
    | _ => cases hH
end

/-- Lemma C: the model's graph of the root function passes `pathCheck`. -/
theorem pathCheck_build3 (i : Nat) (name : String) (args : Expr) (body : List Stmt) (decs rets : List Expr)
    (hfr : fnFrag3 (.functionDef i name args body decs rets false) = true)
    (hdk : fnDistinctKeys3 (.functionDef i name args body decs rets false) = true) :
    pathCheck (.functionDef i name args body decs rets false)
      (rootBuilder (.functionDef i name args body decs rets false)).1.build = true := by
  simp only [fnFrag3, Bool.not_false, Bool.true_and] at hfr
  obtain ⟨hhead, hreq, hleaf, herr⟩ := fn_graph i args.kidLams args.id (nodupB_sound _ hdk)
    (lemB_stmts body [Scope.fn i] false 0 [] hfr ⟨⟨i, rfl⟩, fun h => by cases h⟩ _ (basicExpr [Scope.fn i] args _ {}).2 _)
  simp only [pathCheck, Bool.and_eq_true, beq_iff_eq, List.all_eq_true, Bool.or_eq_true, List.contains_eq_mem,
    decide_eq_true_eq]
  refine ⟨⟨hhead, hreq⟩, fun x hx => ?_⟩
  rcases List.mem_append.mp (hx : x ∈ (flowFn _).normal ++ ((flowFn _).ret ++ ((flowFn _).raise ++ (flowFn _).exempt))) with h | h
  · exact Or.inl (hleaf x (List.mem_append.mpr (Or.inl h)))
  · rcases List.mem_append.mp h with h | h
    · exact Or.inl (hleaf x (List.mem_append.mpr (Or.inr h)))
    · exact Or.inr (herr x h)

/- `change (_ && _) = true at h` exposes the body of the predicate at a constructor by definitional unfolding. -/
mutual
theorem frag3_of_supported : ∀ (s : Stmt) (il : Bool), s.supported il = true → stmtNoJump s = true → stmtShape s = true →
    frag3 il s = true := by
  intro s il h hj hs
  cases s with
  | functionDef | break_ | continue_ => exact h
  | handler | other => cases h
  | for_ i target iter body orelse extra isAsync =>
    change (_ && _) = true at h hj hs ⊢
    simp only [Bool.and_eq_true] at h hj hs ⊢
    exact ⟨⟨⟨h.1.1, hs.1.1⟩, frag3L_of_supported body true h.1.2 hj.1 hs.1.2⟩, frag3L_of_supported orelse il h.2 hj.2 hs.2⟩
  | while_ i test body orelse =>
    change (_ && _) = true at h hj hs ⊢
    simp only [Bool.and_eq_true] at h hj hs ⊢
    exact ⟨frag3L_of_supported body true h.1 hj.1 hs.1, frag3L_of_supported orelse il h.2 hj.2 hs.2⟩
  | if_ i test body orelse =>
    change (_ && _) = true at h hj hs ⊢
    simp only [Bool.and_eq_true] at h hj hs ⊢
    exact ⟨frag3L_of_supported body il h.1 hj.1 hs.1, frag3L_of_supported orelse il h.2 hj.2 hs.2⟩
  | with_ i items body isAsync =>
    change (_ && _) = true at h hs ⊢
    simp only [Bool.and_eq_true] at h hs ⊢
    exact ⟨⟨h.1, frag3L_of_supported body il h.2 hj hs.2⟩, hs.1⟩
  | try_ i body handlers orelse final =>
    change (_ && _) = true at h hj hs ⊢
    simp only [Bool.and_eq_true] at h hj hs ⊢
    obtain ⟨⟨⟨hb, hh⟩, ho⟩, hf⟩ := h
    obtain ⟨⟨⟨⟨jb, jh⟩, jo⟩, jf⟩, jesc⟩ := hj
    obtain ⟨⟨⟨⟨⟨semB, semF⟩, sb⟩, sh⟩, so⟩, sf⟩ := hs
    refine ⟨⟨⟨⟨⟨frag3L_of_supported body il hb jb sb, frag3H_of_supported handlers il hh jh sh⟩,
      frag3L_of_supported orelse il ho jo so⟩, frag3L_of_supported final il hf jf sf⟩, ?_⟩, semB⟩
    cases hfe : final.isEmpty with
    | true => rfl
    | false =>
      rw [hfe] at jesc semF
      exact Bool.and_eq_true_iff.mpr ⟨semF, jesc⟩
  | _ => rfl

theorem frag3L_of_supported : ∀ (ss : List Stmt) (il : Bool), supportedL il ss = true → noJumpL ss = true → shapeL ss = true →
    frag3L il ss = true
  | [], _, _, _, _ => rfl
  | s :: ss, il, h, hj, hs => by
    change (_ && _) = true at h hj hs ⊢
    simp only [Bool.and_eq_true] at h hj hs ⊢
    exact ⟨frag3_of_supported s il h.1 hj.1 hs.1, frag3L_of_supported ss il h.2 hj.2 hs.2⟩

theorem frag3H_of_supported : ∀ (hs : List Stmt) (il : Bool), handlersOk il hs = true → noJumpL hs = true → shapeL hs = true →
    frag3H il hs = true
  | [], _, _, _, _ => rfl
  | s :: hs, il, h, hj, hsh => by
    cases s with
    | handler i ty nm hb =>
      change (_ && _) = true at h hj hsh ⊢
      simp only [Bool.and_eq_true] at h hj hsh ⊢
      exact ⟨⟨h.1.1, frag3L_of_supported hb il h.1.2 hj.1 hsh.1⟩, frag3H_of_supported hs il h.2 hj.2 hsh.2⟩
    | _ => cases h
end

theorem fnFrag3_of (i : Nat) (name : String) (args : Expr) (body : List Stmt) (decs rets : List Expr) (isAsync : Bool)
    (hs : fnSupported (.functionDef i name args body decs rets isAsync) = true)
    (hsh : fnParsedShape (.functionDef i name args body decs rets isAsync) = true)
    (hj : fnNoJumpInHandlerOfTryWithFinally (.functionDef i name args body decs rets isAsync) = true) :
    fnFrag3 (.functionDef i name args body decs rets isAsync) = true := by
  simp only [fnSupported, Bool.and_eq_true] at hs
  simp only [fnFrag3, Bool.and_eq_true]
  exact ⟨hs.1, frag3L_of_supported body false hs.2 hj hsh⟩

end Malt.Cfg
