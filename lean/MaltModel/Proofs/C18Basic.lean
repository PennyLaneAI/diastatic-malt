import MaltModel.Conv.AnfSpec
import MaltModel.Py.SemAnf
import Std.Data.String.ToNat
namespace Malt.Anf
open Malt.Py

/-! One equation of each function of the fragment and of the semantics: their equation lemmas (`f.eq_k`) are created here, once (DESIGN.md §11.10 (ii)). -/
theorem eqns_expr (cfg : Config) (ov : Option Ctx) (i n : Nat) (k r : String) :
    fragE (.const i k r) = true ∧ noWalrus (.const i k r) = true ∧ namesE (.const i k r) = [] ∧
      writesE (.const i k r) = [] ∧ pureE (.const i k r) = true ∧ okT cfg (.const i k r) = true ∧
      resPure cfg (.const i k r) = true ∧ adjustCtx ov (.const i k r) = .const i k r ∧
      visitE cfg (.const i k r) n = .ok (.const i k r, [], n) := by
  simp only [fragE, noWalrus, namesE, writesE, pureE, okT, resPure, adjustCtx, visitE, and_self]

theorem eqns_exprs (cfg : Config) (ov : Option Ctx) (pk fld : String) (n : Nat) :
    fragEs [] = true ∧ noWalruss [] = true ∧ namesEs [] = [] ∧ writesEs [] = [] ∧ pureEs [] = true ∧
      okTs cfg [] = true ∧ resKids cfg pk fld [] = true ∧ adjustCtxs ov [] = [] ∧ visitEs cfg [] n = .ok ([], [], n) := by
  simp only [fragEs, noWalruss, namesEs, writesEs, pureEs, okTs, resKids, adjustCtxs, visitEs, and_self]

theorem eqns_stmt (cfg : Config) (i : Nat) :
    fragS cfg (.pass i) = true ∧ fragSs cfg [] = true ∧ fragHs cfg [] = true ∧ namesS (.pass i) = [] ∧ namesSs [] = [] := by
  simp only [fragS, fragSs, fragHs, namesS, namesSs, and_self]

open Malt.SemAnf in
theorem eqns_sem (O : Oracle) (i : Nat) (k r s : String) (c : Ctx) (x v : Val) (σ : St) :
    evalE O (.const i k r) σ = (.ok (constVal k r), σ) ∧ evalOpts O [] σ = (.ok [], σ) ∧ evalArgs O [] σ = (.ok [], σ) ∧
      evalCmp O x [] [] σ = (.error unsupported, σ) ∧ execS O (.pass i) σ = (.normal, σ) ∧ execB O [] σ = (.normal, σ) ∧
      execH O [] x σ = (.raise x, σ) ∧ assignTo O (.name i s c) v σ = (.normal, σ.set s v) ∧
      assignAll O [] [] σ = (.normal, σ) ∧ assignEach O [] v σ = (.normal, σ) ∧
      deleteOne O (.name i s c) σ = (.normal, σ.set s .undef) ∧ deleteAll O [] σ = (.normal, σ) := by
  simp only [evalE, evalOpts, evalArgs, evalCmp, execS, execB, execH, assignTo, assignAll, assignEach, deleteOne,
    deleteAll, and_self]

theorem bind_ok {ε α β : Type} {x : Except ε α} {f : α → Except ε β} {b : β} :
    (x >>= f) = .ok b ↔ ∃ a, x = .ok a ∧ f a = .ok b := by
  cases x with
  | error e => simp [bind, Except.bind]
  | ok a => simp [bind, Except.bind]

def Sat {ε α : Type} (x : Except ε α) (Q : α → Prop) : Prop := ∀ a, x = .ok a → Q a

theorem Sat.pure {ε α : Type} {a : α} {Q : α → Prop} (h : Q a) : Sat (Pure.pure a : Except ε α) Q :=
  fun _ e => Except.ok.inj e ▸ h

theorem Sat.ok {ε α : Type} (a : α) : Sat (.ok a : Except ε α) (· = a) := fun _ h => (Except.ok.inj h).symm

theorem Sat.and {ε α : Type} {x : Except ε α} {P Q : α → Prop} (h1 : Sat x P) (h2 : Sat x Q) : Sat x fun a => P a ∧ Q a :=
  fun a h => ⟨h1 a h, h2 a h⟩

theorem Sat.mono {ε α : Type} {x : Except ε α} {P Q : α → Prop} (h : Sat x P) (hpq : ∀ a, P a → Q a) : Sat x Q :=
  fun a ha => hpq a (h a ha)

theorem Sat.self {ε α : Type} (x : Except ε α) : Sat x (x = .ok ·) := fun _ h => h

theorem Sat.error {ε α : Type} {e : ε} {Q : α → Prop} : Sat (.error e : Except ε α) Q := fun _ h => nomatch h

theorem Sat.bind {ε α β : Type} {x : Except ε α} {f : α → Except ε β} {P : α → Prop} {Q : β → Prop} (hx : Sat x P)
    (hf : ∀ a, P a → Sat (f a) Q) : Sat (x >>= f) Q := fun b e =>
  let ⟨a, ha, hb⟩ := bind_ok.mp e
  hf a (hx a ha) b hb

theorem Sat.bind_eq {ε α β : Type} {x : Except ε α} {f : α → Except ε β} {Q : β → Prop} (hf : ∀ a, x = .ok a → Sat (f a) Q) :
    Sat (x >>= f) Q :=
  Sat.bind (Sat.self x) hf

theorem Sat.ite {ε α : Type} {c : Prop} [Decidable c] {x y : Except ε α} {Q : α → Prop} (hx : c → Sat x Q) (hy : ¬c → Sat y Q) :
    Sat (if c then x else y) Q := by
  by_cases hc : c
  · rw [if_pos hc]; exact hx hc
  · rw [if_neg hc]; exact hy hc

theorem Sat.guard {ε α : Type} {c : Prop} [Decidable c] {e : ε} {x : Except ε α} {Q : α → Prop} (h : ¬c → Sat x Q) :
    Sat (if c then .error e else x) Q := .ite (fun _ => .error) h

def HoistsP (P : Expr → Prop) : Nat → List Stmt → Nat → Prop
  | n, [], n' => n' = n
  | n, s :: D, n' => (∃ x, s = tmpAssign n x ∧ P x) ∧ HoistsP P (n + 1) D n'

theorem HoistsP.append {P : Expr → Prop} : ∀ {D1 : List Stmt} {n m n' : Nat} {D2 : List Stmt},
    HoistsP P n D1 m → HoistsP P m D2 n' → HoistsP P n (D1 ++ D2) n'
  | [], n, m, n', D2, h1, h2 => by simp [HoistsP] at h1; subst h1; simpa using h2
  | s :: D1, n, m, n', D2, h1, h2 => by
      simp only [HoistsP, List.cons_append] at h1 ⊢
      exact ⟨h1.1, HoistsP.append h1.2 h2⟩

theorem HoistsP.mono {P Q : Expr → Prop} (hpq : ∀ x, P x → Q x) : ∀ {D : List Stmt} {n n' : Nat},
    HoistsP P n D n' → HoistsP Q n D n'
  | [], n, n', h => h
  | s :: D, n, n', h => by
      obtain ⟨⟨x, hs, hp⟩, h2⟩ := h
      exact ⟨⟨x, hs, hpq x hp⟩, HoistsP.mono hpq h2⟩

theorem HoistsP.le {P : Expr → Prop} : ∀ {D : List Stmt} {n n' : Nat}, HoistsP P n D n' → n ≤ n'
  | [], n, n', h => by simp [HoistsP] at h; omega
  | _ :: D, n, n', h => by have := HoistsP.le h.2; omega

theorem HoistsP.nil_iff {P : Expr → Prop} {n n' : Nat} : HoistsP P n [] n' ↔ n' = n := Iff.rfl

theorem HoistsOk.iff_hoistsP (cfg : Config) : ∀ {D : List Stmt} {n n' : Nat},
    HoistsOk cfg n D n' ↔ HoistsP (fun x => quiet cfg x = true) n D n'
  | [], _, _ => Iff.rfl
  | _ :: _, _, _ => and_congr Iff.rfl (HoistsOk.iff_hoistsP cfg)

theorem HoistsOk.nil (cfg : Config) (n : Nat) : HoistsOk cfg n [] n := rfl

theorem HoistsOk.nil_iff {cfg : Config} {n n' : Nat} : HoistsOk cfg n [] n' ↔ n' = n := Iff.rfl

theorem HoistsOk.append {cfg : Config} : ∀ {D1 : List Stmt} {n m n' : Nat} {D2 : List Stmt},
    HoistsOk cfg n D1 m → HoistsOk cfg m D2 n' → HoistsOk cfg n (D1 ++ D2) n' :=
  fun h1 h2 => (HoistsOk.iff_hoistsP cfg).mpr (((HoistsOk.iff_hoistsP cfg).mp h1).append ((HoistsOk.iff_hoistsP cfg).mp h2))

theorem HoistsOk.le {cfg : Config} : ∀ {D : List Stmt} {n n' : Nat}, HoistsOk cfg n D n' → n ≤ n' :=
  fun h => ((HoistsOk.iff_hoistsP cfg).mp h).le

theorem tmpName_toList (k : Nat) : (tmpName k).toList = 't' :: 'm' :: 'p' :: '_' :: (Nat.repr (1001 + k)).toList := by
  simp [tmpName, String.toList_append]

theorem isTempName_tmpName (k : Nat) : isTempName (tmpName k) = true := by
  unfold isTempName
  rw [tmpName_toList]
  simp only [String.ofList_toList, Nat.toNat?_repr]
  simp

theorem ne_tmpName {y : String} (h : isTempName y = false) (k : Nat) : y ≠ tmpName k := fun heq => by
  rw [heq, isTempName_tmpName] at h; exact Bool.noConfusion h

theorem tmpName_inj {a b : Nat} (h : tmpName a = tmpName b) : a = b := by
  have := congrArg String.toList h
  rw [tmpName_toList, tmpName_toList] at this
  simp only [List.cons.injEq, true_and] at this
  have h2 : Nat.repr (1001 + a) = Nat.repr (1001 + b) := String.toList_inj.mp this
  have := Nat.repr_inj.mp h2
  omega

theorem tmpName_trivial (i n : Nat) (c : Ctx) : isTrivial (.name i (tmpName n) c) = true := by
  have h : ∀ s : String, tmpName n ≠ s → (tmpName n == s) = false := by
    intro s hs; simpa using hs
  have key : ∀ s : String, s.toList.head? ≠ some 't' → tmpName n ≠ s := by
    intro s hs heq
    apply hs
    rw [← heq, tmpName_toList]
    rfl
  simp only [isTrivial]
  rw [h _ (key "True" (by decide)), h _ (key "False" (by decide)), h _ (key "None" (by decide))]
  rfl

structure EnsInv {α : Type} (cfg : Config) (q okc : α → Bool) (x : α) (n : Nat) (r : α × List Stmt × Nat) : Prop where
  hoists : HoistsOk cfg n r.2.1 r.2.2
  quiet : q r.1 = true
  ok : okc r.1 = true
  same : r.2.1 = [] → r.1 = x

theorem hoist_spec (cfg : Config) (pk fld : String) (x : Expr) (n : Nat) (hq : quiet cfg x = true) :
    EnsInv cfg (quiet cfg) (okChild cfg pk fld) x n (hoist x n) := by
  refine ⟨⟨⟨x, rfl, hq⟩, rfl⟩, by simp [hoist, quiet], ?_, nofun⟩
  simp only [hoist, okChild, tmpName_trivial, Bool.true_or]

theorem okChild_plain (cfg : Config) (pk fld : String) (e : Expr) (hw : isWrapperB e = false) :
    okChild cfg pk fld e = (isTrivial e || !shouldTransform cfg pk fld (kindOf e)) := by
  cases e <;> cases hw <;> rfl

theorem ensure_plain_cases (cfg : Config) (pk fld : String) (x : Expr) (n : Nat) (hw : isWrapperB x = false) :
    (ensure cfg pk fld x n = (x, [], n) ∧ okChild cfg pk fld x = true) ∨
    (ensure cfg pk fld x n = hoist x n ∧ okChild cfg pk fld x = false) := by
  have he : ensure cfg pk fld x n =
      if isTrivial x then (x, [], n) else if shouldTransform cfg pk fld (kindOf x) then hoist x n else (x, [], n) := by
    cases x <;> cases hw <;> rfl
  rw [he, okChild_plain cfg pk fld x hw]
  by_cases h1 : isTrivial x = true
  · simp [h1]
  · by_cases h2 : shouldTransform cfg pk fld (kindOf x) = true
    · right; simp [h1, h2]
    · left; simp [h1, h2]

mutual
theorem ensure_ind_e {P : Expr → Prop} {Ps : List Expr → Prop} (none : P .noneMarker)
    (keyword : ∀ i a h v, P v → P (.keyword i a h v)) (starred : ∀ i v c, P v → P (.starred i v c))
    (withitem : ∀ i ce ov, P ce → Ps ov → P (.withitem i ce ov)) (plain : ∀ e, isWrapperB e = false → P e)
    (nil : Ps []) (cons : ∀ e es, P e → Ps es → Ps (e :: es)) : ∀ e, P e
  | .noneMarker => none
  | .keyword i a h v => keyword i a h v (ensure_ind_e none keyword starred withitem plain nil cons v)
  | .starred i v c => starred i v c (ensure_ind_e none keyword starred withitem plain nil cons v)
  | .withitem i ce ov => withitem i ce ov (ensure_ind_e none keyword starred withitem plain nil cons ce)
      (ensure_ind_es none keyword starred withitem plain nil cons ov)
  | .name .. | .const .. | .attr .. | .subscript .. | .call .. | .boolop .. | .unary .. | .binop .. | .compare ..
  | .ifexp .. | .lambda .. | .seq .. | .namedexpr .. | .comp .. | .comprehension .. | .arguments .. | .arg ..
  | .other .. => plain _ rfl
theorem ensure_ind_es {P : Expr → Prop} {Ps : List Expr → Prop} (none : P .noneMarker)
    (keyword : ∀ i a h v, P v → P (.keyword i a h v)) (starred : ∀ i v c, P v → P (.starred i v c))
    (withitem : ∀ i ce ov, P ce → Ps ov → P (.withitem i ce ov)) (plain : ∀ e, isWrapperB e = false → P e)
    (nil : Ps []) (cons : ∀ e es, P e → Ps es → Ps (e :: es)) : ∀ es, Ps es
  | [] => nil
  | e :: es => cons e es (ensure_ind_e none keyword starred withitem plain nil cons e)
      (ensure_ind_es none keyword starred withitem plain nil cons es)
end

theorem ensure_ind {P : Expr → Prop} {Ps : List Expr → Prop} (none : P .noneMarker)
    (keyword : ∀ i a h v, P v → P (.keyword i a h v)) (starred : ∀ i v c, P v → P (.starred i v c))
    (withitem : ∀ i ce ov, P ce → Ps ov → P (.withitem i ce ov)) (plain : ∀ e, isWrapperB e = false → P e)
    (nil : Ps []) (cons : ∀ e es, P e → Ps es → Ps (e :: es)) : (∀ e, P e) ∧ ∀ es, Ps es :=
  ⟨ensure_ind_e none keyword starred withitem plain nil cons, ensure_ind_es none keyword starred withitem plain nil cons⟩

theorem ensure_specs (cfg : Config) (pk fld : String) :
    (∀ (x : Expr) (n : Nat), quiet cfg x = true → EnsInv cfg (quiet cfg) (okChild cfg pk fld) x n (ensure cfg pk fld x n)) ∧
    (∀ (xs : List Expr) (n : Nat), quiets cfg xs = true →
      EnsInv cfg (quiets cfg) (okChildren cfg pk fld) xs n (ensureList cfg pk fld xs n)) := by
  refine ensure_ind ?_ ?_ ?_ ?_ ?_ ?_ ?_
  · exact fun n _ => ⟨rfl, rfl, rfl, fun _ => rfl⟩
  · intro i a h v ih n hq
    have := ih n (by simpa [quiet] using hq)
    exact ⟨this.hoists, by simpa [ensure, quiet] using this.quiet, by simpa [ensure, okChild] using this.ok,
      fun hn => by simp only [ensure]; rw [this.same hn]⟩
  · intro i v c ih n hq
    have := ih n (by simpa [quiet] using hq)
    exact ⟨this.hoists, by simpa [ensure, quiet] using this.quiet, by simpa [ensure, okChild] using this.ok,
      fun hn => by simp only [ensure]; rw [this.same hn]⟩
  · intro i ce ov ih1 ih2 n hq
    simp only [quiet, Bool.and_eq_true] at hq
    have h1 := ih1 n hq.1
    have h2 := ih2 (ensure cfg pk fld ce n).2.2 hq.2
    refine ⟨h1.hoists.append h2.hoists, ?_, ?_, fun hn => ?_⟩
    · simp [ensure, quiet, h1.quiet, h2.quiet]
    · simp [ensure, okChild, h1.ok, h2.ok]
    · simp only [ensure, List.append_eq_nil_iff] at hn ⊢
      rw [h1.same hn.1, h2.same hn.2]
  · intro x hw n hq
    rcases ensure_plain_cases cfg pk fld x n hw with ⟨h, hok⟩ | ⟨h, -⟩
    · rw [h]; exact ⟨rfl, hq, hok, fun _ => rfl⟩
    · rw [h]; exact hoist_spec cfg pk fld x n hq
  · exact fun n _ => ⟨rfl, rfl, rfl, fun _ => rfl⟩
  · intro x xs ih1 ih2 n hq
    simp only [quiets, Bool.and_eq_true] at hq
    have h1 := ih1 n hq.1
    have h2 := ih2 (ensure cfg pk fld x n).2.2 hq.2
    refine ⟨h1.hoists.append h2.hoists, ?_, ?_, fun hn => ?_⟩
    · simp [ensureList, quiets, h1.quiet, h2.quiet]
    · simp [ensureList, okChildren, h1.ok, h2.ok]
    · simp only [ensureList, List.append_eq_nil_iff] at hn ⊢
      rw [h1.same hn.1, h2.same hn.2]

theorem ensure_spec (cfg : Config) (pk fld : String) (x : Expr) (n : Nat) (hq : quiet cfg x = true) :
    EnsInv cfg (quiet cfg) (okChild cfg pk fld) x n (ensure cfg pk fld x n) := (ensure_specs cfg pk fld).1 x n hq

theorem ensureList_spec (cfg : Config) (pk fld : String) (xs : List Expr) (n : Nat) (hq : quiets cfg xs = true) :
    EnsInv cfg (quiets cfg) (okChildren cfg pk fld) xs n (ensureList cfg pk fld xs n) := (ensure_specs cfg pk fld).2 xs n hq

theorem ensure_oks (cfg : Config) (pk fld : String) :
    (∀ (x : Expr) (n : Nat), okChild cfg pk fld x = true → ensure cfg pk fld x n = (x, [], n)) ∧
    (∀ (xs : List Expr) (n : Nat), okChildren cfg pk fld xs = true → ensureList cfg pk fld xs n = (xs, [], n)) := by
  refine ensure_ind ?_ ?_ ?_ ?_ ?_ ?_ ?_
  · intro n _; simp [ensure]
  · intro i a h v ih n hq
    simp [ensure, ih n (by simpa [okChild] using hq)]
  · intro i v c ih n hq
    simp [ensure, ih n (by simpa [okChild] using hq)]
  · intro i ce ov ih1 ih2 n hq
    simp only [okChild, Bool.and_eq_true] at hq
    simp [ensure, ih1 n hq.1, ih2 n hq.2]
  · intro x hw n h
    rcases ensure_plain_cases cfg pk fld x n hw with ⟨he, -⟩ | ⟨-, hno⟩
    · exact he
    · rw [h] at hno; cases hno
  · intro n _; simp [ensureList]
  · intro x xs ih1 ih2 n hq
    simp only [okChildren, Bool.and_eq_true] at hq
    simp [ensureList, ih1 n hq.1, ih2 n hq.2]

theorem ensure_ok (cfg : Config) (pk fld : String) (x : Expr) (n : Nat) (h : okChild cfg pk fld x = true) :
    ensure cfg pk fld x n = (x, [], n) := (ensure_oks cfg pk fld).1 x n h

theorem ensureList_ok (cfg : Config) (pk fld : String) (xs : List Expr) (n : Nat) (h : okChildren cfg pk fld xs = true) :
    ensureList cfg pk fld xs n = (xs, [], n) := (ensure_oks cfg pk fld).2 xs n h

end Malt.Anf
