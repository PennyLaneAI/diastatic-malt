import MaltModel.Proofs.C08FreesStmt
import MaltModel.Proofs.C08Activity
import MaltModel.Analysis.ActivityFn
/- One function definition: the two scopes the analysis records for it against its block in the symbol table. -/
namespace Malt.Analysis
open Malt.Py Malt.Spec

/-- The two annotations `classify` reads for `d`: ARGS_AND_BODY on the node, SCOPE on its `arguments` node.  `∃ fns`: the annotations
    do not tell the function stack at the definition. -/
def DefOk (st : St) : Stmt → Prop
  | .functionDef i _ (.arguments ai po ar va ko _ kw _) body _ _ _ =>
      ∃ cI ca, (i, AnnoKey.argsAndBodyScope, cI) ∈ st.annos ∧ (ai, AnnoKey.scope, ca) ∈ st.annos ∧
        (∀ x, QN.sym x ∈ cI.bound ↔ x ∈ paramStrs po ar va ko kw ∨ x ∈ ownBindsSs body ∨ x ∈ ownDeclsSs false body ∨ x ∈ ownLeaksSs body) ∧
        (∀ x, QN.sym x ∈ cI.globals ↔ x ∈ ownDeclsSs true body) ∧
        (∀ x, QN.sym x ∈ cI.nonlocals ↔ x ∈ ownDeclsSs false body) ∧
        (∀ x, QN.sym x ∈ ca.paramNames ↔ x ∈ paramStrs po ar va ko kw) ∧
        (∃ fns, ∀ q, q ∈ cI.read ↔ q ∈ (effSs fns body).read)
  | _ => True

abbrev DefScopes (cI ca : Scope) (po ar va ko kw : List Expr) (body : List Stmt) : Prop :=
  (∀ x, QN.sym x ∈ cI.bound ↔ x ∈ paramStrs po ar va ko kw ∨ x ∈ ownBindsSs body ∨ x ∈ ownDeclsSs false body ∨ x ∈ ownLeaksSs body) ∧
  (∀ x, QN.sym x ∈ cI.globals ↔ x ∈ ownDeclsSs true body) ∧
  (∀ x, QN.sym x ∈ cI.nonlocals ↔ x ∈ ownDeclsSs false body) ∧
  (∀ x, QN.sym x ∈ ca.paramNames ↔ x ∈ paramStrs po ar va ko kw) ∧
  (∃ fns, ∀ q, q ∈ cI.read ↔ q ∈ (effSs fns body).read)

def Scope.eff (c : Scope) : Eff := { read := c.read, bound := c.bound, nonlocals := c.nonlocals, globals := c.globals }

section
variable {cI ca : Scope} {po ar va ko kw : List Expr} {body : List Stmt} (h : DefScopes cI ca po ar va ko kw body)
include h
theorem DefScopes.globals : ∀ x, QN.sym x ∈ cI.globals ↔ x ∈ ownDeclsSs true body := h.2.1
theorem DefScopes.params : ∀ x, QN.sym x ∈ ca.paramNames ↔ x ∈ paramStrs po ar va ko kw := h.2.2.2.1
theorem DefScopes.read : ∃ fns, ∀ q, q ∈ cI.read ↔ q ∈ (effSs fns body).read := h.2.2.2.2
end

theorem DefScopes.sets {cI ca : Scope} {po ar va ko kw : List Expr} {body : List Stmt} (h : DefScopes cI ca po ar va ko kw body) :
    SetsAre cI.eff (paramStrs po ar va ko kw ++ ownBindsSs body) (ownLeaksSs body) (ownDeclsSs true body) (ownDeclsSs false body) :=
  ⟨fun x => (h.1 x).trans (by rw [List.mem_append, or_assoc]), h.2.1, h.2.2.1⟩

theorem DefOk.ofRec {s : St} {d : Stmt} (hf : FragS d = true) (r : DefRec s.annos d) : DefOk s d := by
  cases d with
  | functionDef i name args body decos returns isAsync =>
    cases args with
    | arguments ai po ar va ko kd kw df =>
      obtain ⟨fns, cI, ca, R⟩ := r
      rw [effSC_eq_effS_all.2 body (and_right hf)] at R
      have hI := (effSs_sets body (and_right hf) (.fn i name :: fns)).isolated po ar va ko kw
      exact ⟨cI, ca, R.node, R.args,
        fun x => (R.popped.bound _).trans ((hI.bound x).trans (by simp only [List.mem_append, or_assoc])),
        fun x => (R.popped.globals _).trans (hI.globals x), fun x => (R.popped.nonlocals _).trans (hI.nonlocals x),
        fun x => (R.params _).trans (mem_paramNames_iff po ar va ko kw x),
        ⟨.fn i name :: fns, fun q => by rw [R.popped.read]; simp [Eff.exported]⟩⟩
    | _ => trivial
  | _ => trivial

theorem visitS_defs (s : Stmt) (st : St) (fns : List FnCtx) (p : PlainS st fns) (hf : FragS s = true) :
    ∀ d ∈ defsS s, DefOk (visitS s st) d :=
  fun d hd => .ofRec (FragS.defs s hf d hd) (visitS_recs s st fns p (FragSD.toC s (FragS.toD s hf)) d hd)

theorem visitSs_defs : (ss : List Stmt) → (st : St) → (fns : List FnCtx) → PlainS st fns → FragSs ss = true →
    ∀ d ∈ defsSs ss, DefOk (visitSs ss st) d :=
  fun ss st fns p hf d hd => .ofRec (FragSs.defs ss hf d hd) (visitSs_recs ss st fns p (FragSDs.toC ss (FragSs.toD ss hf)) d hd)

mutual
theorem SpecOkS.defs : (s : Stmt) → SpecOkS s = true → ∀ d ∈ defsS s, SpecOkS d = true
  | .functionDef _ _ _ body _ _ _, h, d, hd =>
      (List.mem_cons.mp hd).elim (fun e => e ▸ h) (SpecOkSs.defs body h d)
  | .classDef _ _ _ _ body _, h, d, hd | .with_ _ _ body _, h, d, hd | .other _ _ _ body, h, d, hd => SpecOkSs.defs body h d hd
  | .handler _ _ _ body, h, d, hd => SpecOkSs.defs body (and_right h) d hd
  | .for_ _ _ _ body orelse _ _, h, d, hd | .while_ _ _ body orelse, h, d, hd | .if_ _ _ body orelse, h, d, hd =>
      (List.mem_append.mp hd).elim (SpecOkSs.defs body (and_left h) d) (SpecOkSs.defs orelse (and_right h) d)
  | .try_ _ b hh o f, h, d, hd =>
      (List.mem_append.mp hd).elim (fun hd => (List.mem_append.mp hd).elim (fun hd => (List.mem_append.mp hd).elim
        (SpecOkSs.defs b (and_left (and_left (and_left h))) d) (SpecOkSs.defs hh (and_right (and_left (and_left h))) d))
        (SpecOkSs.defs o (and_right (and_left h)) d)) (SpecOkSs.defs f (and_right h) d)
  | .ret .., _, _, hd | .delete .., _, _, hd | .assign .., _, _, hd | .augAssign .., _, _, hd | .annAssign .., _, _, hd
  | .raise .., _, _, hd | .assert_ .., _, _, hd | .import_ .., _, _, hd | .importFrom .., _, _, hd | .global .., _, _, hd
  | .nonlocal .., _, _, hd | .expr .., _, _, hd | .pass _, _, _, hd | .break_ _, _, _, hd | .continue_ _, _, _, hd => nomatch hd
theorem SpecOkSs.defs : (ss : List Stmt) → SpecOkSs ss = true → ∀ d ∈ defsSs ss, SpecOkS d = true
  | [], _, _, hd => nomatch hd
  | s :: r, h, d, hd =>
      (List.mem_append.mp hd).elim (SpecOkS.defs s (and_left h) d) (SpecOkSs.defs r (and_right h) d)
end

theorem defsS_frag (s : Stmt) (hf : FragS s = true) (hs : SpecOkS s = true) : ∀ d ∈ defsS s, FragS d = true ∧ SpecOkS d = true :=
  fun d hd => ⟨FragS.defs s hf d hd, SpecOkS.defs s hs d hd⟩

theorem defsSs_frag : (ss : List Stmt) → FragSs ss = true → SpecOkSs ss = true → ∀ d ∈ defsSs ss, FragS d = true ∧ SpecOkS d = true :=
  fun ss hf hs d hd => ⟨FragSs.defs ss hf d hd, SpecOkSs.defs ss hs d hd⟩

theorem nil_of_eraseDups {l : List String} (h : l.eraseDups = []) : l = [] :=
  List.eq_nil_iff_forall_not_mem.mpr fun y hy => by simpa [h] using List.mem_eraseDups.mpr hy

theorem leaks_of_harmfulLeaks {t : Stmt} {b : Block} (h : blockOf t = some b) (h0 : harmfulLeaks t = []) :
    leaksBs (b.params ++ b.binds ++ b.globals ++ b.nonlocals) b.children = [] := by
  cases b
  exact nil_of_eraseDups (by simpa only [harmfulLeaks, h, Block.params, Block.binds, Block.globals, Block.nonlocals, Block.children] using h0)

theorem declBelow_of_globalBelow {t : Stmt} {b : Block} (h : blockOf t = some b) (h0 : globalBelow t = []) :
    declBelowBs true (b.params ++ b.binds ++ b.globals ++ b.nonlocals) b.children = [] := by
  cases b
  exact nil_of_eraseDups (by simpa only [globalBelow, h, Block.params, Block.binds, Block.globals, Block.nonlocals, Block.children] using h0)

theorem shadow_of_classShadow {t : Stmt} {b : Block} (h : blockOf t = some b) (h0 : classShadow t = []) : shadowB b = [] :=
  nil_of_eraseDups (by simpa only [classShadow, h] using h0)

theorem disj_of_declsDisjoint {t : Stmt} {b : Block} (h : blockOf t = some b) (h0 : declsDisjoint t = true) :
    ∀ x, ¬ (x ∈ b.globals ∧ x ∈ b.nonlocals) := by
  intro x ⟨hxg, hxn⟩
  simp only [declsDisjoint, h, List.all_eq_true] at h0
  simpa [hxn] using h0 x hxg

theorem disjB_of_allDeclsDisjoint {t : Stmt} {b : Block} (h : blockOf t = some b) (h0 : allDeclsDisjoint t = true) : disjB b = true := by
  simpa only [allDeclsDisjoint, h] using h0

theorem nlOkB_of_nonlocalsResolve {t : Stmt} {b : Block} (h : blockOf t = some b) (h0 : nonlocalsResolve t = true) :
    nlOkB [] b = true := by
  simpa only [nonlocalsResolve, h] using h0

theorem table_of_blockOf {t : Stmt} {b : Block} (h : blockOf t = some b) : Spec.table t = (analyzeBlock b 0 [] []).1 := by
  simp only [Spec.table, h]

theorem root_blocks {i : Nat} {name : String} {ai : Nat} {po ar va ko kd kw df : List Expr} {body : List Stmt}
    {decos returns : List Expr} {t : Stmt}
    (ht : t = .functionDef i name (.arguments ai po ar va ko kd kw df) body decos returns false)
    (hf : FragS t = true) (hs : SpecOkS t = true) :
    blockOf t = some (mkDefBlock t) ∧
    (∀ d ∈ defsS t, mkDefBlock d ∈ allBlocks (mkDefBlock t)) ∧ (∀ b' ∈ allBlocks (mkDefBlock t), b'.walrus = []) := by
  subst ht
  have hC := collectsSs body (and_right hf) hs []
  exact ⟨blockOf_functionDef i name ai po ar va ko kd kw df body decos returns false,
    fun d hdd => (List.mem_cons.mp hdd).elim (fun e => e ▸ mem_allBlocks_self _) (hC.toBlock_defs _ i .function name d),
    hC.toBlock_walrusFree _ i .function name⟩

section
variable {i : Nat} {name : String} {ai : Nat} {po ar va ko kd kw df : List Expr} {body : List Stmt} {decos returns : List Expr}
  {isAsync : Bool} (hfb : FragSs body = true) (hsb : SpecOkSs body = true) {cI ca : Scope} (hok : DefScopes cI ca po ar va ko kw body)
  {blk : Block} (hblk : blk = mkDefBlock (.functionDef i name (.arguments ai po ar va ko kd kw df) body decos returns isAsync))
include hfb hsb hok hblk

theorem def_matches {info : BlockInfo} (hinfo : InfoFacts blk info)
    (hleak : leaksBs (blk.params ++ blk.binds ++ blk.globals ++ blk.nonlocals) blk.children = [])
    (hdisj : ∀ x, ¬ (x ∈ blk.globals ∧ x ∈ blk.nonlocals)) :
    info.id = i ∧
    (∀ x, x ∈ ca.paramNames.names ↔ x ∈ info.params) ∧
    (∀ x, (x ∈ cI.bound.names ∧ x ∉ cI.globals.names ∧ x ∉ cI.nonlocals.names) ↔ x ∈ info.locals) ∧
    (∀ x, x ∈ cI.globals.names ↔ x ∈ info.declaredGlobals) ∧
    (∀ x, x ∈ cI.nonlocals.names ↔ x ∈ info.declaredNonlocals) := by
  subst hblk
  have hC := collectsSs body hfb hsb []
  simp only [mkDefBlock] at hinfo hleak hdisj
  rw [hC.toBlock_eq] at hinfo hleak hdisj
  have hcl := hok.sets.classes hinfo (mem_specParams_iff po ar va ko kw) hC.binds hC.globals hC.nonlocals
    (fun x hx => by simpa only [Block.params, Block.binds, Block.globals, Block.nonlocals, List.mem_append, hC.binds, hC.globals,
      hC.nonlocals, mem_specParams_iff, or_assoc] using hC.covers.declared hleak x hx)
    (fun x ⟨h1, h2⟩ => hdisj x ⟨(hC.globals x).mpr h1, (hC.nonlocals x).mpr h2⟩)
  simp only [QSet.mem_names]
  exact ⟨hinfo.id, fun x => (hok.params x).trans ((mem_specParams_iff po ar va ko kw x).symm.trans (hinfo.params x).symm),
    fun x => (hcl x).1, fun x => (hcl x).2.1, fun x => (hcl x).2.2⟩

theorem def_outer
    (hG : declBelowBs true (blk.params ++ blk.binds ++ blk.globals ++ blk.nonlocals) blk.children = [])
    (hL : leaksBs (blk.params ++ blk.binds ++ blk.globals ++ blk.nonlocals) blk.children = [])
    (hS : shadowBs blk.children = []) :
    ∀ x, (x ∈ cI.passedOn.names ∧ x ∉ cI.globals.names) ↔ x ∈ outerB blk := by
  obtain ⟨fns, hr⟩ := hok.read
  subst hblk
  have hC := collectsSs body hfb hsb fns
  simp only [mkDefBlock] at hG hL hS ⊢
  have hrel := hC.funBlock_reads (effSs_sets body hfb fns) (effSs_declRead body fns) cI.eff hok.sets (fun x => hr _) _
    (mem_specParams_iff po ar va ko kw) i .function name rfl
  rw [hC.toBlock_eq] at hG hL hS
  intro x
  rw [← hrel hG hL hS x, QSet.mem_names, QSet.mem_names, hok.globals]
  rfl

end

theorem argsIdS_self (i : Nat) (name : String) (args : Expr) (body : List Stmt) (decos returns : List Expr) (isAsync : Bool) :
    argsIdS i (.functionDef i name args body decos returns isAsync) = some args.id := by
  simp only [argsIdS, beq_self_eq_true, ↓reduceIte]

theorem classify_of_annos {top : Stmt} {st : St} {fn : Nat} {chain : List Nat} {s a : Scope}
    (h1 : st.anno? fn .argsAndBodyScope = some s) (h2 : (argsIdS fn top).bind (fun a => st.anno? a .scope) = some a) :
    classify top st fn chain = some
      { id := fn, params := a.paramNames.names, bound := s.bound.names, globals := s.globals.names,
        nonlocals := s.nonlocals.names,
        locals := s.bound.names.filter (fun x => !s.globals.names.contains x && !s.nonlocals.names.contains x),
        freeVars := s.freeVars.names,
        frees := (s.freeVars.names ++ s.nonlocals.names).filter (fun x => !s.globals.names.contains x &&
          resolveAct st chain x == .enclosing) } := by
  simp only [classify, h1, h2]

structure Located (t : Stmt) (i ai : Nat) (po ar va ko kw : List Expr) (body : List Stmt) (blk : Block) (cI ca : Scope)
    (info : BlockInfo) (B : List String) : Prop where
  frag : FragSs body = true
  spec : SpecOkSs body = true
  root : blockOf t = some (mkDefBlock t)
  mem : blk ∈ allBlocks (mkDefBlock t)
  walrus : blk.walrus = []
  node : (analyze t).anno? i .argsAndBodyScope = some cI
  args : (analyze t).anno? ai .scope = some ca
  scopes : DefScopes cI ca po ar va ko kw body
  ctx : (blk, B) ∈ ctxBlocks [] (mkDefBlock t)
  entry : info ∈ Spec.table t
  facts : InfoFacts blk info
  frees : nonlocalsResolve t = true → ∀ x, x ∈ info.frees ↔ x ∈ outerB blk ∧ x ∈ B

theorem def_located {i : Nat} {name : String} {ai : Nat} {po ar va ko kd kw df : List Expr} {body : List Stmt}
    {decos returns : List Expr} {t : Stmt}
    (ht : t = .functionDef i name (.arguments ai po ar va ko kd kw df) body decos returns false)
    (hf : FragS t = true) (hs : SpecOkS t = true) (hu' : uniqueAnnos (analyze t).annos = true) {i' : Nat} {name' : String}
    {args' : Expr} {body' : List Stmt} {decos' returns' : List Expr} {isAsync' : Bool}
    (hdd : .functionDef i' name' args' body' decos' returns' isAsync' ∈ defsS t) :
    ∃ ai' po' ar' va' ko' kd' kw' df', args' = .arguments ai' po' ar' va' ko' kd' kw' df' ∧ ∃ cI ca info B,
      Located t i' ai' po' ar' va' ko' kw' body' (mkDefBlock (.functionDef i' name' args' body' decos' returns' isAsync')) cI ca info B := by
  obtain ⟨hdf, hds⟩ := defsS_frag _ hf hs _ hdd
  have hok := visitS_defs _ St.init [] init_plainS hf _ hdd
  obtain ⟨hblk, hmems, hw⟩ := root_blocks ht hf hs
  have hargs := and_right (and_left (and_left (and_left hdf)))
  cases args' with
  | arguments ai' po' ar' va' ko' kd' kw' df' =>
    obtain ⟨cI, ca, h1, h2, hfacts⟩ := hok
    obtain ⟨B, hctx⟩ := ctx_of_mem _ [] _ (hmems _ hdd)
    obtain ⟨info, hinfo, hinf, hfrees⟩ := table_ctx _ 0 [] [] [] hw (fun _ => Iff.rfl) _ hctx
    exact ⟨_, _, _, _, _, _, _, _, rfl, cI, ca, info, B, and_right hdf, hds, hblk, hmems _ hdd, hw _ (hmems _ hdd), anno?_of_mem hu' h1,
      anno?_of_mem hu' h2, hfacts, hctx, table_of_blockOf hblk ▸ hinfo, hinf, fun hnl => hfrees (nlOkB_of_nonlocalsResolve hblk hnl) rfl⟩
  | _ => cases hargs

end Malt.Analysis
