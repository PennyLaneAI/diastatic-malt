import MaltModel.Proofs.JumpsOutcome
/-
What the three jump lowerings have in common: a flag records an intercepted outcome (`Jump`), the lowered code relates to
the source run by `Jump.OutRel`, and "the lowered block simulates the source computation" (`Sim`) is closed under the
constructs of the language; a loop whose test is guarded by the flag is one lemma about one iteration (`iter_guarded`).
Each lowering is then proved along its definition (Proofs/JumpsBreak, JumpsContinue, JumpsReturn).
-/
namespace Malt.Sem.Jumps
open Malt.Sem

@[simp] theorem truthy_one : truthy (.int 1) = true := rfl
@[simp] theorem truthy_zero : truthy (.int 0) = false := rfl

theorem evalE_notvar_clear (X : Ext) {v : Name} {σ : St} (h : σ.env v = some (.int 0)) :
    evalE X (.not (.var v)) σ = (.ok (.int 1), σ) := by
  rw [evalE_not, evalE_var, h]; rfl

theorem evalE_notvar_set (X : Ext) {v : Name} {σ : St} (h : σ.env v = some (.int 1)) :
    evalE X (.not (.var v)) σ = (.ok (.int 0), σ) := by
  rw [evalE_not, evalE_var, h]; rfl

theorem evalE_guard_clear (X : Ext) {v : Name} (c : Expr) {σ : St} (h : σ.env v = some (.int 0)) :
    evalE X (guardE v c) σ = evalE X c σ := by
  rw [guardE, evalE_and, evalE_notvar_clear X h]; rfl

theorem evalE_guard_set (X : Ext) {v : Name} (c : Expr) {σ : St} (h : σ.env v = some (.int 1)) :
    evalE X (guardE v c) σ = (.ok (.int 0), σ) := by
  rw [guardE, evalE_and, evalE_notvar_set X h]; rfl

theorem exec_ifNot_clear (X : Ext) {v : Name} (body : Block) {σ : St} (n : Nat) (h : σ.env v = some (.int 0)) :
    exec X (n+1) (ifNot v body) σ = execB X n body σ := by
  rw [ifNot, exec_if, valThen_ok (evalE_notvar_clear X h)]; rfl

/-- One unit of fuel for the `if`, one for its empty else block. -/
theorem exec_ifNot_set (X : Ext) {v : Name} (body : Block) {σ : St} (n : Nat) (h : σ.env v = some (.int 1)) :
    exec X (n+2) (ifNot v body) σ = some (.normal, σ) := by
  rw [ifNot, exec_if, valThen_ok (evalE_notvar_set X h)]; rfl

theorem guard_skip (X : Ext) {v : Name} {b' : Block} {τ : St} (hb : b' = [] ∨ ∃ c, b' = [ifNot v c])
    (h : τ.env v = some (.int 1)) : execB X 3 b' τ = some (.normal, τ) := by
  rcases hb with rfl | ⟨c, rfl⟩
  · rfl
  · exact execB_singleton (exec_ifNot_set X c 0 h)

theorem exec_assign_const (X : Ext) (x : Name) (v : Val) (σ : St) (n : Nat) :
    exec X (n+1) (.assign x (.const v)) σ = some (.normal, σ.set x v) := rfl

/-- One kind of jump as its lowering sees it: `G` the names the pass generates; `F` those that record an intercepted
outcome (the flag, for `return` also the value slot); `keep` the flags of the enclosing loops, which the lowered code
leaves alone; `flag` the one it tests; `is` the outcomes it intercepts, `tgt` what it ends with instead, `records o env`
what the flags hold after `o` was intercepted. -/
structure Jump where
  G : Name → Prop
  F : Name → Prop
  keep : Name → Prop
  flag : Name
  is : Out → Prop
  tgt : Out
  records : Out → (Name → Option Val) → Prop
  F_G : ∀ x, F x → G x
  keep_G : ∀ x, keep x → G x
  flag_F : F flag
  records_flag : ∀ {o : Out} {env : Name → Option Val}, records o env → env flag = some (.int 1)
  not_normal : ¬ is .normal
  not_exc : ∀ e, ¬ is (.exc e)
  tgt_loop : tgt = .normal ∨ tgt = .cont
  records_congr : ∀ {o : Out} {σ τ : St}, SameHidden F σ τ → records o σ.env → records o τ.env

namespace Jump
variable (J : Jump)

theorem tgt_not_exc (e : Exc) : J.tgt ≠ .exc e := fun h => by
  rcases J.tgt_loop with ht | ht <;> rw [h] at ht <;> cases ht

theorem loopThen_tgt (k : St → Option (Out × St)) (τ : St) : loopThen (some (J.tgt, τ)) k = k τ := by
  rcases J.tgt_loop with ht | ht <;> rw [ht] <;> rfl

/-- `hit`: the lowering expected an intercepted outcome; `σ'`, `σ1'`: the target states before and after. -/
structure OutRel (hit : Bool) (o o' : Out) (σ' σ1' : St) : Prop where
  of_is : J.is o → hit = true ∧ o' = J.tgt ∧ J.records o σ1'.env
  /-- `∨ fatal`: `dr = True` precedes the evaluation of the returned expression, and a fatal exception from a `finally`
  block may replace a jump whose flag is set -/
  of_not : ¬ J.is o → o' = o ∧ (SameHidden J.F σ' σ1' ∨ Out.fatal o)
  of_nohit : hit = false → SameHidden J.F σ' σ1'

variable {J} {hit hit' : Bool} {o o' : Out} {σ' τ' σ1' : St}

theorem OutRel.same (hit : Bool) (ho : ¬ J.is o) (hs : SameHidden J.F σ' σ1') : J.OutRel hit o o σ' σ1' :=
  ⟨fun hi => absurd hi ho, fun _ => ⟨rfl, .inl hs⟩, fun _ => hs⟩

theorem OutRel.jumped (hi : J.is o) (hs : J.records o σ1'.env) : J.OutRel true o J.tgt σ' σ1' :=
  ⟨fun _ => ⟨rfl, rfl, hs⟩, fun hn => absurd hi hn, nofun⟩

theorem OutRel.mono (hp : J.OutRel hit o o' σ' σ1') (hh : hit = true → hit' = true) : J.OutRel hit' o o' σ' σ1' := by
  refine ⟨fun hi => ?_, hp.of_not, fun hf => hp.of_nohit ?_⟩
  · obtain ⟨a, b⟩ := hp.of_is hi; exact ⟨hh a, b⟩
  · cases hit with
    | false => rfl
    | true => rw [hh rfl] at hf; cases hf

theorem OutRel.rebase (hp : J.OutRel hit o o' τ' σ1') (he : SameHidden J.F σ' τ') : J.OutRel hit o o' σ' σ1' :=
  ⟨hp.of_is, fun hn => ⟨(hp.of_not hn).1, (hp.of_not hn).2.imp he.trans id⟩, fun hf => he.trans (hp.of_nohit hf)⟩

theorem OutRel.extend (hp : J.OutRel hit o o' σ' τ') (he : SameHidden J.F τ' σ1') : J.OutRel hit o o' σ' σ1' :=
  ⟨fun hi => ⟨(hp.of_is hi).1, (hp.of_is hi).2.1, J.records_congr he (hp.of_is hi).2.2⟩,
    fun hn => ⟨(hp.of_not hn).1, (hp.of_not hn).2.imp (·.trans he) id⟩, fun hf => (hp.of_nohit hf).trans he⟩

theorem OutRel.unjumped (hp : J.OutRel hit o o' σ' σ1') (ho : ¬ J.is o) (hnf : ¬ Out.fatal o) :
    o' = o ∧ SameHidden J.F σ' σ1' :=
  ⟨(hp.of_not ho).1, (hp.of_not ho).2.resolve_right hnf⟩

end Jump

def SimTo (X : Ext) (J : Jump) (hit : Bool) (b' : Block) (σ' : St) (o : Out) (σ1 : St) : Prop :=
  ∃ m σ1' o', execB X m b' σ' = some (o', σ1') ∧ Agree J.G σ1 σ1' ∧ J.OutRel hit o o' σ' σ1' ∧ SameHidden J.keep σ' σ1'

theorem SimTo.same {X : Ext} {J : Jump} {K' : Name → Prop} {b' : Block} {m : Nat} {σ' σ1 σ1' : St} {o : Out}
    (hx : execB X m b' σ' = some (o, σ1')) (hag : Agree J.G σ1 σ1') (ho : ¬ J.is o) (hfr : SameHidden K' σ' σ1')
    (hF : ∀ x, J.F x → K' x) (hK : ∀ x, J.keep x → K' x) : SimTo X J false b' σ' o σ1 :=
  ⟨m, σ1', o, hx, hag, .same false ho fun x hx => hfr x (hF x hx), fun x hx => hfr x (hK x hx)⟩

/-- `run`: the source computation, `exec X · s` or `execB X · b`; `need`: the lowered code relies on the flag being clear. -/
def Sim (X : Ext) (J : Jump) (hit need : Bool) (b' : Block) (run : Nat → St → Option (Out × St)) : Prop :=
  ∀ n σ σ' o σ1, Agree J.G σ σ' → (need = true → σ'.env J.flag = some (.int 0)) → run n σ = some (o, σ1) →
    SimTo X J hit b' σ' o σ1

def SimH (X : Ext) (J : Jump) (hh need : Bool) (hs' hs : List (Nat × Block)) : Prop :=
  ∀ ex, (findHandler hs ex = none → findHandler hs' ex = none) ∧
    ∀ hbk, findHandler hs ex = some hbk → ∃ hbk', findHandler hs' ex = some hbk' ∧ Sim X J hh need hbk' (execB X · hbk)

section
variable {X : Ext} {J : Jump} {need : Bool}

theorem Sim.mono {hit hit' need' : Bool} {b' : Block} {run : Nat → St → Option (Out × St)}
    (h : Sim X J hit need b' run) (hh : hit = true → hit' = true) (hn : need = true → need' = true) :
    Sim X J hit' need' b' run := fun n σ σ' o σ1 hag hpre hx => by
  obtain ⟨m, σ1', o', hx', hag1, hp, hfr⟩ := h n σ σ' o σ1 hag (fun hq => hpre (hn hq)) hx
  exact ⟨m, σ1', o', hx', hag1, hp.mono hh, hfr⟩

theorem Sim.nil : Sim X J false need [] (execB X · []) := by
  intro n σ σ' o σ1 hag _ h
  cases n with
  | zero => exact nomatch h
  | succ n => cases h; exact ⟨1, σ', .normal, rfl, hag, .same _ J.not_normal (.refl _ _), .refl _ _⟩

theorem Sim.atomic {s : Stmt} (hc : CleanS J.G s)
    (ho : ∀ {n σ o σ1}, exec X n s σ = some (o, σ1) → ¬ J.is o) : Sim X J false need [s] (exec X · s) := by
  intro n σ σ' o σ1 hag _ h
  obtain ⟨σ1', hx, hag1, hh⟩ := exec_agree X J.G hc hag h
  exact SimTo.same (execB_singleton hx) hag1 (ho h) hh J.F_G J.keep_G

/-- If `s` ends abruptly, so does the lowered block, unless the lowering turned an intercepted outcome into normal
completion with the flag set: then the lowered rest, being empty or guarded by the flag (`hskip`), does nothing. -/
theorem Sim.seq {hit₁ hit₂ need₁ need₂ : Bool} {a' r' : Block} {s : Stmt} {r : Block}
    (hs : Sim X J hit₁ need₁ a' (exec X · s)) (hr : Sim X J hit₂ need₂ r' (execB X · r))
    (hn1 : need₁ = true → need = true) (hn2 : need₂ = true → need = true)
    (hskip : J.tgt = .normal → hit₁ = true → r' = [] ∨ ∃ c, r' = [ifNot J.flag c]) :
    Sim X J (hit₁ || hit₂) need (a' ++ r') (execB X · (s :: r)) := by
  intro n σ σ' o σ1 hag hpre h
  cases n with
  | zero => exact nomatch h
  | succ n =>
    obtain ⟨os, σs, hs1, hcase⟩ := execB_cons_inv h
    obtain ⟨m1, σs', os', hx1, hag1, hp1, hfr1⟩ := hs n σ σ' os σs hag (fun hq => hpre (hn1 hq)) hs1
    rcases hcase with ⟨rfl, hr1⟩ | ⟨hn, hr1⟩
    · obtain ⟨rfl, hcur⟩ := hp1.unjumped J.not_normal id
      obtain ⟨m2, σ1', o', hx2, hag2, hp2, hfr2⟩ :=
        hr n σs σs' o σ1 hag1 (fun hq => by rw [hcur _ J.flag_F]; exact hpre (hn2 hq)) hr1
      exact ⟨m1 + m2, σ1', o', execB_append hx1 hx2, hag2, (hp2.rebase hcur).mono orR, hfr1.trans hfr2⟩
    · cases hr1
      by_cases hi : J.is o
      · obtain ⟨hh, rfl, hset⟩ := hp1.of_is hi
        by_cases ht : J.tgt = .normal
        · rw [ht] at hx1
          exact ⟨m1 + 3, σs', .normal, execB_append hx1 (guard_skip X (hskip ht hh) (J.records_flag hset)), hag1,
            ht ▸ (Jump.OutRel.jumped hi hset).mono fun _ => orL hh, hfr1⟩
        · exact ⟨m1, σs', J.tgt, execB_append_abrupt _ hx1 ht, hag1, hp1.mono orL, hfr1⟩
      · obtain ⟨rfl, _⟩ := hp1.of_not hi
        exact ⟨m1, σs', os', execB_append_abrupt _ hx1 hn, hag1, hp1.mono orL, hfr1⟩

theorem Sim.guarded {hit g need' : Bool} {b' : Block} {run : Nat → St → Option (Out × St)}
    (h : Sim X J hit need b' run) (hn : need = true → need' = true) (hg : g = true → need' = true) :
    Sim X J hit need' (if g then [ifNot J.flag b'] else b') run := by
  cases g with
  | false => exact h.mono id hn
  | true =>
    intro n σ σ' o σ1 hag hpre hx
    have hclear := hpre (hg rfl)
    obtain ⟨m, σ1', o', hx', rest⟩ := h n σ σ' o σ1 hag (fun _ => hclear) hx
    exact ⟨m + 2, σ1', o', execB_singleton (n := m + 1) (by rw [exec_ifNot_clear X _ m hclear]; exact hx'), rest⟩

theorem Sim.if_ {c : Expr} {t e t' e' : Block} {hitT hitE : Bool} (hc : CleanE J.G c)
    (hT : Sim X J hitT need t' (execB X · t)) (hE : Sim X J hitE need e' (execB X · e)) :
    Sim X J (hitT || hitE) need [.ifS c t' e'] (exec X · (.ifS c t e)) := by
  intro n σ σ' o σ1 hag hpre h
  cases n with
  | zero => exact nomatch h
  | succ n =>
    refine exec_if_cases h (fun ex τ hv hr => ?_) (fun v τ hv htv hk => ?_) (fun v τ hv htv hk => ?_)
      <;> obtain ⟨τ', hv', hag', henv⟩ := evalE_agree' hc hag hv
      <;> have hpre' : need = true → τ'.env J.flag = some (.int 0) := fun hq => by rw [henv]; exact hpre hq
    · cases hr
      exact ⟨2, τ', .exc ex, execB_singleton (n := 1) (exec_if_err hv'), hag',
        .same _ (J.not_exc ex) (.of_env henv), .of_env henv⟩
    · obtain ⟨m, σ1', o', hx, hag1, hp, hfr⟩ := hT n τ τ' o σ1 hag' hpre' hk
      exact ⟨m + 2, σ1', o', execB_singleton (n := m + 1) ((exec_if_true hv' htv).trans hx), hag1,
        (hp.rebase (.of_env henv)).mono orL, (SameHidden.of_env henv).trans hfr⟩
    · obtain ⟨m, σ1', o', hx, hag1, hp, hfr⟩ := hE n τ τ' o σ1 hag' hpre' hk
      exact ⟨m + 2, σ1', o', execB_singleton (n := m + 1) ((exec_if_false hv' htv).trans hx), hag1,
        (hp.rebase (.of_env henv)).mono orR, (SameHidden.of_env henv).trans hfr⟩

theorem Sim.with_ {tag : Int} {body body' : Block} {hit : Bool} (hB : Sim X J hit need body' (execB X · body)) :
    Sim X J hit need [.withS tag body'] (exec X · (.withS tag body)) := by
  intro n σ σ' o σ1 hag hpre h
  cases n with
  | zero => exact nomatch h
  | succ n =>
    dsimp only at h
    rw [exec_with] at h
    obtain ⟨⟨ob, τ⟩, hbd, hr⟩ := Option.bind_eq_some_iff.mp h
    cases hr
    obtain ⟨m, τ', ob', hx, hag1, hp, hfr⟩ := hB n _ _ ob τ (hag.push _) hpre hbd
    refine ⟨m + 2, τ'.push (.exit tag), ob', execB_singleton (n := m + 1) ?_, hag1.push _,
      (hp.rebase (σ' := σ') (.of_env rfl)).extend (σ1' := τ'.push (.exit tag)) (.of_env rfl), hfr⟩
    rw [exec_with, hx]; rfl

theorem SimH.mono {hit hit' need' : Bool} {hs hs' : List (Nat × Block)} (h : SimH X J hit need hs' hs)
    (hhh : hit = true → hit' = true) (hn : need = true → need' = true) : SimH X J hit' need' hs' hs := fun ex =>
  ⟨(h ex).1, fun hbk hf => by
    obtain ⟨hbk', hfind, hsim⟩ := (h ex).2 hbk hf
    exact ⟨hbk', hfind, hsim.mono hhh hn⟩⟩

theorem SimH.nil : SimH X J false need [] [] :=
  fun ex => ⟨fun _ => by cases ex <;> rfl, fun _ h => by cases ex <;> cases h⟩

theorem SimH.cons {t : Nat} {b b' : Block} {r r' : List (Nat × Block)} {hitB hitR : Bool}
    (hb : Sim X J hitB need b' (execB X · b)) (hr' : SimH X J hitR need r' r) :
    SimH X J (hitB || hitR) need ((t, b') :: r') ((t, b) :: r) := by
  intro ex
  rw [findHandler_cons, findHandler_cons]
  cases ex with
  | user t' =>
    dsimp only
    by_cases ht : t = t'
    · rw [if_pos ht, if_pos ht]
      exact ⟨nofun, fun hbk h => by cases h; exact ⟨b', rfl, hb.mono orL id⟩⟩
    · rw [if_neg ht, if_neg ht]
      refine ⟨(hr' (.user t')).1, fun hbk h => ?_⟩
      obtain ⟨hbk', hf, hs⟩ := (hr' (.user t')).2 hbk h
      exact ⟨hbk', hf, hs.mono orR id⟩
  | _ => exact ⟨fun _ => rfl, nofun⟩

/-- An exception that is caught was not intercepted, so the flag is still clear when the handler starts. -/
theorem SimH.step {hs hs' : List (Nat × Block)} {hitB hitH : Bool} (hH : SimH X J hitH need hs' hs) {n : Nat}
    {ob ob' oa : Out} {σ' τ τ' τa : St} (hpre : need = true → σ'.env J.flag = some (.int 0)) (hag1 : Agree J.G τ τ')
    (hp1 : J.OutRel hitB ob ob' σ' τ') (hfr1 : SameHidden J.keep σ' τ')
    (ha : handleThen (findHandler hs) (execB X n) (ob, τ) = some (oa, τa)) :
    ∃ m2 τa' oa', handleThen (findHandler hs') (execB X m2) (ob', τ') = some (oa', τa') ∧ Agree J.G τa τa' ∧
      J.OutRel (hitB || hitH) oa oa' σ' τa' ∧ SameHidden J.keep σ' τa' := by
  refine handleThen_cases ha (fun ex hbk he hfd hxh => ?_) (fun hnc hr => ?_)
  · subst he
    obtain ⟨rfl, hfl⟩ := hp1.of_not (J.not_exc ex)
    have hcur : SameHidden J.F σ' τ' :=
      hfl.resolve_right fun hfat => by rw [findHandler_fatal hfat] at hfd; cases hfd
    obtain ⟨hbk', hfind, hsim⟩ := (hH ex).2 hbk hfd
    obtain ⟨m2, τa', oa', hx2, hag2, hp2, hfr2⟩ :=
      hsim n τ τ' oa τa hag1 (fun hn => by rw [hcur _ J.flag_F]; exact hpre hn) hxh
    exact ⟨m2, τa', oa', by rw [handleThen_caught _ hfind]; exact hx2, hag2,
      (hp2.rebase hcur).mono orR, hfr1.trans hfr2⟩
  · cases hr
    refine ⟨0, τ', ob', handleThen_pass _ fun ex he => ?_, hag1, hp1.mono orL, hfr1⟩
    by_cases hi : J.is ob
    · rw [(hp1.of_is hi).2.1] at he; exact absurd he (J.tgt_not_exc ex)
    · rw [(hp1.of_not hi).1] at he; exact (hH ex).1 (hnc ex he)

/-- The lowering of the `finally` block never sets a flag (`hfe`: no jump leaves the block); if the block can raise, nothing
before it may have been intercepted (`hq`, the last clause of `finOKS`). -/
theorem Sim.try_ {body fin body' fin' : Block} {hs hs' : List (Nat × Block)} {hitB hitH hitF needF : Bool}
    (hB : Sim X J hitB need body' (execB X · body)) (hH : SimH X J hitH need hs' hs)
    (hF : Sim X J hitF needF fin' (execB X · fin)) (hfe : hitF = false) (hnf : needF = false)
    (hq : quietB fin = true ∨ jumpFreeB body = true ∧ jumpFreeH hs = true)
    (hbj : jumpFreeB body = true → hitB = false) (hhj : jumpFreeH hs = true → hitH = false) :
    Sim X J (hitB || hitH || hitF) need [.tryS body' hs' fin'] (exec X · (.tryS body hs fin)) := by
  intro n σ σ' o σ1 hag hpre h
  cases n with
  | zero => exact nomatch h
  | succ n =>
  subst hfe
  rw [Bool.or_false]
  have hquiet : quietB fin = true ∨ (hitB || hitH) = false :=
    hq.imp_right fun ⟨h1, h2⟩ => by rw [hbj h1, hhj h2]; rfl
  obtain ⟨⟨ob, τ⟩, ⟨oa, τa⟩, hbd, ha, hfin⟩ := exec_try_inv h
  obtain ⟨m1, τ', ob', hx1, hag1, hp1, hfr1⟩ := hB n σ σ' ob τ hag hpre hbd
  obtain ⟨m2, τa', oa', hx2, hag2, hp2, hfr2⟩ := hH.step hpre hag1 hp1 hfr1 ha
  obtain ⟨of, σf, hxf, hcase⟩ := finallyThen_inv hfin
  obtain ⟨m3, σf', of', hx3, hagf, hpf, hfrf⟩ := hF n τa τa' of σf hag2 (fun hn => by rw [hnf] at hn; cases hn) hxf
  have hcurf : SameHidden J.F τa' σf' := hpf.of_nohit rfl
  have hofj : ¬ J.is of := fun hi => Bool.noConfusion (hpf.of_is hi).1
  obtain ⟨rfl, _⟩ := hpf.of_not hofj
  rcases hcase with ⟨rfl, heq⟩ | ⟨hn, heq⟩
  · cases heq
    exact ⟨_, σf', oa', execB_singleton (exec_try_of X hx1 hx2 (finallyThen_of_normal hx3)), hagf,
      hp2.extend hcurf, hfr2.trans hfrf⟩
  · cases heq
    refine ⟨_, σf', _, execB_singleton (exec_try_of X hx1 hx2 (finallyThen_of_abrupt hx3 hn)), hagf,
      ⟨fun hi => absurd hi hofj, fun _ => ⟨rfl, ?_⟩, fun hh0 => (hp2.of_nohit hh0).trans hcurf⟩, hfr2.trans hfrf⟩
    rcases hquiet with hquiet | hnohit
    · exact (quietB_outcome X hquiet hxf).elim (fun h => absurd h hn) .inr
    · exact .inl ((hp2.of_nohit hnohit).trans hcurf)

end

namespace Jump
variable (J : Jump)
variable {J} {hit hit' : Bool} {o o' : Out} {σ' τ' σ1' : St}

def loopOut : Out → Out
  | .brk => .normal
  | o => o

def LoopOutRel (hit : Bool) (o o' : Out) (σ' σ1' : St) : Prop :=
  J.OutRel hit o o' σ' σ1' ∨ ∃ ol, J.is ol ∧ o = loopOut ol ∧ hit = true ∧ o' = .normal ∧ J.records ol σ1'.env

theorem LoopOutRel.outRel (hp : J.LoopOutRel hit o o' σ' σ1') (ht : J.tgt = .normal) (hb : ¬ J.is .brk) :
    J.OutRel hit o o' σ' σ1' := by
  rcases hp with hp | ⟨ol, hi, rfl, rfl, rfl, hset⟩
  · exact hp
  · have : loopOut ol = ol := by cases ol <;> first | rfl | exact absurd hi hb
    rw [this]; exact ht ▸ .jumped hi hset

theorem LoopOutRel.out_eq (hp : J.LoopOutRel hit o o' σ' σ1') (hb : ∀ ol, J.is ol → ol = .brk) (ho : ¬ J.is o) : o' = o := by
  rcases hp with hp | ⟨ol, hi, rfl, _, rfl, _⟩
  · exact (hp.of_not ho).1
  · rw [hb ol hi]; rfl

theorem LoopOutRel.rebase (hp : J.LoopOutRel hit o o' τ' σ1') (he : SameHidden J.F σ' τ') : J.LoopOutRel hit o o' σ' σ1' :=
  hp.imp (·.rebase he) id

def LoopRes (hit : Bool) (σ' : St) (o : Out) (σ1 : St) (o' : Out) (σ1' : St) : Prop :=
  Agree J.G σ1 σ1' ∧ J.LoopOutRel hit o o' σ' σ1' ∧ SameHidden J.keep σ' σ1'

theorem LoopRes.same {σ1 : St} (hag : Agree J.G σ1 σ1') (ho : ¬ J.is o) (henv : σ1'.env = σ'.env) :
    J.LoopRes hit σ' o σ1 o σ1' :=
  ⟨hag, .inl (.same _ ho (.of_env henv)), .of_env henv⟩

theorem LoopRes.rebase {σ1 : St} (hr : J.LoopRes hit τ' o σ1 o' σ1') (hF : SameHidden J.F σ' τ')
    (hK : SameHidden J.keep σ' τ') : J.LoopRes hit σ' o σ1 o' σ1' :=
  ⟨hr.1, hr.2.1.rebase hF, hK.trans hr.2.2⟩

theorem OutRel.loop_cases {ob ob' : Out} {τ1 : St} {σ1 : St} {k : St → Option (Out × St)} {motive : Prop}
    (hp : J.OutRel hit ob ob' σ' σ1') (hcont : ¬ J.is .cont) (hl : loopThen (some (ob, τ1)) k = some (o, σ1))
    (go : ob' = ob → SameHidden J.F σ' σ1' → k τ1 = some (o, σ1) →
      (∀ k' (υ : St), loopThen (some (ob, υ)) k' = k' υ) → motive)
    (stop : ob' = ob → σ1 = τ1 → J.OutRel hit o o σ' σ1' →
      (∀ k' (υ : St), loopThen (some (ob, υ)) k' = some (o, υ)) → motive)
    (jumped : J.is ob → σ1 = τ1 → o = loopOut ob → hit = true → ob' = J.tgt → J.records ob σ1'.env → motive) : motive := by
  by_cases hi : J.is ob
  · obtain ⟨hh, ho', hset⟩ := hp.of_is hi
    refine jumped hi ?_ ?_ hh ho' hset
    all_goals
      cases ob with
      | normal => exact absurd hi J.not_normal
      | cont => exact absurd hi hcont
      | _ => cases hl; rfl
  · obtain ⟨ho', hfl⟩ := hp.of_not hi
    subst ho'
    cases ob' with
    | normal => exact go rfl (hfl.resolve_right id) hl fun _ _ => rfl
    | cont => exact go rfl (hfl.resolve_right id) hl fun _ _ => rfl
    | brk =>
      cases hl
      exact stop rfl rfl (.same hit J.not_normal (hfl.resolve_right id)) fun _ _ => rfl
    | ret w => cases hl; exact stop rfl rfl hp fun _ _ => rfl
    | exc e => cases hl; exact stop rfl rfl hp fun _ _ => rfl

end Jump

section
variable {X : Ext} {J : Jump}

/-! The model's `retTest v gd c`, `retExtra v gd ex` are the guarded tests for any flag `v`: the break lowering's
`guardE v c` is `retTest v true c`, its extra test `not v` is `retExtra v true none`.  What such a loop reports outward
differs between the lowerings (`LoopOutRel.outRel`, `LoopOutRel.out_eq`), so the conclusion is `LoopRes`, not yet a `SimTo`. -/

theorem evalE_retTest_clear (X : Ext) {v : Name} {gd : Bool} (c : Expr) {σ : St}
    (h : gd = true → σ.env v = some (.int 0)) : evalE X (retTest v gd c) σ = evalE X c σ := by
  cases gd with
  | false => rfl
  | true => exact evalE_guard_clear X c (h rfl)

theorem extraThen_retExtra_clear (X : Ext) {v : Name} {gd : Bool} (ex : Option Expr) {σ : St}
    (k : St → Option (Out × St)) (h : gd = true → σ.env v = some (.int 0)) :
    extraThen (evalE X) (retExtra v gd ex) k σ = extraThen (evalE X) ex k σ := by
  cases gd with
  | false => rfl
  | true =>
    cases ex with
    | none =>
      show valThen (evalE X (.not (.var v)) σ) _ = k σ
      rw [valThen_ok (evalE_notvar_clear X (h rfl))]; rfl
    | some t =>
      show valThen (evalE X (guardE v t) σ) _ = valThen (evalE X t σ) _
      rw [evalE_guard_clear X t (h rfl)]

theorem extraThen_retExtra_set (X : Ext) {v : Name} (ex : Option Expr) {σ : St} (k : St → Option (Out × St))
    (h : σ.env v = some (.int 1)) : extraThen (evalE X) (retExtra v true ex) k σ = some (.normal, σ) := by
  cases ex with
  | none =>
    show valThen (evalE X (.not (.var v)) σ) _ = _
    rw [valThen_ok (evalE_notvar_set X h)]; rfl
  | some t =>
    show valThen (evalE X (guardE v t) σ) _ = _
    rw [valThen_ok (evalE_guard_set X t h)]; rfl

section
variable {b b' : Block} {hit gd : Bool}

/-- `Sim` for (part of) a loop whose test is guarded by the flag if `gd`: what the loop reports is a `LoopRes`. -/
def LoopSim (J : Jump) (hit gd : Bool) (k' : Nat → St → Option (Out × St)) (k : St → Option (Out × St)) : Prop :=
  ∀ σ σ' o σ1, Agree J.G σ σ' → (gd = true → σ'.env J.flag = some (.int 0)) → k σ = some (o, σ1) →
    ∃ m σ1' o', k' m σ' = some (o', σ1') ∧ J.LoopRes hit σ' o σ1 o' σ1'

/-- For a jump that loops do not catch themselves and that the lowering turns into normal completion the lowered loop is a
statement like any other. -/
theorem LoopSim.sim {l l' : Stmt} (ht : J.tgt = .normal) (hb : ¬ J.is .brk)
    (h : ∀ n, LoopSim J hit gd (exec X · l') (exec X n l)) : Sim X J hit gd [l'] (exec X · l) :=
  fun n σ σ' o σ1 hag hpre hx =>
    let ⟨m, σ1', o', hx', hag1, hp, hfr⟩ := h n σ σ' o σ1 hag hpre hx
    ⟨m + 1, σ1', o', execB_singleton hx', hag1, hp.outRel ht hb, hfr⟩

/-- One iteration: `k` is what the source loop does after the body, `k' m` the lowered loop with fuel `m`. -/
theorem iter_guarded (hB : Sim X J hit hit b' (execB X · b)) (hgd : hit = true → gd = true) (hcont : ¬ J.is .cont)
    {k : St → Option (Out × St)} {k' : Nat → St → Option (Out × St)}
    (hk : LoopSim J hit gd k' k)
    (hmono : ∀ {m m' υ r}, k' m υ = some r → m ≤ m' → k' m' υ = some r)
    (hset : ∀ {m υ'}, gd = true → υ'.env J.flag = some (.int 1) → k' (m+1) υ' = some (.normal, υ'))
    {n : Nat} {τ τ' τ1 σ1 : St} {ob o : Out} (hag : Agree J.G τ τ') (hpre : gd = true → τ'.env J.flag = some (.int 0))
    (hb : execB X n b τ = some (ob, τ1)) (hl : loopThen (some (ob, τ1)) k = some (o, σ1)) :
    ∃ m σ1' o', loopThen (execB X m b' τ') (k' m) = some (o', σ1') ∧ J.LoopRes hit τ' o σ1 o' σ1' := by
  obtain ⟨m1, τ1', ob', hx1, hag1, hp1, hfr1⟩ := hB n τ τ' ob τ1 hag (fun hh => hpre (hgd hh)) hb
  refine hp1.loop_cases hcont hl (fun ho' hcur hk0 hgo => ?_) (fun ho' hs hpo hstop => ?_)
    (fun hi hs ho hh ho' hset' => ?_)
  · obtain ⟨m2, σ1', o', hx2, hres⟩ := hk τ1 τ1' o σ1 hag1 (fun hg => by rw [hcur _ J.flag_F]; exact hpre hg) hk0
    refine ⟨max m1 m2, σ1', o', ?_, hres.rebase hcur hfr1⟩
    rw [execB_mono X hx1 (Nat.le_max_left _ _), ho', hgo]
    exact hmono hx2 (Nat.le_max_right _ _)
  · subst hs
    exact ⟨m1, τ1', o, by rw [hx1, ho', hstop], hag1, .inl hpo, hfr1⟩
  · subst hs
    refine ⟨m1 + 1, τ1', .normal, ?_, hag1, .inr ⟨ob, hi, ho, hh, rfl, hset'⟩, hfr1⟩
    rw [execB_mono X hx1 (Nat.le_succ _), ho', J.loopThen_tgt]
    exact hset (hgd hh) (J.records_flag hset')

theorem while_guarded {c : Expr} (hB : Sim X J hit hit b' (execB X · b)) (hc : CleanE J.G c)
    (hgd : hit = true → gd = true) (hcont : ¬ J.is .cont) :
    ∀ n, LoopSim J hit gd (exec X · (.whileS (retTest J.flag gd c) b')) (exec X n (.whileS c b)) := by
  intro n
  induction n with
  | zero => exact fun _ _ _ _ _ _ h => nomatch h
  | succ n ih =>
    intro σ σ' o σ1 hag hpre h
    refine exec_while_cases h (fun ex τ hr he => ?_) (fun v τ hr hv he => ?_) (fun v τ ob τ1 hr hv hb hl => ?_)
      <;> obtain ⟨τ', hr', hag', henv⟩ := evalE_agree' hc hag hr
      <;> have htest := (evalE_retTest_clear X c hpre).trans hr'
    · cases he; exact ⟨1, τ', _, exec_while_err htest, .same hag' (J.not_exc ex) henv⟩
    · cases he; exact ⟨1, τ', _, exec_while_false htest hv, .same hag' J.not_normal henv⟩
    · obtain ⟨m, σ1', o', hx, hres⟩ := iter_guarded hB hgd hcont
        (k' := fun m => exec X m (.whileS (retTest J.flag gd c) b')) ih (fun h hm => exec_mono X h hm)
        (fun hg hs => by subst hg; exact exec_while_false (evalE_guard_set X c hs) rfl) hag'
        (fun hg => by rw [henv]; exact hpre hg) hb hl
      exact ⟨m + 1, σ1', o', (exec_while_true htest hv).trans hx, hres.rebase (.of_env henv) (.of_env henv)⟩

variable {x : Name} {ex : Option Expr}

theorem extraThen_guarded {n : Nat} (hcex : CleanO J.G ex)
    (hF : ∀ items, LoopSim J hit gd (execFor X · x (retExtra J.flag gd ex) b' items) (execFor X n x ex b items))
    (items : List Val) :
    LoopSim J hit gd
      (fun m => extraThen (evalE X) (retExtra J.flag gd ex) (execFor X m x (retExtra J.flag gd ex) b' items))
      (extraThen (evalE X) ex (execFor X n x ex b items)) := by
  intro τ τ' o σ1 hag hpre h
  refine extraThen_cases hcex hag h (fun υ υ' hag2 henv hk hgo => ?_) (fun υ' hag2 henv ho hstop => ?_)
  · obtain ⟨m, σ1', o', hx, hres⟩ := hF items υ υ' o σ1 hag2 (fun hg => by rw [henv]; exact hpre hg) hk
    exact ⟨m, σ1', o', ((extraThen_retExtra_clear X ex _ hpre).trans (hgo _)).trans hx,
      hres.rebase (.of_env henv) (.of_env henv)⟩
  · have hno : ¬ J.is o := by
      rcases ho with rfl | ⟨e, rfl⟩
      · exact J.not_normal
      · exact J.not_exc e
    exact ⟨0, υ', o, (extraThen_retExtra_clear X ex _ hpre).trans (hstop _), .same hag2 hno henv⟩

theorem for_guarded (hB : Sim X J hit hit b' (execB X · b)) (hx : ¬ J.G x) (hcex : CleanO J.G ex)
    (hgd : hit = true → gd = true) (hcont : ¬ J.is .cont) :
    ∀ n items, LoopSim J hit gd (execFor X · x (retExtra J.flag gd ex) b' items) (execFor X n x ex b items) := by
  intro n
  induction n with
  | zero => exact fun _ _ _ _ _ _ _ h => nomatch h
  | succ n ih =>
    intro items σ σ' o σ1 hag hpre h
    cases items with
    | nil => cases h; exact ⟨1, σ', .normal, rfl, .same hag J.not_normal rfl⟩
    | cons v items =>
      rw [execFor_cons] at h
      obtain ⟨ob, τ1, hb, hl⟩ := loopThen_inv h
      have hs0 : ∀ {H : Name → Prop}, (∀ y, H y → J.G y) → SameHidden H σ' (σ'.set x v) :=
        fun hH => (SameHidden.refl _ σ').set (fun hy => hx (hH x hy)) v
      obtain ⟨m, σ1', o', hx', hres⟩ := iter_guarded hB hgd hcont
        (k' := fun m => extraThen (evalE X) (retExtra J.flag gd ex) (execFor X m x (retExtra J.flag gd ex) b' items))
        (extraThen_guarded hcex ih items) (fun h hm => extraThen_mono X h hm)
        (fun hg hs => by subst hg; exact extraThen_retExtra_set X ex _ hs) (hag.set x v)
        (fun hg => by rw [hs0 J.F_G _ J.flag_F]; exact hpre hg) hb hl
      exact ⟨m + 1, σ1', o', (execFor_cons X m σ' x _ b' v items).trans hx', hres.rebase (hs0 J.F_G) (hs0 J.keep_G)⟩

theorem exec_for_guarded {it : Expr} (hB : Sim X J hit hit b' (execB X · b)) (hx : ¬ J.G x) (hcit : CleanE J.G it)
    (hcex : CleanO J.G ex) (hgd : hit = true → gd = true) (hcont : ¬ J.is .cont) :
    ∀ n, LoopSim J hit gd (exec X · (.forS x it (retExtra J.flag gd ex) b')) (exec X n (.forS x it ex b)) := by
  intro n σ σ' o σ1 hag hpre h
  cases n with
  | zero => exact nomatch h
  | succ n =>
    refine exec_for_head (Q := fun o' σ1' => J.LoopRes hit σ' o σ1 o' σ1') hcit hag h
      (fun e τ' he hag' henv => .same hag' (he ▸ J.not_exc e) henv) fun items τ τ' hag' henv hk => ?_
    obtain ⟨m, σ1', o', hx', hres⟩ := extraThen_guarded hcex (for_guarded hB hx hcex hgd hcont n) items τ τ' o σ1
      hag' (fun hg => by rw [henv]; exact hpre hg) hk
    exact ⟨m, σ1', o', hx', hres.rebase (.of_env henv) (.of_env henv)⟩

end

end

def Hid (gen : Gen) : Name → Prop := fun x => ∃ q, x = gen q

theorem Hid.gen (gen : Gen) (q : List Nat) : Hid gen (gen q) := ⟨q, rfl⟩

def HidR (dr rv : Name) : Name → Prop := fun x => x = dr ∨ x = rv

/-- The flags of shorter paths than `pc`, those of the loops around the loop at `pc` among them.  A statement inside that
loop writes `gen pc` and the flags of the loops it contains, whose paths are longer. -/
def OuterFlags (gen : Gen) (pc : List Nat) : Name → Prop := fun x => ∃ q : List Nat, q.length < pc.length ∧ x = gen q

theorem OuterFlags.hid {gen : Gen} {pc : List Nat} {x : Name} (h : OuterFlags gen pc x) : Hid gen x :=
  let ⟨q, _, hx⟩ := h; ⟨q, hx⟩

theorem OuterFlags.mono {gen : Gen} {pc p : List Nat} {x : Name} (hp : pc.length ≤ p.length) (h : OuterFlags gen pc x) :
    OuterFlags gen p x :=
  let ⟨q, hq, hx⟩ := h; ⟨q, Nat.lt_of_lt_of_le hq hp, hx⟩

/-- The blocks of a statement at `p` have paths `j :: p`. -/
theorem le_subpath {pc p : List Nat} (h : pc.length < p.length) (j : Nat) : pc.length ≤ (j :: p).length :=
  Nat.le_succ_of_le (Nat.le_of_lt h)

theorem OuterFlags.set {gen : Gen} (inj : ∀ p q : List Nat, gen p = gen q → p = q) {pc p : List Nat}
    (hp : pc.length ≤ p.length) (σ : St) (v : Val) : SameHidden (OuterFlags gen pc) σ (σ.set (gen p) v) := by
  rintro x ⟨q, hq, rfl⟩
  exact St.set_env_ne _ _ fun he => by have := inj _ _ he; subst this; omega

def flagJ (gen : Gen) (pc : List Nat) (j tgt : Out) (hj : j = .brk ∨ j = .cont) (ht : tgt = .normal ∨ tgt = .cont) :
    Jump where
  G := Hid gen
  F := (· = gen pc)
  keep := OuterFlags gen pc
  flag := gen pc
  is := (· = j)
  tgt := tgt
  records := fun _ env => env (gen pc) = some (.int 1)
  F_G := fun _ hx => ⟨pc, hx⟩
  keep_G := fun _ => OuterFlags.hid
  flag_F := rfl
  records_flag := id
  not_normal := fun h => by rcases hj with hj | hj <;> rw [hj] at h <;> cases h
  not_exc := fun e h => by rcases hj with hj | hj <;> rw [hj] at h <;> cases h
  tgt_loop := ht
  records_congr := fun hs h => (hs _ rfl).trans h

theorem flagJ_jump {gen : Gen} (X : Ext) (inj : ∀ p q : List Nat, gen p = gen q → p = q) {pc : List Nat} {j tgt : Out}
    {hj : j = .brk ∨ j = .cont} {ht : tgt = .normal ∨ tgt = .cont} {s : Stmt} {b' : Block} {k : Nat} {need : Bool}
    (hs : ∀ n σ, exec X (n+1) s σ = some (j, σ))
    (hb' : ∀ σ', execB X k b' σ' = some (tgt, σ'.set (gen pc) (.int 1))) :
    Sim X (flagJ gen pc j tgt hj ht) true need b' (exec X · s) := by
  intro n σ σ' o σ1 hag _ h
  cases n with
  | zero => exact nomatch h
  | succ n =>
    dsimp only at h
    rw [hs] at h; cases h
    exact ⟨k, _, tgt, hb' σ', hag.setHidden (Hid.gen gen pc) _, .jumped rfl (St.set_env_eq _ _ _),
      OuterFlags.set inj (Nat.le_refl _) σ' _⟩

end Malt.Sem.Jumps
