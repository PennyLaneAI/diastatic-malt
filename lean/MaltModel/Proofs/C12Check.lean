import MaltModel.Proofs.C12Stack
/-!
The hypotheses and the conclusion of `C12_stack_partial` evaluated on a *recorded* run: per `converted_call` level
(outermost first) the harness hands over the generated file, the part of the source map the traceback touches, the
traceback that level saw, and the frame of the unconverted run that executes the same statement (`RawLevel`).
-/
namespace Malt.Errors

structure RawLevel where
  genFile : String
  map : SourceMap
  tb : List Frame
  orig : Frame

/-- Splits at the innermost mapped frame: (pre, site, origin, post). -/
def splitSite (m : SourceMap) : List Frame → Option (List Frame × Frame × Origin × List Frame)
  | [] => none
  | f :: rest =>
    match splitSite m rest with
    | some (pre, s, o, post) => some (f :: pre, s, o, post)      -- a mapped frame further in wins
    | none =>
      match get m ⟨f.file, f.line⟩ with
      | some o => some ([], f, o, rest)
      | none => none

/-- The tracebacks are taken to be nested suffixes (not checked); everything below the innermost site goes into the tail, so
the last level has `post := []`. -/
def decompose : List RawLevel → Option (List ConvLevel × List Frame)
  | [] => none
  | [r] =>
    match splitSite r.map r.tb with
    | some (pre, s, o, post) =>
      some ([{ genFile := r.genFile, map := r.map, pre := pre, site := s, post := [], siteOrigin := o, orig := r.orig, outer := [] }], post)
    | none => none
  | r :: r' :: rs =>
    match decompose (r' :: rs) with
    | none => none
    | some (ls, T) =>
      -- this level's own frames: its traceback minus the inner level's
      match splitSite r.map (r.tb.take (r.tb.length - r'.tb.length)) with
      | some (pre, s, o, post) =>
        some ({ genFile := r.genFile, map := r.map, pre := pre, site := s, post := post, siteOrigin := o, orig := r.orig, outer := [] } :: ls, T)
      | none => none

/-- `SiteResolved` without the function name. -/
def SiteLine (U : String) (l : ConvLevel) : Prop :=
  l.orig.file = U ∧ l.siteOrigin.file = l.orig.file ∧ l.siteOrigin.line = l.orig.line

instance (U : String) (l : ConvLevel) : Decidable (SiteLine U l) := by unfold SiteLine; infer_instance

/-- `U0`: the user frames of the unconverted run's traceback, outermost first. -/
def conclusionHolds (U : String) (L : List ConvLevel) (st : List FrameInfo) (U0 : List Loc3) : Bool :=
  let locs := (st.map FrameInfo.loc).filter (fun p => decide (p.1 = U))
  decide (((st.filter (·.converted)).map FrameInfo.loc) = L.reverse.map (fun l => l.orig.loc))
    && locs.reverse.isSublist U0
    && decide (locs.head? = U0.getLast?)

theorem splitSite_mapped {m : SourceMap} {tb pre post : List Frame} {s : Frame} {o : Origin}
    (h : splitSite m tb = some (pre, s, o, post)) : get m ⟨s.file, s.line⟩ = some o := by
  fun_induction splitSite m tb generalizing pre
  case case2 hrec ih =>
    obtain ⟨-, rfl, rfl, rfl⟩ : _ ∧ _ ∧ _ ∧ _ := by simpa using h
    exact ih hrec
  case case3 hg _ =>
    obtain ⟨-, rfl, rfl, -⟩ : _ ∧ _ ∧ _ ∧ _ := by simpa using h
    exact hg
  all_goals cases h

theorem decompose_siteMapped (raw : List RawLevel) : ∀ (L : List ConvLevel) (T : List Frame),
    decompose raw = some (L, T) → ∀ l ∈ L, SiteMapped l := by
  fun_induction decompose raw <;> intro L T h
  case case2 hs =>
    obtain ⟨rfl, -⟩ := Prod.mk.inj (Option.some.inj h)
    intro l hl
    rw [List.mem_singleton.mp hl]
    exact splitSite_mapped hs
  case case5 hrec _ _ _ _ hs ih =>   -- hrec: the inner levels decompose; hs: this level's own frames split at its site
    obtain ⟨rfl, -⟩ := Prod.mk.inj (Option.some.inj h)
    intro l hl
    rcases List.mem_cons.mp hl with rfl | hl
    · exact splitSite_mapped hs
    · exact ih _ _ hrec l hl
  all_goals cases h

theorem decompose_ne_nil {raw : List RawLevel} {L : List ConvLevel} {T : List Frame}
    (h : decompose raw = some (L, T)) : L ≠ [] := by
  rintro rfl
  revert h
  fun_cases decompose raw <;> simp [*]

/-- `hpost` as: the part of `lastBelow L T` in front of `T`, which is the last level's `post` (empty after `decompose`). -/
def stackHypsB (api U : String) (L : List ConvLevel) (T : List Frame) : Bool :=
  decide (∀ l ∈ L, KeysInGen l) && decide (BelowForeign L T) && decide (∀ l ∈ L, SiteResolved U l)
    && decide (api ≠ U) && decide (∀ f ∈ (lastBelow L T).take ((lastBelow L T).length - T.length), f.file ≠ U)

/-! Class predicates of the stack findings, evaluated by the driver on the recorded levels. -/

/-- `genFiles`: the file of each level's conversion. -/
def reentered (genFiles : List String) : Bool := !(genFiles.eraseDups.length == genFiles.length)

def foreignKeyHit (genFile : String) (lv : Level) : Bool :=
  lv.tb.any fun f => decide (f.file ≠ genFile) && (get lv.map ⟨f.file, f.line⟩).isSome

def siteInLambda (lv : Level) : Bool :=
  match lv.tb.reverse.find? (fun f => (get lv.map ⟨f.file, f.line⟩).isSome) with
  | some f => f.fn == "<lambda>"
  | none => false

/-- Finding `C12-to-graph-callee`: some frame runs generated code of a conversion that has no `converted_call` level on
the path (a `to_graph` output called directly), so nobody consults that conversion's source map. -/
def unwrappedGenerated (allGen : List String) (ls : List (String × Level)) : Bool :=
  ls.any fun (_, lv) => lv.tb.any fun f => allGen.contains f.file && !(ls.any fun (g, _) => g == f.file)

end Malt.Errors
