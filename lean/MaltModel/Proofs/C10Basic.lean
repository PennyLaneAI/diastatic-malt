import MaltModel.Rt.Cache
namespace Malt.Cache

section lists

theorem lt_of_getElem?_some {α : Type} {l : List α} {i : Nat} {a : α} (h : l[i]? = some a) :
    i < l.length :=
  (List.getElem?_eq_some_iff.mp h).1

theorem getElem?_set_of_some {α : Type} {l : List α} {t t' : Nat} {a b : α} (h : l[t]? = some a) :
    (l.set t b)[t']? = if t' = t then some b else l[t']? := by
  by_cases ht : t' = t
  · subst ht; rw [if_pos rfl]; exact List.getElem?_set_self (lt_of_getElem?_some h)
  · rw [if_neg ht]; exact List.getElem?_set_ne (fun e => ht e.symm)

theorem set_same {α : Type} {l : List α} {t : Nat} {a : α} (h : l[t]? = some a) : l.set t a = l := by
  obtain ⟨ht, rfl⟩ := List.getElem?_eq_some_iff.mp h
  exact List.set_getElem_self ht

theorem sum_set_lt {α : Type} (f : α → Nat) : ∀ (l : List α) (t : Nat) (a old : α),
    l[t]? = some old → f a < f old → ((l.set t a).map f).sum < (l.map f).sum := by
  intro l
  induction l with
  | nil => intro t a old h; simp at h
  | cons x tl ih =>
    intro t a old h hlt
    cases t with
    | zero =>
      simp only [List.getElem?_cons_zero, Option.some.injEq] at h
      subst h
      simp only [List.set_cons_zero, List.map_cons, List.sum_cons]
      omega
    | succ n =>
      simp only [List.getElem?_cons_succ] at h
      have := ih n a old h hlt
      simp only [List.set_cons_succ, List.map_cons, List.sum_cons]
      omega

end lists

section keys
variable {Opts Factory : Type} [BEq Opts] [Hashable Opts] [LawfulBEq Opts]

theorem keyMatch_iff (a b : Opts) : keyMatch a b = true ↔ a = b := by
  unfold keyMatch
  constructor
  · intro h
    simp only [Bool.and_eq_true, beq_iff_eq] at h
    exact h.2
  · rintro rfl
    simp

theorem keyMatch_self (a : Opts) : keyMatch a a = true := (keyMatch_iff a a).mpr rfl

theorem keyMatch_ne {a b : Opts} (h : a ≠ b) : keyMatch a b = false := by
  cases hk : keyMatch a b with
  | false => rfl
  | true => exact absurd ((keyMatch_iff a b).mp hk) h

theorem bfind_bset_self (o : Opts) (f : Factory) (bk : List (Opts × Factory)) :
    bfind o (bset o f bk) = some f := by
  fun_induction bset o f bk with
  | case1 => simp [bfind, keyMatch_self]
  | case2 k v r hk => simp [bfind, hk]
  | case3 k v r hk ih => simp [bfind, hk, ih]

theorem bfind_bset_ne {o o' : Opts} (h : o' ≠ o) (f : Factory) (bk : List (Opts × Factory)) :
    bfind o (bset o' f bk) = bfind o bk := by
  fun_induction bset o' f bk with
  | case1 => simp [bfind, keyMatch_ne h]
  | case2 k v r hk =>
    cases (keyMatch_iff _ _).mp hk
    simp [bfind, keyMatch_ne h]
  | case3 k v r hk ih => simp [bfind, ih]

theorem bfind_bset (o o' : Opts) (f : Factory) (bk : List (Opts × Factory)) :
    bfind o' (bset o f bk) = if (o == o') = true then some f else bfind o' bk := by
  by_cases h : o = o'
  · subst h; rw [bfind_bset_self, if_pos (beq_self_eq_true o)]
  · rw [bfind_bset_ne h, if_neg (fun hb => h (eq_of_beq hb))]

theorem bfind_mem {o : Opts} {f : Factory} {bk : List (Opts × Factory)} (h : bfind o bk = some f) :
    (o, f) ∈ bk := by
  fun_induction bfind o bk with
  | case1 => cases h
  | case2 k v r hk =>
    cases h
    rw [(keyMatch_iff _ _).mp hk]
    exact List.mem_cons_self
  | case3 k v r hk ih => exact List.mem_cons_of_mem _ (ih h)

theorem mem_bset {o k : Opts} {f g : Factory} {bk : List (Opts × Factory)} (h : (k, g) ∈ bset o f bk) :
    (k, g) ∈ bk ∨ (k = o ∧ g = f) := by
  fun_induction bset o f bk with
  | case1 => exact Or.inr (by simpa using h)
  | case2 k' v r hk =>
    rcases List.mem_cons.mp h with h | h
    · cases h; exact Or.inr ⟨(keyMatch_iff _ _).mp hk, rfl⟩
    · exact Or.inl (List.mem_cons_of_mem _ h)
  | case3 k' v r hk ih =>
    rcases List.mem_cons.mp h with h | h
    · exact Or.inl (h ▸ List.mem_cons_self)
    · exact (ih h).imp_left (List.mem_cons_of_mem _)

end keys

section outer

theorem ofind_congr {c c' : Code} (h : c.val = c'.val) (m : List (Code × Nat)) : ofind c m = ofind c' m := by
  induction m with
  | nil => rfl
  | cons e r ih => obtain ⟨k, b⟩ := e; simp [ofind, h, ih]

theorem ofind_oset (c c' : Code) (b : Nat) (m : List (Code × Nat)) :
    ofind c (oset c' b m) = if c'.val = c.val then some b else ofind c m := by
  fun_induction oset c' b m with
  | case1 => simp [ofind]
  | case2 k b' r hk => simp only [ofind, hk]; split <;> rfl
  | case3 k b' r hk ih =>
    by_cases hk2 : k.val = c.val
    · have : ¬ c'.val = c.val := fun h => hk (hk2.trans h.symm)
      simp [ofind, hk2, this]
    · simp [ofind, hk2, ih]

theorem oset_of_ofind_none {c : Code} {m : List (Code × Nat)} (b : Nat) (h : ofind c m = none) :
    oset c b m = m ++ [(c, b)] := by
  fun_induction ofind c m with
  | case1 => rfl
  | case2 k b' r hk => cases h
  | case3 k b' r hk ih => simp [oset, hk, ih h]

theorem ofind_mem {c : Code} {b : Nat} {m : List (Code × Nat)} (h : ofind c m = some b) :
    ∃ k, (k, b) ∈ m ∧ k.val = c.val := by
  fun_induction ofind c m with
  | case1 => cases h
  | case2 k b' r hk => cases h; exact ⟨k, List.mem_cons_self, hk⟩
  | case3 k b' r hk ih =>
    obtain ⟨k', hm, hv⟩ := ih h
    exact ⟨k', List.mem_cons_of_mem _ hm, hv⟩

theorem ofind_none_of_mem {c : Code} {m : List (Code × Nat)} (h : ofind c m = none) :
    ∀ e ∈ m, e.1.val ≠ c.val := by
  fun_induction ofind c m with
  | case1 => nofun
  | case2 k b' r hk => cases h
  | case3 k b' r hk ih =>
    intro e he
    rcases List.mem_cons.mp he with rfl | he
    · exact hk
    · exact ih h e he

theorem mem_oset {c : Code} {b : Nat} {m : List (Code × Nat)} {e : Code × Nat} (h : e ∈ oset c b m) :
    e ∈ m ∨ (e.2 = b ∧ e.1.val = c.val) := by
  fun_induction oset c b m with
  | case1 => cases List.mem_singleton.mp h; exact Or.inr ⟨rfl, rfl⟩
  | case2 k b' r hk =>
    rcases List.mem_cons.mp h with rfl | h
    · exact Or.inr ⟨rfl, hk⟩
    · exact Or.inl (List.mem_cons_of_mem _ h)
  | case3 k b' r hk ih =>
    rcases List.mem_cons.mp h with rfl | h
    · exact Or.inl List.mem_cons_self
    · exact (ih h).imp_left (List.mem_cons_of_mem _)

theorem mem_ogc {c : Code} {m : List (Code × Nat)} {e : Code × Nat} :
    e ∈ ogc c m ↔ e ∈ m ∧ e.1 ≠ c := by
  simp [ogc, List.mem_filter]

theorem ogc_eq_self {c' : Code} {m : List (Code × Nat)} (h : ∀ e ∈ m, e.1 ≠ c') : ogc c' m = m := by
  unfold ogc
  apply List.filter_eq_self.mpr
  intro e he
  simpa using h e he

/-- Removing the entry of key object `c'` does not change what a lookup of `c` finds, as long as
`c'`, if it is a key, does not have the value of `c`. -/
theorem ofind_ogc {c c' : Code} {m : List (Code × Nat)}
    (h : ∀ e ∈ m, e.1 = c' → e.1.val ≠ c.val) : ofind c (ogc c' m) = ofind c m := by
  induction m with
  | nil => simp [ogc, ofind]
  | cons e r ih =>
    obtain ⟨k, b'⟩ := e
    have ih' := ih (fun e he => h e (List.mem_cons_of_mem _ he))
    unfold ogc at ih' ⊢
    by_cases hk : k = c'
    · have hv : ¬ k.val = c.val := h (k, b') List.mem_cons_self hk
      rw [List.filter_cons_of_neg (by simp [hk])]
      rw [ih']
      simp [ofind, hv]
    · rw [List.filter_cons_of_pos (by simp [hk])]
      by_cases hv : k.val = c.val
      · simp [ofind, hv]
      · simp only [ofind, hv, if_false]
        exact ih'

theorem ofind_ogc_of_val_ne {c c' : Code} (hv : c.val ≠ c'.val) (m : List (Code × Nat)) :
    ofind c (ogc c' m) = ofind c m :=
  ofind_ogc fun _ _ hec h => hv (by rw [← h, hec])

end outer

section heap
variable {Opts Factory : Type} [BEq Opts] [Hashable Opts]

theorem hstore_length (b : Nat) (o : Opts) (f : Factory) (h : List (Nat × List (Opts × Factory))) :
    (hstore b o f h).length = h.length := by
  unfold hstore
  split <;> simp

theorem hstore_get (b b' : Nat) (o : Opts) (f : Factory) (h : List (Nat × List (Opts × Factory))) :
    (hstore b o f h)[b']? =
      if b' = b then (h[b]?).map (fun e => (e.1, bset o f e.2)) else h[b']? := by
  unfold hstore
  by_cases hb : b' = b
  · subst hb
    cases hh : h[b']? with
    | none => simp [hh]
    | some e =>
      have hlt : b' < h.length := lt_of_getElem?_some hh
      simp [hlt]
  · cases hh : h[b]? with
    | none => simp [hb]
    | some e =>
      have : ¬ b = b' := fun h => hb h.symm
      simp [hb, this]

end heap

theorem isIdle_eq {Factory : Type} {pc : Pc Factory} (h : pc.isIdle = true) : pc = .idle := by
  cases pc <;> simp [Pc.isIdle] at h <;> rfl

def Eff.writes {Opts Factory : Type} : Eff Opts Factory → Bool
  | .create _ | .store _ _ _ => true
  | _ => false

section effects
variable {Opts Factory : Type} [BEq Opts] [Hashable Opts] (s : State Opts Factory) (t : Tid)

@[simp] theorem applyEff_threads (e : Eff Opts Factory) : (applyEff s t e).threads = s.threads := by
  cases e <;> rfl

theorem applyEff_of_not_writes {eff : Eff Opts Factory} (h : eff.writes = false) :
    (applyEff s t eff).outer = s.outer ∧ (applyEff s t eff).heap = s.heap := by
  cases eff <;> first | exact ⟨rfl, rfl⟩ | cases h

theorem applyEff_create_outer (c : Code) : (applyEff s t (.create c)).outer = oset c s.heap.length s.outer := rfl

theorem applyEff_create_heap (c : Code) : (applyEff s t (.create c)).heap = s.heap ++ [(c.val, [])] := rfl

theorem applyEff_store_heap (b : Nat) (o : Opts) (f : Factory) :
    (applyEff s t (.store b o f)).heap = hstore b o f s.heap := rfl

theorem ofind_create (c c' : Code) :
    ofind c' (applyEff s t (.create c)).outer = if c.val = c'.val then some s.heap.length else ofind c' s.outer :=
  ofind_oset c' c s.heap.length s.outer

theorem xcount_logx (c' : Code) (o' : Opts) (c : Code) (o : Opts) :
    xcount (applyEff s t (.logx c' o')) c o = xcount s c o + if c' = c ∧ (o' == o) = true then 1 else 0 := by
  simp only [xcount, applyEff, List.filter_append, List.length_append]
  by_cases h : c' = c ∧ (o' == o) = true
  · simp [h]
  · rw [if_neg h]
    by_cases hc : c' = c
    · have ho : ¬ (o' == o) = true := fun ho => h ⟨hc, ho⟩
      simp [hc, ho]
    · simp [hc]

variable {s}

theorem applyEff_acquire_lock (h : s.lock = none) : (applyEff s t .acquire).lock = some (t, 1) := by
  simp [applyEff, h]

theorem applyEff_release_lock {h : Tid} (hl : s.lock = some (h, 1)) : (applyEff s t .release).lock = none := by
  simp [applyEff, hl]

end effects

section lookups
variable {Opts Factory : Type} [BEq Opts] [Hashable Opts]

theorem bucketAt_beyond {s : State Opts Factory} {b : Nat} (h : ¬ b < s.heap.length) : bucketAt s b = [] := by
  simp [bucketAt, List.getElem?_eq_none (Nat.le_of_not_lt h)]

theorem lt_of_mem_bucketAt {s : State Opts Factory} {b : Nat} {e : Opts × Factory} (h : e ∈ bucketAt s b) :
    b < s.heap.length := by
  by_cases hb : b < s.heap.length
  · exact hb
  · rw [bucketAt_beyond hb] at h
    cases h

theorem bucketAt_create (s : State Opts Factory) (t : Tid) (c : Code) (b : Nat) :
    bucketAt (applyEff s t (.create c)) b = bucketAt s b := by
  rw [bucketAt, applyEff_create_heap]
  by_cases hb : b < s.heap.length
  · rw [List.getElem?_append_left hb]; rfl
  · rw [bucketAt_beyond hb, List.getElem?_append_right (Nat.le_of_not_lt hb)]
    cases b - s.heap.length <;> rfl

theorem bucketAt_store (s : State Opts Factory) (t : Tid) (b : Nat) (o : Opts) (f : Factory) (b' : Nat) :
    bucketAt (applyEff s t (.store b o f)) b' =
      if b' = b ∧ b < s.heap.length then bset o f (bucketAt s b) else bucketAt s b' := by
  rw [bucketAt, applyEff_store_heap, hstore_get]
  by_cases hbb : b' = b
  · subst hbb
    by_cases hb : b' < s.heap.length
    · rw [if_pos rfl, if_pos ⟨rfl, hb⟩, bucketAt, List.getElem?_eq_getElem hb]; rfl
    · rw [if_pos rfl, if_neg (fun h => hb h.2), bucketAt, List.getElem?_eq_none (Nat.le_of_not_lt hb)]; rfl
  · rw [if_neg hbb, if_neg (fun h => hbb h.1)]; rfl

theorem mem_outer_create {s : State Opts Factory} (t : Tid) {c : Code} (hc : ofind c s.outer = none)
    {e : Code × Nat} : e ∈ (applyEff s t (.create c)).outer ↔ e ∈ s.outer ∨ e = (c, s.heap.length) := by
  rw [applyEff_create_outer, oset_of_ofind_none _ hc, List.mem_append, List.mem_singleton]

theorem table_of_ofind {s : State Opts Factory} {c : Code} {b : Nat} (h : ofind c s.outer = some b) (o : Opts) :
    table s c o = bfind o (bucketAt s b) := by
  simp [table, h]

theorem table_of_ofind_none {s : State Opts Factory} {c : Code} (h : ofind c s.outer = none) (o : Opts) :
    table s c o = none := by
  simp [table, h]

theorem ofind_lt {s : State Opts Factory} (hk : ∀ e ∈ s.outer, e.2 < s.heap.length) {c : Code} {b : Nat}
    (h : ofind c s.outer = some b) : b < s.heap.length := by
  obtain ⟨k, hm, _⟩ := ofind_mem h
  exact hk _ hm

end lookups

section tags
variable {Opts Factory : Type} [BEq Opts] [Hashable Opts]

/-- the code value under which bucket object `b` was created -/
def tagAt (s : State Opts Factory) (b : Nat) : Option Nat := (s.heap[b]?).map (·.1)

theorem tagAt_lt {s : State Opts Factory} {b v : Nat} (h : tagAt s b = some v) : b < s.heap.length := by
  obtain ⟨e, he, _⟩ := Option.map_eq_some_iff.mp h
  exact lt_of_getElem?_some he

theorem tagAt_applyEff {s : State Opts Factory} (t : Tid) (eff : Eff Opts Factory) {b : Nat} (hb : b < s.heap.length) :
    tagAt (applyEff s t eff) b = tagAt s b := by
  cases eff with
  | create c => rw [tagAt, applyEff_create_heap, List.getElem?_append_left hb]; rfl
  | store b' o f =>
    rw [tagAt, applyEff_store_heap, hstore_get]
    by_cases hbb : b = b'
    · subst hbb; rw [if_pos rfl, Option.map_map]; rfl
    · rw [if_neg hbb]; rfl
  | _ => rfl

theorem tagAt_mono {s : State Opts Factory} (t : Tid) (eff : Eff Opts Factory) {b v : Nat} (h : tagAt s b = some v) :
    tagAt (applyEff s t eff) b = some v :=
  (tagAt_applyEff t eff (tagAt_lt h)).trans h

theorem tagAt_create_new (s : State Opts Factory) (t : Tid) (c : Code) :
    tagAt (applyEff s t (.create c)) s.heap.length = some c.val := by
  simp [tagAt, applyEff_create_heap]

end tags

section stores
variable {Opts Factory : Type} [BEq Opts] [Hashable Opts] [LawfulBEq Opts]

theorem bfind_store (s : State Opts Factory) (t : Tid) (b : Nat) (o : Opts) (f : Factory) (b' : Nat) (o' : Opts) :
    bfind o' (bucketAt (applyEff s t (.store b o f)) b') =
      if (b' = b ∧ b < s.heap.length) ∧ (o == o') = true then some f else bfind o' (bucketAt s b') := by
  rw [bucketAt_store]
  by_cases h : b' = b ∧ b < s.heap.length
  · rw [if_pos h, bfind_bset]
    cases h.1
    by_cases ho : (o == o') = true
    · rw [if_pos ho, if_pos ⟨h, ho⟩]
    · rw [if_neg ho, if_neg (fun hh => ho hh.2)]
  · rw [if_neg h, if_neg (fun hh => h hh.1)]

theorem mem_bucketAt_applyEff {s : State Opts Factory} {t : Tid} {eff : Eff Opts Factory} {b : Nat} {e : Opts × Factory}
    (he : e ∈ bucketAt (applyEff s t eff) b) : e ∈ bucketAt s b ∨ eff = .store b e.1 e.2 := by
  cases eff with
  | create c => rw [bucketAt_create] at he; exact Or.inl he
  | store b' o f =>
    rw [bucketAt_store] at he
    by_cases h : b = b' ∧ b' < s.heap.length
    · rw [if_pos h] at he
      obtain ⟨k, f'⟩ := e
      rcases mem_bset he with he | ⟨rfl, rfl⟩
      · exact Or.inl (h.1 ▸ he)
      · exact Or.inr (by rw [h.1])
    · rw [if_neg h] at he
      exact Or.inl he
  | _ => exact Or.inl he

end stores

end Malt.Cache
