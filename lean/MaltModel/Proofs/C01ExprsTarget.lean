import MaltModel.Sem.WrappersTarget
import MaltModel.Proofs.C01ExprsStmt
/-
The counterpart of Proofs/C01ExprsStmt.lean for functionalised programs and their native run.
-/
namespace Malt.C01Exprs
open Malt.Sem (Name Val BinOp Exc Event St Ext Out truthy iterItems)
open Malt.Func (TSt Slot mask restore withFrame fnOut)
open Malt.SemW

section direct
variable {ε ε' : Type} (f : ε → ε')
mutual
theorem gdirectS_map : ∀ (s : GTStmt ε), gdirectS (gmapT f s) = gdirectS s
  | .assign .. | .expr .. | .pass | .ret .. | .raise .. | .undefAssign .. | .ifF .. | .whileF .. | .forF .. => rfl
  | .withT _ b => gdirect_map b
  | .tryT b hs fin => by simp only [gmapT, gdirectS, gdirect_map b, gdirectH_map hs, gdirect_map fin]
theorem gdirect_map : ∀ (b : List (GTStmt ε)), gdirect (gmapTB f b) = gdirect b
  | [] => rfl
  | s :: ss => by simp only [gmapTB, gdirect, gdirectS_map s, gdirect_map ss]
theorem gdirectH_map : ∀ (hs : List (Nat × List (GTStmt ε))), gdirectH (gmapTH f hs) = gdirectH hs
  | [] => rfl
  | (_, b) :: hs => by simp only [gmapTH, gdirectH, gdirect_map b, gdirectH_map hs]
end

theorem glocalsOf_map (b : GTBlock ε) (d : List Name) : glocalsOf (gmapTB f b) d = glocalsOf b d := by
  simp [glocalsOf, gdirect_map]
theorem glocalsFor_map (x : Name) (b : GTBlock ε) (d : List Name) : glocalsFor x (gmapTB f b) d = glocalsFor x b d := by
  simp [glocalsFor, gdirect_map]
end direct

mutual
theorem gdirectS_toGT : ∀ (s : Malt.Func.TStmt), gdirectS (toGT s) = Malt.Func.directS s
  | .assign .. | .expr .. | .pass | .ret .. | .raise .. | .undefAssign .. | .ifF .. | .whileF .. | .forF .. => rfl
  | .withT _ b => gdirect_toGT b
  | .tryT b hs fin => by
      simp only [toGT, gdirectS, Malt.Func.directS, gdirect_toGT b, gdirectH_toGT hs, gdirect_toGT fin]
theorem gdirect_toGT : ∀ (b : List Malt.Func.TStmt), gdirect (toGTB b) = Malt.Func.direct b
  | [] => rfl
  | s :: ss => by simp only [toGTB, gdirect, Malt.Func.direct, gdirectS_toGT s, gdirect_toGT ss]
theorem gdirectH_toGT : ∀ (hs : List (Nat × List Malt.Func.TStmt)), gdirectH (toGTH hs) = Malt.Func.directH hs
  | [] => rfl
  | (_, b) :: hs => by simp only [toGTH, gdirectH, Malt.Func.directH, gdirect_toGT b, gdirectH_toGT hs]
end

theorem glocalsOf_toGT (b : Malt.Func.TBlock) (d : List Name) : glocalsOf (toGTB b) d = Malt.Func.localsOf b d := by
  simp [glocalsOf, Malt.Func.localsOf, gdirect_toGT]
theorem glocalsFor_toGT (x : Name) (b : Malt.Func.TBlock) (d : List Name) :
    glocalsFor x (toGTB b) d = Malt.Func.localsFor x b d := by
  simp [glocalsFor, Malt.Func.localsFor, gdirect_toGT]

section congrT
variable {ε ε' : Type} (f : ε → ε') (evT' : ε' → TSt → Except Exc Val × TSt) (evT : ε → TSt → Except Exc Val × TSt)
  (mk' : Val → ε') (mk : Val → ε) (hq : ∀ e σ, evT' (f e) σ = evT e σ) (hmk : ∀ v, f (mk v) = mk' v)

theorem gmapTH_eq_map : ∀ hs : List (Nat × GTBlock ε), gmapTH f hs = hs.map fun h => (h.1, gmapTB f h.2)
  | [] => rfl
  | (_, _) :: hs => congrArg (_ :: ·) (gmapTH_eq_map hs)

theorem gfindHandlerT_map (hs : List (Nat × GTBlock ε)) : ∀ (ex : Exc),
    gfindHandlerT (gmapTH f hs) ex = (gfindHandlerT hs ex).map (gmapTB f)
  | .nameError _ | .typeError => rfl
  | .user t => by rw [gmapTH_eq_map]; exact find_map_snd (gmapTB f) t hs

include hq hmk
/-- As `gexec_map_congr_all`; the frames (`glocalsOf`, `glocalsFor`) do not look at expressions. -/
theorem gexecN_map_congr_all : ∀ (n : Nat),
    (∀ (s : GTStmt ε) (σ : TSt), gexecN evT' mk' n (gmapT f s) σ = gexecN evT mk n s σ) ∧
    (∀ (b : GTBlock ε) (σ : TSt), gexecNB evT' mk' n (gmapTB f b) σ = gexecNB evT mk n b σ) ∧
    (∀ (x : Name) (extra : Option ε) (b : GTBlock ε) (d : List Name) (items : List Val) (σ : TSt),
      gexecNFor evT' mk' n x (extra.map f) (gmapTB f b) d items σ = gexecNFor evT mk n x extra b d items σ) := by
  intro n
  induction n with
  | zero => exact ⟨fun _ _ => rfl, fun _ _ => rfl, fun _ _ _ _ _ _ => rfl⟩
  | succ n ih =>
    obtain ⟨ihS, ihB, ihF⟩ := ih
    refine ⟨?_, ?_, ?_⟩
    · intro s σ
      cases s with
      | assign x e | expr e => simp only [gmapT, gexecN, hq]
      | ret e =>
          cases e with
          | none => rfl
          | some e => simp only [gmapT, gexecN, Option.map, hq]
      | ifF c b e d k => simp only [gmapT, gexecN, hq, glocalsOf_map, ihB]
      | whileF c b d =>
          have hw : ∀ σ, gexecN evT' mk' n (.whileF (f c) (gmapTB f b) d) σ = _ := fun σ => ihS (.whileF c b d) σ
          simp only [gmapT, gexecN, hq, glocalsOf_map, ihB, hw]
      | forF x it extra b d =>
          cases extra with
          | none =>
              have hF : ∀ items σ, gexecNFor evT' mk' n x none (gmapTB f b) d items σ = _ := fun items σ => ihF x none b d items σ
              simp only [gmapT, gexecN, Option.map, hq, hF]
          | some t =>
              have hF : ∀ items σ, gexecNFor evT' mk' n x (some (f t)) (gmapTB f b) d items σ = _ :=
                fun items σ => ihF x (some t) b d items σ
              simp only [gmapT, gexecN, Option.map, hq, hF]
      | withT tag b => simp only [gmapT, gexecN, ihB]
      | tryT body hs' fin =>
          simp only [gmapT, gexecN, ihB, gfindHandlerT_map]
          rcases gexecNB evT mk n body σ with _ | ⟨o, σ1⟩
          · rfl
          · cases o with
            | exc ex =>
                dsimp only
                cases gfindHandlerT hs' ex with
                | none => rfl
                | some hb => simp only [Option.map, ihB]
            | _ => rfl
      | _ => rfl
    · intro b σ
      cases b with
      | nil => rfl
      | cons s rest => simp only [gmapTB, gexecNB, ihS, ihB]
    · intro x extra b d items σ
      cases items with
      | nil => rfl
      | cons v items =>
          have hbody : ∀ σ, gexecNB evT' mk' n (.assign x (mk' v) :: gmapTB f b) σ
              = gexecNB evT mk n (.assign x (mk v) :: b) σ := fun σ => by
            rw [← hmk v]
            exact ihB (.assign x (mk v) :: b) σ
          cases extra with
          | none =>
              have hF : ∀ σ, gexecNFor evT' mk' n x none (gmapTB f b) d items σ = _ := fun σ => ihF x none b d items σ
              simp only [gexecNFor, Option.map, glocalsFor_map, hbody, hF]
          | some t =>
              have hF : ∀ σ, gexecNFor evT' mk' n x (some (f t)) (gmapTB f b) d items σ = _ := fun σ => ihF x (some t) b d items σ
              simp only [gexecNFor, Option.map, glocalsFor_map, hbody, hq, hF]

end congrT

theorem toGTH_eq_map : ∀ hs : List (Nat × Malt.Func.TBlock), toGTH hs = hs.map fun h => (h.1, toGTB h.2)
  | [] => rfl
  | (_, _) :: hs => congrArg (_ :: ·) (toGTH_eq_map hs)

theorem gfindHandlerT_toGTH (hs : List (Nat × Malt.Func.TBlock)) : ∀ (ex : Exc),
    gfindHandlerT (toGTH hs) ex = (Malt.Func.findHandlerT hs ex).map toGTB
  | .nameError _ | .typeError => rfl
  | .user t => by rw [toGTH_eq_map]; exact find_map_snd toGTB t hs

theorem execN_eq_gexecN_all (X : Ext) : ∀ (n : Nat),
    (∀ (s : Malt.Func.TStmt) (σ : TSt),
      Malt.Func.execN X n s σ = gexecN (Malt.Func.evalT X) Malt.Sem.Expr.const n (toGT s) σ) ∧
    (∀ (b : Malt.Func.TBlock) (σ : TSt),
      Malt.Func.execNB X n b σ = gexecNB (Malt.Func.evalT X) Malt.Sem.Expr.const n (toGTB b) σ) ∧
    (∀ (x : Name) (extra : Option Malt.Sem.Expr) (b : Malt.Func.TBlock) (d : List Name) (items : List Val) (σ : TSt),
      Malt.Func.execNFor X n x extra b d items σ
        = gexecNFor (Malt.Func.evalT X) Malt.Sem.Expr.const n x extra (toGTB b) d items σ) := by
  intro n
  induction n with
  | zero => exact ⟨fun _ _ => rfl, fun _ _ => rfl, fun _ _ _ _ _ _ => rfl⟩
  | succ n ih =>
    obtain ⟨ihS, ihB, ihF⟩ := ih
    refine ⟨?_, ?_, ?_⟩
    · intro s σ
      cases s with
      | whileF c b d =>
          have hw : ∀ σ2, Malt.Func.execN X n (.whileF c b d) σ2 = _ := fun σ2 => ihS (.whileF c b d) σ2
          simp only [Malt.Func.execN, toGT, gexecN, ihB, hw, glocalsOf_toGT]
          rfl
      | forF x it extra b d => cases extra <;> simp only [Malt.Func.execN, toGT, gexecN, ihF] <;> rfl
      | ret e => cases e <;> simp only [Malt.Func.execN, toGT, gexecN] <;> rfl
      | tryT body hs fin =>
          simp only [Malt.Func.execN, toGT, gexecN, ihB]
          rcases gexecNB (Malt.Func.evalT X) Malt.Sem.Expr.const n (toGTB body) σ with _ | ⟨o, σ1⟩
          · rfl
          · cases o with
            | exc ex =>
                simp only [gfindHandlerT_toGTH]
                cases Malt.Func.findHandlerT hs ex <;> rfl
            | _ => rfl
      | _ => simp only [Malt.Func.execN, toGT, gexecN, ihB, glocalsOf_toGT] <;> rfl
    · intro b σ
      cases b with
      | nil => rfl
      | cons s rest =>
          simp only [Malt.Func.execNB, toGTB, gexecNB, ihS, ihB]
          rfl
    · intro x extra b d items σ
      cases items with
      | nil => rfl
      | cons v items =>
          have hbody : ∀ σ2, Malt.Func.execNB X n (.assign x (.const v) :: b) σ2 = _ := fun σ2 => ihB (.assign x (.const v) :: b) σ2
          cases extra <;> simp only [Malt.Func.execNFor, gexecNFor, hbody, ihF, glocalsFor_toGT] <;> rfl

mutual
theorem gallT_true {ε : Type} : ∀ (s : GTStmt ε), gallT (fun _ => true) s = true
  | .assign .. | .expr .. | .pass | .raise _ | .undefAssign _ => rfl
  | .ret e => by cases e <;> rfl
  | .ifF _ b e _ _ => by simp [gallT, gallTB_true b, gallTB_true e]
  | .whileF _ b _ | .withT _ b => by simp [gallT, gallTB_true b]
  | .forF _ _ extra b _ => by cases extra <;> simp [gallT, gallTB_true b]
  | .tryT b hs f => by simp [gallT, gallTB_true b, gallTH_true hs, gallTB_true f]
theorem gallTB_true {ε : Type} : ∀ (b : List (GTStmt ε)), gallTB (fun _ => true) b = true
  | [] => rfl
  | s :: ss => by simp [gallTB, gallT_true s, gallTB_true ss]
theorem gallTH_true {ε : Type} : ∀ (hs : List (Nat × List (GTStmt ε))), gallTH (fun _ => true) hs = true
  | [] => rfl
  | (_, b) :: hs => by simp [gallTH, gallTB_true b, gallTH_true hs]
end

theorem gexecN_map_toGT (X : Ext) {ε : Type} (f : Malt.Sem.Expr → ε) (evT : ε → TSt → Except Exc Val × TSt) (mk : Val → ε)
    (h : ∀ e σ, evT (f e) σ = Malt.Func.evalT X e σ) (hmk : ∀ v, f (.const v) = mk v) (n : Nat) :
    (∀ (s : Malt.Func.TStmt) (σ : TSt), gexecN evT mk n (gmapT f (toGT s)) σ = Malt.Func.execN X n s σ) ∧
    (∀ (b : Malt.Func.TBlock) (σ : TSt), gexecNB evT mk n (gmapTB f (toGTB b)) σ = Malt.Func.execNB X n b σ) :=
  have hc := gexecN_map_congr_all f evT (Malt.Func.evalT X) mk Malt.Sem.Expr.const h hmk n
  have he := execN_eq_gexecN_all X n
  ⟨fun s σ => (hc.1 (toGT s) σ).trans (he.1 s σ).symm, fun b σ => (hc.2.1 (toGTB b) σ).trans (he.2.1 b σ).symm⟩

end Malt.C01Exprs
