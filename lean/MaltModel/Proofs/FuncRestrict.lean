import MaltModel.Func.Functionalise
/-! Restricting every live set of an annotation to a set `S ⊇ reads` keeps it consistent (for the continuation
restricted to `S`) and changes neither the `Sem` program nor the functionalised program.  Used for the exceptional
entry into a `finally` block.  First `astmt_induct`, for the whole chain. -/
namespace Malt.Func
open Malt.Sem

section
set_option linter.unusedSectionVars false
variable {mS : AStmt → Prop} {mB : List AStmt → Prop} {mH : List (Nat × List AStmt) → Prop}
  (assign : ∀ i x e, mS (.assign i x e)) (expr : ∀ i e, mS (.expr i e)) (pass : ∀ i, mS (.pass i))
  (ret : ∀ i e, mS (.ret i e)) (raise : ∀ i t, mS (.raise i t))
  (ifS : ∀ i c t e, mB t → mB e → mS (.ifS i c t e))
  (whileS : ∀ i c b, mB b → mS (.whileS i c b)) (forS : ∀ i x it ex b, mB b → mS (.forS i x it ex b))
  (withS : ∀ i t b, mB b → mS (.withS i t b)) (tryS : ∀ i b hs f, mB b → mH hs → mB f → mS (.tryS i b hs f))
  (nil : mB []) (cons : ∀ s r, mS s → mB r → mB (s :: r))
  (hnil : mH []) (hcons : ∀ t b r, mB b → mH r → mH ((t, b) :: r))
include assign expr pass ret raise ifS whileS forS withS tryS nil cons hnil hcons

mutual
theorem astmt_ind : ∀ s, mS s
  | .assign i x e => assign i x e
  | .expr i e => expr i e
  | .pass i => pass i
  | .ret i e => ret i e
  | .raise i t => raise i t
  | .ifS i c t e => ifS i c t e (ablock_ind t) (ablock_ind e)
  | .whileS i c b => whileS i c b (ablock_ind b)
  | .forS i x it ex b => forS i x it ex b (ablock_ind b)
  | .withS i t b => withS i t b (ablock_ind b)
  | .tryS i b hs f => tryS i b hs f (ablock_ind b) (ahandlers_ind hs) (ablock_ind f)
theorem ablock_ind : ∀ b, mB b
  | [] => nil
  | s :: r => cons s r (astmt_ind s) (ablock_ind r)
theorem ahandlers_ind : ∀ hs, mH hs
  | [] => hnil
  | (t, b) :: r => hcons t b r (ablock_ind b) (ahandlers_ind r)
end

theorem astmt_induct : (∀ s, mS s) ∧ (∀ b, mB b) ∧ (∀ hs, mH hs) :=
  ⟨astmt_ind assign expr pass ret raise ifS whileS forS withS tryS nil cons hnil hcons,
   ablock_ind assign expr pass ret raise ifS whileS forS withS tryS nil cons hnil hcons,
   ahandlers_ind assign expr pass ret raise ifS whileS forS withS tryS nil cons hnil hcons⟩
end

theorem mem_fl {S l : List Name} {x : Name} : x ∈ fl S l ↔ x ∈ l ∧ x ∈ S := by
  simp [fl, List.mem_filter]

theorem fl_append (S a b : List Name) : fl S (a ++ b) = fl S a ++ fl S b := by simp [fl]

theorem fl_mono {S l m : List Name} (h : l ⊆ m) : fl S l ⊆ fl S m :=
  fun _ hx => mem_fl.mpr ⟨h (mem_fl.mp hx).1, (mem_fl.mp hx).2⟩

theorem fl_self {S l : List Name} (h : ∀ x ∈ l, x ∈ S) : fl S l = l := by
  simp only [fl]
  exact List.filter_eq_self.mpr (fun x hx => by simpa using h x hx)

theorem fl_filter (S l : List Name) (p : Name → Bool) : fl S (l.filter p) = (fl S l).filter p := by
  simp only [fl, List.filter_filter]
  apply List.filter_congr
  intro x _; exact Bool.and_comm _ _

theorem sub_fl_of_sub {S l m : List Name} (h1 : l ⊆ m) (h2 : l ⊆ S) : l ⊆ fl S m :=
  fun _ hx => mem_fl.mpr ⟨h1 hx, h2 hx⟩

theorem info_restrict (S : List Name) (s : AStmt) : (restrictS S s).info = s.info.restrict S := by
  cases s <;> rfl

theorem congr₂ {α β γ : Type} (f : α → β → γ) {a a' : α} {b b' : β} (h₁ : a = a') (h₂ : b = b') : f a b = f a' b' := by
  rw [h₁, h₂]

/-- Restriction changes nothing but the live sets: whatever does not look at them is unchanged. -/
theorem same_restrict (S : List Name) :
    (∀ s, eraseS (restrictS S s) = eraseS s ∧ funcS (restrictS S s) = funcS s ∧ asgS (restrictS S s) = asgS s ∧
      raisesS (restrictS S s) = raisesS s ∧ noRetS (restrictS S s) = noRetS s ∧ readsS (restrictS S s) = readsS s) ∧
    (∀ b, eraseB (restrictB S b) = eraseB b ∧ funcB (restrictB S b) = funcB b ∧ asgB (restrictB S b) = asgB b ∧
      raisesB (restrictB S b) = raisesB b ∧ noRetB (restrictB S b) = noRetB b ∧ readsB (restrictB S b) = readsB b) ∧
    (∀ hs, eraseH (restrictH S hs) = eraseH hs ∧ funcH (restrictH S hs) = funcH hs ∧ asgH (restrictH S hs) = asgH hs ∧
      raisesH (restrictH S hs) = raisesH hs ∧ noRetH (restrictH S hs) = noRetH hs ∧ readsH (restrictH S hs) = readsH hs) := by
  apply astmt_induct
  case ifS =>
    intro i c t e ⟨e₁, f₁, a₁, r₁, n₁, d₁⟩ ⟨e₂, f₂, a₂, r₂, n₂, d₂⟩
    exact ⟨congr₂ (Stmt.ifS c) e₁ e₂,
      congr₂ (fun t e => undefs i.undefined ++ [TStmt.ifF c t e i.declared i.nouts]) f₁ f₂,
      congr₂ (· ++ ·) a₁ a₂, congr₂ (· ++ ·) r₁ r₂, congr₂ (· && ·) n₁ n₂,
      congr₂ (fun t e => vars c ++ (t ++ e)) d₁ d₂⟩
  case whileS =>
    intro i c b ⟨e₁, f₁, a₁, r₁, n₁, d₁⟩
    exact ⟨congrArg (Stmt.whileS c) e₁, congrArg (fun b => undefs i.undefined ++ [TStmt.whileF c b i.declared]) f₁,
      a₁, r₁, n₁, congrArg (vars c ++ ·) d₁⟩
  case forS =>
    intro i x it ex b ⟨e₁, f₁, a₁, r₁, n₁, d₁⟩
    exact ⟨congrArg (Stmt.forS x it ex) e₁, congrArg (fun b => undefs i.undefined ++ [TStmt.forF x it ex b i.declared]) f₁,
      congrArg (x :: ·) a₁, r₁, n₁, congrArg (fun b => vars it ++ (varsO ex ++ b)) d₁⟩
  case withS =>
    intro i tag b ⟨e₁, f₁, a₁, r₁, n₁, d₁⟩
    exact ⟨congrArg (Stmt.withS tag) e₁, congrArg (fun b => [TStmt.withT tag b]) f₁, a₁, r₁, n₁, d₁⟩
  case tryS =>
    intro i b hs f ⟨e₁, f₁, a₁, r₁, n₁, d₁⟩ ⟨e₂, f₂, a₂, r₂, n₂, d₂⟩ ⟨e₃, f₃, a₃, r₃, n₃, d₃⟩
    refine ⟨?_, ?_, ?_, ?_, ?_, ?_⟩
    · show Stmt.tryS _ _ _ = Stmt.tryS _ _ _
      rw [e₁, e₂, e₃]
    · show [TStmt.tryT _ _ _] = [TStmt.tryT _ _ _]
      rw [f₁, f₂, f₃]
    · show _ ++ (_ ++ _) = _ ++ (_ ++ _)
      rw [a₁, a₂, a₃]
    · show _ ++ (_ ++ _) = _ ++ (_ ++ _)
      rw [r₁, r₂, r₃]
    · show (_ && _ && _) = (_ && _ && _)
      rw [n₁, n₂, n₃]
    · show _ ++ (_ ++ _) = _ ++ (_ ++ _)
      rw [d₁, d₂, d₃]
  case cons =>
    intro s r ⟨e₁, f₁, a₁, r₁, n₁, d₁⟩ ⟨e₂, f₂, a₂, r₂, n₂, d₂⟩
    exact ⟨congr₂ (· :: ·) e₁ e₂, congr₂ (· ++ ·) f₁ f₂, congr₂ (· ++ ·) a₁ a₂, congr₂ (· ++ ·) r₁ r₂,
      congr₂ (· && ·) n₁ n₂, congr₂ (· ++ ·) d₁ d₂⟩
  case hcons =>
    intro t b r ⟨e₁, f₁, a₁, r₁, n₁, d₁⟩ ⟨e₂, f₂, a₂, r₂, n₂, d₂⟩
    exact ⟨congr₂ (fun b r => (t, b) :: r) e₁ e₂, congr₂ (fun b r => (t, b) :: r) f₁ f₂, congr₂ (· ++ ·) a₁ a₂,
      congr₂ (· ++ ·) r₁ r₂, congr₂ (· && ·) n₁ n₂, congr₂ (· ++ ·) d₁ d₂⟩
  all_goals intros; exact ⟨rfl, rfl, rfl, rfl, rfl, rfl⟩

theorem erase_restrictS (S : List Name) : ∀ (s : AStmt), eraseS (restrictS S s) = eraseS s :=
  fun s => ((same_restrict S).1 s).1
theorem erase_restrictB (S : List Name) : ∀ (b : List AStmt), eraseB (restrictB S b) = eraseB b :=
  fun b => ((same_restrict S).2.1 b).1
theorem erase_restrictH (S : List Name) : ∀ (hs : List (Nat × List AStmt)), eraseH (restrictH S hs) = eraseH hs :=
  fun hs => ((same_restrict S).2.2 hs).1

theorem func_restrictS (S : List Name) : ∀ (s : AStmt), funcS (restrictS S s) = funcS s :=
  fun s => ((same_restrict S).1 s).2.1
theorem func_restrictB (S : List Name) : ∀ (b : List AStmt), funcB (restrictB S b) = funcB b :=
  fun b => ((same_restrict S).2.1 b).2.1
theorem func_restrictH (S : List Name) : ∀ (hs : List (Nat × List AStmt)), funcH (restrictH S hs) = funcH hs :=
  fun hs => ((same_restrict S).2.2 hs).2.1

theorem asg_restrictS (S : List Name) : ∀ (s : AStmt), asgS (restrictS S s) = asgS s :=
  fun s => ((same_restrict S).1 s).2.2.1
theorem asg_restrictB (S : List Name) : ∀ (b : List AStmt), asgB (restrictB S b) = asgB b :=
  fun b => ((same_restrict S).2.1 b).2.2.1
theorem asg_restrictH (S : List Name) : ∀ (hs : List (Nat × List AStmt)), asgH (restrictH S hs) = asgH hs :=
  fun hs => ((same_restrict S).2.2 hs).2.2.1

theorem raises_restrictS (S : List Name) : ∀ (s : AStmt), raisesS (restrictS S s) = raisesS s :=
  fun s => ((same_restrict S).1 s).2.2.2.1
theorem raises_restrictB (S : List Name) : ∀ (b : List AStmt), raisesB (restrictB S b) = raisesB b :=
  fun b => ((same_restrict S).2.1 b).2.2.2.1
theorem raises_restrictH (S : List Name) : ∀ (hs : List (Nat × List AStmt)), raisesH (restrictH S hs) = raisesH hs :=
  fun hs => ((same_restrict S).2.2 hs).2.2.2.1

theorem noRet_restrictS (S : List Name) : ∀ (s : AStmt), noRetS (restrictS S s) = noRetS s :=
  fun s => ((same_restrict S).1 s).2.2.2.2.1
theorem noRet_restrictB (S : List Name) : ∀ (b : List AStmt), noRetB (restrictB S b) = noRetB b :=
  fun b => ((same_restrict S).2.1 b).2.2.2.2.1
theorem noRet_restrictH (S : List Name) : ∀ (hs : List (Nat × List AStmt)), noRetH (restrictH S hs) = noRetH hs :=
  fun hs => ((same_restrict S).2.2 hs).2.2.2.2.1

theorem reads_restrictS (S : List Name) : ∀ (s : AStmt), readsS (restrictS S s) = readsS s :=
  fun s => ((same_restrict S).1 s).2.2.2.2.2
theorem reads_restrictB (S : List Name) : ∀ (b : List AStmt), readsB (restrictB S b) = readsB b :=
  fun b => ((same_restrict S).2.1 b).2.2.2.2.2
theorem reads_restrictH (S : List Name) : ∀ (hs : List (Nat × List AStmt)), readsH (restrictH S hs) = readsH hs :=
  fun hs => ((same_restrict S).2.2 hs).2.2.2.2.2

theorem blockIn_restrict (S : List Name) (b : List AStmt) (O : List Name) :
    blockIn (restrictB S b) (fl S O) = fl S (blockIn b O) := by
  cases b with
  | nil => rfl
  | cons s r => simp [restrictB, blockIn, info_restrict, Info.restrict]

theorem hsAll_map (S : List Name) : ∀ (hs : List (Nat × List Name)),
    hsAll (hs.map (fun h => (h.1, fl S h.2))) = fl S (hsAll hs)
  | [] => by simp [hsAll, fl]
  | (t, l) :: r => by simp [hsAll, hsAll_map S r, fl_append]

theorem all_filt (S : List Name) (K : ExcCtx) : (K.filt S).all = fl S K.all := by
  simp [ExcCtx.all, ExcCtx.filt, hsAll_map, fl_append]

theorem get_filt (S : List Name) (K : ExcCtx) (e : Exc) : (K.filt S).get e = fl S (K.get e) := by
  cases e with
  | user t =>
    simp only [ExcCtx.get, ExcCtx.filt, List.find?_map]
    cases h : K.hs.find? ((fun h => h.1 == t) ∘ fun h => (h.1, fl S h.2)) with
    | none =>
      have : K.hs.find? (fun h => h.1 == t) = none := by simpa [Function.comp_def] using h
      simp [this]
    | some hh =>
      have : K.hs.find? (fun h => h.1 == t) = some hh := by simpa [Function.comp_def] using h
      simp [this]
  | nameError y => rfl
  | typeError => rfl

theorem handlerIns_restrict (S Fi : List Name) : ∀ (hs : List (Nat × List AStmt)),
    handlerIns (fl S Fi) (restrictH S hs) = (handlerIns Fi hs).map (fun h => (h.1, fl S h.2))
  | [] => rfl
  | (t, b) :: r => by simp [restrictH, handlerIns, blockIn_restrict, handlerIns_restrict S Fi r]

theorem finExcIn_restrict (S : List Name) (K : ExcCtx) (f : List AStmt) (O : List Name) :
    finExcIn (K.filt S) (restrictB S f) (fl S O) = fl S (finExcIn K f O) := by
  simp only [finExcIn, reads_restrictB, all_filt, ← fl_append, blockIn_restrict]
  simp only [fl, List.filter_filter]
  apply List.filter_congr
  intro x _
  rw [Bool.eq_iff_iff]
  simp only [Bool.and_eq_true, List.contains_iff_mem, List.mem_append, List.mem_filter]
  constructor
  · rintro ⟨h1 | h1, h2⟩
    · exact ⟨h2, Or.inl h1⟩
    · exact ⟨h2, Or.inr h1.1⟩
  · rintro ⟨h1, h2 | h2⟩
    · exact ⟨Or.inl h2, h1⟩
    · exact ⟨Or.inr ⟨h2, h1⟩, h1⟩

theorem raiseOK_restrict {S : List Name} {K : ExcCtx} {i : Info} {ts : List Nat} (h : raiseOK K i ts) :
    raiseOK (K.filt S) (i.restrict S) ts := by
  intro t ht
  rw [get_filt]
  simp only [Info.restrict, ← fl_append]
  exact fl_mono (h t ht)

theorem sub_of_append_left {a b S : List Name} (h : a ++ b ⊆ S) : a ⊆ S := fun _ hx => h (List.mem_append.mpr (Or.inl hx))
theorem sub_of_append_right {a b S : List Name} (h : a ++ b ⊆ S) : b ⊆ S := fun _ hx => h (List.mem_append.mpr (Or.inr hx))

theorem live_restrict (S : List Name) :
    (∀ s K, LiveS K s → readsS s ⊆ S → LiveS (K.filt S) (restrictS S s)) ∧
    (∀ b K O, LiveB K b O → readsB b ⊆ S → LiveB (K.filt S) (restrictB S b) (fl S O)) ∧
    (∀ hs K O, LiveH K hs O → readsH hs ⊆ S → LiveH (K.filt S) (restrictH S hs) (fl S O)) := by
  apply astmt_induct
  case assign =>
    intro i x e K h hr
    exact ⟨sub_fl_of_sub h.1 hr, by simp only [Info.restrict]; rw [← fl_filter]; exact fl_mono h.2.1, fl_mono h.2.2⟩
  case expr => exact fun i e K h hr => ⟨sub_fl_of_sub h.1 hr, fl_mono h.2.1, fl_mono h.2.2⟩
  case pass => exact fun i K h _ => fl_mono h
  case ret => exact fun i e K h hr => ⟨sub_fl_of_sub h.1 hr, fl_mono h.2⟩
  case raise =>
    intro i t K h _
    show (K.filt S).get (.user t) ⊆ fl S i.liveIn
    rw [get_filt]; exact fl_mono h
  case ifS =>
    intro i c t e iht ihe K ⟨h1, h2, h3, h4, h5, h6, h7⟩ hr
    have hr : vars c ++ (readsB t ++ readsB e) ⊆ S := hr
    have ht := iht K _ h4 (sub_of_append_left (sub_of_append_right hr))
    have he := ihe K _ h5 (sub_of_append_right (sub_of_append_right hr))
    refine ⟨sub_fl_of_sub h1 (sub_of_append_left hr), ?_, ?_, ht, he, fl_mono h6, ?_⟩
    · simp only [Info.restrict]; rw [blockIn_restrict]; exact fl_mono h2
    · simp only [Info.restrict]; rw [blockIn_restrict]; exact fl_mono h3
    · show raiseOK (K.filt S) (i.restrict S) (raisesB (restrictB S t) ++ raisesB (restrictB S e))
      rw [raises_restrictB, raises_restrictB]; exact raiseOK_restrict h7
  case whileS =>
    intro i c b ih K ⟨h1, h2, h3, h4, h5, h6⟩ hr
    have hr : vars c ++ readsB b ⊆ S := hr
    have hb := ih K _ h4 (sub_of_append_right hr)
    refine ⟨sub_fl_of_sub h1 (sub_of_append_left hr), ?_, fl_mono h3, hb, fl_mono h5, ?_⟩
    · simp only [Info.restrict]; rw [blockIn_restrict]; exact fl_mono h2
    · show raiseOK (K.filt S) (i.restrict S) (raisesB (restrictB S b))
      rw [raises_restrictB]; exact raiseOK_restrict h6
  case forS =>
    intro i x it extra b ih K ⟨h1, h2, h3, h4, h5, h6, h7⟩ hr
    have hr : vars it ++ (varsO extra ++ readsB b) ⊆ S := hr
    have hb := ih K _ h5 (sub_of_append_right (sub_of_append_right hr))
    refine ⟨sub_fl_of_sub h1 (sub_of_append_left hr), sub_fl_of_sub h2 (sub_of_append_left (sub_of_append_right hr)),
      fl_mono h3, ?_, hb, fl_mono h6, ?_⟩
    · simp only [Info.restrict]; rw [blockIn_restrict, ← fl_filter]; exact fl_mono h4
    · show raiseOK (K.filt S) (i.restrict S) (raisesB (restrictB S b))
      rw [raises_restrictB]; exact raiseOK_restrict h7
  case withS =>
    intro i tag b ih K h hr
    refine ⟨?_, ih K _ h.2 hr⟩
    simp only [Info.restrict]; rw [blockIn_restrict]; exact fl_mono h.1
  case tryS =>
    intro i b hs f ihb ihh ihf K ⟨h1, h2, h3, h4⟩ hr
    have hr : readsB b ++ (readsH hs ++ readsB f) ⊆ S := hr
    have hf := ihf K _ h1 (sub_of_append_right (sub_of_append_right hr))
    have hh := ihh _ _ h2 (sub_of_append_left (sub_of_append_right hr))
    have hb := ihb _ _ h3 (sub_of_append_left hr)
    have eC : (i.restrict S).liveOut ++ (K.filt S).all = fl S (i.liveOut ++ K.all) := by
      simp [Info.restrict, all_filt, fl_append]
    have eFx : finExcIn (K.filt S) (restrictB S f) (i.restrict S).liveOut = fl S (finExcIn K f i.liveOut) :=
      finExcIn_restrict S K f i.liveOut
    show LiveB (K.filt S) (restrictB S f) ((i.restrict S).liveOut ++ (K.filt S).all) ∧
      LiveH (ExcCtx.toFin (finExcIn (K.filt S) (restrictB S f) (i.restrict S).liveOut)) (restrictH S hs)
        (blockIn (restrictB S f) ((i.restrict S).liveOut ++ (K.filt S).all)) ∧
      LiveB { hs := handlerIns (blockIn (restrictB S f) ((i.restrict S).liveOut ++ (K.filt S).all)) (restrictH S hs),
              other := finExcIn (K.filt S) (restrictB S f) (i.restrict S).liveOut } (restrictB S b)
        (blockIn (restrictB S f) ((i.restrict S).liveOut ++ (K.filt S).all)) ∧
      blockIn (restrictB S b) (blockIn (restrictB S f) ((i.restrict S).liveOut ++ (K.filt S).all)) ⊆ (i.restrict S).liveIn
    rw [eC, eFx, blockIn_restrict, handlerIns_restrict]
    exact ⟨hf, hh, hb, by rw [blockIn_restrict]; exact fl_mono h4⟩
  case cons =>
    intro s r ihs ihr K O h hr
    have hr : readsS s ++ readsB r ⊆ S := hr
    refine ⟨ihs K h.1 (sub_of_append_left hr), ?_, ihr K O h.2.2 (sub_of_append_right hr)⟩
    rw [blockIn_restrict, info_restrict]
    exact fl_mono h.2.1
  case hcons =>
    intro t b r ihb ihr K O h hr
    have hr : readsB b ++ readsH r ⊆ S := hr
    exact ⟨ihb K O h.1 (sub_of_append_left hr), ihr K O h.2 (sub_of_append_right hr)⟩
  all_goals intros; trivial

theorem live_restrictS (S : List Name) : ∀ (K : ExcCtx) (s : AStmt), LiveS K s → readsS s ⊆ S →
    LiveS (K.filt S) (restrictS S s) :=
  fun K s => (live_restrict S).1 s K
theorem live_restrictB (S : List Name) : ∀ (K : ExcCtx) (b : List AStmt) (O : List Name), LiveB K b O → readsB b ⊆ S →
    LiveB (K.filt S) (restrictB S b) (fl S O) :=
  fun K b => (live_restrict S).2.1 b K
theorem live_restrictH (S : List Name) : ∀ (K : ExcCtx) (hs : List (Nat × List AStmt)) (O : List Name), LiveH K hs O →
    readsH hs ⊆ S → LiveH (K.filt S) (restrictH S hs) (fl S O) :=
  fun K hs => (live_restrict S).2.2 hs K

theorem mem_liveEither {i : Info} {v : String} : liveEither i v = true ↔ (v ∈ i.liveIn ∨ v ∈ i.liveOut) := by
  simp [liveEither]

theorem declared_of_live {i : Info} {modified : List Name} {x : Name} (hd : modified.filter (liveEither i) ⊆ i.declared)
    (hx : x ∈ modified) (hl : x ∈ i.liveIn ∨ x ∈ i.liveOut) : x ∈ i.declared :=
  hd (List.mem_filter.mpr ⟨hx, mem_liveEither.mpr hl⟩)

theorem filter_liveEither_restrict {S : List Name} {i : Info} {m d : List Name}
    (h : m.filter (liveEither i) ⊆ d) : m.filter (liveEither (i.restrict S)) ⊆ d := by
  intro x hx
  have hx' := List.mem_filter.mp hx
  refine h (List.mem_filter.mpr ⟨hx'.1, ?_⟩)
  have hl := hx'.2
  simp only [liveEither, Info.restrict, Bool.or_eq_true, List.contains_iff_mem] at hl ⊢
  exact hl.imp (fun h => (mem_fl.mp h).1) fun h => (mem_fl.mp h).1

theorem decl_restrict (S : List Name) : (∀ s, DeclS s → DeclS (restrictS S s)) ∧ (∀ b, DeclB b → DeclB (restrictB S b)) ∧
    (∀ hs, DeclH hs → DeclH (restrictH S hs)) := by
  apply astmt_induct
  case ifS =>
    intro i c t e iht ihe h
    show (asgB (restrictB S t) ++ asgB (restrictB S e)).filter (liveEither (i.restrict S)) ⊆ i.declared ∧
      i.undefined ⊆ asgB (restrictB S t) ++ asgB (restrictB S e) ∧ DeclB (restrictB S t) ∧ DeclB (restrictB S e)
    rw [asg_restrictB, asg_restrictB]
    exact ⟨filter_liveEither_restrict h.1, h.2.1, iht h.2.2.1, ihe h.2.2.2⟩
  case whileS =>
    intro i c b ih h
    show (asgB (restrictB S b)).filter (liveEither (i.restrict S)) ⊆ i.declared ∧
      i.undefined ⊆ asgB (restrictB S b) ∧ DeclB (restrictB S b)
    rw [asg_restrictB]
    exact ⟨filter_liveEither_restrict h.1, h.2.1, ih h.2.2⟩
  case forS =>
    intro i x it ex b ih h
    show (x :: asgB (restrictB S b)).filter (liveEither (i.restrict S)) ⊆ i.declared ∧
      i.undefined ⊆ x :: asgB (restrictB S b) ∧ DeclB (restrictB S b)
    rw [asg_restrictB]
    exact ⟨filter_liveEither_restrict h.1, h.2.1, ih h.2.2⟩
  case withS => exact fun i tag b ih => ih
  case tryS => exact fun i b hs f ihb ihh ihf h => ⟨ihb h.1, ihh h.2.1, ihf h.2.2⟩
  case cons => exact fun s r ihs ihr h => ⟨ihs h.1, ihr h.2⟩
  case hcons => exact fun t b r ihb ihr h => ⟨ihb h.1, ihr h.2⟩
  all_goals intros; trivial

theorem decl_restrictS (S : List Name) : ∀ (s : AStmt), DeclS s → DeclS (restrictS S s) := (decl_restrict S).1
theorem decl_restrictB (S : List Name) : ∀ (b : List AStmt), DeclB b → DeclB (restrictB S b) := (decl_restrict S).2.1
theorem decl_restrictH (S : List Name) : ∀ (hs : List (Nat × List AStmt)), DeclH hs → DeclH (restrictH S hs) :=
  (decl_restrict S).2.2

theorem def_restrict (S : List Name) : (∀ s D, DefS D s → DefS D (restrictS S s)) ∧
    (∀ b D, DefB D b → DefB D (restrictB S b)) ∧ (∀ hs D, DefH D hs → DefH D (restrictH S hs)) := by
  apply astmt_induct
  case ifS => exact fun i c t e iht ihe D h => ⟨h.1, h.2.1, iht D h.2.2.1, ihe D h.2.2.2⟩
  case whileS =>
    intro i c b ih D h
    show D ⊆ i.definedIn ∧ (∀ u ∈ i.undefined, u ∉ i.definedIn) ∧ DefB (D ++ asgB (restrictB S b)) (restrictB S b)
    rw [asg_restrictB]
    exact ⟨h.1, h.2.1, ih _ h.2.2⟩
  case forS =>
    intro i x it ex b ih D h
    show D ⊆ i.definedIn ∧ (∀ u ∈ i.undefined, u ∉ i.definedIn) ∧
      DefB (D ++ (x :: asgB (restrictB S b))) (restrictB S b)
    rw [asg_restrictB]
    exact ⟨h.1, h.2.1, ih _ h.2.2⟩
  case withS => exact fun i tag b ih => ih
  case tryS =>
    intro i b hs f ihb ihh ihf D h
    show DefB D (restrictB S b) ∧ DefH (D ++ asgB (restrictB S b)) (restrictH S hs) ∧
      DefB (D ++ asgB (restrictB S b) ++ asgH (restrictH S hs)) (restrictB S f)
    rw [asg_restrictB, asg_restrictH]
    exact ⟨ihb D h.1, ihh _ h.2.1, ihf _ h.2.2⟩
  case cons =>
    intro s r ihs ihr D h
    show DefS D (restrictS S s) ∧ DefB (D ++ asgS (restrictS S s)) (restrictB S r)
    rw [asg_restrictS]
    exact ⟨ihs D h.1, ihr _ h.2⟩
  case hcons => exact fun t b r ihb ihr D h => ⟨ihb D h.1, ihr D h.2⟩
  all_goals intros; trivial

theorem def_restrictS (S : List Name) : ∀ (D : List Name) (s : AStmt), DefS D s → DefS D (restrictS S s) :=
  fun D s => (def_restrict S).1 s D
theorem def_restrictB (S : List Name) : ∀ (D : List Name) (b : List AStmt), DefB D b → DefB D (restrictB S b) :=
  fun D b => (def_restrict S).2.1 b D
theorem def_restrictH (S : List Name) : ∀ (D : List Name) (hs : List (Nat × List AStmt)), DefH D hs → DefH D (restrictH S hs) :=
  fun D hs => (def_restrict S).2.2 hs D

end Malt.Func
