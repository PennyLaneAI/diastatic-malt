import MaltModel.Proofs.FuncWrapper
import MaltModel.Proofs.FuncFSim
namespace Malt.Func
open Malt.Sem

theorem fscopeRet_toOpt (rv : Name) {a b : Slot} (h : a.toOpt = b.toOpt) (hb : b ≠ .unbound) :
    a = .unbound ∨ fscopeRet rv a = fscopeRet rv b := by
  by_cases ha : a = .unbound
  · exact .inl ha
  · exact .inr (by rw [fscopeRet_bound rv ha, fscopeRet_bound rv hb, h])

theorem inner_ref (X : Ext) (l : Lowered) (hwf : l.wf = true) (name : String) (ur : Bool) (D : List Name)
    (hyp : FuncHyp D l.prog []) (hF : HypFB l.inner) (hp : pureB l.inner = true) (σ' : TSt) (m : Nat) :
    Post (fun oF τF => IsExc oF ∨ ∃ τN, RunNB X ((l.wrapper name ur).inner (funcB l.inner)) σ' (oF, τN) ∧ τF.log = τN.log ∧
        (oF = .normal → ∀ dr rv, l.retVars = some (dr, rv) →
          (τF.env rv).toOpt = (τN.env rv).toOpt ∧ τN.env rv ≠ .unbound))
      (execFB X m ((l.wrapper name ur).inner (funcB l.inner)) σ') := by
  cases l with
  | plain q =>
    intro oF τF hx
    rcases ref_B X q m ExcCtx.top [] σ' σ' hyp.live hyp.decl hF hp hyp.jump (agree_view _ σ') oF τF hx with
      hex | ⟨-, τN, hr, hout⟩
    · exact .inl hex
    · exact .inr ⟨τN, hr, hout.1, fun _ _ _ h => nomatch h⟩
  | rets dr rv i₁ i₂ i₃ mid =>
    have hwf := Lowered.wf_rets hwf
    obtain ⟨-, -, -, -, hlrest⟩ := hyp.live
    obtain ⟨hlmid, hlret⟩ := LiveB_append _ mid _ _ hlrest
    obtain ⟨hdmid, -⟩ := DeclB_append mid _ hyp.decl.2.2
    -- the body proper runs after `do_return = False; retval_ = UndefinedReturnValue()`
    refine post_cons X rfl (fun _ => rfl) fun _ => post_cons X rfl (fun _ => rfl) fun j oF τF hxj => ?_
    rcases ref_B X mid j ExcCtx.top i₃.liveIn _ _ hlmid hdmid hF hp (noRet_retTopB mid hwf.1) (agree_view _ _) oF τF hxj with
      hex | ⟨-, τN, hr, hout⟩
    · exact .inl hex
    · obtain ⟨hrun, hnu⟩ := inner_rets (w := (Lowered.rets dr rv i₁ i₂ i₃ mid).wrapper name ur) rfl hr
      refine .inr ⟨τN, hrun, hout.1, fun ho dr' rv' h => ?_⟩
      cases h
      exact ⟨(hout.2 ho).1 rv (hlret.1.1 (List.mem_singleton_self rv)), hnu⟩

theorem callW_inv {X : Ext} {m : Nat} {w : Wrapper} {b : TBlock} {σ τ : TSt} {stk stk' : CtxStack} {r : Out}
    (h : callW X m w b σ stk = some (r, τ, stk')) :
    ∃ o, execNB X m (w.inner b) σ = some (o, τ) ∧ r = w.result o τ ∧ stk' = stk := by
  unfold callW at h
  cases hx : execNB X m (w.inner b) σ with
  | none => rw [hx] at h; cases h
  | some p => rw [hx] at h; cases h; exact ⟨p.1, rfl, rfl, w.exit_enter stk⟩

theorem callWF_inv {X : Ext} {m : Nat} {w : Wrapper} {b : TBlock} {σ τ : TSt} {stk stk' : CtxStack} {r : Out}
    (h : callWF X m w b σ stk = some (r, τ, stk')) :
    ∃ o, execFB X m (w.inner b) σ = some (o, τ) ∧ r = w.result o τ ∧ stk' = stk := by
  unfold callWF at h
  cases hx : execFB X m (w.inner b) σ with
  | none => rw [hx] at h; cases h
  | some p => rw [hx] at h; cases h; exact ⟨p.1, rfl, rfl, w.exit_enter stk⟩

theorem wrapper_both_F (X : Ext) (l : Lowered) (hwf : l.wf = true) (name : String) (ur : Bool) (D : List Name)
    (hyp : FuncHyp D l.prog []) (hF : HypFB l.inner) (hp : pureB l.inner = true)
    (σ : St) (σ' : TSt) (hag : Agree (blockIn l.prog []) σ σ') (hb : BoundSub σ D) (stk : CtxStack)
    (n : Nat) (o : Out) (σ₁ : St) (h : execB X n (eraseB l.prog) σ = some (o, σ₁))
    (m : Nat) (r : Out) (τ : TSt) (stk' : CtxStack)
    (hrun : callConvertedF X m l name ur σ' stk = some (r, τ, stk')) :
    stk' = stk ∧ (IsExc r ∨ (r = fnOutcome o ∧ τ.log = σ₁.log)) := by
  obtain ⟨mN, τN₀, hcall, hlogN⟩ := wrapper_both X l hwf name ur D hyp σ σ' hag hb stk n o σ₁ h
  obtain ⟨oN, hxN, hres, -⟩ := callW_inv hcall
  obtain ⟨oF, hx, rfl, rfl⟩ := callWF_inv hrun
  refine ⟨rfl, ?_⟩
  rcases inner_ref X l hwf name ur D hyp hF hp σ' m oF τ hx with ⟨e, rfl⟩ | ⟨τN, hrN, hlog, hrv⟩
  · exact .inl ⟨e, result_exc _ e τ⟩
  · obtain ⟨ho, hτ⟩ := Prod.mk.inj (RunNB.det hrN ⟨mN, hxN⟩)
    subst ho hτ
    rw [hres]
    cases oF with
    | exc e => exact .inl ⟨e, result_exc _ e τ⟩
    | normal =>
      cases hrt : l.retVars with
      | none => exact .inr ⟨by simp [Wrapper.result, Lowered.wrapper, hrt], hlog.trans hlogN⟩
      | some drv =>
        obtain ⟨dr, rv⟩ := drv
        obtain ⟨hopt, hnu⟩ := hrv rfl dr rv hrt
        simp only [Wrapper.result, Lowered.wrapper, hrt]
        rcases fscopeRet_toOpt rv hopt hnu with hu | heq
        · exact .inl ⟨.nameError rv, by rw [hu]; rfl⟩
        · exact .inr ⟨heq, hlog.trans hlogN⟩
    | _ => exact .inr ⟨rfl, hlog.trans hlogN⟩

end Malt.Func
