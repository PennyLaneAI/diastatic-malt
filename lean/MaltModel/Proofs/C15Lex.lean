import MaltModel.Rt.Lex
import MaltModel.Proofs.C15Unfold
/-
`_unfold_continuations` against the automaton: one direction follows the automaton (`unfold_lex`), the other counts
the characters each unfolding deletes.
-/
-- `Mode` has constructors named `s`, `t`, `m`; the lemmas use `s` for a text and `m` for a mode
set_option linter.constructorNameAsVariable false
namespace Malt.Lex
open Malt.Dedent

theorem step_c0_bs : step .c0 '\\' = .cbs := by simp [step, stepCode]
theorem step_cbs_nl : step .cbs '\n' = .c0 := by simp [step]

theorem unfold_lex (s : Str) (m : Mode) (h : contsInCode m s = true) :
    trace m (unfold s) = dropConts (trace m s) ∧ final m (unfold s) = final m s ∧ unfold s = specUnfold m s := by
  fun_induction contsInCode m s with
  | case1 | case2 => exact ⟨rfl, rfl, rfl⟩
  | case3 m c d r hp ih =>
    obtain ⟨rfl, rfl⟩ := hp
    simp only [Bool.and_eq_true, decide_eq_true_eq] at h
    obtain ⟨rfl, hr⟩ := h
    rw [unfold_pair]
    simp only [trace, final, step_c0_bs, step_cbs_nl, dropConts, specUnfold, and_self, if_true]
    exact ih hr
  | case4 m c d r hp ih =>
    have ih := ih h
    rw [unfold_nopair c d r hp]
    simp only [trace, final, dropConts, specUnfold, hp, and_false, if_false] at ih ⊢
    exact ⟨by rw [ih.1], ih.2.1, by rw [ih.2.2]⟩

theorem unfold_eq_spec (s : Str) (m : Mode) (h : contsInCode m s = true) : unfold s = specUnfold m s :=
  (unfold_lex s m h).2.2

theorem countBs_cons_ne (d : Char) (r : Str) (h : d ≠ '\\') : countBs (d :: r) = countBs r := by
  cases r with
  | nil => simp [countBs]
  | cons e r' => simp [countBs, h]

theorem countCont_cons_ne (m : Mode) (d : Char) (r : Str) (h : d ≠ '\\') :
    countCont m (d :: r) = countCont (step m d) r := by
  cases r with
  | nil => simp [countCont]
  | cons e r' => simp [countCont, h]

theorem countCont_le (s : Str) (m : Mode) : countCont m s ≤ countBs s := by
  fun_induction countCont m s with
  | case1 | case2 => exact Nat.zero_le _
  | case3 m c d r hp ih =>
    obtain ⟨_, rfl, rfl⟩ := hp
    simp only [countBs, and_self, if_true]
    omega
  | case4 m c d r hp ih =>
    by_cases hq : c = '\\' ∧ d = '\n'
    · obtain ⟨rfl, rfl⟩ := hq
      rw [countBs_cons_ne _ _ (by decide)] at ih
      simp only [countBs, and_self, if_true]
      omega
    · simp only [countBs, hq, if_false]
      exact ih

/-- the automaton recognises all textual backslash-newline pairs only if each is read in plain code -/
theorem contsInCode_of_count (s : Str) (m : Mode) (h : countCont m s = countBs s) : contsInCode m s = true := by
  fun_induction contsInCode m s with
  | case1 | case2 => rfl
  | case3 m c d r hp ih =>
    obtain ⟨rfl, rfl⟩ := hp
    by_cases hm : m = .c0
    · subst hm
      simp only [countCont, countBs, and_self, if_true] at h
      simp only [decide_true, Bool.true_and]
      exact ih (by omega)
    · -- a pair read outside plain code is deleted by `unfold` only, and the rest cannot make up for it
      exfalso
      have hle := countCont_le r (step (step m '\\') '\n')
      simp only [countCont, countBs, hm, false_and, and_self, if_false, if_true] at h
      rw [countCont_cons_ne _ _ _ (by decide)] at h
      omega
  | case4 m c d r hp ih =>
    simp only [countCont, countBs, hp, and_false, if_false] at h
    exact ih h

theorem unfold_length (s : Str) : (unfold s).length + 2 * countBs s = s.length := by
  fun_induction unfold s with
  | case1 | case2 => rfl
  | case3 c d r hp ih => simp only [countBs, hp, and_self, if_true, List.length_cons]; omega
  | case4 c d r hp ih => simp only [countBs, hp, if_false, List.length_cons] at ih ⊢; omega

theorem specUnfold_length (s : Str) (m : Mode) : (specUnfold m s).length + 2 * countCont m s = s.length := by
  fun_induction specUnfold m s with
  | case1 | case2 => rfl
  | case3 m c d r hp ih => simp only [countCont, hp, and_self, if_true, List.length_cons]; omega
  | case4 m c d r hp ih => simp only [countCont, hp, if_false, List.length_cons] at ih ⊢; omega

theorem unfold_eq_spec_iff (s : Str) (m : Mode) : unfold s = specUnfold m s ↔ contsInCode m s = true := by
  constructor
  · intro h
    apply contsInCode_of_count
    have h1 := unfold_length s
    have h2 := specUnfold_length s m
    rw [h] at h1
    omega
  · exact unfold_eq_spec s m

end Malt.Lex
