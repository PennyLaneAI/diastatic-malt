import MaltModel.Proofs.C08Comp

/-
The `bound` / `globals` / `nonlocals` sets of `effS` are simple syntactic functions of the statement (`SetsAre`: `ownBinds*`,
`ownDecls*`, and `ownLeaks*`, the parameters of directly nested functions, which `visit_arg` binds where the definition stands).
-/

namespace Malt.Analysis
open Malt.Py Malt.Spec

def argName? : Expr → Option String
  | .arg _ n _ => some n
  | _ => none

def paramStrs (po ar va ko kw : List Expr) : List String :=
  (po ++ ar ++ va ++ ko ++ kw).filterMap argName?

mutual
/-- Store / Del names of the part of `e` evaluated in the current block. -/
def ownBindsE : Expr → List String
  | .name _ s c => if c == .load then [] else [s]
  | .const .. | .noneMarker => []
  | .attr _ v _ _ => ownBindsE v
  | .subscript _ v s _ => ownBindsE v ++ ownBindsE s
  | .call _ f as ks => ownBindsE f ++ ownBindsEs as ++ ownBindsEs ks
  | .keyword _ _ _ v => ownBindsE v
  | .boolop _ _ vs => ownBindsEs vs
  | .unary _ _ x => ownBindsE x
  | .binop _ _ l r => ownBindsE l ++ ownBindsE r
  | .compare _ l _ cs => ownBindsE l ++ ownBindsEs cs
  | .ifexp _ t b o => ownBindsE t ++ ownBindsE b ++ ownBindsE o
  | .lambda _ args _ =>
      match args with
      | .arguments _ _ _ _ _ kd _ df => ownBindsEs kd ++ ownBindsEs df
      | _ => []
  | .seq _ _ es _ => ownBindsEs es
  | .starred _ v _ => ownBindsE v
  | .namedexpr _ t v => ownBindsE t ++ ownBindsE v
  | .comp .. | .comprehension .. | .arguments .. => []
  | .arg _ _ an => ownBindsEs an
  | .withitem _ c v => ownBindsE c ++ ownBindsEs v
  | .other _ _ _ kids => ownBindsEs kids
def ownBindsEs : List Expr → List String
  | [] => []
  | e :: rest => ownBindsE e ++ ownBindsEs rest
end

mutual
/-- Parameters of the lambdas directly in `e`: `visit_arg` adds them to `bound` of the current scope, Python does not. -/
def ownLeaksE : Expr → List String
  | .name .. | .const .. | .noneMarker => []
  | .attr _ v _ _ => ownLeaksE v
  | .subscript _ v s _ => ownLeaksE v ++ ownLeaksE s
  | .call _ f as ks => ownLeaksE f ++ ownLeaksEs as ++ ownLeaksEs ks
  | .keyword _ _ _ v => ownLeaksE v
  | .boolop _ _ vs => ownLeaksEs vs
  | .unary _ _ x => ownLeaksE x
  | .binop _ _ l r => ownLeaksE l ++ ownLeaksE r
  | .compare _ l _ cs => ownLeaksE l ++ ownLeaksEs cs
  | .ifexp _ t b o => ownLeaksE t ++ ownLeaksE b ++ ownLeaksE o
  | .lambda _ args _ =>
      match args with
      | .arguments _ po ar va ko kd kw df => paramStrs po ar va ko kw ++ ownLeaksEs kd ++ ownLeaksEs df
      | _ => []
  | .seq _ _ es _ => ownLeaksEs es
  | .starred _ v _ => ownLeaksE v
  | .namedexpr _ t v => ownLeaksE t ++ ownLeaksE v
  | .comp .. | .comprehension .. | .arguments .. => []
  | .arg _ _ an => ownLeaksEs an
  | .withitem _ c v => ownLeaksE c ++ ownLeaksEs v
  | .other _ _ _ kids => ownLeaksEs kids
def ownLeaksEs : List Expr → List String
  | [] => []
  | e :: rest => ownLeaksE e ++ ownLeaksEs rest
end

section
variable {e : Expr} {ks : List Expr} (h : plainKids e = some ks)
include h

theorem ownBindsE_plain : ownBindsE e = ownBindsEs ks := by
  cases e <;> cases h <;> simp only [ownBindsE, ownBindsEs, List.append_nil, List.append_assoc]

theorem ownLeaksE_plain : ownLeaksE e = ownLeaksEs ks := by
  cases e <;> cases h <;> simp only [ownLeaksE, ownLeaksEs, List.append_nil, List.append_assoc]

end

theorem mem_map_sym (l : List String) (x : String) : QN.sym x ∈ l.map QN.sym ↔ x ∈ l := by
  simp

theorem mem_paramNames_iff (po ar va ko kw : List Expr) (x : String) :
    QN.sym x ∈ paramNames po ar va ko kw ↔ x ∈ paramStrs po ar va ko kw := by
  have h (as : List Expr) : QN.sym x ∈ argNames as ↔ x ∈ as.filterMap argName? := by
    rw [show argNames as = (as.filterMap argName?).map QN.sym by
      rw [List.map_filterMap]; exact congrArg (List.filterMap · as) (funext fun a => by cases a <;> rfl), mem_map_sym]
  simp only [paramNames, paramStrs, List.mem_append, h, List.filterMap_append]

mutual
def ownBindsS : Stmt → List String
  | .functionDef _ name args _ decos returns _ =>
      match args with
      | .arguments _ _ _ _ _ kd _ df => name :: (ownBindsEs decos ++ ownBindsEs returns ++ ownBindsEs kd ++ ownBindsEs df)
      | _ => []
  | .classDef _ name bases kws _ decos => name :: (ownBindsEs decos ++ ownBindsEs bases ++ ownBindsEs kws)
  | .ret _ v => ownBindsEs v
  | .delete _ ts => ownBindsEs ts
  | .assign _ ts v => ownBindsEs ts ++ ownBindsE v
  | .augAssign _ t _ v => ownBindsE t ++ ownBindsE v
  | .annAssign _ t an v _ => ownBindsE t ++ ownBindsEs v ++ ownBindsE an
  | .for_ _ t it body orelse _ _ => ownBindsE t ++ ownBindsE it ++ ownBindsSs body ++ ownBindsSs orelse
  | .while_ _ t body orelse => ownBindsE t ++ ownBindsSs body ++ ownBindsSs orelse
  | .if_ _ t body orelse => ownBindsE t ++ ownBindsSs body ++ ownBindsSs orelse
  | .with_ _ items body _ => ownBindsEs items ++ ownBindsSs body
  | .raise _ e c => ownBindsEs e ++ ownBindsEs c
  | .try_ _ b h o f => ownBindsSs b ++ ownBindsSs h ++ ownBindsSs o ++ ownBindsSs f
  | .handler _ ty _ body => ownBindsEs ty ++ ownBindsSs body
  | .assert_ _ t m => ownBindsE t ++ ownBindsEs m
  | .import_ _ names => names.map aliasName
  | .importFrom _ _ names _ => names.map aliasName
  | .global .. | .nonlocal .. | .pass _ | .break_ _ | .continue_ _ => []
  | .expr _ v => ownBindsE v
  | .other _ _ es bs => ownBindsEs es ++ ownBindsSs bs
def ownBindsSs : List Stmt → List String
  | [] => []
  | s :: rest => ownBindsS s ++ ownBindsSs rest
end

mutual
def ownLeaksS : Stmt → List String
  | .functionDef _ _ args _ decos returns _ =>
      match args with
      | .arguments _ po ar va ko kd kw df =>
          paramStrs po ar va ko kw ++ ownLeaksEs decos ++ ownLeaksEs returns ++ ownLeaksEs kd ++ ownLeaksEs df
      | _ => []
  | .classDef _ _ bases kws _ decos => ownLeaksEs decos ++ ownLeaksEs bases ++ ownLeaksEs kws
  | .ret _ v => ownLeaksEs v
  | .delete _ ts => ownLeaksEs ts
  | .assign _ ts v => ownLeaksEs ts ++ ownLeaksE v
  | .augAssign _ t _ v => ownLeaksE t ++ ownLeaksE v
  | .annAssign _ t an v _ => ownLeaksE t ++ ownLeaksEs v ++ ownLeaksE an
  | .for_ _ t it body orelse _ _ => ownLeaksE t ++ ownLeaksE it ++ ownLeaksSs body ++ ownLeaksSs orelse
  | .while_ _ t body orelse => ownLeaksE t ++ ownLeaksSs body ++ ownLeaksSs orelse
  | .if_ _ t body orelse => ownLeaksE t ++ ownLeaksSs body ++ ownLeaksSs orelse
  | .with_ _ items body _ => ownLeaksEs items ++ ownLeaksSs body
  | .raise _ e c => ownLeaksEs e ++ ownLeaksEs c
  | .try_ _ b h o f => ownLeaksSs b ++ ownLeaksSs h ++ ownLeaksSs o ++ ownLeaksSs f
  | .handler _ ty _ body => ownLeaksEs ty ++ ownLeaksSs body
  | .assert_ _ t m => ownLeaksE t ++ ownLeaksEs m
  | .import_ .. | .importFrom .. | .global .. | .nonlocal .. | .pass _ | .break_ _ | .continue_ _ => []
  | .expr _ v => ownLeaksE v
  | .other _ _ es bs => ownLeaksEs es ++ ownLeaksSs bs
def ownLeaksSs : List Stmt → List String
  | [] => []
  | s :: rest => ownLeaksS s ++ ownLeaksSs rest
end

mutual
/-- `g = true`: `global` declarations; `g = false`: `nonlocal`. -/
def ownDeclsS (g : Bool) : Stmt → List String
  | .global _ names => if g then names else []
  | .nonlocal _ names => if g then [] else names
  | .for_ _ _ _ body orelse _ _ => ownDeclsSs g body ++ ownDeclsSs g orelse
  | .while_ _ _ body orelse => ownDeclsSs g body ++ ownDeclsSs g orelse
  | .if_ _ _ body orelse => ownDeclsSs g body ++ ownDeclsSs g orelse
  | .with_ _ _ body _ => ownDeclsSs g body
  | .try_ _ b h o f => ownDeclsSs g b ++ ownDeclsSs g h ++ ownDeclsSs g o ++ ownDeclsSs g f
  | .handler _ _ _ body => ownDeclsSs g body
  | .other _ _ _ bs => ownDeclsSs g bs
  | _ => []
def ownDeclsSs (g : Bool) : List Stmt → List String
  | [] => []
  | s :: rest => ownDeclsS g s ++ ownDeclsSs g rest
end

/-- `visit_Nonlocal` adds the declared names to `bound` as well, hence `nonlocals` in `bound`. -/
structure SetsAre (d : Eff) (binds leaks globals nonlocals : List String) : Prop where
  bound : ∀ x, QN.sym x ∈ d.bound ↔ x ∈ binds ∨ x ∈ nonlocals ∨ x ∈ leaks
  globals : ∀ x, QN.sym x ∈ d.globals ↔ x ∈ globals
  nonlocals : ∀ x, QN.sym x ∈ d.nonlocals ↔ x ∈ nonlocals

theorem SetsAre.append {d1 d2 : Eff} {b1 l1 g1 n1 b2 l2 g2 n2 : List String}
    (h1 : SetsAre d1 b1 l1 g1 n1) (h2 : SetsAre d2 b2 l2 g2 n2) :
    SetsAre (d1 ++ d2) (b1 ++ b2) (l1 ++ l2) (g1 ++ g2) (n1 ++ n2) :=
  ⟨fun x => by simp [h1.bound, h2.bound]; grind, fun x => by simp [h1.globals, h2.globals],
   fun x => by simp [h1.nonlocals, h2.nonlocals]⟩

theorem SetsAre.exp {d : Eff} {b l g n : List String} (h : SetsAre d b l g n) :
    SetsAre (d.exported false) b l g n := ⟨h.bound, h.globals, h.nonlocals⟩

theorem SetsAre.none {d : Eff} (hb : d.bound = []) (hg : d.globals = []) (hn : d.nonlocals = []) : SetsAre d [] [] [] [] :=
  ⟨by simp [hb], by simp [hg], by simp [hn]⟩

theorem SetsAre.empty : SetsAre {} [] [] [] [] := .none rfl rfl rfl

macro "perm_mem" : tactic =>
  `(tactic| (intro x; simp only [List.mem_append, List.mem_cons, List.not_mem_nil, or_false, false_or, or_self, or_self_left, or_assoc, or_comm,
      or_left_comm]))

theorem SetsAre.congr {d : Eff} {b l g n b' l' g' n' : List String} (h : SetsAre d b l g n)
    (hb : ∀ x, x ∈ b ↔ x ∈ b') (hl : ∀ x, x ∈ l ↔ x ∈ l') (hg : ∀ x, x ∈ g ↔ x ∈ g') (hn : ∀ x, x ∈ n ↔ x ∈ n') :
    SetsAre d b' l' g' n' :=
  ⟨fun x => by rw [h.bound, hb, hl, hn], fun x => by rw [h.globals, hg], fun x => by rw [h.nonlocals, hn]⟩

theorem SetsAre.trackSym (s : String) (c : Ctx) (cw aug anno : Bool) :
    SetsAre (trackEff (some (.sym s)) c cw aug anno) (if c == .load then [] else [s]) [] [] [] :=
  ⟨fun x => by cases c <;> simp [trackEff_bound_sym, @eq_comm _ s x], by simp, by simp⟩

theorem SetsAre.trackComposite {d : Eff} {b l g n : List String} (h : SetsAre d b l g n) {q? : Option QN} (hq : ∀ x, q? ≠ some (.sym x))
    (c : Ctx) (cw aug anno : Bool) : SetsAre (d ++ trackEff q? c cw aug anno) b l g n :=
  ⟨fun x => by simp [h.bound, trackEff_bound_sym, hq], fun x => by simp [h.globals], fun x => by simp [h.nonlocals]⟩

theorem SetsAre.defName (n : String) : SetsAre { bound := [.sym n] } [n] [] [] [] := ⟨fun x => by simp, by simp, by simp⟩

theorem SetsAre.defParams (po ar va ko kw : List Expr) :
    SetsAre { bound := paramNames po ar va ko kw } [] (paramStrs po ar va ko kw) [] [] :=
  ⟨fun x => by simp [mem_paramNames_iff], by simp, by simp⟩

theorem SetsAre.isolated {dB : Eff} {b l g n : List String} (hM : SetsAre dB b l g n) (po ar va ko kw : List Expr) :
    SetsAre (({ bound := paramNames po ar va ko kw } : Eff).exported false ++ dB.exported false)
      (paramStrs po ar va ko kw ++ b) l g n :=
  ⟨fun x => by simp [hM.bound, mem_paramNames_iff, or_assoc], fun x => by simp [hM.globals], fun x => by simp [hM.nonlocals]⟩

theorem effE_sets_all :
    (∀ e, FragE e = true → ∀ (fns : List FnCtx) (aug anno : Bool),
      SetsAre (effE fns aug anno e) (ownBindsE e) (ownLeaksE e) [] []) ∧
    (∀ es, FragEs es = true → ∀ (fns : List FnCtx) (aug anno : Bool),
      SetsAre (effEs fns aug anno es) (ownBindsEs es) (ownLeaksEs es) [] []) := by
  apply Expr.plain_ind
  case nil => exact fun _ _ _ _ => SetsAre.empty
  case cons =>
    exact fun e es ihe ihes hf fns aug anno => (ihe (and_left hf) fns aug anno).append (ihes (and_right hf) fns aug anno)
  case plain =>
    intro e ks hk ih hf fns aug anno
    rw [effE_plain hk, ownBindsE_plain hk, ownLeaksE_plain hk]
    exact ih (FragE_plain hk ▸ hf) fns aug anno
  case name =>
    intro i s c _ fns aug anno
    simp only [effE, ownBindsE, ownLeaksE]
    exact SetsAre.trackSym s c false aug anno
  case attr =>
    exact fun i v a c ih hf fns aug anno => (ih hf fns aug anno).trackComposite (qnOf_attr_ne_sym i v a c) c _ aug anno
  case subscript =>
    exact fun i v s c ihv ihs hf fns aug anno => ((ihv (and_left hf) fns aug anno).append (ihs (and_right hf) fns aug anno)).trackComposite
      (qnOf_subscript_ne_sym i v s c) c false aug anno
  case call =>
    intro _ f as ks ihf ihas ihks hf fns aug anno
    simp only [FragE, Bool.and_eq_true] at hf
    simp only [effE, ownBindsE, ownLeaksE]
    exact (((ihas hf.1.2 fns aug anno).append (ihks hf.2 fns aug anno)).exp.append
      (ihf hf.1.1 fns aug anno)).congr (by perm_mem) (by perm_mem) (by perm_mem) (by perm_mem)
  case lambda =>
    intro i args body ihargs _ hf fns aug anno
    cases args with
    | arguments ai po ar va ko kd kw df =>
      obtain ⟨ihkd, ihdf⟩ := ihargs _ _ _ _ _ _ _ _ rfl
      simp only [FragE, Bool.and_eq_true] at hf
      simp only [effE, ownBindsE, ownLeaksE]
      exact (((((ihkd hf.1.1.2 (.lam i :: fns) aug anno).append (ihdf hf.1.2 (.lam i :: fns) aug anno)).append
        (SetsAre.defParams po ar va ko kw)).exp.append (.none rfl rfl rfl)).append (.none rfl rfl rfl)).congr
          (by perm_mem) (by perm_mem) (by perm_mem) (by perm_mem)
    | _ => simp [FragE] at hf
  case withitem =>
    exact fun _ c v ihc ihv hf fns aug anno => ((ihc (and_left hf) fns aug anno).append (ihv (and_right hf) fns aug anno)).exp
  case comp => intro _ _ _ _ _ _ _ hf; cases hf
  case comprehension => intro _ _ _ _ _ _ _ _ hf; cases hf
  case arguments => intro _ _ _ _ _ _ _ _ hf; cases hf
  case arg => intro _ _ _ _ hf; cases hf

theorem effE_sets (e : Expr) (hf : FragE e = true) (fns : List FnCtx) (aug anno : Bool) :
    SetsAre (effE fns aug anno e) (ownBindsE e) (ownLeaksE e) [] [] := effE_sets_all.1 e hf fns aug anno

theorem effEs_sets (es : List Expr) (hf : FragEs es = true) (fns : List FnCtx) (aug anno : Bool) :
    SetsAre (effEs fns aug anno es) (ownBindsEs es) (ownLeaksEs es) [] [] := effE_sets_all.2 es hf fns aug anno

theorem SetsAre.aliases (names : List (String × String)) : SetsAre (aliasEff names) (names.map aliasName) [] [] [] :=
  ⟨fun x => by simp [aliasEff], fun x => by simp [aliasEff], fun x => by simp [aliasEff]⟩

theorem SetsAre.globalDecl (names : List String) : SetsAre (globalEff names) [] [] names [] :=
  ⟨fun x => by simp [globalEff], fun x => by simp [globalEff], fun x => by simp [globalEff]⟩

theorem SetsAre.nonlocalDecl (names : List String) : SetsAre (nonlocalEff names) [] [] [] names :=
  ⟨fun x => by simp [nonlocalEff], fun x => by simp [nonlocalEff], fun x => by simp [nonlocalEff]⟩

section nodes
variable {dT dI dB dO dD dR dK dF dBs dKs : Eff} {bT lT bI lI bB lB gB nB bO lO gO nO bD lD bR lR bK lK bF lF bBs lBs bKs lKs : List String}

theorem SetsAre.branch (hT : SetsAre dT bT lT [] []) (hB : SetsAre dB bB lB gB nB) (hO : SetsAre dO bO lO gO nO) :
    SetsAre (dT.exported false ++ (dB.exported false ++ dO.exported false)) (bT ++ bB ++ bO) (lT ++ lB ++ lO) (gB ++ gO) (nB ++ nO) :=
  (hT.exp.append (hB.exp.append hO.exp)).congr (by perm_mem) (by perm_mem) (by perm_mem) (by perm_mem)

theorem SetsAre.forLoop (hT : SetsAre dT bT lT [] []) (hI : SetsAre dI bI lI [] []) (hB : SetsAre dB bB lB gB nB)
    (hO : SetsAre dO bO lO gO nO) :
    SetsAre ((dT ++ dI).exported false ++ dT.exported false ++ (dB.exported false ++ dO.exported false))
      (bT ++ bI ++ bB ++ bO) (lT ++ lI ++ lB ++ lO) (gB ++ gO) (nB ++ nO) :=
  (((hT.append hI).exp.append hT.exp).append (hB.exp.append hO.exp)).congr
    (by perm_mem) (by perm_mem) (by perm_mem) (by perm_mem)

theorem SetsAre.classDef (hD : SetsAre dD bD lD [] []) (hBs : SetsAre dBs bBs lBs [] []) (hKs : SetsAre dKs bKs lKs [] [])
    (name : String) (I : Eff) :
    SetsAre ((dD ++ { modified := [.sym name] } ++ { bound := [.sym name] } ++ dBs ++ dKs).exported false ++ I.exported true)
      (name :: (bD ++ bBs ++ bKs)) (lD ++ lBs ++ lKs) [] [] :=
  ((((((hD.append (.none rfl rfl rfl)).append (SetsAre.defName name)).append hBs).append hKs).exp).append
    (.none rfl rfl rfl)).congr (by perm_mem) (by perm_mem) (by perm_mem) (by perm_mem)

theorem SetsAre.functionDef (hD : SetsAre dD bD lD [] []) (hR : SetsAre dR bR lR [] []) (hK : SetsAre dK bK lK [] [])
    (hF : SetsAre dF bF lF [] []) (name : String) (po ar va ko kw : List Expr) (I : Eff) :
    SetsAre ((dD ++ dR ++ dK ++ dF ++ { bound := paramNames po ar va ko kw } ++ { modified := [.sym name] } ++
        { bound := [.sym name] }).exported false ++ I.exported true)
      (name :: (bD ++ bR ++ bK ++ bF)) (paramStrs po ar va ko kw ++ lD ++ lR ++ lK ++ lF) [] [] :=
  ((((((((hD.append hR).append hK).append hF).append (SetsAre.defParams po ar va ko kw)).append (.none rfl rfl rfl)).append
    (SetsAre.defName name)).exp).append (.none rfl rfl rfl)).congr (by perm_mem) (by perm_mem) (by perm_mem) (by perm_mem)

end nodes

mutual
theorem effS_sets : (s : Stmt) → FragS s = true → (fns : List FnCtx) →
    SetsAre (effS fns s) (ownBindsS s) (ownLeaksS s) (ownDeclsS true s) (ownDeclsS false s)
  | .ret _ v, hf, fns | .delete _ v, hf, fns => (effEs_sets v hf fns false false).exp
  | .expr _ v, hf, fns => (effE_sets v hf fns false false).exp
  | .assign _ ts v, hf, fns =>
      ((effEs_sets ts (and_left hf) fns false false).append (effE_sets v (and_right hf) fns false false)).exp
  | .augAssign _ t _ v, hf, fns =>
      ((effE_sets t (and_left hf) fns true false).append (effE_sets v (and_right hf) fns false false)).exp
  | .annAssign _ t an v _, hf, fns =>
      (((effE_sets t (and_left (and_left hf)) fns false false).append (effEs_sets v (and_right hf) fns false false)).append
        (effE_sets an (and_right (and_left hf)) fns false true)).exp
  | .raise _ e c, hf, fns =>
      ((effEs_sets e (and_left hf) fns false false).append (effEs_sets c (and_right hf) fns false false)).exp
  | .assert_ _ t m, hf, fns =>
      ((effE_sets t (and_left hf) fns false false).append (effEs_sets m (and_right hf) fns false false)).exp
  | .import_ _ names, _, _ | .importFrom _ _ names _, _, _ => (SetsAre.aliases names).exp
  | .global _ names, _, _ => (SetsAre.globalDecl names).exp
  | .nonlocal _ names, _, _ => (SetsAre.nonlocalDecl names).exp
  | .pass _, _, _ | .break_ _, _, _ | .continue_ _, _, _ => SetsAre.empty
  | .other _ _ es bs, hf, fns => (effEs_sets es (and_left hf) fns false false).append (effSs_sets bs (and_right hf) fns)
  | .try_ _ b h o f, hf, fns =>
      (((effSs_sets b (and_left (and_left (and_left hf))) fns).append (effSs_sets h (and_right (and_left (and_left hf))) fns)).append
        (effSs_sets o (and_right (and_left hf)) fns)).append (effSs_sets f (and_right hf) fns)
  | .handler _ ty _ body, hf, fns =>
      ((effEs_sets ty (and_left hf) fns false false).append (effSs_sets body (and_right hf) fns)).exp
  | .with_ _ items body _, hf, fns =>
      ((effEs_sets items (and_right (and_left (and_left hf))) fns false false).append (effSs_sets body (and_right hf) fns)).exp
  | .if_ _ t body orelse, hf, fns | .while_ _ t body orelse, hf, fns =>
      (effE_sets t (and_left (and_left hf)) fns false false).branch (effSs_sets body (and_right (and_left hf)) fns)
        (effSs_sets orelse (and_right hf) fns)
  | .for_ _ t it body orelse _ _, hf, fns =>
      (effE_sets t (and_right (and_left (and_left (and_left hf)))) fns false false).forLoop
        (effE_sets it (and_right (and_left (and_left hf))) fns false false) (effSs_sets body (and_right (and_left hf)) fns)
        (effSs_sets orelse (and_right hf) fns)
  | .classDef i name bases kws body decos, hf, fns =>
      (effEs_sets decos (and_right (and_left hf)) (.cls i :: fns) false false).classDef
        (effEs_sets bases (and_left (and_left (and_left hf))) (.cls i :: fns) false false)
        (effEs_sets kws (and_right (and_left (and_left hf))) (.cls i :: fns) false false) name _
  | .functionDef i name args body decos returns _, hf, fns => by
      have ha := and_right (and_left (and_left (and_left hf)))
      cases args with
      | arguments ai po ar va ko kd kw df =>
        exact (effEs_sets decos (and_right (and_left (and_left hf))) (.fn i name :: fns) false false).functionDef
          (effEs_sets returns (and_right (and_left hf)) (.fn i name :: fns) false true)
          (effEs_sets kd (and_right (and_left ha)) (.fn i name :: fns) false false)
          (effEs_sets df (and_right ha) (.fn i name :: fns) false false) name po ar va ko kw _
      | _ => cases ha
theorem effSs_sets : (ss : List Stmt) → FragSs ss = true → (fns : List FnCtx) →
    SetsAre (effSs fns ss) (ownBindsSs ss) (ownLeaksSs ss) (ownDeclsSs true ss) (ownDeclsSs false ss)
  | [], _, _ => SetsAre.empty
  | s :: rest, hf, fns => (effS_sets s (and_left hf) fns).append (effSs_sets rest (and_right hf) fns)
end

theorem effE_decls_all :
    (∀ e (fns : List FnCtx) (aug anno : Bool), (effE fns aug anno e).globals = [] ∧ (effE fns aug anno e).nonlocals = []) ∧
    (∀ es (fns : List FnCtx) (aug anno : Bool), (effEs fns aug anno es).globals = [] ∧ (effEs fns aug anno es).nonlocals = []) := by
  apply Expr.plain_ind
  case nil => intro fns aug anno; simp [effEs]
  case cons => intro e es ihe ihes fns aug anno; simp [effEs, ihe fns aug anno, ihes fns aug anno]
  case plain => intro e ks hk ih fns aug anno; rw [effE_plain hk]; exact ih fns aug anno
  case name => intro i s c fns aug anno; simp [effE]
  case attr => intro i v a c ih fns aug anno; simp [effE, ih fns aug anno]
  case subscript => intro i v s c ihv ihs fns aug anno; simp [effE, ihv fns aug anno, ihs fns aug anno]
  case call => intro i f as ks ihf ihas ihks fns aug anno; simp [effE, ihf fns aug anno, ihas fns aug anno, ihks fns aug anno]
  case lambda =>
    intro i args body ihargs _ fns aug anno
    cases args with
    | arguments ai po ar va ko kd kw df =>
      obtain ⟨ihkd, ihdf⟩ := ihargs _ _ _ _ _ _ _ _ rfl
      simp [effE, ihkd (.lam i :: fns) aug anno, ihdf (.lam i :: fns) aug anno]
    | _ => simp [effE]
  case withitem => intro i c v ihc ihv fns aug anno; simp [effE, ihc fns aug anno, ihv fns aug anno]
  case comp | comprehension | arguments | arg => intros; simp [effE]

@[simp] theorem effE_globals (fns : List FnCtx) (aug anno : Bool) (e : Expr) : (effE fns aug anno e).globals = [] :=
  (effE_decls_all.1 e fns aug anno).1

@[simp] theorem effE_nonlocals (fns : List FnCtx) (aug anno : Bool) (e : Expr) : (effE fns aug anno e).nonlocals = [] :=
  (effE_decls_all.1 e fns aug anno).2

@[simp] theorem effEs_globals (fns : List FnCtx) (aug anno : Bool) (es : List Expr) : (effEs fns aug anno es).globals = [] :=
  (effE_decls_all.2 es fns aug anno).1

@[simp] theorem effEs_nonlocals (fns : List FnCtx) (aug anno : Bool) (es : List Expr) : (effEs fns aug anno es).nonlocals = [] :=
  (effE_decls_all.2 es fns aug anno).2

/-- `visit_Global`, `visit_Nonlocal` also add the declared names to `read`. -/
structure DeclRead (d : Eff) : Prop where
  sub : ∀ q, (q ∈ d.nonlocals ∨ q ∈ d.globals) → q ∈ d.read

theorem DeclRead.noDecls {d : Eff} (hg : d.globals = []) (hn : d.nonlocals = []) : DeclRead d :=
  ⟨fun q hq => by simp [hg, hn] at hq⟩

theorem DeclRead.append {a b : Eff} (ha : DeclRead a) (hb : DeclRead b) : DeclRead (a ++ b) := by
  refine ⟨fun q hq => ?_⟩
  have := ha.sub q; have := hb.sub q
  simp only [Eff.append_nonlocals, Eff.append_globals, Eff.append_read, List.mem_append] at hq ⊢
  grind

theorem DeclRead.exp {a : Eff} (ha : DeclRead a) : DeclRead (a.exported false) := ⟨ha.sub⟩
theorem DeclRead.iso (a : Eff) : DeclRead (a.exported true) := .noDecls rfl rfl
theorem DeclRead.ofE (fns : List FnCtx) (aug anno : Bool) (e : Expr) : DeclRead (effE fns aug anno e) :=
  .noDecls (effE_globals ..) (effE_nonlocals ..)

theorem DeclRead.ofEs (fns : List FnCtx) (aug anno : Bool) (es : List Expr) : DeclRead (effEs fns aug anno es) :=
  .noDecls (effEs_globals ..) (effEs_nonlocals ..)

theorem DeclRead.empty : DeclRead {} := .noDecls rfl rfl

theorem DeclRead.aliases (names : List (String × String)) : DeclRead (aliasEff names) := .noDecls rfl rfl
theorem DeclRead.globalDecl (names : List String) : DeclRead (globalEff names) := ⟨fun q hq => by simpa [globalEff] using hq⟩
theorem DeclRead.nonlocalDecl (names : List String) : DeclRead (nonlocalEff names) := ⟨fun q hq => by simpa [nonlocalEff] using hq⟩

theorem DeclRead.definition {dS : Eff} (hS : DeclRead dS) (I : Eff) : DeclRead (dS.exported false ++ I.exported true) :=
  hS.exp.append (DeclRead.iso I)

theorem SetsAre.nonlocal_read {d : Eff} {b l g n : List String} (hM : SetsAre d b l g n) (hdr : DeclRead d) :
    ∀ x ∈ n, QN.sym x ∈ d.read := fun x hx => hdr.sub _ (Or.inl ((hM.nonlocals x).mpr hx))

mutual
theorem effS_declRead : (s : Stmt) → (fns : List FnCtx) → DeclRead (effS fns s)
  | .functionDef i name args body decos returns _, fns => by
      cases args with
      | arguments _ po ar va ko kd kw df =>
        exact ((((((DeclRead.ofEs (.fn i name :: fns) false false decos).append (DeclRead.ofEs _ false true returns)).append
          (DeclRead.ofEs _ false false kd)).append (DeclRead.ofEs _ false false df)).append (.noDecls rfl rfl)).append
          (.noDecls rfl rfl)).append (.noDecls rfl rfl) |>.definition _
      | _ => exact DeclRead.empty
  | .classDef i name bases kws body decos, fns =>
      ((((DeclRead.ofEs (.cls i :: fns) false false decos).append (.noDecls rfl rfl)).append (.noDecls rfl rfl)).append
        (DeclRead.ofEs _ false false bases)).append (DeclRead.ofEs _ false false kws) |>.definition _
  | .ret _ v, fns | .delete _ v, fns => (DeclRead.ofEs fns false false v).exp
  | .expr _ v, fns => (DeclRead.ofE fns false false v).exp
  | .assign _ ts v, fns => ((DeclRead.ofEs fns false false ts).append (DeclRead.ofE fns false false v)).exp
  | .augAssign _ t _ v, fns => ((DeclRead.ofE fns true false t).append (DeclRead.ofE fns false false v)).exp
  | .annAssign _ t an v _, fns =>
      (((DeclRead.ofE fns false false t).append (DeclRead.ofEs fns false false v)).append (DeclRead.ofE fns false true an)).exp
  | .raise _ e c, fns => ((DeclRead.ofEs fns false false e).append (DeclRead.ofEs fns false false c)).exp
  | .assert_ _ t m, fns => ((DeclRead.ofE fns false false t).append (DeclRead.ofEs fns false false m)).exp
  | .for_ _ t it body orelse _ _, fns =>
      ((((DeclRead.ofE fns false false t).append (DeclRead.ofE fns false false it)).exp).append (DeclRead.ofE fns false false t).exp).append
        ((effSs_declRead body fns).exp.append (effSs_declRead orelse fns).exp)
  | .while_ _ t body orelse, fns | .if_ _ t body orelse, fns =>
      (DeclRead.ofE fns false false t).exp.append ((effSs_declRead body fns).exp.append (effSs_declRead orelse fns).exp)
  | .with_ _ items body _, fns => ((DeclRead.ofEs fns false false items).append (effSs_declRead body fns)).exp
  | .handler _ ty _ body, fns => ((DeclRead.ofEs fns false false ty).append (effSs_declRead body fns)).exp
  | .try_ _ b h o f, fns =>
      (((effSs_declRead b fns).append (effSs_declRead h fns)).append (effSs_declRead o fns)).append (effSs_declRead f fns)
  | .import_ _ names, _ | .importFrom _ _ names _, _ => (DeclRead.aliases names).exp
  | .global _ names, _ => (DeclRead.globalDecl names).exp
  | .nonlocal _ names, _ => (DeclRead.nonlocalDecl names).exp
  | .pass _, _ | .break_ _, _ | .continue_ _, _ => DeclRead.empty
  | .other _ _ es bs, fns => (DeclRead.ofEs fns false false es).append (effSs_declRead bs fns)
theorem effSs_declRead : (ss : List Stmt) → (fns : List FnCtx) → DeclRead (effSs fns ss)
  | [], _ => DeclRead.empty
  | s :: rest, fns => (effS_declRead s fns).append (effSs_declRead rest fns)
end

end Malt.Analysis
