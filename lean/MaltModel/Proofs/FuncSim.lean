import MaltModel.Proofs.FuncNative
import MaltModel.Proofs.FuncRestrict
/-!
Forward simulation behind `control_flow_correct`: `Malt.Sem.exec` on the erased program ⟶ `execN` on the
functionalised program.  What a source run can end with (`Ends`, `src_all`) does not depend on the annotation.  The
simulation is four mutually dependent statements, one induction on the source fuel: statements (`SimS`), blocks (`SimB`),
the iterations of a `while` (`SimW`, about the bare `whileF`: the `Undefined` pre-assignments run once, before the loop)
and of a `for` (`SimFor`); each matches a completed source run (`Sim`) by a derivation of `Proofs/FuncNative`.

`Agree L σ σ'`: on the variables `L` live at the current point the target slot reads as the source binding, and the
logs are equal; after outcome `o`, `L` is `K.need O o`: what is live after the statement or, after an exception, the
live-in of the handler that will catch it or of the innermost enclosing `finally`.  Side invariant `BoundSub σ D` (only
variables in `D` are bound): `x = ag__.Undefined('x')` overwrites `x`, harmless only if `x` really is unbound.
-/
namespace Malt.Func
open Malt.Sem

def BoundSub (σ : St) (D : List Name) : Prop := ∀ y, σ.env y ≠ none → y ∈ D

def AgreeOut (o : Out) (L : List Name) (σ₁ : St) (σ₁' : TSt) : Prop :=
  σ₁'.log = σ₁.log ∧ (o = .normal → Agree L σ₁ σ₁')

/-- Outcomes of a block without `return` (the fragment has no break/continue). -/
def NJ (o : Out) : Prop := o = .normal ∨ ∃ e, o = .exc e

theorem BoundSub.mono {σ : St} {D E : List Name} (h : BoundSub σ D) (hs : D ⊆ E) : BoundSub σ E :=
  fun y hy => hs (h y hy)

theorem BoundSub.of_env {σ τ : St} {D : List Name} (h : BoundSub σ D) (he : τ.env = σ.env) : BoundSub τ D :=
  fun y hy => h y (by rw [← he]; exact hy)

theorem BoundSub.set {σ : St} {D E : List Name} (h : BoundSub σ D) (x : Name) (v : Val) (hs : D ⊆ E) (hx : x ∈ E) :
    BoundSub (σ.set x v) E := by
  intro y hy
  by_cases hyx : y = x
  · subst hyx; exact hx
  · simp only [St.set, hyx, if_false] at hy
    exact hs (h y hy)

/-- The `Undefined` pre-assignments only touch unbound variables: everything bound is in `D ⊆ definedIn`, which
`undefined` avoids. -/
theorem Agree.undefs {L D : List Name} {σ : St} {σ' : TSt} {i : Info} (hag : Agree L σ σ') (hb : BoundSub σ D)
    (hD : D ⊆ i.definedIn) (hu : ∀ u ∈ i.undefined, u ∉ i.definedIn) : Agree L σ (Func.undefAll i.undefined σ') :=
  hag.undefAll i.undefined fun u hu' => Classical.byContradiction fun hne => hu u hu' (hD (hb u hne))

theorem NJ.fnOut {o : Out} (h : NJ o) : fnOut o = o := by
  rcases h with rfl | ⟨e, rfl⟩ <;> rfl

/-- User exceptions come from explicit `raise` statements. -/
def RaisedIn (o : Out) (ts : List Nat) : Prop := ∀ t, o = .exc (.user t) → t ∈ ts

theorem hsAll_mem {hs : List (Nat × List Name)} {h : Nat × List Name} (hm : h ∈ hs) : h.2 ⊆ hsAll hs := by
  induction hs with
  | nil => cases hm
  | cons a r ih =>
    obtain ⟨t, l⟩ := a
    simp only [hsAll]
    rcases List.mem_cons.mp hm with rfl | hm
    · exact List.subset_append_left _ _
    · exact fun x hx => List.mem_append.mpr (Or.inr (ih hm hx))

theorem get_sub_all (K : ExcCtx) (e : Exc) : K.get e ⊆ K.all := by
  cases e with
  | user t =>
    simp only [ExcCtx.get, ExcCtx.all]
    cases hf : K.hs.find? (fun h => h.1 == t) with
    | none => exact List.subset_append_left _ _
    | some h => exact fun x hx => List.mem_append.mpr (Or.inr (hsAll_mem (List.mem_of_find?_eq_some hf) hx))
  | _ => exact List.subset_append_left _ _

theorem toFin_get (Fi : List Name) (e : Exc) : (ExcCtx.toFin Fi).get e = Fi := by
  cases e <;> simp [ExcCtx.get, ExcCtx.toFin]

theorem RaisedIn.mono {o : Out} {ts us : List Nat} (h : RaisedIn o ts) (hs : ts ⊆ us) : RaisedIn o us :=
  fun t ht => hs (h t ht)

def findA (hs : List (Nat × List AStmt)) (t : Nat) : Option (List AStmt) := (hs.find? (fun h => h.1 == t)).map (·.2)

theorem findA_cons (t' : Nat) (b : List AStmt) (r : List (Nat × List AStmt)) (t : Nat) :
    findA ((t', b) :: r) t = if t' == t then some b else findA r t := by
  simp only [findA, List.find?]
  cases t' == t <;> rfl

theorem findHandler_erase : ∀ (hs : List (Nat × List AStmt)) (t : Nat),
    findHandler (eraseH hs) (.user t) = (findA hs t).map eraseB
  | [], t => by simp [eraseH, findHandler, findA]
  | (t', b) :: r, t => by
      have ih := findHandler_erase r t
      rw [findA_cons]
      simp only [eraseH, findHandler, List.find?] at ih ⊢
      cases h : t' == t <;> simp [ih]

theorem findHandlerT_func : ∀ (hs : List (Nat × List AStmt)) (t : Nat),
    findHandlerT (funcH hs) (.user t) = (findA hs t).map funcB
  | [], t => by simp [funcH, findHandlerT, findA]
  | (t', b) :: r, t => by
      have ih := findHandlerT_func r t
      rw [findA_cons]
      simp only [funcH, findHandlerT, List.find?] at ih ⊢
      cases h : t' == t <;> simp [ih]

theorem handlerIns_get (Fi Fx : List Name) : ∀ (hs : List (Nat × List AStmt)) (t : Nat),
    (ExcCtx.mk (handlerIns Fi hs) Fx).get (.user t) = match findA hs t with | some b => blockIn b Fi | none => Fx
  | [], t => by simp [handlerIns, ExcCtx.get, findA]
  | (t', b) :: r, t => by
      have ih := handlerIns_get Fi Fx r t
      rw [findA_cons]
      simp only [handlerIns, ExcCtx.get, List.find?] at ih ⊢
      cases h : t' == t <;> simp [ih]

structure HandlerIn (b : List AStmt) (hs : List (Nat × List AStmt)) : Prop where
  live : ∀ K O, LiveH K hs O → LiveB K b O
  decl : DeclH hs → DeclB b
  defd : ∀ D, DefH D hs → DefB D b
  noRet : noRetH hs = true → noRetB b = true
  raises : raisesB b ⊆ raisesH hs
  asg : asgB b ⊆ asgH hs
  reads : readsB b ⊆ readsH hs

theorem find_facts : ∀ (hs : List (Nat × List AStmt)) (t : Nat) (b : List AStmt), findA hs t = some b → HandlerIn b hs
  | [], t, b, h => by simp [findA] at h
  | (t', b') :: r, t, b, h => by
      rw [findA_cons] at h
      cases ht : t' == t with
      | true =>
        simp only [ht, if_true, Option.some.injEq] at h; subst h
        refine ⟨fun K O hl => ?_, fun hd => ?_, fun D hd => ?_, fun hn => ?_, ?_, ?_, ?_⟩
        · simp only [LiveH] at hl; exact hl.1
        · simp only [DeclH] at hd; exact hd.1
        · simp only [DefH] at hd; exact hd.1
        · exact and_true_left (a := noRetB b') (b := noRetH r) hn
        · exact List.subset_append_left (raisesB b') (raisesH r)
        · simp only [asgH]; exact List.subset_append_left _ _
        · exact List.subset_append_left (readsB b') (readsH r)
      | false =>
        simp only [ht, Bool.false_eq_true, if_false] at h
        have ih := find_facts r t b h
        refine ⟨fun K O hl => ?_, fun hd => ?_, fun D hd => ?_, fun hn => ?_, ?_, ?_, ?_⟩
        · simp only [LiveH] at hl; exact ih.live K O hl.2
        · simp only [DeclH] at hd; exact ih.decl hd.2
        · simp only [DefH] at hd; exact ih.defd D hd.2
        · exact ih.noRet (and_true_right (a := noRetB b') (b := noRetH r) hn)
        · exact fun x hx => List.mem_append_right (raisesB b') (ih.raises hx)
        · simp only [asgH]; exact fun x hx => List.mem_append.mpr (Or.inr (ih.asg hx))
        · exact fun x hx => List.mem_append_right (readsB b') (ih.reads hx)

/-- The handler, if any, that takes an outcome: only `raise E<tag>` is caught, by the first `except E<tag>`. -/
def handlerOf (hs : List (Nat × List AStmt)) : Out → Option (List AStmt)
  | .exc (.user t) => findA hs t
  | _ => none

theorem handlerOf_some {hs : List (Nat × List AStmt)} {ob : Out} {b : List AStmt} (h : handlerOf hs ob = some b) :
    ∃ t, ob = .exc (.user t) ∧ findA hs t = some b := by
  cases ob with
  | exc ex =>
    cases ex with
    | user t => exact ⟨t, rfl, h⟩
    | _ => cases h
  | _ => cases h

theorem handleThen_erase (X : Ext) (n : Nat) (hs : List (Nat × List AStmt)) (ob : Out) (σb : St) :
    handleThen (findHandler (eraseH hs)) (execB X n) (ob, σb) =
      match handlerOf hs ob with | some hbk => execB X n (eraseB hbk) σb | none => some (ob, σb) := by
  cases ob with
  | exc ex =>
    cases ex with
    | user t =>
      simp only [handleThen, findHandler_erase, handlerOf]
      cases findA hs t <;> rfl
    | _ => rfl
  | _ => rfl

theorem AfterN.of_handler {X : Ext} {hs : List (Nat × List AStmt)} {ob : Out} {τb : TSt} {r : Out × TSt}
    (h : match handlerOf hs ob with | some hbk => RunNB X (funcB hbk) τb r | none => r = (ob, τb)) :
    AfterN X (funcH hs) (ob, τb) r := by
  cases hfa : handlerOf hs ob with
  | some hbk =>
    rw [hfa] at h
    obtain ⟨t, rfl, hft⟩ := handlerOf_some hfa
    exact .caught (by rw [findHandlerT_func, hft]; rfl) h
  | none =>
    rw [hfa] at h
    cases h
    refine .pass fun ex he => ?_
    cases he
    cases ex with
    | user t => rw [findHandlerT_func, show findA hs t = none from hfa]; rfl
    | _ => rfl

theorem noRet_retTopS (s : AStmt) (h : noRetS s = true) : retTopS s = true := by
  cases s <;> first | exact h | rfl | cases h

theorem noRet_retTopB : ∀ (b : ABlock), noRetB b = true → retTopB b = true
  | [], _ => rfl
  | s :: r, h => by
      have h : (noRetS s && noRetB r) = true := h
      simp only [retTopB, Bool.and_eq_true]
      exact ⟨noRet_retTopS s (and_true_left h), noRet_retTopB r (and_true_right h)⟩

/-- `nr`: no `return` inside; `ts`: the tags of its `raise` statements; `E`: what was bound before or is assigned inside. -/
def Ends (nr : Bool) (ts : List Nat) (E : List Name) (o : Out) (σ₁ : St) : Prop :=
  (nr = true → NJ o) ∧ RaisedIn o ts ∧ BoundSub σ₁ E

theorem Ends.normal {nr : Bool} {ts : List Nat} {E : List Name} {σ : St} (h : BoundSub σ E) : Ends nr ts E .normal σ :=
  ⟨fun _ => .inl rfl, nofun, h⟩

theorem Ends.err {nr : Bool} {ts : List Nat} {E : List Name} {σ : St} {ex : Exc} (hi : IsImpl ex) (h : BoundSub σ E) :
    Ends nr ts E (.exc ex) σ :=
  ⟨fun _ => .inr ⟨ex, rfl⟩, fun _ ht => by cases ht; exact hi.elim, h⟩

theorem Ends.mono {nr nr' : Bool} {ts ts' : List Nat} {E E' : List Name} {o : Out} {σ : St} (h : Ends nr ts E o σ)
    (hn : nr' = true → nr = true) (ht : ts ⊆ ts') (hE : E ⊆ E') : Ends nr' ts' E' o σ :=
  ⟨fun h' => h.1 (hn h'), h.2.1.mono ht, h.2.2.mono hE⟩

theorem ends_eval (X : Ext) (e : Expr) {nr : Bool} {ts : List Nat} {D E : List Name} {σ : St}
    {k : Val → St → Option (Out × St)} (hb : BoundSub σ D) (hDE : D ⊆ E)
    (hk : ∀ v τ, BoundSub τ D → Post (Ends nr ts E) (k v τ)) : Post (Ends nr ts E) (valThen (evalE X e σ) k) := by
  have hb' : BoundSub (evalE X e σ).2 D := hb.of_env (evalE_env X e σ)
  exact valThen_post (fun v _ => hk v _ hb') fun ex hex => .err (evalE_impl X e σ ex hex) (hb'.mono hDE)

theorem Ends.loop {nr : Bool} {ts : List Nat} {E : List Name} {a : Option (Out × St)} {k : St → Option (Out × St)}
    (ha : Post (Ends nr ts E) a) (hk : ∀ τ, BoundSub τ E → Post (Ends nr ts E) (k τ)) : Post (Ends nr ts E) (loopThen a k) :=
  loopThen_post ha (fun _ τ _ h => hk τ h.2.2) (fun _ h => .normal h.2.2) fun _ _ _ _ _ h => h

theorem loopThen_nj {S : Type} {a : Option (Out × S)} {k : S → Option (Out × S)} (h : Post (fun o _ => NJ o) a) :
    loopThen a k = andThen a k := by
  rcases a with _ | ⟨o, τ⟩
  · rfl
  · rcases h o τ rfl with rfl | ⟨e, rfl⟩ <;> rfl

theorem ends_handler (X : Ext) (n : Nat)
    (ihB : ∀ b D σ, BoundSub σ D → Post (Ends (noRetB b) (raisesB b) (D ++ asgB b)) (execB X n (eraseB b) σ))
    (hs : List (Nat × List AStmt)) {nr : Bool} {ts : List Nat} {D : List Name} {ob : Out} {σb : St}
    (hq : Ends nr ts D ob σb) (hnh : nr = true → noRetH hs = true) :
    Post (Ends nr (ts ++ raisesH hs) (D ++ asgH hs))
      (handleThen (findHandler (eraseH hs)) (execB X n) (ob, σb)) := by
  rw [handleThen_erase]
  cases hfa : handlerOf hs ob with
  | none => exact .pure (hq.mono id (List.subset_append_left _ _) (List.subset_append_left _ _))
  | some hbk =>
    obtain ⟨t, -, hft⟩ := handlerOf_some hfa
    have hin := find_facts hs t hbk hft
    exact (ihB hbk D σb hq.2.2).mono fun _ _ h => h.mono (fun h' => hin.noRet (hnh h'))
      (fun _ h' => List.mem_append_right _ (hin.raises h')) (append_sub_append (fun _ h => h) hin.asg)

theorem src_all (X : Ext) : ∀ n,
    (∀ s D σ, BoundSub σ D → Post (Ends (noRetS s) (raisesS s) (D ++ asgS s)) (exec X n (eraseS s) σ)) ∧
    (∀ b D σ, BoundSub σ D → Post (Ends (noRetB b) (raisesB b) (D ++ asgB b)) (execB X n (eraseB b) σ)) ∧
    (∀ x extra b items D σ, BoundSub σ D → x :: asgB b ⊆ D →
      Post (Ends (noRetB b) (raisesB b) D) (execFor X n x extra (eraseB b) items σ))
  | 0 => ⟨fun _ _ _ _ => .none, fun _ _ _ _ => .none, fun _ _ _ _ _ _ _ _ => .none⟩
  | n+1 => by
    obtain ⟨ihS, ihB, ihF⟩ := src_all X n
    have l : ∀ {α : Type} {a b : List α}, a ⊆ a ++ b := fun {_ a b} => List.subset_append_left a b
    have r : ∀ {α : Type} {a b : List α}, b ⊆ a ++ b := fun {_ a b} => List.subset_append_right a b
    have next : ∀ x extra b items D σ, BoundSub σ D → x :: asgB b ⊆ D →
        Post (Ends (noRetB b) (raisesB b) D) (extraThen (evalE X) extra (execFor X n x extra (eraseB b) items) σ) := by
      intro x extra b items D σ hb hs
      exact extraThen_post (I := (BoundSub · D)) hb (fun t τ h => h.of_env (evalE_env X t τ))
        (fun τ hτ => ihF x extra b items D τ hτ hs) (fun _ => .normal) fun t ex hex => .err (evalE_impl X t σ ex hex)
    refine ⟨fun s D σ hb => ?_, fun b D σ hb => ?_, fun x extra b items D σ hb hs => ?_⟩
    · cases s with
      | assign i x e =>
        show Post _ (exec X (n+1) (.assign x e) σ)
        rw [exec_assign]
        exact ends_eval X e hb l fun v τ hτ => .pure (.normal (hτ.set x v l (r (List.mem_singleton_self x))))
      | expr i e =>
        show Post _ (exec X (n+1) (.expr e) σ)
        rw [exec_expr]
        exact ends_eval X e hb l fun v τ hτ => .pure (.normal (hτ.mono l))
      | pass i => exact .pure (.normal (hb.mono l))
      | raise i t =>
        exact .pure ⟨fun _ => .inr ⟨_, rfl⟩, fun t' ht' => by cases ht'; exact List.mem_singleton_self _, hb.mono l⟩
      | ret i e =>
        cases e with
        | none => exact .pure ⟨nofun, nofun, hb.mono l⟩
        | some e =>
          show Post _ (exec X (n+1) (.ret (some e)) σ)
          rw [exec_ret]
          exact ends_eval X e hb l fun v τ hτ => .pure ⟨nofun, nofun, hτ.mono l⟩
      | ifS i c t e =>
        show Post _ (exec X (n+1) (.ifS c (eraseB t) (eraseB e)) σ)
        rw [exec_if]
        exact ends_eval X c hb l fun v τ hτ => ite_post
          (fun _ => (ihB t D τ hτ).mono fun _ _ h => h.mono and_true_left l (append_sub_append (fun _ h => h) l))
          (fun _ => (ihB e D τ hτ).mono fun _ _ h => h.mono and_true_right r (append_sub_append (fun _ h => h) r))
      | whileS i c b =>
        show Post _ (exec X (n+1) (.whileS c (eraseB b)) σ)
        rw [exec_while]
        refine ends_eval X c hb l fun v τ hτ => ite_post (fun _ => ?_) fun _ => .pure (.normal (hτ.mono l))
        have sub : (D ++ asgB b) ++ asgB b ⊆ D ++ asgB b := List.append_subset.mpr ⟨fun _ h => h, r⟩
        exact Ends.loop (ihB b D τ hτ) fun τ' hτ' =>
          (ihS (.whileS i c b) _ τ' hτ').mono fun _ _ h => h.mono id (fun _ h => h) sub
      | forS i x it extra b =>
        show Post _ (exec X (n+1) (.forS x it extra (eraseB b)) σ)
        rw [exec_for]
        refine ends_eval X it hb l fun v τ hτ => ?_
        cases hi : iterItems v with
        | error ex => exact .pure (.err (iterItems_impl hi) (hτ.mono l))
        | ok items => exact next x extra b items _ τ (hτ.mono l) r
      | withS i tag b =>
        show Post _ (exec X (n+1) (.withS tag (eraseB b)) σ)
        rw [exec_with]
        exact bind_post (ihB b D _ (hb.of_env rfl)) fun o τ h => .pure ⟨h.1, h.2.1, h.2.2.of_env rfl⟩
      | tryS i b hs f =>
        show Post _ (exec X (n+1) (.tryS (eraseB b) (eraseH hs) (eraseB f)) σ)
        rw [exec_try]
        have nb : noRetS (.tryS i b hs f) = true → noRetB b = true := fun h => and_true_left (and_true_left h)
        have nh : noRetS (.tryS i b hs f) = true → noRetH hs = true := fun h => and_true_right (and_true_left h)
        refine bind_post (ihB b D σ hb) fun ob σb hq =>
          bind_post (ends_handler X n ihB hs (hq.mono nb (fun _ h => h) fun _ h => h) nh) fun o2 σ2 h2 => ?_
        have sub : D ++ asgB b ++ asgH hs ++ asgB f ⊆ D ++ asgS (.tryS i b hs f) := by
          show _ ⊆ D ++ (asgB b ++ (asgH hs ++ asgB f))
          rw [List.append_assoc, List.append_assoc]; exact fun _ h => h
        have rs : raisesB b ++ raisesH hs ⊆ raisesS (.tryS i b hs f) := fun _ h =>
          (List.mem_append.mp h).elim (fun h => l h) fun h => r (l h)
        exact andThen_post (ihB f _ σ2 h2.2.2) (fun σ3 h3 => .pure ⟨h2.1, h2.2.1.mono rs, h3.2.2.mono sub⟩)
          fun o τ _ h => h.mono and_true_right (fun _ h => r (r h)) sub
    · cases b with
      | nil => exact .pure (.normal (hb.mono l))
      | cons s rest =>
        show Post _ (execB X (n+1) (eraseS s :: eraseB rest) σ)
        rw [Sem.execB_cons]
        have sub : (D ++ asgS s) ++ asgB rest ⊆ D ++ (asgS s ++ asgB rest) := by
          rw [List.append_assoc]; exact fun _ h => h
        exact andThen_post (ihS s D σ hb)
          (fun τ hτ => (ihB rest _ τ hτ.2.2).mono fun _ _ h => h.mono and_true_right r sub)
          fun o τ _ h => h.mono and_true_left l (append_sub_append (fun _ h => h) l)
    · cases items with
      | nil => exact .pure (.normal hb)
      | cons v items =>
        rw [execFor_cons]
        have sub : D ++ asgB b ⊆ D := List.append_subset.mpr ⟨fun _ h => h, fun _ h => hs (List.mem_cons_of_mem _ h)⟩
        exact Ends.loop ((ihB b D _ (hb.set x v (fun _ h => h) (hs (List.mem_cons_self ..)))).mono
          fun _ _ h => h.mono id (fun _ h => h) sub) fun τ hτ => next x extra b items D τ hτ hs

/-- What must agree after outcome `o`: the variables live after the statement, or what the handler / `finally` block
of the exception needs. -/
def ExcCtx.need (K : ExcCtx) (O : List Name) : Out → List Name
  | .normal => O
  | .exc e => K.get e
  | _ => []

theorem need_abrupt {K : ExcCtx} {O O' : List Name} {o : Out} (h : o ≠ .normal) : K.need O o = K.need O' o := by
  cases o <;> first | rfl | exact absurd rfl h

/-- After an evaluation error only `K.other` is needed: `except E<tag>` does not catch it. -/
theorem need_err {K : ExcCtx} {O L : List Name} {σ : St} {σ' : TSt} {ex : Exc} (h : Agree L σ σ') (hK : K.other ⊆ L)
    (hi : IsImpl ex) : Agree (K.need O (.exc ex)) σ σ' := by
  cases ex <;> first | exact h.mono hK | exact hi.elim

theorem need_handler (Fi Fx : List Name) (hs : List (Nat × List AStmt)) (ob : Out) :
    ExcCtx.need { hs := handlerIns Fi hs, other := Fx } Fi ob =
      match handlerOf hs ob with | some hbk => blockIn hbk Fi | none => (ExcCtx.toFin Fx).need Fi ob := by
  cases ob with
  | exc ex =>
    cases ex with
    | user t =>
      show ExcCtx.get _ (.user t) = _
      rw [handlerIns_get]
      show _ = match findA hs t with | some hbk => blockIn hbk Fi | none => (ExcCtx.toFin Fx).get (.user t)
      cases findA hs t with
      | none => exact (toFin_get Fx _).symm
      | some hbk => rfl
    | _ => rfl
  | _ => rfl

def Sim (R : Out × TSt → Prop) (K : ExcCtx) (O : List Name) (o : Out) (σ₁ : St) : Prop :=
  ∃ σ₁', R (o, σ₁') ∧ Agree (K.need O o) σ₁ σ₁'

theorem Agree.out {K : ExcCtx} {O : List Name} {o : Out} {σ₁ : St} {σ₁' : TSt} (h : Agree (K.need O o) σ₁ σ₁') :
    AgreeOut o O σ₁ σ₁' := ⟨h.2, fun ho => by subst ho; exact h⟩

def SimS (X : Ext) (n : Nat) : Prop :=
  ∀ (s : AStmt) (K : ExcCtx) (D : List Name) (σ : St) (σ' : TSt),
    LiveS K s → DeclS s → DefS D s → retTopS s = true → Agree s.info.liveIn σ σ' → BoundSub σ D →
    Post (Sim (RunNB X (funcS s) σ') K s.info.liveOut) (exec X n (eraseS s) σ)

def SimB (X : Ext) (n : Nat) : Prop :=
  ∀ (b : ABlock) (K : ExcCtx) (D O : List Name) (σ : St) (σ' : TSt),
    LiveB K b O → DeclB b → DefB D b → retTopB b = true → Agree (blockIn b O) σ σ' → BoundSub σ D →
    Post (Sim (RunNB X (funcB b) σ') K O) (execB X n (eraseB b) σ)

def SimW (X : Ext) (n : Nat) : Prop :=
  ∀ (i : Info) (c : Expr) (b : ABlock) (K : ExcCtx) (D : List Name) (σ : St) (σ' : TSt),
    LiveS K (.whileS i c b) → DeclS (.whileS i c b) → DefB D b → asgB b ⊆ D → noRetB b = true →
    Agree i.liveIn σ σ' → BoundSub σ D →
    Post (Sim (RunN X (.whileF c (funcB b) i.declared) σ') K i.liveOut) (exec X n (.whileS c (eraseB b)) σ)

def SimFor (X : Ext) (n : Nat) : Prop :=
  ∀ (i : Info) (x : Name) (it : Expr) (extra : Option Expr) (b : ABlock) (K : ExcCtx) (D : List Name) (items : List Val)
    (σ : St) (σ' : TSt),
    LiveS K (.forS i x it extra b) → DeclS (.forS i x it extra b) → DefB D b → (x :: asgB b) ⊆ D → noRetB b = true →
    Agree i.liveIn σ σ' → BoundSub σ D →
    Post (Sim (RunNFor X x extra (funcB b) i.declared items σ') K i.liveOut) (execFor X n x extra (eraseB b) items σ)

theorem sim_eval (X : Ext) (e : Expr) {L D O : List Name} {K : ExcCtx} {σ : St} {σ' : TSt} {R : Out × TSt → Prop}
    {k : Val → St → Option (Out × St)} (hag : Agree L σ σ') (hv : vars e ⊆ L) (hK : K.other ⊆ L) (hb : BoundSub σ D)
    (herr : ∀ ex τ', evalT X e σ' = (.error ex, τ') → R (.exc ex, τ'))
    (hk : ∀ v τ τ', evalT X e σ' = (.ok v, τ') → Agree L τ τ' → BoundSub τ D → Post (Sim R K O) (k v τ)) :
    Post (Sim R K O) (valThen (evalE X e σ) k) := by
  have hc := evalE_congr X e σ'.view σ (fun x hx => hag.1 x (hv hx)) hag.2
  have he := evalE_env X e σ
  have hag1 : Agree L (evalE X e σ).2 (evalT X e σ').2 := ⟨fun x hx => by rw [he]; exact hag.1 x hx, hc.2⟩
  have hT : ∀ {r}, (evalE X e σ).1 = r → evalT X e σ' = (r, (evalT X e σ').2) := fun hr => Prod.ext (hc.1.trans hr) rfl
  exact valThen_post (fun v hv => hk v _ _ (hT hv) hag1 (hb.of_env he))
    fun ex hex => ⟨_, herr ex _ (hT hex), need_err hag1 hK (evalE_impl X e σ ex hex)⟩

/-! What is not declared is frame-local **and dead**. -/
theorem locals_dead {i : Info} {body : ABlock} {modified : List Name} (hsub : asgB body ⊆ modified)
    (hd : modified.filter (liveEither i) ⊆ i.declared) (hdecl : DeclB body) :
    ∀ x ∈ localsOf (funcB body) i.declared, x ∉ i.liveIn ∧ x ∉ i.liveOut := by
  intro x hx
  simp only [localsOf, List.mem_filter, Bool.not_eq_eq_eq_not, Bool.not_true] at hx
  have hnd : x ∉ i.declared := fun h => by rw [List.contains_iff_mem.mpr h] at hx; exact nomatch hx.2
  have hm := hsub (direct_funcB body hdecl hx.1)
  exact ⟨fun h => hnd (declared_of_live hd hm (.inl h)), fun h => hnd (declared_of_live hd hm (.inr h))⟩

/-- The generated `loop_body(itr)` is the functionalisation of `x = itr; body`. -/
theorem localsFor_dead {i : Info} {x : Name} {body : ABlock}
    (hd : (x :: asgB body).filter (liveEither i) ⊆ i.declared) (hdecl : DeclB body) :
    ∀ y ∈ localsFor x (funcB body) i.declared, y ∉ i.liveIn ∧ y ∉ i.liveOut :=
  locals_dead (body := .assign {} x (.const .none) :: body) (fun _ h => h) hd ⟨trivial, hdecl⟩

theorem locals_need {K : ExcCtx} {i : Info} {L O : List Name} {ts : List Nat} {o : Out}
    (hloc : ∀ x ∈ L, x ∉ i.liveIn ∧ x ∉ i.liveOut) (hO : ∀ x ∈ L, x ∉ O) (hKo : K.other ⊆ i.liveIn)
    (hro : raiseOK K i ts) (hr : RaisedIn o ts) : ∀ x ∈ L, x ∉ K.need O o := by
  cases o with
  | normal => exact hO
  | exc e =>
    intro x hx hin
    cases e with
    | user t =>
      rcases List.mem_append.mp (hro t (hr t rfl) hin) with h | h
      · exact (hloc x hx).1 h
      · exact (hloc x hx).2 h
    | nameError y => exact (hloc x hx).1 (hKo hin)
    | typeError => exact (hloc x hx).1 (hKo hin)
  | _ => exact fun _ _ => nofun

/-- Inside the call `funcB t` starts in `τ₀`: the masked state for the body function of an `if` or `while`; for
`loop_body(itr)` the masked state after `x = itr` (`hpre`). -/
theorem body_call (X : Ext) (n : Nat) (hB : SimB X n) (t : ABlock) (K : ExcCtx) (O D L : List Name)
    (σ : St) (σ' τ₀ : TSt) (body : TBlock)
    (hlive : LiveB K t O) (hdecl : DeclB t) (hdef : DefB D t) (hnr : noRetB t = true)
    (hpre : ∀ {r}, RunNB X (funcB t) τ₀ r → RunNB X body (mask L σ') r) (hag : Agree (blockIn t O) σ τ₀)
    (hL : ∀ o, RaisedIn o (raisesB t) → ∀ x ∈ L, x ∉ K.need O o) (hb : BoundSub σ D) :
    Post (Sim (CallN X L body σ') K O) (execB X n (eraseB t) σ) := by
  intro o σ₂ h
  obtain ⟨hnj, hr, -⟩ := (src_all X n).2.1 t D σ hb o σ₂ h
  obtain ⟨τ, hx, hout⟩ := hB t K D O σ τ₀ hlive hdecl hdef (noRet_retTopB t hnr) hag hb o σ₂ h
  exact ⟨_, (hnj hnr).fnOut ▸ CallN.intro (hpre hx), hout.restore L σ' (hL o hr)⟩

/-- The handler step of a `try`: whatever the body ended with, source and target take the same handler (or none);
afterwards they agree on the live-in `Fi` of the `finally` block (normal completion) or on the part `Fx` of it
that a `finally` entered with a pending exception needs. -/
theorem handler_step (X : Ext) (n : Nat) (hB : SimB X n) (hs : List (Nat × List AStmt)) (Fi Fx D' : List Name)
    (ob : Out) (σb : St) (τb : TSt)
    (hlh : LiveH (ExcCtx.toFin Fx) hs Fi) (hdh : DeclH hs) (hfh : DefH D' hs) (hnh : noRetH hs = true)
    (hout : Agree (ExcCtx.need { hs := handlerIns Fi hs, other := Fx } Fi ob) σb τb) (hbd : BoundSub σb D') :
    Post (Sim (AfterN X (funcH hs) (ob, τb)) (ExcCtx.toFin Fx) Fi)
      (handleThen (findHandler (eraseH hs)) (execB X n) (ob, σb)) := by
  have hout := need_handler Fi Fx hs ob ▸ hout
  rw [handleThen_erase]
  cases hfa : handlerOf hs ob with
  | none =>
    rw [hfa] at hout
    exact .pure ⟨τb, .of_handler (by rw [hfa]), hout⟩
  | some hbk =>
    rw [hfa] at hout
    obtain ⟨t, -, hft⟩ := handlerOf_some hfa
    have hin := find_facts hs t hbk hft
    exact (hB hbk (ExcCtx.toFin Fx) D' Fi σb τb (hin.live _ _ hlh) (hin.decl hdh) (hin.defd _ hfh)
      (noRet_retTopB hbk (hin.noRet hnh)) hout hbd).mono
      fun o σ₁ ⟨τ₂, hr, ha⟩ => ⟨τ₂, .of_handler (by rw [hfa]; exact hr), ha⟩

/-- With a pending exception the block is simulated under the annotation restricted to what it reads and what `K` needs. -/
theorem finally_step (X : Ext) (n : Nat) (hB : SimB X n) (f : ABlock) (K : ExcCtx) (O D'' : List Name)
    (o2 : Out) (σ2 : St) (τ2 : TSt)
    (hlf : LiveB K f (O ++ K.all)) (hdf : DeclB f) (hff : DefB D'' f) (hnf : noRetB f = true)
    (hag : Agree ((ExcCtx.toFin (finExcIn K f O)).need (blockIn f (O ++ K.all)) o2) σ2 τ2)
    (hnj2 : NJ o2) (hbd : BoundSub σ2 D'') :
    Post (Sim (FinN X (funcB f) (o2, τ2)) K O) (finallyThen (execB X n (eraseB f)) (o2, σ2)) := by
  rcases hnj2 with rfl | ⟨e2, rfl⟩
  · -- normal entry
    exact andThen_post (hB f K D'' (O ++ K.all) σ2 τ2 hlf hdf hff (noRet_retTopB f hnf) hag hbd)
      (fun σf ⟨τf, hr, ha⟩ => .pure ⟨τf, .normal hr, ha.mono (List.subset_append_left _ _)⟩)
      fun of σf hne ⟨τf, hr, ha⟩ => ⟨τf, .abrupt hr hne, need_abrupt hne ▸ ha⟩
  · -- entry with a pending exception: the restricted annotation
    let S := readsB f ++ K.all
    have hKS : ∀ e, K.get e ⊆ S := fun e x hx => List.mem_append.mpr (Or.inr (get_sub_all K e hx))
    have hagr : Agree (blockIn (restrictB S f) (fl S (O ++ K.all))) σ2 τ2 := by
      have hag : Agree ((ExcCtx.toFin (finExcIn K f O)).get e2) σ2 τ2 := hag
      rw [toFin_get] at hag
      rw [blockIn_restrict]; exact hag
    have h := hB (restrictB S f) (K.filt S) D'' (fl S (O ++ K.all)) σ2 τ2
      (live_restrictB S K f _ hlf (List.subset_append_left _ _)) (decl_restrictB S f hdf) (def_restrictB S D'' f hff)
      (noRet_retTopB _ (by rw [noRet_restrictB]; exact hnf)) hagr hbd
    rw [erase_restrictB, func_restrictB] at h
    refine andThen_post h (fun σf ⟨τf, hr, ha⟩ => .pure ⟨τf, .normal hr, ?_⟩)
      fun of σf hne ⟨τf, hr, ha⟩ => ⟨τf, .abrupt hr hne, ?_⟩
    · exact ha.mono fun x hx => mem_fl.mpr ⟨List.mem_append.mpr (Or.inr (get_sub_all K e2 hx)), hKS e2 hx⟩
    · cases of with
      | normal => exact absurd rfl hne
      | exc e' =>
        exact ha.mono fun x hx => show x ∈ (K.filt S).get e' from get_filt S K e' ▸ mem_fl.mpr ⟨hx, hKS e' hx⟩
      | _ => exact ha

theorem sim_next (X : Ext) (n : Nat) (hF : SimFor X n) (i : Info) (x : Name) (it : Expr) (extra : Option Expr) (b : ABlock)
    (K : ExcCtx) (D : List Name) (items : List Val) (σ : St) (σ' : TSt)
    (hlive : LiveS K (.forS i x it extra b)) (hdecl : DeclS (.forS i x it extra b)) (hdef : DefB D b)
    (hsub : (x :: asgB b) ⊆ D) (hnr : noRetB b = true) (hag : Agree i.liveIn σ σ') (hb : BoundSub σ D) :
    Post (Sim (NextN X x extra (funcB b) i.declared items σ') K i.liveOut) (extraThen (evalE X) extra (execFor X n x extra (eraseB b) items) σ) := by
  cases extra with
  | none => exact hF i x it none b K D items σ σ' hlive hdecl hdef hsub hnr hag hb
  | some t =>
    obtain ⟨-, hvex, hOI, -, -, hKo, -⟩ := id hlive
    exact sim_eval X t hag hvex hKo hb (fun _ _ h => .err h) fun v τ τ' hT hag1 hb1 => ite_post
      (fun hv => (hF i x it (some t) b K D items τ τ' hlive hdecl hdef hsub hnr hag1 hb1).mono
        fun o σ₁ ⟨τ₁, hr, ha⟩ => ⟨τ₁, .true hT hv hr, ha⟩)
      fun hv => .pure ⟨τ', .false hT hv, hag1.mono hOI⟩

section Statements
variable (X : Ext) (n : Nat) {K : ExcCtx} {D : List Name} {σ : St} {σ' : TSt} {i : Info}

theorem sim_if (hB : SimB X n) {c : Expr} {t e : ABlock} (hlive : LiveS K (.ifS i c t e)) (hdecl : DeclS (.ifS i c t e))
    (hdef : DefS D (.ifS i c t e)) (hjump : noRetB t = true ∧ noRetB e = true) (hag : Agree i.liveIn σ σ')
    (hb : BoundSub σ D) :
    Post (Sim (RunNB X (funcS (.ifS i c t e)) σ') K i.liveOut) (exec X (n+1) (.ifS c (eraseB t) (eraseB e)) σ) := by
  obtain ⟨hvc, hint, hine, hlt, hle, hKo, hro⟩ := hlive
  obtain ⟨hdd, -, hdt, hde⟩ := hdecl
  obtain ⟨hDsub, hudisj, hdft, hdfe⟩ := hdef
  rw [exec_if]
  refine sim_eval X c (hag.undefs hb hDsub hudisj) hvc hKo hb (fun _ _ h => .op _ (.err rfl h)) fun v τ τ' hT hag1 hb1 => ?_
  -- the selected branch `blk`, run as a generated function
  have branch : ∀ blk : ABlock, LiveB K blk i.liveOut → DeclB blk → DefB D blk → noRetB blk = true →
      blockIn blk i.liveOut ⊆ i.liveIn → asgB blk ⊆ asgB t ++ asgB e → raisesB blk ⊆ raisesB t ++ raisesB e →
      Post (Sim (CallN X (localsOf (funcB blk) i.declared) (funcB blk) τ') K i.liveOut) (execB X n (eraseB blk) τ) := by
    intro blk hl hd hf hnr hin hasg hrs
    have hloc := locals_dead (i := i) (body := blk) hasg hdd hd
    exact body_call X n hB blk K i.liveOut D _ τ τ' _ _ hl hd hf hnr id
      ((hag1.mono hin).mask _ fun x hx hi' => (hloc x hx).1 (hin hi'))
      (fun o hr => locals_need hloc (fun x hx => (hloc x hx).2) hKo hro (hr.mono hrs)) hb1
  exact ite_post
    (fun hv => (branch t hlt hdt hdft hjump.1 hint (List.subset_append_left _ _) (List.subset_append_left _ _)).mono
      fun o σ₁ ⟨τ₁, hc, ha⟩ => ⟨τ₁, .op _ (.ifF_true hT hv hc), ha⟩)
    fun hv => (branch e hle hde hdfe hjump.2 hine (List.subset_append_right _ _) (List.subset_append_right _ _)).mono
      fun o σ₁ ⟨τ₁, hc, ha⟩ => ⟨τ₁, .op _ (.ifF_false hT hv hc), ha⟩

theorem sim_for (hF : SimFor X n) {x : Name} {it : Expr} {extra : Option Expr} {b : ABlock}
    (hlive : LiveS K (.forS i x it extra b)) (hdecl : DeclS (.forS i x it extra b)) (hdef : DefS D (.forS i x it extra b))
    (hjump : noRetB b = true) (hag : Agree i.liveIn σ σ') (hb : BoundSub σ D) :
    Post (Sim (RunNB X (funcS (.forS i x it extra b)) σ') K i.liveOut) (exec X (n+1) (.forS x it extra (eraseB b)) σ) := by
  obtain ⟨hvit, -, -, -, -, hKo, -⟩ := id hlive
  obtain ⟨hDsub, hudisj, hdfb⟩ := hdef
  rw [exec_for]
  refine sim_eval X it (hag.undefs hb hDsub hudisj) hvit hKo (hb.mono (List.subset_append_left D (x :: asgB b)))
    (fun _ _ h => .op _ (.err rfl h)) fun v τ τ' hT hag1 hb1 => ?_
  cases hit : iterItems v with
  | error ex => exact .pure ⟨τ', .op _ (.forF_bad hT hit), need_err hag1 hKo (iterItems_impl hit)⟩
  | ok items =>
    exact (sim_next X n hF i x it extra b K _ items τ τ' hlive hdecl hdfb (List.subset_append_right _ _) hjump hag1 hb1).mono
      fun o σ₁ ⟨τ₁, hn, ha⟩ => ⟨τ₁, .op _ (.forF hT hit hn), ha⟩

theorem sim_try (hB : SimB X n) {b f : ABlock} {hs : List (Nat × List AStmt)} (hlive : LiveS K (.tryS i b hs f))
    (hdecl : DeclS (.tryS i b hs f)) (hdef : DefS D (.tryS i b hs f))
    (hjump : (noRetB b = true ∧ noRetH hs = true) ∧ noRetB f = true) (hag : Agree i.liveIn σ σ') (hb : BoundSub σ D) :
    Post (Sim (RunNB X (funcS (.tryS i b hs f)) σ') K i.liveOut)
      (exec X (n+1) (.tryS (eraseB b) (eraseH hs) (eraseB f)) σ) := by
  obtain ⟨hlf, hlh, hlb, hbI⟩ := hlive
  obtain ⟨hdb, hdh, hdf⟩ := hdecl
  obtain ⟨hfb, hfh, hff⟩ := hdef
  have ihB := (src_all X n).2.1
  rw [exec_try]
  refine bind_post ((hB b _ D _ σ σ' hlb hdb hfb (noRet_retTopB b hjump.1.1) (hag.mono hbI) hb).and (ihB b D σ hb))
    fun ob σb ⟨⟨τb, hr1, ha1⟩, he1⟩ => ?_
  refine bind_post ((handler_step X n hB hs _ _ (D ++ asgB b) ob σb τb hlh hdh hfh hjump.1.2 ha1 he1.2.2).and
    (ends_handler X n ihB hs he1 fun _ => hjump.1.2)) fun o2 σ2 ⟨⟨τ2, hr2, ha2⟩, he2⟩ => ?_
  exact (finally_step X n hB f K i.liveOut _ o2 σ2 τ2 hlf hdf hff hjump.2 ha2 (he2.1 hjump.1.1) he2.2.2).mono
    fun o σ₁ ⟨τ3, hr3, ha3⟩ => ⟨τ3, .single (.tryT hr1 hr2 hr3), ha3⟩

theorem simS_step (hB : SimB X n) (hW : SimW X (n+1)) (hF : SimFor X n) : SimS X (n+1) := by
  intro s K D σ σ' hlive hdecl hdef hjump hag hb
  cases s with
  | assign i x e =>
    show Post _ (exec X (n+1) (.assign x e) σ)
    rw [exec_assign]
    exact sim_eval X e hag hlive.1 hlive.2.2 hb (fun _ _ h => .single (.err rfl h)) fun v τ τ' hT hag1 _ =>
      .pure ⟨τ'.set x v, .single (.assign hT),
        hag1.set x v fun y hy hyx => hlive.2.1 (List.mem_filter.mpr ⟨hy, by simpa using hyx⟩)⟩
  | expr i e =>
    show Post _ (exec X (n+1) (.expr e) σ)
    rw [exec_expr]
    exact sim_eval X e hag hlive.1 hlive.2.2 hb (fun _ _ h => .single (.err rfl h)) fun v τ τ' hT hag1 _ =>
      .pure ⟨τ', .single (.expr hT), hag1.mono hlive.2.1⟩
  | pass i => exact .pure ⟨σ', .single .pass, hag.mono hlive⟩
  | raise i t => exact .pure ⟨σ', .single .raise, hag.mono hlive⟩
  | ret i e =>
    cases e with
    | none => exact .pure ⟨σ', .single .ret_none, hag.mono (List.nil_subset _)⟩
    | some e =>
      show Post _ (exec X (n+1) (.ret (some e)) σ)
      rw [exec_ret]
      exact sim_eval X e hag hlive.1 hlive.2 hb (fun _ _ h => .single (.err rfl h)) fun v τ τ' hT hag1 _ =>
        .pure ⟨τ', .single (.ret hT), hag1.mono (List.nil_subset _)⟩
  | ifS i c t e => exact sim_if X n hB hlive hdecl hdef (Bool.and_eq_true_iff.mp hjump) hag hb
  | whileS i c b =>
    obtain ⟨hDsub, hudisj, hdfb⟩ := hdef
    exact (hW i c b K (D ++ asgB b) σ (undefAll i.undefined σ') hlive hdecl hdfb (List.subset_append_right _ _) hjump
      (hag.undefs hb hDsub hudisj) (hb.mono (List.subset_append_left _ _))).mono
      fun o σ₁ ⟨τ, hr, ha⟩ => ⟨τ, .op _ hr, ha⟩
  | forS i x it extra b => exact sim_for X n hF hlive hdecl hdef hjump hag hb
  | withS i tag b =>
    show Post _ (exec X (n+1) (.withS tag (eraseB b)) σ)
    rw [exec_with]
    exact bind_post (hB b K D i.liveOut _ _ hlive.2 hdecl hdef (noRet_retTopB b hjump) ((hag.mono hlive.1).push _)
      (hb.of_env rfl)) fun o σb ⟨τb, hr, ha⟩ => .pure ⟨τb.push (.exit tag), .single (.withT hr), ha.push _⟩
  | tryS i b hs f =>
    have hj : ((noRetB b && noRetH hs) && noRetB f) = true := hjump
    simp only [Bool.and_eq_true] at hj
    exact sim_try X n hB hlive hdecl hdef hj hag hb

theorem simB_step (hS : SimS X n) (hB : SimB X n) : SimB X (n+1) := by
  intro b K D O σ σ' hlive hdecl hdef hjump hag hb
  cases b with
  | nil => exact .pure ⟨σ', .nil, hag⟩
  | cons s rest =>
    have hj : retTopS s = true ∧ retTopB rest = true := Bool.and_eq_true_iff.mp hjump
    show Post _ (execB X (n+1) (eraseS s :: eraseB rest) σ)
    rw [Sem.execB_cons]
    refine andThen_post ((hS s K D σ σ' hlive.1 hdecl.1 hdef.1 hj.1 hag hb).and ((src_all X n).1 s D σ hb))
      (fun σ₂ ⟨⟨σ₂', hr, ha⟩, he⟩ => ?_)
      fun o σ₂ hne ⟨⟨σ₂', hr, ha⟩, _⟩ => ⟨σ₂', .append_stop _ hr hne, need_abrupt hne ▸ ha⟩
    exact (hB rest K _ O σ₂ σ₂' hlive.2.2 hdecl.2 hdef.2 hj.2 (ha.mono hlive.2.1) he.2.2).mono
      fun o σ₁ ⟨σ₁', hr', ha'⟩ => ⟨σ₁', .append hr hr', ha'⟩

theorem simW_step (hB : SimB X n) (hW : SimW X n) : SimW X (n+1) := by
  intro i c b K D σ σ' hlive hdecl hdef hsub hnr hag hb
  obtain ⟨hvc, hbI, hOI, hlb, hKo, hro⟩ := id hlive
  obtain ⟨hdd, -, hdb⟩ := id hdecl
  rw [exec_while]
  refine sim_eval X c hag hvc hKo hb (fun _ _ h => .err rfl h) fun v τ τ' hT hag1 hb1 =>
    ite_post (fun hv => ?_) fun hv => .pure ⟨τ', .whileF_false hT hv, hag1.mono hOI⟩
  have hloc := locals_dead (i := i) (body := b) (fun _ hx => hx) hdd hdb
  have hE := (src_all X n).2.1 b D τ hb1
  rw [loopThen_nj (hE.mono fun _ _ h => h.1 hnr)]
  refine andThen_post ((body_call X n hB b K i.liveIn D (localsOf (funcB b) i.declared) τ τ' _ _ hlb hdb hdef hnr id
    ((hag1.mono hbI).mask _ fun x hx hin => (hloc x hx).1 (hbI hin))
    (fun o hr => locals_need hloc (fun x hx => (hloc x hx).1) hKo hro hr) hb1).and hE) (fun τ₂ ⟨⟨σ₂', hcall, hag2⟩, he2⟩ => ?_) fun o τ₂ hne ⟨⟨σ₂', hcall, hag2⟩, _⟩ =>
      ⟨σ₂', .whileF_stop hT hv hcall hne, need_abrupt hne ▸ hag2⟩
  have hb2 : BoundSub τ₂ D := he2.2.2.mono (List.append_subset.mpr ⟨fun _ h => h, hsub⟩)
  exact (hW i c b K D τ₂ σ₂' hlive hdecl hdef hsub hnr hag2 hb2).mono
    fun o σ₁ ⟨σ₁', hr, ha⟩ => ⟨σ₁', .whileF_next hT hv hcall hr, ha⟩

theorem simFor_step (hB : SimB X n) (hF : SimFor X n) : SimFor X (n+1) := by
  intro i x it extra b K D items σ σ' hlive hdecl hdef hsub hnr hag hb
  obtain ⟨-, -, hOI, hbI, hlb, hKo, hro⟩ := id hlive
  obtain ⟨hdd, -, hdb⟩ := id hdecl
  cases items with
  | nil => exact .pure ⟨σ', .nil, hag.mono hOI⟩
  | cons v items =>
    have hloc := localsFor_dead (i := i) (x := x) (body := b) hdd hdb
    have hbs : BoundSub (σ.set x v) D := hb.set x v (fun _ h => h) (hsub (List.mem_cons_self ..))
    have hE := (src_all X n).2.1 b D (σ.set x v) hbs
    rw [execFor_cons, loopThen_nj (hE.mono fun _ _ h => h.1 hnr)]
    -- the generated `loop_body(itr)`: mask the frame-local names, `x = itr`, then the body
    let L := localsFor x (funcB b) i.declared
    have hagm : Agree (blockIn b i.liveIn) (σ.set x v) ((mask L σ').set x v) :=
      (hag.mask L fun y hy => (hloc y hy).1).set x v fun y hy hyx => hbI (List.mem_filter.mpr ⟨hy, by simpa using hyx⟩)
    refine andThen_post ((body_call X n hB b K i.liveIn D L (σ.set x v) σ' _ (.assign x (.const v) :: funcB b) hlb hdb hdef
      hnr (.cons (.assign rfl)) hagm (fun o hr => locals_need hloc (fun y hy => (hloc y hy).1) hKo hro hr) hbs).and hE)
      (fun σ₂ ⟨⟨σ₂', hc, ha⟩, he⟩ => ?_) fun o σ₂ hne ⟨⟨σ₂', hc, ha⟩, _⟩ => ⟨σ₂', .stop hc hne, need_abrupt hne ▸ ha⟩
    have hb2 : BoundSub σ₂ D :=
      he.2.2.mono (List.append_subset.mpr ⟨fun _ h => h, fun _ h => hsub (List.mem_cons_of_mem _ h)⟩)
    exact (sim_next X n hF i x it extra b K D items σ₂ σ₂' hlive hdecl hdef hsub hnr ha hb2).mono
      fun o σ₁ ⟨σ₁', hn, ha'⟩ => ⟨σ₁', .next hc hn, ha'⟩

end Statements

theorem sim_all (X : Ext) : ∀ n, SimS X n ∧ SimB X n ∧ SimW X n ∧ SimFor X n
  | 0 => ⟨fun _ _ _ _ _ _ _ _ _ _ _ => .none, fun _ _ _ _ _ _ _ _ _ _ _ _ => .none,
      fun _ _ _ _ _ _ _ _ _ _ _ _ _ _ => .none, fun _ _ _ _ _ _ _ _ _ _ _ _ _ _ _ _ _ => .none⟩
  | n+1 => by
    obtain ⟨hS, hB, hW, hF⟩ := sim_all X n
    have hW1 := simW_step X n hB hW
    exact ⟨simS_step X n hB hW1 hF, simB_step X n hS hB, hW1, simFor_step X n hB hF⟩

def TSt.ofSt (σ : St) : TSt :=
  ⟨fun x => match σ.env x with | some v => .val v | none => .unbound, σ.log⟩

theorem agree_ofSt (L : List Name) (σ : St) : Agree L σ (TSt.ofSt σ) := by
  refine ⟨fun x _ => ?_, rfl⟩
  simp only [TSt.ofSt]
  cases σ.env x <;> rfl

end Malt.Func
