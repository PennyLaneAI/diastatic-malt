import MaltModel.Proofs.C08Machine
/-
Visiting an expression adds the syntactically determined effect `effC` (`visitE_addsC_all`).
-/
namespace Malt.Analysis
open Malt.Py

theorem visitE_addsC_all :
    (∀ e, FragC e = true → ∀ {st fns aug anno cs}, Ready st fns aug anno cs →
      AddsC cs (effC fns aug anno cs e).2 st (visitE e st) (effC fns aug anno cs e).1) ∧
    (∀ es, FragCs es = true → ∀ {st fns aug anno cs}, Ready st fns aug anno cs →
      AddsC cs (effCs fns aug anno cs es).2 st (visitEs es st) (effCs fns aug anno cs es).1) := by
  apply Expr.plain_ind
  case nil => intro _ st _ _ _ _ r; obtain ⟨h, -, rfl⟩ := r; simpa [visitEs, effCs] using AddsC.refl h
  case cons =>
    intro _ _ ihe ihr hf st fns aug anno cs r
    simp only [FragCs, Bool.and_eq_true] at hf
    simp only [visitEs, effCs]
    have A1 := ihe hf.1 r
    exact A1.trans (ihr hf.2 (A1.ready r))
  case plain =>
    intro _ _ hk ih hf st fns aug anno cs r
    rw [visitE_plain hk, effC_plain hk]
    exact ih (FragC_plain hk ▸ hf) r
  case name =>
    intro _ s c _ st fns aug anno cs r
    simp only [visitE, effC]
    exact track_addsC r (some (.sym s)) c false
  case attr =>
    intro i v a c ihv hf st fns aug anno cs r
    simp only [FragC] at hf
    simp only [visitE, effC]
    have A1 := ihv hf r
    rw [(A1.ready r).inConstructor]
    exact A1.trans (track_addsC (A1.ready r) _ c _)
  case subscript =>
    intro i v s c ihv ihs hf st fns aug anno cs r
    simp only [FragC, Bool.and_eq_true] at hf
    simp only [visitE, effC]
    have A1 := ihv hf.1 r
    have A2 := A1.trans (ihs hf.2 (A1.ready r))
    exact A2.trans (track_addsC (A2.ready r) _ c false)
  case call =>
    intro i _ _ _ ihf ihas ihks hf st fns aug anno cs r
    simp only [FragC, Bool.and_eq_true] at hf
    simp only [visitE, effC]
    have A1 := ihas hf.1.2 (r.enter false none)
    have A2 := A1.trans (ihks hf.2 (A1.ready (r.enter false none)))
    have S := AddsC.scopedAdds r.plain false none A2 [(i, .argsScope)]
    exact S.trans (ihf hf.1.1 (S.ready r))
  case comp =>
    intro _ _ _ _ ihe ihg _ hf st fns aug anno cs r
    simp only [FragC, Bool.and_eq_true] at hf
    simp only [visitE, effC]
    apply AddsC.compBracket
    have A1 := ihg hf.2 r.pushComp
    exact A1.trans (ihe hf.1 (A1.ready r.pushComp))
  case comprehension =>
    intro _ _ _ _ _ iht ihit ihifs hf st fns aug anno cs r
    simp only [FragC, Bool.and_eq_true] at hf
    simp only [visitE, effC]
    have A1 := ihit hf.1.2 r
    have A2 := A1.trans (iht hf.1.1 (A1.ready r))
    have A3 := A2.trans (iht hf.1.1 (A2.ready r))
    have A4 := A3.trans (ihit hf.1.2 (A3.ready r))
    exact A4.trans (ihifs hf.2 (A4.ready r))
  case arguments => intro _ _ _ _ _ _ _ _ hf; cases hf
  case arg => intro _ _ _ _ hf; cases hf
  case withitem =>
    intro i _ _ ihc ihv hf st fns aug anno cs r
    simp only [FragC, Bool.and_eq_true] at hf
    simp only [visitE, effC]
    have A1 := ihc hf.1 (r.enter false none)
    exact AddsC.scopedAdds r.plain false none (A1.trans (ihv hf.2 (A1.ready (r.enter false none)))) [(i, .scope)]
  case lambda =>
    intro i args body ihargs ihbody hf st fns aug anno cs r
    obtain ⟨ai, po, ar, va, ko, kd, kw, df, rfl, hpp, hkd, hdf, hbody⟩ := FragC.lambda hf
    obtain ⟨ihkd, ihdf⟩ := ihargs _ _ _ _ _ _ _ _ rfl
    simp only [visitE, effC, visitParams_fold]
    apply AddsC.popFn (f := .lam i)
    have r0 := r.pushFn (.lam i)
    have A1 := ihkd hkd (r0.enter false none)
    have A2 := A1.trans (ihdf hdf (A1.ready (r0.enter false none)))
    have A3 := A2.trans (visitParams_addsC hpp (A2.ready (r0.enter false none)))
    simp only [visitParams_annoOnly hpp A2.plain]
    have S1 := AddsC.scopedAdds r0.plain false none A3 [(i, .scope)]
    obtain ⟨sb, -, rfl, SC, -⟩ := fnScopes hpp (S1.ready r0) none ai i
      (fun s => if (visitE body s).hasAnno body.id .scope then visitE body s else (visitE body s).recordTop body.id .scope)
      (fun _ rb => (ihbody hbody rb).condRecord body.id .scope)
    rw [St.head?_eq_top SC.ne]
    exact (S1.trans SC.adds).then (AddsC.readFree SC.adds.plain SC.popped)

theorem Ready.expr {st fns aug anno} (r : Ready st fns aug anno []) (e : Expr) (hf : FragC e = true) :
    Adds st (visitE e st) (effC fns aug anno [] e).1 := by
  have A := visitE_addsC_all.1 e hf r
  rw [effC_nil] at A
  exact A.toAdds

theorem Ready.exprs {st fns aug anno} (r : Ready st fns aug anno []) (es : List Expr) (hf : FragCs es = true) :
    Adds st (visitEs es st) (effCs fns aug anno [] es).1 := by
  have A := visitE_addsC_all.2 es hf r
  rw [effCs_nil] at A
  exact A.toAdds

theorem PlainS.expr {st fns} (p : PlainS st fns) (e : Expr) (hf : FragC e = true) :
    Adds st (visitE e st) (effC fns false false [] e).1 := p.ready.expr e hf

theorem PlainS.exprs {st fns} (p : PlainS st fns) (es : List Expr) (hf : FragCs es = true) :
    Adds st (visitEs es st) (effCs fns false false [] es).1 := p.ready.exprs es hf

theorem PlainS.exprAug {st fns} (p : PlainS st fns) (e : Expr) (hf : FragC e = true) :
    Adds st ((visitE e (st.setInAug true)).setInAug false) (effC fns true false [] e).1 :=
  aug_bracket p (p.readyAug.expr e hf)

theorem PlainS.exprAnno {st fns} (p : PlainS st fns) (e : Expr) (hf : FragC e = true) :
    Adds st ((visitE e (st.setInAnno true)).setInAnno false) (effC fns false true [] e).1 :=
  anno_bracket p (p.readyAnno.expr e hf)

/-- `if node.returns: node.returns = self._process_annotation(node.returns)`. -/
theorem PlainS.returnsStep {st : St} {fns} (p : PlainS st fns) (returns : List Expr) (hf : FragCs returns = true) :
    Adds st (if returns.isEmpty = true then st else (visitEs returns (st.setInAnno true)).setInAnno false)
      (effCs fns false true [] returns).1 := by
  cases returns with
  | nil => simpa [effCs] using Adds.refl p.plain
  | cons r rs => simpa using anno_bracket p (p.readyAnno.exprs (r :: rs) hf)

end Malt.Analysis
