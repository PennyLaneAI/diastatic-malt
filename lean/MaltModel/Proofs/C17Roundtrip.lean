import Std.Data.String.ToNat
import MaltModel.Conv.SexpTotal
/- C17: `read (print t) = some t` for the total reader/printer of `Py.Ast` (tree level). -/
namespace Malt.Conv.SexpTotal
open Malt Malt.Py

-- `simp` rewrites `toString i` to `i.repr` first, so this is the form the proofs below use
theorem nat_rt_repr (i : Nat) : Sexp.nat? (.atom i.repr) = some i := by
  simp [Sexp.nat?]

theorem nat_rt (i : Nat) : Sexp.nat? (.atom (toString i)) = some i :=
  nat_rt_repr i

theorem ctx_rt (c : Ctx) : rCtx (pCtx c) = some c := by
  cases c <;> simp [pCtx, rCtx]

theorem bool_rt (b : Bool) : Sexp.bool? (Sexp.ofBool b) = some b := by
  cases b <;> simp [Sexp.ofBool, Sexp.bool?]

theorem strsL_rt : ∀ (l : List String), rStrsL (l.map Sexp.atom) = some l
  | [] => by simp [rStrsL]
  | a :: l => by simp [rStrsL, strsL_rt l]

theorem strs_rt (l : List String) : rStrs (.list (l.map Sexp.atom)) = some l := by
  simp [rStrs, strsL_rt]

theorem pairsL_rt : ∀ (l : List (String × String)), rPairsL (l.map fun p => Sexp.list [.atom p.1, .atom p.2]) = some l
  | [] => by simp [rPairsL]
  | (a, b) :: l => by simp [rPairsL, pairsL_rt l]

theorem pairs_rt (l : List (String × String)) : rPairs (pPairs l) = some l := by
  simp [rPairs, pPairs, pairsL_rt]

/- The generic case (last): `simp` walks the chain of tag comparisons in `readE`/`readS`, deciding each comparison of two
string literals, and every field reads back by its own round-trip lemma or the induction hypothesis.  The four node kinds
treated first print a field conditionally. -/
theorem readE_printE (e : Expr) : printableE e = true → readE (printE e) = some e := by
  induction e using Expr.rec (motive_2 := fun es => printableEs es = true → readEs (printEs es) = some es) with
  | keyword i arg has v ih =>
      intro h
      simp only [printableE, Bool.and_eq_true, Bool.or_eq_true, beq_iff_eq] at h
      cases has with
      | true => simp [printE, readE, nat_rt_repr, ih h.2]
      | false =>
          have : arg = "" := by simpa using h.1
          subst this
          simp [printE, readE, nat_rt_repr, ih h.2]
  | boolop i isAnd vs ih =>
      intro h
      cases isAnd <;> simp [printE, readE, nat_rt_repr, ih h]
  | seq i k es c ih =>
      intro h
      simp only [printableE, Bool.and_eq_true, Bool.or_eq_true, bne_iff_ne, ne_eq, beq_iff_eq] at h
      cases k with
      | tuple => simp [printE, readE, nat_rt_repr, ih h.2, ctx_rt]
      | list => simp [printE, readE, nat_rt_repr, ih h.2, ctx_rt]
      | set =>
          have : c = .load := by simpa using h.1
          subst this
          simp [printE, readE, nat_rt_repr, ih h.2]
  | comp i k es gs ih1 ih2 =>
      intro h
      simp only [printableE, Bool.and_eq_true] at h
      cases k <;> simp [printE, readE, nat_rt_repr, ih1 h.1, ih2 h.2]
  | nil => simp [printEs, readEs]
  | cons e es ih0 ih1 h =>
      simp only [printableEs, Bool.and_eq_true] at h
      simp [printEs, readEs, ih0 h.1, ih1 h.2]
  | _ =>
      unfold printableE printE
      simp_all [readE, nat_rt_repr, ctx_rt, bool_rt, strs_rt]

theorem readEs_printEs : ∀ (es : List Expr), printableEs es = true → readEs (printEs es) = some es
  | [], _ => by simp [printEs, readEs]
  | e :: es, h => by
      simp only [printableEs, Bool.and_eq_true] at h
      simp [printEs, readEs, readE_printE e h.1, readEs_printEs es h.2]

theorem readS_printS (s : Stmt) : printableS s = true → readS (printS s) = some s := by
  induction s using Stmt.rec (motive_2 := fun ss => printableSs ss = true → readSs (printSs ss) = some ss) with
  | nil => simp [printSs, readSs]
  | cons s ss ih0 ih1 h =>
      simp only [printableSs, Bool.and_eq_true] at h
      simp [printSs, readSs, ih0 h.1, ih1 h.2]
  | _ =>
      unfold printableS printS
      simp_all [readS, nat_rt_repr, bool_rt, strs_rt, pairs_rt, readE_printE, readEs_printEs]

theorem readSs_printSs : ∀ (ss : List Stmt), printableSs ss = true → readSs (printSs ss) = some ss
  | [], _ => by simp [printSs, readSs]
  | s :: ss, h => by
      simp only [printableSs, Bool.and_eq_true] at h
      simp [printSs, readSs, readS_printS s h.1, readSs_printSs ss h.2]

end Malt.Conv.SexpTotal
