import MaltModel.Sem.CoreLemmas
import MaltModel.Conv.JumpsSem
/- User names do not start with `$`; every generated name does. -/
namespace Malt.Sem.Jumps
open Malt.Sem

theorem replicate_sep_inj {α : Type} {c s : α} (hcs : c ≠ s) : ∀ (n m : Nat) (a b : List α),
    List.replicate n c ++ s :: a = List.replicate m c ++ s :: b → n = m ∧ a = b
  | 0, 0, a, b, h => ⟨rfl, (List.cons.inj h).2⟩
  | 0, m+1, a, b, h => absurd (List.cons.inj h).1.symm hcs
  | n+1, 0, a, b, h => absurd (List.cons.inj h).1 hcs
  | n+1, m+1, a, b, h => by
      obtain ⟨h1, h2⟩ := replicate_sep_inj hcs n m a b (List.cons.inj h).2
      exact ⟨congrArg (· + 1) h1, h2⟩

theorem encPath_inj : ∀ (p q : List Nat), encPath p = encPath q → p = q
  | [], [], _ => rfl
  | [], m :: q, h => by
      simp only [encPath] at h
      cases m <;> simp [List.replicate_succ] at h
  | n :: p, [], h => by
      simp only [encPath] at h
      cases n <;> simp [List.replicate_succ] at h
  | n :: p, m :: q, h => by
      simp only [encPath] at h
      obtain ⟨h1, h2⟩ := replicate_sep_inj (by decide) n m _ _ h
      rw [h1, encPath_inj p q h2]

theorem stdGen_inj (tag : Char) (p q : List Nat) (h : stdGen tag p = stdGen tag q) : p = q := by
  have := congrArg String.toList h
  simp only [stdGen, String.toList_ofList, List.cons.injEq, true_and] at this
  exact encPath_inj p q this

theorem stdGen_ne {tag c : Char} (hc : tag ≠ c) (q : List Nat) {x : Name} (hx : x.toList.tail.head? = some c) :
    stdGen tag q ≠ x := by
  intro he
  rw [← he, stdGen, String.toList_ofList] at hx
  exact hc (Option.some.inj hx)

theorem stdGen_not_user (tag : Char) (q : List Nat) : userName (stdGen tag q) = false := by
  simp [userName, stdGen]

section
variable (G : Name → Prop) (hG : ∀ x, G x → userName x = false)
include hG

theorem userName_clean {x : Name} (h : userName x = true) : ¬ G x := by
  intro hx; rw [hG x hx] at h; cases h

theorem userNamesE_clean_all :
    (∀ e : Expr, userNamesE e = true → CleanE G e) ∧ (∀ es : List Expr, userNamesEs es = true → CleanEs G es) := by
  apply expr_induct
  case const => exact fun _ _ => trivial
  case nil => exact fun _ => trivial
  case var => intro x h; exact userName_clean G hG h
  case notE => intro e ih h; exact ih h
  case andE | orE =>
    intro a b iha ihb h
    simp only [userNamesE, Bool.and_eq_true] at h
    exact ⟨iha h.1, ihb h.2⟩
  case binE =>
    intro op a b iha ihb h
    simp only [userNamesE, Bool.and_eq_true] at h
    exact ⟨iha h.1, ihb h.2⟩
  case iteE =>
    intro c t e ihc iht ihe h
    simp only [userNamesE, Bool.and_eq_true] at h
    exact ⟨ihc h.1.1, iht h.1.2, ihe h.2⟩
  case callE => intro f args ih h; exact ih h
  case cons =>
    intro e es ihe ihes h
    simp only [userNamesEs, Bool.and_eq_true] at h
    exact ⟨ihe h.1, ihes h.2⟩

theorem userNamesE_clean : ∀ (e : Expr), userNamesE e = true → CleanE G e := (userNamesE_clean_all G hG).1
theorem userNamesEs_clean : ∀ (es : List Expr), userNamesEs es = true → CleanEs G es := (userNamesE_clean_all G hG).2

theorem userNamesO_clean : ∀ (e : Option Expr), userNamesO e = true → CleanO G e
  | none, _ => by simp [CleanO]
  | some e, h => by simp only [userNamesO] at h; simp only [CleanO]; exact userNamesE_clean G hG e h

theorem userNames_clean :
    (∀ s : Stmt, userNamesS s = true → CleanS G s) ∧ (∀ b : List Stmt, userNamesB b = true → CleanB G b) ∧
    (∀ hs : List (Nat × List Stmt), userNamesH hs = true → CleanH G hs) := by
  apply stmt_induct
  case assign =>
    intro x e h
    simp only [userNamesS, Bool.and_eq_true] at h
    exact ⟨userName_clean G hG h.1, userNamesE_clean G hG e h.2⟩
  case expr => intro e h; exact userNamesE_clean G hG e h
  case ret => intro e h; exact userNamesO_clean G hG e h
  case pass | brk | cont => exact fun _ => trivial
  case raise => exact fun _ _ => trivial
  case ifS =>
    intro c t e ht he h
    simp only [userNamesS, Bool.and_eq_true] at h
    exact ⟨userNamesE_clean G hG c h.1.1, ht h.1.2, he h.2⟩
  case whileS =>
    intro c b hb h
    simp only [userNamesS, Bool.and_eq_true] at h
    exact ⟨userNamesE_clean G hG c h.1, hb h.2⟩
  case forS =>
    intro x it extra b hb h
    simp only [userNamesS, Bool.and_eq_true] at h
    exact ⟨userName_clean G hG h.1.1.1, userNamesE_clean G hG it h.1.1.2, userNamesO_clean G hG extra h.1.2, hb h.2⟩
  case tryS =>
    intro b hs f hb hh hf h
    simp only [userNamesS, Bool.and_eq_true] at h
    exact ⟨hb h.1.1, hh h.1.2, hf h.2⟩
  case withS => intro t b hb h; exact hb h
  case nil | hnil => exact fun _ => trivial
  case cons =>
    intro s r hs hr h
    simp only [userNamesB, Bool.and_eq_true] at h
    exact ⟨hs h.1, hr h.2⟩
  case hcons =>
    intro t b r hb hr h
    simp only [userNamesH, Bool.and_eq_true] at h
    exact ⟨hb h.1, hr h.2⟩

theorem userNamesS_clean : ∀ (s : Stmt), userNamesS s = true → CleanS G s := (userNames_clean G hG).1
theorem userNamesB_clean : ∀ (b : List Stmt), userNamesB b = true → CleanB G b := (userNames_clean G hG).2.1
theorem userNamesH_clean : ∀ (hs : List (Nat × List Stmt)), userNamesH hs = true → CleanH G hs :=
  (userNames_clean G hG).2.2

end

end Malt.Sem.Jumps
