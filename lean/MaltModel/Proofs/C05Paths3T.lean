import MaltModel.Proofs.C05Visit
/-!
# C05, Lemma B: handlers and `try`

The `else` block and the handlers of a `try` are branches of conditional sections (`Branches`); `Protected` is what the protected
part arrives at.
-/
namespace Malt.Cfg
open Malt.Py

theorem sk_handlerIds_mem3 (inLoop : Bool) : ∀ (hs : List Stmt), frag3H inLoop hs = true → ∀ hid, hid ∈ handlerIds hs → sk hid ∈ keysL3 hs := by
  intro hs
  induction hs with
  | nil => intro _ hid h; cases h
  | cons h0 hs ih =>
    intro hH hid hmem
    cases h0 with
    | handler i ty nm hb =>
      change (_ && _) = true at hH
      rcases List.mem_cons.mp hmem with hmem | hmem
      · subst hmem; exact List.mem_cons_self ..
      · exact List.mem_append.mpr (Or.inr (ih (Bool.and_eq_true_iff.mp hH).2 hid hmem))
    | _ => cases hH

def BlockIH (σ : List Scope) (T : Nat) (curP : List Nat) (ss : List Stmt) : Prop :=
  ∀ (b : B) (a : Acc) (cur : List Nat), Entry σ T curP (keysL3 ss) cur b →
    Visit σ T curP (keysL3 ss) (blockEmits ss) b (visitStmts σ ss b a).1 (flowBlock ss cur)

/-- entered from the raise nodes `rs` registered for the handler, not from `cur` -/
theorem handler_visit (σ : List Scope) (hid : Nat) (ty : List Expr) (hb : List Stmt) (rs cur : List Nat) (b : B) (a : Acc) (T : Nat)
    (hrs : ∀ x, x ∈ rs → ∃ l, aget hid b.raises = some l ∧ x ∈ l)
    (E : Entry σ T [] (keys3 (.handler hid ty [] hb)) cur b) (Hb : BlockIH σ T [] hb) :
    Visit σ T [] (keys3 (.handler hid ty [] hb)) (blockEmits hb) b (visitStmt σ (.handler hid ty [] hb) b a).1
      (if rs.isEmpty then {} else Flow.seq { req := (emit rs (lamsL ty)).1 } (flowBlock hb (emit rs (lamsL ty)).2)) := by
  have hnd : (tnodes (lamsL ty) ++ keysL3 hb).Nodup := (List.nodup_cons.mp E.nd).2
  have hpre : Pre σ (tnodes (lamsL ty) ++ keysL3 hb) b := E.pre.sub (fun _ hk => List.mem_cons_of_mem _ hk)
  let be := (b.beginStatement hid).enterExceptSection hid
  -- the raise nodes are leaves after enter_except_section
  have hce : InLeaves be rs := by
    intro x hx
    obtain ⟨l, hl, hxl⟩ := hrs x hx
    have hl' : aget hid (b.beginStatement hid).raises = some l := hl
    show x ∈ ((b.beginStatement hid).enterExceptSection hid).leafSet
    simp only [B.enterExceptSection, hl']
    rw [B.mem_leafSet_leavesUnion _ _ (by simpa using hpre.valid.leaves)]
    exact Or.inr hxl
  have pre_e : Pre σ (tnodes (lamsL ty) ++ keysL3 hb) be :=
    (hpre.beginStatement hid).neutral (ff_enterExceptSection [] _ hid) (neutral_enterExceptSection _ hid)
  have V := (((Visit.seq (.of_leaves hnd pre_e hce)
    (fun E => Visit.nodes σ T [] be rs (lamsL ty) false nofun E.src E.pre.ldj) (Or.inr rfl) (Hb _ (lamGraphsL σ ty a) _)).pre
      (ff_enterExceptSection _ _ hid)).bracket hid).weaken (K' := keys3 (.handler hid ty [] hb)) (fun _ hk => List.mem_cons_of_mem _ hk)
  show Visit σ T [] _ _ b _ (if rs.isEmpty then {} else _)
  split
  · exact V.dead
  · exact V

def HandlersIH (σ : List Scope) (T : Nat) (hs : List Stmt) : Prop :=
  ∀ (rep L0 : Nat) (rs : List Nat) (b : B) (a : Acc) (E N : List Nat), BranchIn σ rep L0 (keysL3 hs) b E N →
    (∀ hid, hid ∈ handlerIds hs → ∀ x, x ∈ rs → ∃ l, aget hid b.raises = some l ∧ x ∈ l) →
    Branches σ T rep (keysL3 hs) b (((visitHandlers σ rep hs b a).1.newCondBranch rep).exitCondSection rep) N E (flowHandlers hs rs)

theorem handlers_cons (σ : List Scope) (rep L0 hid : Nat) (ty : List Expr) (hb hs : List Stmt) (rs : List Nat) (b : B) (a : Acc)
    (E N : List Nat) (il : Bool) (T : Nat) (hHs : frag3H il hs = true)
    (I : BranchIn σ rep L0 ((sk hid :: (tnodes (lamsL ty) ++ keysL3 hb)) ++ keysL3 hs) b E N)
    (hrs : ∀ hid', hid' ∈ hid :: handlerIds hs → ∀ x, x ∈ rs → ∃ l, aget hid' b.raises = some l ∧ x ∈ l)
    (Hb : BlockIH σ T [] hb) (Hs : HandlersIH σ T hs) :
    Branches σ T rep ((sk hid :: (tnodes (lamsL ty) ++ keysL3 hb)) ++ keysL3 hs) b
      (((visitHandlers σ rep (Stmt.handler hid ty [] hb :: hs) b a).1.newCondBranch rep).exitCondSection rep) N E
      (flowHandlers (Stmt.handler hid ty [] hb :: hs) rs) := by
  refine Branches.cons I (fun E1 => handler_visit σ hid ty hb rs E (b.newCondBranch rep) a T (fun x hx => ?_) E1 Hb)
    (fun f I' => Hs rep L0 rs _ (visitStmt σ (.handler hid ty [] hb) (b.newCondBranch rep) a).2 E _ I' (fun hid' hh x hx => ?_))
  · exact (ff_newCondBranch [ck rep] b rep (List.mem_singleton.mpr rfl)).f.raises_mem
      (fun h => sk_ne_ck _ _ (List.mem_singleton.mp h)) (hrs hid (List.mem_cons_self ..) x hx)
  · exact f.f.raises_mem (fun hm => (List.mem_cons.mp hm).elim (sk_ne_ck _ _)
      (fun hm => (List.nodup_append.mp I.nd).2.2 _ hm _ (sk_handlerIds_mem3 il hs hHs hid' hh) rfl))
      (hrs hid' (List.mem_cons_of_mem _ hh) x hx)

/-- the `else` part of `visit_Try` -/
def tryR2 (i : Nat) (σ' : List Scope) (orelse : List Stmt) (r1 : B × Acc) : B × Acc :=
  optSection (elseRep i orelse) (fun k b => (b.enterCondSection k).newCondBranch k)
    (fun k b => (b.newCondBranch k).exitCondSection k) (fun _ => visitStmts σ' orelse) r1
/-- the handler part of `visit_Try` -/
def tryR3 (σ : List Scope) (handlers : List Stmt) (r2 : B × Acc) : B × Acc :=
  optSection (handlers.head?.map Stmt.id) (fun k b => b.enterCondSection k) (fun k b => (b.newCondBranch k).exitCondSection k)
    (fun k => visitHandlers σ k handlers) r2

theorem orelse_section (i : Nat) (σ' : List Scope) (orelse : List Stmt) (b1 : B) (a1 : Acc) (R1n : List Nat) (T : Nat)
    (E : Entry σ' T [] (elseKey i orelse ++ keysL3 orelse) R1n b1) (Ho : BlockIH σ' T [] orelse) :
    Visit σ' T [] (elseKey i orelse ++ keysL3 orelse) false b1
      (tryR2 i σ' orelse (b1, a1)).1 (flowBlock orelse R1n) := by
  have hc := E.leaves
  obtain ⟨hnd, hpre, _, _⟩ := E
  cases orelse with
  | nil =>
    simp only [tryR2, elseRep, List.isEmpty_nil, if_true, optSection, flowBlock]
    exact .of_post (FF.refl _ b1) ⟨Pend.of_req σ' T [] b1 [] R1n (fun _ h => (List.not_mem_nil h).elim), hc, hpre.ldj⟩
  | cons s0 rest =>
    simp only [tryR2, elseRep, List.isEmpty_cons, Bool.false_eq_true, if_false, optSection]
    have Br := Branches.cons (T := T) (Kr := []) (by rw [List.append_nil]; exact BranchIn.enter hnd hpre hc) (Ho _ a1 R1n)
      (fun _ I => Branches.close I)
    exact .of_post ((ff_enterCondSection _ b1 i (List.mem_cons_self ..)).trans (Br.ff.weaken (fun _ hk => by simpa using hk)))
      ⟨Br.pend.of_alt_left, fun x hx => Br.leaves x (Or.inr (Or.inr (List.mem_append_left _ hx))), Br.ldj⟩

theorem handlers_section (σ : List Scope) (handlers : List Stmt) (b2 : B) (a2 : Acc) (rs E : List Nat) (T : Nat)
    (En : Entry σ T [] (repKey handlers ++ keysL3 handlers) E b2)
    (hrs : ∀ hid, hid ∈ handlerIds handlers → ∀ x, x ∈ rs → ∃ l, aget hid b2.raises = some l ∧ x ∈ l)
    (Hh : HandlersIH σ T handlers) :
    Visit σ T [] (repKey handlers ++ keysL3 handlers) false b2 (tryR3 σ handlers (b2, a2)).1
      (Flow.alt { normal := E } (flowHandlers handlers rs)) := by
  have hE := En.leaves
  obtain ⟨hnd, hpre, _, _⟩ := En
  cases handlers with
  | nil =>
    exact .of_post (FF.refl _ b2) ⟨(Pend.of_req σ T [] _ [] E (fun p h => nomem p h)).alt (Pend.empty σ T [] _),
      fun x hx => hE x ((List.mem_append.mp hx).elim id (fun h => nomem x h)), hpre.ldj⟩
  | cons h0 rest =>
    have Br := Hh h0.id _ rs (b2.enterCondSection h0.id) a2 E [] (BranchIn.enter hnd hpre hE)
      (fun hid hh x hx => by simpa [B.enterCondSection] using hrs hid hh x hx)
    exact .of_post ((ff_enterCondSection _ b2 h0.id (List.mem_cons_self ..)).trans Br.ff)
      ⟨(Pend.of_req σ T [] _ [] E (fun p h => nomem p h)).alt Br.pend,
        fun x hx => Br.leaves x (Or.inr ((List.mem_append.mp hx).elim Or.inl Or.inr)), Br.ldj⟩

/-- `keys3` lists the keys of a `try` in another order than the visit meets them. -/
theorem tryKeys_perm (i : Nat) (body handlers orelse final : List Stmt) :
    (keys3 (.try_ i body handlers orelse final)).Perm
      (sk i :: (keysL3 body ++ ((elseKey i orelse ++ keysL3 orelse) ++ ((repKey handlers ++ keysL3 handlers) ++ keysL3 final)))) :=
  List.Perm.cons _ (List.perm_iff_count.mpr (fun k => by simp only [List.count_append]; omega))

theorem Pend.drop_handlers {σ : List Scope} {i : Nat} {fin : Bool} {hs : List Nat} {T : Nat} {curP : List Nat} {b : B} {R : Flow}
    (h : Pend (Scope.try_ i fin hs :: σ) T curP b R) : Pend (Scope.try_ i fin [] :: σ) T curP b R := by
  cases fin <;> exact h.rescope rfl rfl rfl rfl (fun _ hh => List.mem_append.mpr (Or.inr hh))

/-- `Tr` only looks at the scope keys, and the handler-less `try` scope has those of the enclosing scopes. -/
theorem Tr.in_try {σ : List Scope} {K : List Nat} {b : B} (h : Tr σ K b) (i : Nat) (fin : Bool) : Tr (Scope.try_ i fin [] :: σ) K b :=
  ⟨fun k hk => h.disj k hk, h.old, h.lin⟩

theorem Pre.in_try {σ : List Scope} {K : List Nat} {b : B} (h : Pre σ K b) (i : Nat) (fin : Bool) (hs : List Nat)
    (hh : ∀ hid, hid ∈ hs → sk hid ∉ K) : Pre (Scope.try_ i fin hs :: σ) K b := by
  refine ⟨⟨fun k hk => ?_, h.old, h.lin⟩, h.fresh, fun L hL => h.loopOpen L (by cases fin <;> exact hL), ?_, h.valid, h.ldj⟩
  · rcases List.mem_append.mp hk with hk | hk
    · obtain ⟨hid, h1, rfl⟩ := List.mem_map.mp hk
      exact hh hid h1
    · exact h.disj k hk
  · obtain ⟨F, hF, l, hl⟩ := h.fnOpen
    exact ⟨F, by cases fin <;> exact hF, l, hl⟩

theorem Pend.out_of_try0 {σ : List Scope} {i : Nat} {T : Nat} {curP : List Nat} {b : B} {R : Flow}
    (h : Pend (Scope.try_ i false [] :: σ) T curP b R) : Pend σ T curP b R :=
  h.rescope rfl rfl rfl rfl (fun _ hh => hh)

/-- what body, `else` block and handlers of `try i` arrive at: the facts of the first two are read in the try's scope without its
handlers, those of the handlers in the enclosing scope -/
structure Protected (σ : List Scope) (i : Nat) (fin : Bool) (T : Nat) (curP K Kf : List Nat) (b b3 : B) (R1 R2 H : Flow) : Prop where
  node : NodeStep (sk i :: K) b b3
  body : Pend (Scope.try_ i fin [] :: σ) T curP b3 R1
  orelse : Pend (Scope.try_ i fin [] :: σ) T [] b3 R2
  handlers : Pend σ T [] b3 H
  norm : InLeaves b3 (R2.normal ++ H.normal)
  ldj : ListsDisjoint b3
  todo : Todo σ (sk i) Kf b3
  old : sk i ∉ Old b3

theorem Visit.protected_ {σ : List Scope} {T : Nat} {curP Kb Ko Kh Kf : List Nat} {b r1 r2 r3 : B} {R1 R2 : Flow} {H : List Nat → Flow}
    {cur : List Nat} (i : Nat) (fin : Bool) (hids : List Nat)
    (E : Entry σ T curP (sk i :: (Kb ++ (Ko ++ (Kh ++ Kf)))) cur b) (hh : ∀ hid, hid ∈ hids → sk hid ∈ Kh)
    (Vb : Entry (Scope.try_ i fin hids :: σ) T curP Kb cur b → Visit (Scope.try_ i fin hids :: σ) T curP Kb true b r1 R1)
    {eo eh : Bool}
    (Vo : Entry (Scope.try_ i fin hids :: σ) T [] Ko R1.normal r1 → Visit (Scope.try_ i fin hids :: σ) T [] Ko eo r1 r2 R2)
    (Vh : Entry σ T [] Kh R2.normal r2 →
      (∀ hid, hid ∈ hids → ∀ x, x ∈ R1.raise → ∃ l, aget hid r2.raises = some l ∧ x ∈ l) →
      Visit σ T [] Kh eh r2 r3 (Flow.alt { normal := R2.normal } (H R1.raise))) :
    Protected σ i fin T curP (Kb ++ (Ko ++ (Kh ++ Kf))) Kf b r3 R1 R2 (H R1.raise) := by
  obtain ⟨hnd, hp, hT, hc⟩ := E
  have S0 := Todo.start hnd hp
  -- 1. the body; the handlers' `raises` keys are visited after the else block
  have pre0 : Pre (Scope.try_ i fin hids :: σ) Kb b := S0.head.pre.in_try i fin _
    (fun hid h hk => (List.nodup_append.mp S0.nd).2.2 _ hk _ (List.mem_append.mpr (Or.inr (List.mem_append.mpr (Or.inl (hh hid h))))) rfl)
  have Vb := Vb ⟨S0.head.nd, pre0, hT.tail.left, hc⟩
  have IHb := Vb.post.toPostE rfl
  have S1 := S0.step (Vb.ff.cons _) IHb.ldj
  -- 2. the else block
  have hh_o : ∀ hid, hid ∈ hids → sk hid ∉ Ko :=
    fun hid h hk => (List.nodup_append.mp S1.nd).2.2 _ hk _ (List.mem_append.mpr (Or.inl (hh hid h))) rfl
  have pre1 : Pre (Scope.try_ i fin hids :: σ) Ko r1 := S1.head.pre.in_try i fin _ hh_o
  have Vo := Vo (.of_leaves S1.head.nd pre1 IHb.norm)
  have f12 := Vo.ff
  have IHo := Vo.post0
  have S2 := S1.step (f12.cons _) IHo.ldj
  have old2 : sk i ∉ Old r2 :=
    not_old_of_frame (not_old_of_frame (hp.old _ (List.mem_cons_self ..)) Vb.ff.x S0.head.own_not) f12.x S1.head.own_not
  -- the body's and the else block's facts at r2, read without the handlers
  have P1 : Pend (Scope.try_ i fin [] :: σ) T curP r2 R1 := (keeps_tr pre1.toTr f12 hT.tail.right.left _ IHb.pend).drop_handlers
  have P2 : Pend (Scope.try_ i fin [] :: σ) T [] r2 R2 := IHo.pend.drop_handlers
  have n02 : NodeStep (sk i :: (Kb ++ (Ko ++ (Kh ++ Kf)))) b r2 :=
    (((Vb.node rfl).weaken (fun _ h => List.mem_cons_of_mem _ h)).left _).post ((f12.appL _).right _ _)
  have Vh := Vh (.of_leaves S2.head.nd S2.head.pre IHo.norm) (fun hid hh' x hx => f12.f.raises_mem (hh_o hid hh')
    ((IHb.pend.raise x hx).2 hid (by cases fin <;> exact List.mem_append.mpr (Or.inl hh'))))
  have f23 := Vh.ff
  have PH : Pend σ T [] r3 (H R1.raise) :=
    ⟨Vh.post.pend.req, Vh.post.pend.brk, Vh.post.pend.cont, Vh.post.pend.ret, Vh.post.pend.raise, Vh.post.pend.exempt⟩
  have ldj3 := Vh.post.ldj
  have tr2 : Tr (Scope.try_ i fin [] :: σ) Kh r2 := S2.head.pre.toTr.in_try i fin
  exact ⟨n02.post (((f23.appL _).appR _).right _ _), keeps_tr tr2 f23 hT.tail.right.right.left _ P1, keeps_tr tr2 f23 (TOk.nil _ _) _ P2, PH, Vh.post.inLeaves,
    ldj3, S2.step (f23.cons _) ldj3, not_old_of_frame old2 f23.x S2.head.own_not⟩

theorem Visit.try_nofin {σ : List Scope} {i T : Nat} {curP K : List Nat} {b b3 : B} {R1 R2 H : Flow}
    (P : Protected σ i false T curP K [] b b3 R1 R2 H) : Visit σ T curP (sk i :: K) true b b3 (R1.noNormal.alt (R2.alt H)) :=
  .of_node P.node ⟨Pend.alt P.body.out_of_try0.drop_normal (Pend.alt P.orelse.out_of_try0.retarget P.handlers.retarget), P.norm, P.ldj⟩

/-- The `finally` block is visited once, and that visit is read four times: entered normally, and entered by the pending `break`,
`continue` and `return` outcomes of the body and the `else` block (the handlers have none). -/
theorem Visit.try_fin {σ : List Scope} {i T : Nat} {curP K Kf : List Nat} {b b3 b6 : B} {R1 R2 H : Flow} {F : List Nat → Flow}
    (P : Protected σ i true T curP K Kf b b3 R1 R2 H) (hKf : ∀ k, k ∈ Kf → k ∈ K) (hT : TOk curP T (sk i :: K))
    (Vf : ∀ (cur cP : List Nat), Entry σ i cP Kf cur (b3.enterFinallySection i) →
      Visit σ i cP Kf true (b3.enterFinallySection i) b6 (F cur))
    (hF0 : F [] = {}) (hnoesc : H.brk = [] ∧ H.cont = [] ∧ H.ret = []) :
    Visit σ T curP (sk i :: K) true b (b6.exitFinallySection i) (tryFinF (R1.noNormal.alt (R2.alt H)) F) := by
  obtain ⟨nP, P1, P2, PH, hN, ldj3, S3, old3⟩ := P
  let b5 := b3.enterFinallySection i
  let b7 := b6.exitFinallySection i
  have f35 : FF [sk i] b3 b5 := ff_enterFinallySection _ _ i (List.mem_cons_self ..)
  have S5 := S3.step (P := []) f35 (ldj_of_eq (b := b3) rfl rfl ldj3)
  have hi_f := S5.own_not
  have pre5 := S5.pre
  have hvisit := fun cur cP h => Vf cur cP ⟨S5.nd, pre5, Or.inr hi_f, h⟩
  have Vn := hvisit _ [] (fun x hx => Or.inl (hN x hx))
  have ff := Vn.ff
  have Fs := finallySection_spec hi_f ff (fun w => (Vn.node rfl).starts i hi_f (Or.inl w))
  obtain ⟨beg, ends, hends, hsubE⟩ := Fs.ends
  -- what is kept up to the end of the `finally` block
  have tr3 : Tr σ [sk i] b3 :=
    ⟨fun k hk h => S3.own_scope (List.mem_singleton.mp h ▸ hk), fun k hk => List.mem_singleton.mp hk ▸ old3, S3.pre.lin⟩
  have k37 : ∀ (σ0 : List Scope), (∀ K' b', Tr σ K' b' → Tr σ0 K' b') → ∀ T' cP, TOk cP T' (sk i :: K) → Keeps σ0 T' cP b3 b7 := by
    intro σ0 hσ0 T' cP ht
    exact ((keeps_tr (hσ0 _ _ tr3) f35 ht.head).trans
      (keeps_tr (hσ0 _ _ pre5.toTr) ff (ht.tail.sub hKf))).trans (Fs.keeps σ0 T' cP)
  have inTry : ∀ K' b', Tr σ K' b' → Tr (Scope.try_ i true [] :: σ) K' b' := fun _ _ h => h.in_try i true
  have P1_7 := k37 _ inTry T curP hT _ P1
  have P2_7 := k37 _ inTry T [] (TOk.nil _ _) _ P2
  have PH_7 := k37 σ (fun _ _ h => h) T [] (TOk.nil _ _) _ PH
  obtain ⟨hHb, hHc, hHr⟩ := hnoesc
  have hfinal : ∀ (cur cP : List Nat), (∀ x, x ∈ cur → Src b5 i cP x) → Post σ i cP b6 (F cur) :=
    fun cur cP h => (hvisit cur cP h).post.toPostE rfl
  have In := Vn.post.toPostE rfl
  have PFn : Pend σ T curP b7 ((F (R2.normal ++ H.normal)).resumeInto (fun l => { normal := l })) :=
    Pend.alt (Pend.of_req σ T curP b7 [] _ (fun p h => nomem p h)) (Fs.keeps σ i [] _ In.pend).retarget.drop_normal
  -- a reading entered by pending jump outcomes: its normal ends are that outcome, one guard further
  have run : ∀ (c : Bool) (tgt : Option Nat) (G : List Nat) (put : List Nat → Flow) (l : List Nat),
      (∀ t, tgt = some t → Tgt σ c t) → (∀ x', x' ∈ l → ∃ t, tgt = some t ∧ PJ c b7 t (i :: G) x') →
      (∀ N : List Nat, (∀ x, x ∈ N → ∃ t, tgt = some t ∧ PJ c b7 t G x) → Pend σ T curP b7 (put N)) →
      Pend σ T curP b7 ((F l).resumeInto put) := by
    intro c tgt G put l htg hl hput
    have I := hfinal l _ (fun x hx => Or.inr ⟨hx, Fs.wait⟩)
    have hne : (F l).normal ≠ [] → ∃ x', x' ∈ l := by
      intro h
      cases l with
      | nil => rw [hF0] at h; exact (h rfl).elim
      | cons x' _ => exact ⟨x', List.mem_cons_self ..⟩
    obtain ⟨C, N⟩ := fin_convert σ T curP i b7 _ _ c tgt G Fs.complete ⟨beg, ends, hends, fun x hx => hsubE x (I.norm x hx)⟩ hne
      hl htg (Fs.keeps σ i _ _ I.pend)
    exact Pend.alt (hput _ N) C
  -- the handlers have no jump outcomes
  have none : ∀ {P : Nat → Prop} {l : List Nat}, l = [] → ∀ x, x ∈ l → P x := fun e x h => nomem x (e ▸ h)
  have PFb := run false (loopOf σ) (guardsOf .loop σ) (fun l => { brk := l }) _ (fun t ht => Or.inl ht)
    (forall_mem_app3 P1_7.brk P2_7.brk (none hHb)) (fun N h => Pend.of_brk (fun p h => nomem p h) h)
  have PFc := run true (loopOf σ) (guardsOf .loop σ) (fun l => { cont := l }) _ (fun t ht => Or.inl ht)
    (forall_mem_app3 P1_7.cont P2_7.cont (none hHc)) (fun N h => Pend.of_cont (fun p h => nomem p h) h)
  have PFr := run false (fnOf σ) (guardsOf .fn σ) (fun l => { ret := l }) _ (fun t ht => Or.inr ⟨rfl, ht⟩)
    (forall_mem_app3 P1_7.ret P2_7.ret (none hHr)) (fun N h => Pend.of_ret (fun p h => nomem p h) h)
  -- the part before the block
  have A7 : Pend σ T curP b7
      { req := R1.req ++ (R2.req ++ H.req), exempt := (R1.raise ++ (R2.raise ++ H.raise)) ++ (R1.exempt ++ (R2.exempt ++ H.exempt)) } := by
    refine ⟨forall_mem_app3 P1_7.req (fun p h => (P2_7.req p h).retarget) (fun p h => (PH_7.req p h).retarget), fun x h => nomem x h,
      fun x h => nomem x h, fun x h => nomem x h, fun x h => nomem x h, ?_⟩
    intro x hx
    rcases List.mem_append.mp hx with h | h
    · exact forall_mem_app3 (fun x h => (P1_7.raise x h).1) (fun x h => (P2_7.raise x h).1) (fun x h => (PH_7.raise x h).1) x h
    · exact forall_mem_app3 P1_7.exempt P2_7.exempt PH_7.exempt x h
  have total := Pend.alt A7 (Pend.alt PFn (Pend.alt PFb (Pend.alt PFc PFr)))
  refine .of_node ((nP.post (f35.own _)).post ((ff.weaken hKf).cons _) |>.post (ff_exitFinallySection _ _ i (List.mem_cons_self ..))) ?_
  refine (show Post σ T curP b7 _ from ⟨total, ?_, Fs.ldj In.ldj⟩)
  intro x hx
  change x ∈ (Flow.alt _ _).normal at hx
  simp only [Flow.alt, Flow.resumeInto, Flow.noNormal, List.nil_append, List.append_nil] at hx
  show x ∈ (b6.exitFinallySection i).leafSet
  by_cases hem : b3.leafSet = []
  · -- nothing flows into the block directly
    have hPn : R2.normal ++ H.normal = [] := by
      apply List.eq_nil_iff_forall_not_mem.mpr
      intro y hy
      have := hN y hy
      rw [hem] at this
      cases this
    rw [hPn, hF0] at hx
    cases hx
  · rw [Fs.direct hem]; exact In.norm x hx

end Malt.Cfg
