import MaltModel.Conv.BlockVars
namespace Malt.Conv.BlockVars

theorem mem_dedup {x : String} {l : List String} : x ∈ dedup l ↔ x ∈ l := by
  fun_induction dedup l with
  | case1 => exact Iff.rfl
  | case2 a l h ih =>
    have ha : a ∈ l := by simpa using h
    rw [ih, List.mem_cons]
    exact ⟨.inr, fun hx => hx.elim (fun e => e ▸ ha) id⟩
  | case3 a l h ih => rw [List.mem_cons, List.mem_cons, ih]

theorem nodup_dedup (l : List String) : (dedup l).Nodup := by
  fun_induction dedup l with
  | case1 => exact List.nodup_nil
  | case2 a l h ih => exact ih
  | case3 a l h ih =>
    have ha : a ∉ l := by simpa using h
    exact List.nodup_cons.mpr ⟨fun hm => ha (mem_dedup.mp hm), ih⟩

theorem insertSorted_perm (le : String → String → Bool) (a : String) (l : List String) :
    (insertSorted le a l).Perm (a :: l) := by
  fun_induction insertSorted le a l with
  | case1 => exact .refl _
  | case2 b l h => exact .refl _
  | case3 b l h ih => exact (ih.cons b).trans (List.Perm.swap a b l)

theorem sortBy_perm (le : String → String → Bool) : ∀ l, (sortBy le l).Perm l
  | [] => by simp [sortBy]
  | a :: l => by
      unfold sortBy
      exact (insertSorted_perm le a _).trans ((sortBy_perm le l).cons a)

/-- All that is used of the sort: input-only variables come last (no order fact about strings). -/
def KeyMono (io : List String) (l : List String) : Prop :=
  l.Pairwise fun a b => io.contains a = true → io.contains b = true

theorem keyLe_mono {io : List String} {a b : String} (h : keyLe io a b = true) :
    io.contains a = true → io.contains b = true := by
  intro ha
  unfold keyLe at h
  simp only [ha] at h
  cases hb : io.contains b <;> simp_all

theorem not_keyLe_mono {io : List String} {a b : String} (h : ¬ keyLe io a b = true) :
    io.contains b = true → io.contains a = true := by
  intro hb
  cases ha : io.contains a
  · exfalso; apply h; unfold keyLe; rw [ha, hb]; rfl
  · rfl

theorem insertSorted_keyMono {io : List String} (a : String) (l : List String) (h : KeyMono io l) :
    KeyMono io (insertSorted (keyLe io) a l) := by
  fun_induction insertSorted (keyLe io) a l with
  | case1 => exact List.pairwise_singleton _ _
  | case2 b l hle =>
    refine List.pairwise_cons.mpr ⟨?_, h⟩
    intro x hx ha
    rcases List.mem_cons.mp hx with rfl | hx
    · exact keyLe_mono hle ha
    · exact (List.pairwise_cons.mp h).1 x hx (keyLe_mono hle ha)
  | case3 b l hle ih =>
    have hb := List.pairwise_cons.mp h
    refine List.pairwise_cons.mpr ⟨?_, ih hb.2⟩
    intro x hx hbb
    rcases List.mem_cons.mp ((insertSorted_perm (keyLe io) a l).mem_iff.mp hx) with rfl | hx
    · exact not_keyLe_mono hle hbb
    · exact hb.1 x hx hbb

theorem sortBy_keyMono (io : List String) : ∀ l, KeyMono io (sortBy (keyLe io) l)
  | [] => by simp [sortBy, KeyMono]
  | a :: l => by unfold sortBy; exact insertSorted_keyMono a _ (sortBy_keyMono io l)

theorem keyMono_split {io : List String} : ∀ {l : List String}, KeyMono io l →
    l = l.filter (fun v => !io.contains v) ++ l.filter (fun v => io.contains v)
  | [], _ => by simp
  | a :: l, h => by
      have ha := List.pairwise_cons.mp h
      have ih := keyMono_split ha.2
      cases hc : io.contains a
      · simp only [List.filter_cons, hc, Bool.not_false, if_true, Bool.false_eq_true, if_false, List.cons_append]
        rw [← ih]
      · have hall : ∀ x ∈ l, io.contains x = true := fun x hx => ha.1 x hx hc
        have h1 : l.filter (fun v => !io.contains v) = [] := by
          apply List.filter_eq_nil_iff.mpr
          intro x hx; rw [hall x hx]; simp
        have h2 : l.filter (fun v => io.contains v) = l := by
          apply List.filter_eq_self.mpr
          intro x hx; exact hall x hx
        simp only [List.filter_cons, hc, Bool.not_true, Bool.false_eq_true, if_false, if_true, h1, h2,
          List.nil_append]

theorem keyMono_take_drop {io l : List String} (h : KeyMono io l) :
    l.take (l.length - (l.filter fun v => io.contains v).length) = l.filter (fun v => !io.contains v) ∧
    l.drop (l.length - (l.filter fun v => io.contains v).length) = l.filter (fun v => io.contains v) := by
  have hs := keyMono_split h
  generalize l.filter (fun v => !io.contains v) = A at hs ⊢
  generalize l.filter (fun v => io.contains v) = B at hs ⊢
  subst hs
  rw [List.length_append, Nat.add_sub_cancel]
  exact ⟨List.take_left' rfl, List.drop_left' rfl⟩

theorem simple_of_mem_basicVars {m li lo nl : List String} {x : String} (h : x ∈ basicVars m li lo nl) :
    isComposite x = false := by
  simpa using (Bool.and_eq_true_iff.mp (List.mem_filter.mp h).2).1

theorem composite_of_mem_compositeVars {m li : List String} {x : String} (h : x ∈ compositeVars m li) :
    isComposite x = true :=
  (Bool.and_eq_true_iff.mp (List.mem_filter.mp h).2).1

theorem basic_not_composite {m li lo nl : List String} {x : String} (hb : x ∈ basicVars m li lo nl)
    (hc : x ∈ compositeVars m li) : False :=
  Bool.false_ne_true ((simple_of_mem_basicVars hb).symm.trans (composite_of_mem_compositeVars hc))

theorem contains_filter_eq {p : String → Bool} {l : List String} {x : String} (hx : x ∈ l) :
    (l.filter p).contains x = p x := by
  rw [Bool.eq_iff_iff]
  simp [List.mem_filter, hx]

/-- The input-only part of the sorted tuple has exactly `inputOnly.length` elements, because no composite variable is
input-only; so `nouts` is where `keyMono_take_drop` cuts. -/
theorem blockVars_nouts {m li lo di g n : List String} {r : Result} (hr : r = blockVars m li lo di g n) :
    r.nouts ≤ r.scopeVars.length ∧ (∀ v ∈ r.scopeVars.take r.nouts, r.inputOnly.contains v = false) ∧
    (∀ v ∈ r.scopeVars.drop r.nouts, r.inputOnly.contains v = true) := by
  subst hr
  simp only [blockVars]
  generalize hbasic : basicVars (dedup m) li lo (n ++ g) = basic
  generalize hcomp : compositeVars (dedup m) li = comp
  generalize hio : basic.filter (fun v => li.contains v && !lo.contains v) = io
  have hcount : ((sortBy (keyLe io) (basic ++ comp)).filter fun v => io.contains v).length = io.length := by
    rw [((sortBy_perm _ _).filter _).length_eq, List.filter_append]
    have h1 : comp.filter (fun v => io.contains v) = [] := by
      refine List.filter_eq_nil_iff.mpr fun x hx hc => ?_
      have hxio : x ∈ io := by simpa using hc
      rw [← hio] at hxio
      exact basic_not_composite (hbasic ▸ (List.mem_filter.mp hxio).1) (hcomp ▸ hx)
    have h2 : basic.filter (fun v => io.contains v) = io := by
      rw [← hio]
      exact List.filter_congr fun x hx => contains_filter_eq hx
    rw [h1, h2, List.append_nil]
  obtain ⟨ht, hd⟩ := keyMono_take_drop (sortBy_keyMono io (basic ++ comp))
  rw [hcount] at ht hd
  refine ⟨Nat.sub_le _ _, fun v hv => ?_, fun v hv => ?_⟩
  · rw [ht] at hv
    simpa using (List.mem_filter.mp hv).2
  · rw [hd] at hv
    exact (List.mem_filter.mp hv).2

theorem blockVars_nodup (m li lo di g n : List String) : (blockVars m li lo di g n).scopeVars.Nodup := by
  simp only [blockVars]
  rw [(sortBy_perm _ _).nodup_iff, List.nodup_append]
  refine ⟨(nodup_dedup m).sublist List.filter_sublist, (nodup_dedup m).sublist List.filter_sublist, ?_⟩
  intro a ha b hb hab
  subst hab
  exact basic_not_composite ha hb

theorem blockVars_undefined_simple (m li lo di g n : List String) :
    ∀ v ∈ (blockVars m li lo di g n).undefined, isComposite v = false := by
  intro v hv
  simp only [blockVars] at hv
  have := (List.mem_filter.mp hv).2
  simp only [Bool.and_eq_true, Bool.not_eq_true'] at this
  exact this.2

theorem mem_scopeVars (m li lo di g n : List String) (v : String) :
    v ∈ (blockVars m li lo di g n).scopeVars ↔
      v ∈ basicVars (dedup m) li lo (n ++ g) ∨ v ∈ compositeVars (dedup m) li := by
  simp only [blockVars]
  rw [(sortBy_perm _ _).mem_iff, List.mem_append]

theorem inputOnly_contains (m li lo di g n : List String) (v : String) (hv : v ∈ (blockVars m li lo di g n).scopeVars) :
    (blockVars m li lo di g n).inputOnly.contains v = !isOutput li lo v := by
  rw [mem_scopeVars] at hv
  simp only [blockVars]
  rw [Bool.eq_iff_iff]
  simp only [List.contains_eq_mem, decide_eq_true_eq, List.mem_filter, Bool.and_eq_true, Bool.not_eq_true', isOutput,
    Bool.or_eq_false_iff, Bool.not_eq_false', decide_eq_false_iff_not]
  constructor
  · rintro ⟨hb, hin, hout⟩
    exact ⟨⟨simple_of_mem_basicVars hb, hin⟩, hout⟩
  · rintro ⟨⟨hc, hin⟩, hout⟩
    rcases hv with hb | hcomp
    · exact ⟨hb, hin, hout⟩
    · exact absurd (hc.symm.trans (composite_of_mem_compositeVars hcomp)) Bool.false_ne_true

theorem blockVars_outputs_first {m li lo di g n : List String} {i : Nat} {v : String}
    (hi : (blockVars m li lo di g n).scopeVars[i]? = some v) :
    (i < (blockVars m li lo di g n).nouts ↔ isOutput li lo v = true) := by
  obtain ⟨_, htake, hdrop⟩ := blockVars_nouts (r := blockVars m li lo di g n) rfl
  have hmem : v ∈ (blockVars m li lo di g n).scopeVars := List.mem_of_getElem? hi
  have hio := inputOnly_contains m li lo di g n v hmem
  constructor
  · intro hlt
    have := htake v (List.mem_of_getElem? (i := i) (by rw [List.getElem?_take, if_pos hlt]; exact hi))
    rw [hio] at this
    simpa using this
  · intro hout
    apply Decidable.byContradiction
    intro hge
    have := hdrop v (List.mem_of_getElem? (i := i - _) (by
      rw [List.getElem?_drop, Nat.add_sub_cancel' (Nat.le_of_not_lt hge)]; exact hi))
    rw [hio, hout] at this
    simp at this

end Malt.Conv.BlockVars
