import MaltModel.Conv.ControlFlow
import MaltModel.Proofs.C03Namer
/-!
The control-flow pass as its clients see it: `tStmt_induct`, and the one shape of the three templates, `chunk`.
-/

namespace Malt.Conv.ControlFlow
open Malt Malt.Py Malt.Naming

/-- Statements the pass copies unchanged: those without blocks, and those annotated `skip`. -/
def Copied (env : Env) : Stmt → Prop
  | .if_ id .. | .while_ id .. | .for_ id .. | .functionDef id .. | .classDef id .. | .with_ id ..
  | .try_ id .. | .handler id .. | .other id .. => env.skip id = true
  | _ => True

theorem tStmt_copied {env : Env} {fs : FnScope} {nm : Namer} {s : Stmt} (h : Copied env s) :
    tStmt env fs nm s = ([s], nm) := by
  cases s
  case if_ | while_ | for_ | functionDef | classDef | with_ | try_ | handler | other => unfold tStmt; exact if_pos h
  all_goals rfl

section
attribute [local irreducible] newSymbol

/-- Induction over the run of the pass: `P fs s out` / `PL fs ss out` for a source statement / block in function scope `fs`
and what `tStmt` / `tStmts` make of it.  The namer does not appear: its states are arbitrary, the names of a chunk some
pairwise distinct names (`ex` = name and expression of `extra_test`, if any; `i` first: `tStmt_tStmts_good` drops it).  The loop
cases have no hypothesis for `orelse`: the templates drop it. -/
theorem tStmt_induct (env : Env) {P : FnScope → Stmt → List Stmt → Prop} {PL : FnScope → List Stmt → List Stmt → Prop}
    (copied : ∀ {fs s}, Copied env s → P fs s [s])
    (if_ : ∀ {fs n1 n2 id test body orelse g s b o bv}, env.skip id = false →
      bv = env.blockVars fs id ((env.scope id "BODY_SCOPE").bound ++ (env.scope id "ORELSE_SCOPE").bound) →
      PL fs body (tStmts env fs n1 body).1 → PL fs orelse (tStmts env fs n2 orelse).1 → [g, s, b, o].Nodup →
      P fs (.if_ id test body orelse)
        (ifChunk bv (nonlocalDecls fs bv.scopeVars) test (tStmts env fs n1 body).1 (tStmts env fs n2 orelse).1 g s b o))
    (while_ : ∀ {fs n1 id test body orelse g s b t bv}, env.skip id = false →
      bv = env.blockVars fs id (env.scope id "BODY_SCOPE").bound →
      PL fs body (tStmts env fs n1 body).1 → [g, s, b, t].Nodup →
      P fs (.while_ id test body orelse)
        (whileChunk bv (nonlocalDecls fs bv.scopeVars) (loopOptions env.dirs id []) test (tStmts env fs n1 body).1 g s b t))
    (asyncFor : ∀ {fs n1 n2 id target iter body orelse extra}, env.skip id = false →
      PL fs body (tStmts env fs n1 body).1 → PL fs orelse (tStmts env fs n2 orelse).1 →
      P fs (.for_ id target iter body orelse extra true)
        [.for_ id target iter (tStmts env fs n1 body).1 (tStmts env fs n2 orelse).1 extra true])
    (for_ : ∀ {fs n1 id target iter body orelse extra g s i b ex bv}, env.skip id = false →
      bv = env.blockVars fs id ((env.scope id "BODY_SCOPE").bound ++ (env.scope id "ITERATE_SCOPE").bound) →
      PL fs body (tStmts env fs n1 body).1 → (i :: g :: s :: b :: (ex.map (·.1)).toList).Nodup →
      i ∉ reservedOf ((env.scope id "BODY_SCOPE").referenced ++ (env.scope id "ITERATE_SCOPE").referenced) →
      P fs (.for_ id target iter body orelse extra false)
        (forChunk bv (nonlocalDecls fs bv.scopeVars) (loopOptions env.dirs id [("iterate_names", strConst (unparseE target))])
          target iter (tStmts env fs n1 body).1 ex g s i b))
    (functionDef : ∀ {fs n1 id name args body decos returns isAsync}, env.skip id = false →
      PL { globals := (env.scope id "BODY_SCOPE").globals, nonlocals := (env.scope id "BODY_SCOPE").nonlocals } body
        (tStmts env { globals := (env.scope id "BODY_SCOPE").globals, nonlocals := (env.scope id "BODY_SCOPE").nonlocals } n1 body).1 →
      P fs (.functionDef id name args body decos returns isAsync)
        [.functionDef id name args
          (tStmts env { globals := (env.scope id "BODY_SCOPE").globals, nonlocals := (env.scope id "BODY_SCOPE").nonlocals } n1 body).1
          decos returns isAsync])
    (classDef : ∀ {fs n1 id name bases kws body decos}, env.skip id = false → PL fs body (tStmts env fs n1 body).1 →
      P fs (.classDef id name bases kws body decos) [.classDef id name bases kws (tStmts env fs n1 body).1 decos])
    (with_ : ∀ {fs n1 id items body isAsync}, env.skip id = false → PL fs body (tStmts env fs n1 body).1 →
      P fs (.with_ id items body isAsync) [.with_ id items (tStmts env fs n1 body).1 isAsync])
    (try_ : ∀ {fs n1 n2 n3 n4 id b h e f}, env.skip id = false →
      PL fs b (tStmts env fs n1 b).1 → PL fs h (tStmts env fs n2 h).1 →
      PL fs e (tStmts env fs n3 e).1 → PL fs f (tStmts env fs n4 f).1 →
      P fs (.try_ id b h e f)
        [.try_ id (tStmts env fs n1 b).1 (tStmts env fs n2 h).1 (tStmts env fs n3 e).1 (tStmts env fs n4 f).1])
    (handler : ∀ {fs n1 id type name body}, env.skip id = false → PL fs body (tStmts env fs n1 body).1 →
      P fs (.handler id type name body) [.handler id type name (tStmts env fs n1 body).1])
    (other : ∀ {fs n1 id kind exprs blocks}, env.skip id = false → PL fs blocks (tStmts env fs n1 blocks).1 →
      P fs (.other id kind exprs blocks) [.other id kind exprs (tStmts env fs n1 blocks).1])
    (nil : ∀ fs, PL fs [] [])
    (cons : ∀ {fs n1 n2 s ss}, P fs s (tStmt env fs n1 s).1 → PL fs ss (tStmts env fs n2 ss).1 →
      PL fs (s :: ss) ((tStmt env fs n1 s).1 ++ (tStmts env fs n2 ss).1)) :
    (∀ fs nm s, P fs s (tStmt env fs nm s).1) ∧ ∀ fs nm ss, PL fs ss (tStmts env fs nm ss).1 := by
  have hcop : ∀ fs nm s, Copied env s → P fs s (tStmt env fs nm s).1 := fun fs nm s h => by
    rw [tStmt_copied h]
    exact copied h
  apply tStmt.mutual_induct env (fun fs nm s => P fs s (tStmt env fs nm s).1)
    (fun fs nm ss => PL fs ss (tStmts env fs nm ss).1)
  any_goals (intros; apply hcop; assumption)
  · intro fs nm id test body orelse h _ hb ho
    unfold tStmt
    rw [if_neg h]
    exact if_ (Bool.eq_false_iff.mpr h) rfl hb ho
      (draws_nodup _ (tStmts env fs (tStmts env fs nm body).2 orelse).2 ["get_state", "set_state", "if_body", "else_body"])
  · intro fs nm id test body orelse h _ hb ho
    unfold tStmt
    rw [if_neg h]
    exact while_ (Bool.eq_false_iff.mpr h) rfl hb
      (draws_nodup _ (tStmts env fs (tStmts env fs nm body).2 orelse).2
        ["get_state", "set_state", "loop_body", "loop_test"])
  · intro fs nm id target iter body orelse extra h _ hb ho
    unfold tStmt
    rw [if_neg h, if_pos rfl]
    exact asyncFor (Bool.eq_false_iff.mpr h) hb ho
  · intro fs nm id target iter body orelse extra isAsync h _ ha hb ho
    cases Bool.eq_false_iff.mpr ha
    unfold tStmt
    rw [if_neg h, if_neg ha]
    cases extra with
    | nil =>
      exact for_ (ex := none) (Bool.eq_false_iff.mpr h) rfl hb
        ((List.perm_middle (l₁ := [_, _])).nodup_iff.mp
          (draws_nodup _ (tStmts env fs (tStmts env fs nm body).2 orelse).2 ["get_state", "set_state", "itr", "loop_body"]))
        (draws_avoid _ ["get_state", "set_state", "itr", "loop_body"] _ _ (.tail _ (.tail _ (.head _))))
    | cons x xs =>
      exact for_ (ex := some (_, x)) (Bool.eq_false_iff.mpr h) rfl hb
        (((List.perm_middle (l₁ := [_, _, _])).trans ((((List.Perm.swap _ _ []).cons _).cons _).cons _)).nodup_iff.mp
          (draws_nodup _ (tStmts env fs (tStmts env fs nm body).2 orelse).2
            ["get_state", "set_state", "extra_test", "itr", "loop_body"]))
        (draws_avoid _ ["get_state", "set_state", "extra_test", "itr", "loop_body"] _ _
          (.tail _ (.tail _ (.tail _ (.head _)))))
  · intro fs nm id name args body decos returns isAsync h _ hb
    unfold tStmt
    rw [if_neg h]
    exact functionDef (Bool.eq_false_iff.mpr h) hb
  · intro fs nm id name bases kws body decos h hb
    unfold tStmt
    rw [if_neg h]
    exact classDef (Bool.eq_false_iff.mpr h) hb
  · intro fs nm id items body isAsync h hb
    unfold tStmt
    rw [if_neg h]
    exact with_ (Bool.eq_false_iff.mpr h) hb
  · intro fs nm id b hd e f h _ _ _ h1 h2 h3 h4
    unfold tStmt
    rw [if_neg h]
    exact try_ (Bool.eq_false_iff.mpr h) h1 h2 h3 h4
  · intro fs nm id type name body h hb
    unfold tStmt
    rw [if_neg h]
    exact handler (Bool.eq_false_iff.mpr h) hb
  · intro fs nm id kind exprs blocks h hb
    unfold tStmt
    rw [if_neg h]
    exact other (Bool.eq_false_iff.mpr h) hb
  · intro fs nm s h1 h2 h3 h4 h5 h6 h7 h8 h9
    -- the catch-all equation of `Copied`
    exact hcop _ _ _ ((Copied.eq_10 env s h1 h2 h3 h4 h5 h6 h7 h8 h9).mpr trivial)
  · intro fs nm
    exact nil fs
  · intro fs nm s ss _ h1 h2
    unfold tStmts
    exact cons h1 h2

end

def setterParam (vars : List String) : String := if vars.isEmpty then "block_vars" else "vars_"
def setterBody (vars : List String) (decls : List Stmt) : List Stmt :=
  if vars.isEmpty then [.pass 0]
  else decls ++ [.assign 0 [tupleE (vars.map (qnExpr .store)) .store] (nameE "vars_")]
def getterBody (vars : List String) : List Stmt := [.ret 0 [tupleE (vars.map guardedVar)]]

theorem setterBody_nil (decls : List Stmt) : setterBody [] decls = [.pass 0] := rfl
theorem setterBody_cons (v : String) (vs : List String) (decls : List Stmt) :
    setterBody (v :: vs) decls = decls ++ [.assign 0 [tupleE ((v :: vs).map (qnExpr .store)) .store] (nameE "vars_")] := rfl

theorem stateFunctions_eq (vars : List String) (decls : List Stmt) (g s : String) :
    stateFunctions vars decls g s =
      [fnDef g [] (getterBody vars), fnDef s [setterParam vars] (setterBody vars decls)] := by
  unfold stateFunctions setterParam setterBody getterBody
  cases vars <;> simp

structure GenDef where
  name : String
  params : List String
  body : List Stmt

def GenDef.stmt (d : GenDef) : Stmt := fnDef d.name d.params d.body

def chunk (defs : List GenDef) (undefined : List String) (op : String) (args : List Expr) : List Stmt :=
  defs.map GenDef.stmt ++ undefinedAssigns undefined ++ [opCallStmt op args]

def stateDefs (vars : List String) (decls : List Stmt) (g s : String) : List GenDef :=
  [⟨g, [], getterBody vars⟩, ⟨s, [setterParam vars], setterBody vars decls⟩]

theorem ifChunk_eq (bv : BlockVars.Result) (decls : List Stmt) (test : Expr) (body orelse : List Stmt)
    (g s b o : String) :
    ifChunk bv decls test body orelse g s b o =
      chunk (stateDefs bv.scopeVars decls g s ++
          [⟨b, [], decls ++ body⟩, ⟨o, [], decls ++ (if orelse.isEmpty then [.pass 0] else orelse)⟩])
        bv.undefined "if_stmt"
        [splice .load test, nameE b, nameE o, nameE g, nameE s, symbolNames bv.scopeVars, intConst bv.nouts] := by
  unfold ifChunk
  rw [stateFunctions_eq]
  rfl

theorem whileChunk_eq (bv : BlockVars.Result) (decls : List Stmt) (opts test : Expr) (body : List Stmt)
    (g s b t : String) :
    whileChunk bv decls opts test body g s b t =
      chunk (stateDefs bv.scopeVars decls g s ++ [⟨b, [], decls ++ body⟩, ⟨t, [], [.ret 0 [splice .load test]]⟩])
        bv.undefined "while_stmt" [nameE t, nameE b, nameE g, nameE s, symbolNames bv.scopeVars, opts] := by
  unfold whileChunk
  rw [stateFunctions_eq]
  rfl

def extraDefs (decls : List Stmt) : Option (String × Expr) → List GenDef
  | some (e, x) => [⟨e, [], decls ++ [.ret 0 [splice .load x]]⟩]
  | none => []

def extraArg : Option (String × Expr) → Expr
  | some (e, _) => nameE e
  | none => noneConst

theorem forChunk_eq (bv : BlockVars.Result) (decls : List Stmt) (opts target iter : Expr) (body : List Stmt)
    (ex : Option (String × Expr)) (g s i b : String) :
    forChunk bv decls opts target iter body ex g s i b =
      chunk (stateDefs bv.scopeVars decls g s ++
          ⟨b, [i], decls ++ [.assign 0 [splice .store target] (nameE i)] ++ body⟩ :: extraDefs decls ex)
        bv.undefined "for_stmt"
        [splice .load iter, extraArg ex, nameE b, nameE g, nameE s, symbolNames bv.scopeVars, opts] := by
  unfold forChunk
  rw [stateFunctions_eq]
  cases ex with
  | none => rfl
  | some p => rfl

theorem mem_undefinedAssigns {u : List String} {s : Stmt} (hs : s ∈ undefinedAssigns u) :
    ∃ v, s = .assign 0 [qnExpr .store v] (.call 0 (agAttr "Undefined") [strConst v] []) := by
  obtain ⟨v, _, rfl⟩ := List.mem_map.mp hs
  exact ⟨v, rfl⟩

theorem all_nonlocalDecls {p : Stmt → Bool} {fs : FnScope} {vars : List String} (hg : ∀ ns, p (.global 0 ns) = true)
    (hn : ∀ ns, p (.nonlocal 0 ns) = true) : (nonlocalDecls fs vars).all p = true := by
  refine List.all_eq_true.mpr fun s hs => ?_
  simp only [nonlocalDecls, List.mem_append] at hs
  rcases hs with hs | hs <;> split at hs <;> simp at hs <;> subst hs
  · exact hg _
  · exact hn _

theorem all_undefinedAssigns {p : Stmt → Bool} {u : List String}
    (hu : ∀ v, p (.assign 0 [qnExpr .store v] (.call 0 (agAttr "Undefined") [strConst v] [])) = true) :
    (undefinedAssigns u).all p = true := by
  rw [undefinedAssigns, List.all_map]
  exact List.all_eq_true.mpr fun v _ => hu v

theorem all_chunk {p : Stmt → Bool} {u : List String} {op : String} {args : List Expr} {defs : List GenDef}
    (hu : ∀ v, p (.assign 0 [qnExpr .store v] (.call 0 (agAttr "Undefined") [strConst v] [])) = true)
    (hc : p (opCallStmt op args) = true) :
    (chunk defs u op args).all p = defs.all fun d => p d.stmt := by
  unfold chunk
  rw [List.all_append, List.all_append, List.all_map, all_undefinedAssigns hu, List.all_cons, hc, List.all_nil,
    Bool.and_true, Bool.and_true, Bool.and_true]
  rfl

theorem flatMap_opt {f : Stmt → List String} (mk : List String → Stmt) (h : ∀ l, f (mk l) = l) (l : List String) :
    (if l.isEmpty then [] else [mk l]).flatMap f = l := by
  split
  · rename_i hl; rw [List.isEmpty_iff.mp hl]; rfl
  · rw [List.flatMap_cons, List.flatMap_nil, List.append_nil, h]

theorem flatMap_opt_nil {f : Stmt → List String} (mk : List String → Stmt) (h : ∀ l, f (mk l) = []) (l : List String) :
    (if l.isEmpty then [] else [mk l]).flatMap f = [] := by
  split
  · rfl
  · rw [List.flatMap_cons, List.flatMap_nil, List.append_nil, h]

end Malt.Conv.ControlFlow
