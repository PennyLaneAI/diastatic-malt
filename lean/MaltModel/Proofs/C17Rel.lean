import MaltModel.Conv.Template
/- The successful visits of `ReplaceTransformer` as relations; the lemmas `of_inst…` at the end are the only places where the
result monad of `instE`/`instS` is taken apart. -/
namespace Malt.Conv.Template
open Malt.Py

theorem isName_eq_false {e : Expr} (h : ∀ i s c, e = .name i s c → False) : isName e = false := by
  unfold isName
  split
  · exact (h _ _ _ rfl).elim
  · rfl

theorem isName_eq_true {e : Expr} (h : isName e = true) : ∃ i s c, e = .name i s c := by
  unfold isName at h
  split at h
  · exact ⟨_, _, _, rfl⟩
  · cases h

theorem lookup_mem : ∀ (b : Bindings) (s : String) (bd : Binding), b.lookup s = some bd → ∃ k, (k, bd) ∈ b
  | [], s, bd, h => by simp [List.lookup] at h
  | (k, v) :: r, s, bd, h => by
      simp only [List.lookup] at h
      split at h
      · simp only [Option.some.injEq] at h
        exact ⟨k, by simp [h]⟩
      · obtain ⟨k', hk⟩ := lookup_mem r s bd h
        exact ⟨k', List.mem_cons_of_mem _ hk⟩

theorem eq_some_of_ite_none {α : Type} {h : Bool} {x : Option α} {a : α} (hl : (if h then x else none) = some a) : x = some a := by
  cases h <;> simp_all

theorem argRepl_induct {motive : List Expr → Nat → List Expr × Nat → Prop} (nil : ∀ n, motive [] n ([], n))
    (name : ∀ i id c r n, motive r (n + 1) (argRepl r (n + 1)) →
      motive (.name i id c :: r) n (.arg n id [] :: (argRepl r (n + 1)).1, (argRepl r (n + 1)).2))
    (other : ∀ e r n, isName e = false → motive r n (argRepl r n) → motive (e :: r) n (e :: (argRepl r n).1, (argRepl r n).2))
    (es : List Expr) (n : Nat) : motive es n (argRepl es n) := by
  fun_induction argRepl es n with
  | case1 n => exact nil n
  | case2 i id c r n t ih => exact name i id c r n ih
  | case3 e r n hne t ih => exact other e r n (isName_eq_false hne) ih

/-- what the side condition of rule `expr` is for: the statement-level functions are then those of the value -/
theorem usesOkS_expr (b : Bindings) (i : Nat) {v : Expr} (hv : isName v = false) :
    usesOkS b (.expr i v) = usesOkE b v := by
  unfold usesOkS
  split
  · cases hv
  · rfl

theorem sharedS_expr (b : Bindings) (i : Nat) {v : Expr} (hv : isName v = false) :
    sharedS b (.expr i v) = sharedE b v := by
  unfold sharedS
  split
  · cases hv
  · rfl

theorem argsOkS_expr (b : Bindings) (i : Nat) {v : Expr} (hv : isName v = false) :
    argsOkS b (.expr i v) = argsOkE b v := by
  unfold argsOkS
  split
  · cases hv
  · rfl

def R.Sat {α : Type} (x : R α) (Q : α → Nat → Prop) : Prop := ∀ a n, x = .ok (a, n) → Q a n

theorem R.Sat.pure {α : Type} {a : α} {n : Nat} {Q : α → Nat → Prop} (h : Q a n) : R.Sat (.ok (a, n)) Q := by
  intro a' n' e
  cases e
  exact h

theorem R.Sat.error {α : Type} {err : TemplErr} {Q : α → Nat → Prop} : R.Sat (.error err) Q :=
  fun _ _ e => nomatch e

theorem R.Sat.bind {α β : Type} {x : R α} {f : α → Nat → R β} {P : α → Nat → Prop} {Q : β → Nat → Prop}
    (hx : R.Sat x P) (hf : ∀ a n, P a n → R.Sat (f a n) Q) : R.Sat (x.bind f) Q := by
  intro b m e
  cases x with
  | error err => cases e
  | ok v => exact hf v.1 v.2 (hx _ _ rfl) b m e

theorem R.Sat.single {x : R (List Expr)} {P : List Expr → Nat → Prop} (hx : R.Sat x P) :
    R.Sat (single x) fun a n => P [a] n := by
  refine R.Sat.bind hx fun l n hl => ?_
  match l, hl with
  | [a], hl => exact R.Sat.pure hl
  | [], _ => exact R.Sat.error
  | _ :: _ :: _, _ => exact R.Sat.error

theorem R.Sat.guard {p : List Expr → Prop} [DecidablePred p] {x : R (List Expr)} {Q : List Expr → Nat → Prop}
    (hx : R.Sat x Q) : R.Sat (x.bind fun l n => if p l then .ok (l, n) else .error .notSingle) Q := by
  refine R.Sat.bind hx fun l n hl => ?_
  by_cases h : p l
  · rw [if_pos h]
    exact R.Sat.pure hl
  · rw [if_neg h]
    exact R.Sat.error

theorem R.Sat.sameLen {o : List Expr} {x : R (List Expr)} {Q : List Expr → Nat → Prop} (hx : R.Sat x Q) :
    R.Sat (sameLen o x) Q := R.Sat.guard (p := fun l => l.length = o.length) hx

theorem R.Sat.atMost {o : List Expr} {x : R (List Expr)} {Q : List Expr → Nat → Prop} (hx : R.Sat x Q) :
    R.Sat (atMost o x) Q := R.Sat.guard (p := fun l => l.length ≤ o.length) hx

/-! `InstE b e n r n'`: a successful visit of `e` with counter `n` may yield the nodes `r` and counter `n'` (likewise for
lists and statements).  One rule per branch of `instE`/`instS`, with the result monad and the length checks of
positional fields taken away; a placeholder bound to a node, a node list or the empty statement list is one rule
(`Binding.exprs`).  The relation is larger than the graph of `instE`/`instS` (a statement bound at a `Name` counts as the
empty list, no length is compared), so it carries what holds of every result whatever the lengths — contexts, parser image,
identities — and nothing about arities. -/
mutual
inductive InstE (b : Bindings) : Expr → Nat → List Expr → Nat → Prop
  | noneMarker {n} : InstE b .noneMarker n [.noneMarker] n
  | nameFree {i s c n} : b.lookup s = none → InstE b (.name i s c) n [.name n s c] (n + 1)
  | nameBound {i s c n bd} : b.lookup s = some bd →
      InstE b (.name i s c) n ((copyEs bd.exprs n).1.map (adjTop c)) (copyEs bd.exprs n).2
  | attr {i v a c n v' m0 a'} : InstE b v (n + 1) [v'] m0 → identOf b a .attributeRepl = .ok a' →
      InstE b (.attr i v a c) n [.attr n v' a' c] m0
  | keywordBound {i a h v n bd} : (if h then b.lookup a else none) = some bd → bd.exprs.all isKeyword = true →
      InstE b (.keyword i a h v) n (copyEs bd.exprs n).1 (copyEs bd.exprs n).2
  | keywordFree {i a h v n v' m0} : (if h then b.lookup a else none) = none → InstE b v (n + 1) [v'] m0 →
      InstE b (.keyword i a h v) n [.keyword n a h v'] m0
  | argFree {i nm an n} : b.lookup nm = none →
      InstE b (.arg i nm an) n [.arg n nm (copyEs an (n + 1)).1] (copyEs an (n + 1)).2
  | argBound {i nm an n bd} : b.lookup nm = some bd →
      InstE b (.arg i nm an) n (argRepl bd.exprs n).1 (argRepl bd.exprs n).2
  | subscript {i v v' m0 sl sl' m1 c n} : InstE b v (n + 1) [v'] m0 → InstE b sl m0 [sl'] m1 → InstE b (.subscript i v sl c) n [.subscript n v' sl' c] m1
  | seq {i k es es' m0 c n} : InstEs b es (n + 1) es' m0 → InstE b (.seq i k es c) n [.seq n k es' c] m0
  | starred {i v v' m0 c n} : InstE b v (n + 1) [v'] m0 → InstE b (.starred i v c) n [.starred n v' c] m0
  | const {i k rp n} : InstE b (.const i k rp) n [.const n k rp] (n + 1)
  | call {i f f' m0 as as' m1 ks ks' m2 n} : InstE b f (n + 1) [f'] m0 → InstEs b as m0 as' m1 → InstEs b ks m1 ks' m2 → InstE b (.call i f as ks) n [.call n f' as' ks'] m2
  | boolop {i o vs vs' m0 n} : InstEs b vs (n + 1) vs' m0 → InstE b (.boolop i o vs) n [.boolop n o vs'] m0
  | unary {i o x x' m0 n} : InstE b x (n + 1) [x'] m0 → InstE b (.unary i o x) n [.unary n o x'] m0
  | binop {i o l l' m0 r r' m1 n} : InstE b l (n + 1) [l'] m0 → InstE b r m0 [r'] m1 → InstE b (.binop i o l r) n [.binop n o l' r'] m1
  | compare {i l l' m0 ops cs cs' m1 n} : InstE b l (n + 1) [l'] m0 → InstEs b cs m0 cs' m1 → InstE b (.compare i l ops cs) n [.compare n l' ops cs'] m1
  | ifexp {i t t' m0 body body' m1 oe oe' m2 n} : InstE b t (n + 1) [t'] m0 → InstE b body m0 [body'] m1 → InstE b oe m1 [oe'] m2 → InstE b (.ifexp i t body oe) n [.ifexp n t' body' oe'] m2
  | lambda {i a a' m0 body body' m1 n} : InstE b a (n + 1) [a'] m0 → InstE b body m0 [body'] m1 → InstE b (.lambda i a body) n [.lambda n a' body'] m1
  | namedexpr {i t t' m0 v v' m1 n} : InstE b t (n + 1) [t'] m0 → InstE b v m0 [v'] m1 → InstE b (.namedexpr i t v) n [.namedexpr n t' v'] m1
  | comp {i k es es' m0 gs gs' m1 n} : InstEs b es (n + 1) es' m0 → InstEs b gs m0 gs' m1 → InstE b (.comp i k es gs) n [.comp n k es' gs'] m1
  | comprehension {i t t' m0 it it' m1 ifs ifs' m2 ia n} : InstE b t (n + 1) [t'] m0 → InstE b it m0 [it'] m1 → InstEs b ifs m1 ifs' m2 → InstE b (.comprehension i t it ifs ia) n [.comprehension n t' it' ifs' ia] m2
  | arguments {i po po' m0 ar ar' m1 va va' m2 ko ko' m3 kd kd' m4 kw kw' m5 df df' m6 n} : InstEs b po (n + 1) po' m0 → InstEs b ar m0 ar' m1 → InstEs b va m1 va' m2 → InstEs b ko m2 ko' m3 → InstEs b kd m3 kd' m4 → InstEs b kw m4 kw' m5 → InstEs b df m5 df' m6 → InstE b (.arguments i po ar va ko kd kw df) n [.arguments n po' ar' va' ko' kd' kw' df'] m6
  | withitem {i ce ce' m0 ov ov' m1 n} : InstE b ce (n + 1) [ce'] m0 → InstEs b ov m0 ov' m1 → InstE b (.withitem i ce ov) n [.withitem n ce' ov'] m1
  | other {i k ats kids kids' m0 n} : InstEs b kids (n + 1) kids' m0 → InstE b (.other i k ats kids) n [.other n k ats kids'] m0
inductive InstEs (b : Bindings) : List Expr → Nat → List Expr → Nat → Prop
  | nil {n} : InstEs b [] n [] n
  | cons {e es n l m0 r m1} : InstE b e n l m0 → InstEs b es m0 r m1 → InstEs b (e :: es) n (l ++ r) m1
end

mutual
inductive InstS (b : Bindings) : Stmt → Nat → List Stmt → Nat → Prop
  | exprFree {i j s c n} : b.lookup s = none → InstS b (.expr i (.name j s c)) n [.expr n (.name (n + 1) s c)] (n + 2)
  | exprStmt {i j s c n st} : b.lookup s = some (.stmt st) → InstS b (.expr i (.name j s c)) n [(copyS st n).1] (copyS st n).2
  | exprStmts {i j s c n ss} : b.lookup s = some (.stmts ss) → InstS b (.expr i (.name j s c)) n (copySs ss n).1 (copySs ss n).2
  | exprEmpty {i j s c n} : b.lookup s = some (.nodes []) → InstS b (.expr i (.name j s c)) n [] n
  | expr {i v n v' m0} : isName v = false → InstE b v (n + 1) [v'] m0 → InstS b (.expr i v) n [.expr n v'] m0
  | functionDef {i nm a a' m0 body body' m1 ds ds' m2 rt rt' m3 ia n nm'} : InstE b a (n + 1) [a'] m0 → InstSs b body m0 body' m1 →
      InstEs b ds m1 ds' m2 → InstEs b rt m2 rt' m3 →
      (if ia then .ok nm else identOf b nm .functionNameRepl) = .ok nm' →
      InstS b (.functionDef i nm a body ds rt ia) n [.functionDef n nm' a' body' ds' rt' ia] m3
  | classDef {i nm bs bs' m0 ks ks' m1 body body' m2 ds ds' m3 n} : InstEs b bs (n + 1) bs' m0 → InstEs b ks m0 ks' m1 → InstSs b body m1 body' m2 → InstEs b ds m2 ds' m3 → InstS b (.classDef i nm bs ks body ds) n [.classDef n nm bs' ks' body' ds'] m3
  | ret {i v v' m0 n} : InstEs b v (n + 1) v' m0 → InstS b (.ret i v) n [.ret n v'] m0
  | delete {i ts ts' m0 n} : InstEs b ts (n + 1) ts' m0 → InstS b (.delete i ts) n [.delete n ts'] m0
  | assign {i ts ts' m0 v v' m1 n} : InstEs b ts (n + 1) ts' m0 → InstE b v m0 [v'] m1 → InstS b (.assign i ts v) n [.assign n ts' v'] m1
  | augAssign {i t t' m0 o v v' m1 n} : InstE b t (n + 1) [t'] m0 → InstE b v m0 [v'] m1 → InstS b (.augAssign i t o v) n [.augAssign n t' o v'] m1
  | annAssign {i t t' m0 a a' m1 v v' m2 sm n} : InstE b t (n + 1) [t'] m0 → InstE b a m0 [a'] m1 → InstEs b v m1 v' m2 → InstS b (.annAssign i t a v sm) n [.annAssign n t' a' v' sm] m2
  | for_ {i t t' m0 it it' m1 body body' m2 oe oe' m3 xt xt' m4 ia n} : InstE b t (n + 1) [t'] m0 → InstE b it m0 [it'] m1 → InstSs b body m1 body' m2 → InstSs b oe m2 oe' m3 → InstEs b xt m3 xt' m4 → InstS b (.for_ i t it body oe xt ia) n [.for_ n t' it' body' oe' xt' ia] m4
  | while_ {i t t' m0 body body' m1 oe oe' m2 n} : InstE b t (n + 1) [t'] m0 → InstSs b body m0 body' m1 → InstSs b oe m1 oe' m2 → InstS b (.while_ i t body oe) n [.while_ n t' body' oe'] m2
  | if_ {i t t' m0 body body' m1 oe oe' m2 n} : InstE b t (n + 1) [t'] m0 → InstSs b body m0 body' m1 → InstSs b oe m1 oe' m2 → InstS b (.if_ i t body oe) n [.if_ n t' body' oe'] m2
  | with_ {i its its' m0 body body' m1 ia n} : InstEs b its (n + 1) its' m0 → InstSs b body m0 body' m1 → InstS b (.with_ i its body ia) n [.with_ n its' body' ia] m1
  | raise {i ex ex' m0 ca ca' m1 n} : InstEs b ex (n + 1) ex' m0 → InstEs b ca m0 ca' m1 → InstS b (.raise i ex ca) n [.raise n ex' ca'] m1
  | try_ {i body body' m0 hs hs' m1 oe oe' m2 fb fb' m3 n} : InstSs b body (n + 1) body' m0 → InstSs b hs m0 hs' m1 → InstSs b oe m1 oe' m2 → InstSs b fb m2 fb' m3 → InstS b (.try_ i body hs oe fb) n [.try_ n body' hs' oe' fb'] m3
  | handler {i ty ty' m0 nm body body' m1 n} : InstEs b ty (n + 1) ty' m0 → InstSs b body m0 body' m1 → InstS b (.handler i ty nm body) n [.handler n ty' nm body'] m1
  | assert_ {i t t' m0 msg msg' m1 n} : InstE b t (n + 1) [t'] m0 → InstEs b msg m0 msg' m1 → InstS b (.assert_ i t msg) n [.assert_ n t' msg'] m1
  | import_ {i ns n} : InstS b (.import_ i ns) n [.import_ n ns] (n + 1)
  | importFrom {i md ns lv n} : InstS b (.importFrom i md ns lv) n [.importFrom n md ns lv] (n + 1)
  | global {i ns n} : InstS b (.global i ns) n [.global n ns] (n + 1)
  | nonlocal {i ns n} : InstS b (.nonlocal i ns) n [.nonlocal n ns] (n + 1)
  | pass {i n} : InstS b (.pass i) n [.pass n] (n + 1)
  | break_ {i n} : InstS b (.break_ i) n [.break_ n] (n + 1)
  | continue_ {i n} : InstS b (.continue_ i) n [.continue_ n] (n + 1)
  | other {i k es es' m0 bs bs' m1 n} : InstEs b es (n + 1) es' m0 → InstSs b bs m0 bs' m1 → InstS b (.other i k es bs) n [.other n k es' bs'] m1
inductive InstSs (b : Bindings) : List Stmt → Nat → List Stmt → Nat → Prop
  | nil {n} : InstSs b [] n [] n
  | cons {s ss n l m0 r m1} : InstS b s n l m0 → InstSs b ss m0 r m1 → InstSs b (s :: ss) n (l ++ r) m1
end

/-- the list statement of an invariant from its node statement, which is finished when this is used (hence the trivial node motive) -/
theorem InstEs.thread {b : Bindings} {Q : List Expr → Nat → List Expr → Nat → Prop} (nil : ∀ n, Q [] n [] n)
    (cons : ∀ {e es n l m r n'}, InstE b e n l m → Q es m r n' → Q (e :: es) n (l ++ r) n')
    {es : List Expr} {n : Nat} {r : List Expr} {n' : Nat} (h : InstEs b es n r n') : Q es n r n' := by
  induction h using InstEs.rec (motive_1 := fun _ _ _ _ _ => True) with
  | nil => exact nil _
  | cons h0 _ _ ih1 => exact cons h0 ih1
  | _ => trivial

theorem InstSs.thread {b : Bindings} {Q : List Stmt → Nat → List Stmt → Nat → Prop} (nil : ∀ n, Q [] n [] n)
    (cons : ∀ {s ss n l m r n'}, InstS b s n l m → Q ss m r n' → Q (s :: ss) n (l ++ r) n')
    {ss : List Stmt} {n : Nat} {r : List Stmt} {n' : Nat} (h : InstSs b ss n r n') : Q ss n r n' := by
  induction h using InstSs.rec (motive_1 := fun _ _ _ _ _ => True) with
  | nil => exact nil _
  | cons h0 _ _ ih1 => exact cons h0 ih1
  | _ => trivial

theorem InstE.of_instE (b : Bindings) (e : Expr) : ∀ n, R.Sat (instE b e n) (InstE b e n) := by
  induction e using Expr.rec (motive_2 := fun es => ∀ n, R.Sat (instEs b es n) (InstEs b es n)) with
  | noneMarker => exact fun n => .pure .noneMarker
  | name i s c =>
      intro n
      unfold instE
      split
      · rename_i hl; exact .pure (.nameFree hl)
      · rename_i e hl; exact .pure (.nameBound hl)
      · rename_i es hl; exact .pure (.nameBound hl)
      · rename_i hl; exact .pure (.nameBound hl)
      · exact .error
  | attr i v a c ih0 =>
      refine fun n => .bind (.single (ih0 _)) fun v' m0 h0 => ?_
      split
      · rename_i a' ha; exact .pure (.attr h0 ha)
      · exact .error
  | keyword i a hs v ih0 =>
      intro n
      unfold instE
      split
      · rename_i bd hl
        split
        · rename_i hk; exact .pure (.keywordBound hl (Bool.and_eq_true_iff.1 hk).1)
        · exact .error
      · rename_i hl
        exact .bind (.single (ih0 _)) fun _ _ h0 => .pure (.keywordFree hl h0)
  | arg i nm an _ =>
      intro n
      unfold instE
      split
      · rename_i hl; exact .pure (.argFree hl)
      · rename_i e hl; exact .pure (.argBound hl)
      · rename_i es hl; exact .pure (.argBound hl)
      · rename_i hl; exact .pure (.argBound hl)
      · exact .error
  | subscript i v sl c ih0 ih1 =>
      exact fun n => .bind (.single (ih0 _)) fun _ _ h0 => .bind (.single (ih1 _)) fun _ _ h1 => .pure (.subscript h0 h1)
  | seq i k es c ih0 => exact fun n => .bind (ih0 _) fun _ _ h0 => .pure (.seq h0)
  | starred i v c ih0 => exact fun n => .bind (.single (ih0 _)) fun _ _ h0 => .pure (.starred h0)
  | const i k rp => exact fun n => .pure .const
  | call i f as ks ih0 ih1 ih2 =>
      exact fun n => .bind (.single (ih0 _)) fun _ _ h0 => .bind (ih1 _) fun _ _ h1 => .bind (ih2 _) fun _ _ h2 =>
        .pure (.call h0 h1 h2)
  | boolop i o vs ih0 => exact fun n => .bind (ih0 _) fun _ _ h0 => .pure (.boolop h0)
  | unary i o x ih0 => exact fun n => .bind (.single (ih0 _)) fun _ _ h0 => .pure (.unary h0)
  | binop i o l r ih0 ih1 =>
      exact fun n => .bind (.single (ih0 _)) fun _ _ h0 => .bind (.single (ih1 _)) fun _ _ h1 => .pure (.binop h0 h1)
  | compare i l ops cs ih0 ih1 =>
      exact fun n => .bind (.single (ih0 _)) fun _ _ h0 => .bind (.sameLen (ih1 _)) fun _ _ h1 => .pure (.compare h0 h1)
  | ifexp i t body oe ih0 ih1 ih2 =>
      exact fun n => .bind (.single (ih0 _)) fun _ _ h0 => .bind (.single (ih1 _)) fun _ _ h1 =>
        .bind (.single (ih2 _)) fun _ _ h2 => .pure (.ifexp h0 h1 h2)
  | lambda i a body ih0 ih1 =>
      exact fun n => .bind (.single (ih0 _)) fun _ _ h0 => .bind (.single (ih1 _)) fun _ _ h1 => .pure (.lambda h0 h1)
  | namedexpr i t v ih0 ih1 =>
      exact fun n => .bind (.single (ih0 _)) fun _ _ h0 => .bind (.single (ih1 _)) fun _ _ h1 => .pure (.namedexpr h0 h1)
  | comp i k es gs ih0 ih1 =>
      exact fun n => .bind (.sameLen (ih0 _)) fun _ _ h0 => .bind (ih1 _) fun _ _ h1 => .pure (.comp h0 h1)
  | comprehension i t it ifs ia ih0 ih1 ih2 =>
      exact fun n => .bind (.single (ih0 _)) fun _ _ h0 => .bind (.single (ih1 _)) fun _ _ h1 => .bind (ih2 _) fun _ _ h2 =>
        .pure (.comprehension h0 h1 h2)
  | arguments i po ar va ko kd kw df ih0 ih1 ih2 ih3 ih4 ih5 ih6 =>
      exact fun n => .bind (ih0 _) fun _ _ h0 => .bind (ih1 _) fun _ _ h1 => .bind (.sameLen (ih2 _)) fun _ _ h2 =>
        .bind (ih3 _) fun _ _ h3 => .bind (.sameLen (ih4 _)) fun _ _ h4 => .bind (.sameLen (ih5 _)) fun _ _ h5 =>
        .bind (.atMost (ih6 _)) fun _ _ h6 => .pure (.arguments h0 h1 h2 h3 h4 h5 h6)
  | withitem i ce ov ih0 ih1 =>
      exact fun n => .bind (.single (ih0 _)) fun _ _ h0 => .bind (.sameLen (ih1 _)) fun _ _ h1 => .pure (.withitem h0 h1)
  | other i k ats kids ih0 => exact fun n => .bind (.sameLen (ih0 _)) fun _ _ h0 => .pure (.other h0)
  | nil n => exact R.Sat.pure .nil
  | cons e es ih0 ih1 n => exact R.Sat.bind (ih0 _) fun _ _ h0 => R.Sat.bind (ih1 _) fun _ _ h1 => R.Sat.pure (.cons h0 h1)

theorem InstEs.of_instEs (b : Bindings) : ∀ (es : List Expr) (n : Nat), R.Sat (instEs b es n) (InstEs b es n)
  | [], _ => .pure .nil
  | e :: es, _ => .bind (InstE.of_instE b e _) fun _ _ h0 => .bind (InstEs.of_instEs b es _) fun _ _ h1 => .pure (.cons h0 h1)

theorem InstS.of_instS (b : Bindings) (s : Stmt) : ∀ n, R.Sat (instS b s n) (InstS b s n) := by
  have E := InstE.of_instE b
  have Es := InstEs.of_instEs b
  induction s using Stmt.rec (motive_2 := fun ss => ∀ n, R.Sat (instSs b ss n) (InstSs b ss n)) with
  | expr i v =>
      intro n
      unfold instS
      split
      · split
        · rename_i hl; exact .pure (.exprFree hl)
        · rename_i st hl; exact .pure (.exprStmt hl)
        · rename_i ss hl; exact .pure (.exprStmts hl)
        · rename_i hl; exact .pure (.exprEmpty hl)
        · exact .error
      · rename_i hv
        exact .bind (.single (E _ _)) fun _ _ h0 => .pure (.expr (isName_eq_false hv) h0)
  | functionDef i nm a body ds rt ia ih1 =>
      refine fun n => .bind (.single (E _ _)) fun _ _ h0 => .bind (ih1 _) fun _ _ h1 => .bind (Es _ _) fun _ _ h2 =>
        .bind (.sameLen (Es _ _)) fun _ _ h3 => ?_
      split
      · rename_i nm' hn; exact .pure (.functionDef h0 h1 h2 h3 hn)
      · exact .error
  | classDef i nm bs ks body ds ih2 =>
      exact fun n => .bind (Es _ _) fun _ _ h0 => .bind (Es _ _) fun _ _ h1 => .bind (ih2 _) fun _ _ h2 =>
        .bind (Es _ _) fun _ _ h3 => .pure (.classDef h0 h1 h2 h3)
  | ret i v => exact fun n => .bind (.sameLen (Es _ _)) fun _ _ h0 => .pure (.ret h0)
  | delete i ts => exact fun n => .bind (Es _ _) fun _ _ h0 => .pure (.delete h0)
  | assign i ts v => exact fun n => .bind (Es _ _) fun _ _ h0 => .bind (.single (E _ _)) fun _ _ h1 => .pure (.assign h0 h1)
  | augAssign i t o v =>
      exact fun n => .bind (.single (E _ _)) fun _ _ h0 => .bind (.single (E _ _)) fun _ _ h1 => .pure (.augAssign h0 h1)
  | annAssign i t a v sm =>
      exact fun n => .bind (.single (E _ _)) fun _ _ h0 => .bind (.single (E _ _)) fun _ _ h1 =>
        .bind (.sameLen (Es _ _)) fun _ _ h2 => .pure (.annAssign h0 h1 h2)
  | for_ i t it body oe xt ia ih2 ih3 =>
      exact fun n => .bind (.single (E _ _)) fun _ _ h0 => .bind (.single (E _ _)) fun _ _ h1 => .bind (ih2 _) fun _ _ h2 =>
        .bind (ih3 _) fun _ _ h3 => .bind (.sameLen (Es _ _)) fun _ _ h4 => .pure (.for_ h0 h1 h2 h3 h4)
  | while_ i t body oe ih1 ih2 =>
      exact fun n => .bind (.single (E _ _)) fun _ _ h0 => .bind (ih1 _) fun _ _ h1 => .bind (ih2 _) fun _ _ h2 =>
        .pure (.while_ h0 h1 h2)
  | if_ i t body oe ih1 ih2 =>
      exact fun n => .bind (.single (E _ _)) fun _ _ h0 => .bind (ih1 _) fun _ _ h1 => .bind (ih2 _) fun _ _ h2 =>
        .pure (.if_ h0 h1 h2)
  | with_ i its body ia ih1 => exact fun n => .bind (Es _ _) fun _ _ h0 => .bind (ih1 _) fun _ _ h1 => .pure (.with_ h0 h1)
  | raise i ex ca =>
      exact fun n => .bind (.sameLen (Es _ _)) fun _ _ h0 => .bind (.sameLen (Es _ _)) fun _ _ h1 => .pure (.raise h0 h1)
  | try_ i body hs oe fb ih0 ih1 ih2 ih3 =>
      exact fun n => .bind (ih0 _) fun _ _ h0 => .bind (ih1 _) fun _ _ h1 => .bind (ih2 _) fun _ _ h2 =>
        .bind (ih3 _) fun _ _ h3 => .pure (.try_ h0 h1 h2 h3)
  | handler i ty nm body ih1 =>
      exact fun n => .bind (.sameLen (Es _ _)) fun _ _ h0 => .bind (ih1 _) fun _ _ h1 => .pure (.handler h0 h1)
  | assert_ i t msg =>
      exact fun n => .bind (.single (E _ _)) fun _ _ h0 => .bind (.sameLen (Es _ _)) fun _ _ h1 => .pure (.assert_ h0 h1)
  | import_ i ns => exact fun n => .pure .import_
  | importFrom i md ns lv => exact fun n => .pure .importFrom
  | global i ns => exact fun n => .pure .global
  | nonlocal i ns => exact fun n => .pure .nonlocal
  | pass i => exact fun n => .pure .pass
  | break_ i => exact fun n => .pure .break_
  | continue_ i => exact fun n => .pure .continue_
  | other i k es bs ih1 => exact fun n => .bind (Es _ _) fun _ _ h0 => .bind (ih1 _) fun _ _ h1 => .pure (.other h0 h1)
  | nil n => exact R.Sat.pure .nil
  | cons s ss ih0 ih1 n => exact R.Sat.bind (ih0 _) fun _ _ h0 => R.Sat.bind (ih1 _) fun _ _ h1 => R.Sat.pure (.cons h0 h1)

theorem InstSs.of_instSs (b : Bindings) : ∀ (ss : List Stmt) (n : Nat), R.Sat (instSs b ss n) (InstSs b ss n)
  | [], _ => .pure .nil
  | s :: ss, _ => .bind (InstS.of_instS b s _) fun _ _ h0 => .bind (InstSs.of_instSs b ss _) fun _ _ h1 => .pure (.cons h0 h1)

theorem InstSs.of_instantiate {t : List Stmt} {b : Bindings} {r : List Stmt} (h : instantiate t b = .ok r) :
    ∃ n', InstSs b t (startLabel b) r n' := by
  unfold instantiate at h
  split at h
  · rename_i r' n' hi
    cases h
    exact ⟨n', .of_instSs b _ _ _ _ hi⟩
  · cases h

/-- `t` is one bare placeholder bound to exactly one node, and `e` is that node copied and adjusted -/
def BarePlaceholder (b : Bindings) (t : List Stmt) (e : Expr) : Prop :=
  ∃ i j s c bd x, t = [.expr i (.name j s c)] ∧ b.lookup s = some bd ∧ bd.exprs = [x] ∧
    e = adjTop c (copyE x (startLabel b)).1

theorem BarePlaceholder.of_instantiateBare {t : List Stmt} {b : Bindings} {e : Expr} (h : instantiateBare t b = .ok e) :
    BarePlaceholder b t e := by
  unfold instantiateBare at h
  split at h
  · split at h
    · rename_i hl; cases h; exact ⟨_, _, _, _, _, _, rfl, hl, rfl, rfl⟩
    · rename_i hl; cases h; exact ⟨_, _, _, _, _, _, rfl, hl, rfl, rfl⟩
    · cases h
  · cases h

theorem InstSs.of_instantiateExpr {t : List Stmt} {b : Bindings} {e : Expr} (h : instantiateExpr t b = .ok e) :
    (∃ i n', InstSs b t (startLabel b) [.expr i e] n') ∨ BarePlaceholder b t e := by
  unfold instantiateExpr at h
  split at h
  · split at h
    · rename_i hl
      dsimp only at h
      split at h
      · cases h; exact .inr ⟨_, _, _, _, _, _, rfl, hl, rfl, rfl⟩
      · cases h
    · rename_i hl
      dsimp only at h
      split at h
      · cases h; exact .inr ⟨_, _, _, _, _, _, rfl, hl, rfl, rfl⟩
      · cases h
    · rename_i hl
      cases h
      exact .inl ⟨_, _, .cons (.exprFree hl) .nil⟩
    · cases h
  · split at h
    · rename_i i v n' hi
      cases h
      exact .inl ⟨i, n', .of_instSs b _ _ _ _ hi⟩
    · cases h
    · cases h

end Malt.Conv.Template
