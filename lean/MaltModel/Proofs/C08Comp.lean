import MaltModel.Proofs.C08Eff
/-
`FragE ⊆ FragD ⊆ FragC`, also for statements; on `FragE`, `effC` is `effE`.
-/
namespace Malt.Analysis
open Malt.Py

theorem FragE.toC_all :
    (∀ e, FragE e = true → (FragC e = true ∧ storesOkE false [] e = true) ∧
      ∀ fns aug anno, effC fns aug anno [] e = (effE fns aug anno e, [])) ∧
    (∀ es, FragEs es = true → (FragCs es = true ∧ storesOkEs false [] es = true) ∧
      ∀ fns aug anno, effCs fns aug anno [] es = (effEs fns aug anno es, [])) := by
  apply Expr.plain_ind
  case nil => intro _; exact ⟨⟨rfl, rfl⟩, fun _ _ _ => rfl⟩
  case cons =>
    intro e es ihe ihs h
    simp only [FragEs, Bool.and_eq_true] at h
    obtain ⟨⟨c1, s1⟩, e1⟩ := ihe h.1
    obtain ⟨⟨c2, s2⟩, e2⟩ := ihs h.2
    exact ⟨⟨by simp only [FragCs, c1, c2, Bool.and_self], by simp only [storesOkEs, s1, s2, Bool.and_self]⟩,
      fun fns aug anno => by simp only [effCs, effEs, e1, e2]⟩
  case plain =>
    intro e ks hk ih h
    rw [FragE_plain hk] at h
    rw [FragC_plain hk, storesOkE_plain hk]
    exact ⟨(ih h).1, fun fns aug anno => by rw [effC_plain hk, effE_plain hk]; exact (ih h).2 fns aug anno⟩
  case name => intro _ _ c _; exact ⟨⟨rfl, by cases c <;> rfl⟩, fun _ _ _ => by simp only [effC, effE, trackC_nil]⟩
  case attr =>
    intro _ _ _ _ ih h
    simp only [FragE] at h
    obtain ⟨⟨c1, s1⟩, e1⟩ := ih h
    exact ⟨⟨by simp only [FragC, c1], by simp only [storesOkE, s1]⟩, fun _ _ _ => by simp only [effC, effE, e1, trackC_nil]⟩
  case subscript =>
    intro _ _ _ _ ihv ihs h
    simp only [FragE, Bool.and_eq_true] at h
    obtain ⟨⟨c1, s1⟩, e1⟩ := ihv h.1
    obtain ⟨⟨c2, s2⟩, e2⟩ := ihs h.2
    exact ⟨⟨by simp only [FragC, c1, c2, Bool.and_self], by simp only [storesOkE, s1, s2, Bool.and_self]⟩,
      fun _ _ _ => by simp only [effC, effE, e1, e2, trackC_nil]⟩
  case call =>
    intro _ _ _ _ ihf ihas ihks h
    simp only [FragE, Bool.and_eq_true] at h
    obtain ⟨⟨c1, s1⟩, e1⟩ := ihf h.1.1
    obtain ⟨⟨c2, s2⟩, e2⟩ := ihas h.1.2
    obtain ⟨⟨c3, s3⟩, e3⟩ := ihks h.2
    exact ⟨⟨by simp only [FragC, c1, c2, c3, Bool.and_self], by simp only [storesOkE, s1, s2, s3, Bool.and_self]⟩,
      fun _ _ _ => by simp only [effC, effE, e1, e2, e3]⟩
  case lambda =>
    intro _ args _ ih ihb h
    obtain ⟨_, po, ar, va, ko, kd, kw, df, rfl, hpp, hkd, hdf, hbody⟩ := FragE.lambda h
    obtain ⟨ihkd, ihdf⟩ := ih _ _ _ _ _ _ _ _ rfl
    obtain ⟨⟨c1, s1⟩, e1⟩ := ihkd hkd
    obtain ⟨⟨c2, s2⟩, e2⟩ := ihdf hdf
    obtain ⟨⟨c3, s3⟩, e3⟩ := ihb hbody
    exact ⟨⟨by simp only [FragC, hpp.po, hpp.ar, hpp.va, hpp.ko, hpp.kw, c1, c2, c3, Bool.and_self],
      by simp only [storesOkE, s1, s2, s3, Bool.and_self]⟩, fun _ _ _ => by simp only [effC, effE, paramNames, e1, e2, e3]⟩
  case comp => intro _ _ _ _ _ _ _ h; cases h
  case comprehension => intro _ _ _ _ _ _ _ _ h; cases h
  case arguments => intro _ _ _ _ _ _ _ _ h; cases h
  case arg => intro _ _ _ _ h; cases h
  case withitem =>
    intro _ _ _ ihc ihv h
    simp only [FragE, Bool.and_eq_true] at h
    obtain ⟨⟨c1, s1⟩, e1⟩ := ihc h.1
    obtain ⟨⟨c2, s2⟩, e2⟩ := ihv h.2
    exact ⟨⟨by simp only [FragC, c1, c2, Bool.and_self], by simp only [storesOkE, s1, s2, Bool.and_self]⟩,
      fun _ _ _ => by simp only [effC, effE, e1, e2]⟩

theorem effC_eq_effE (e : Expr) (h : FragE e = true) (fns : List FnCtx) (aug anno : Bool) :
    effC fns aug anno [] e = (effE fns aug anno e, []) := (FragE.toC_all.1 e h).2 fns aug anno

theorem effCs_eq_effEs (es : List Expr) (h : FragEs es = true) (fns : List FnCtx) (aug anno : Bool) :
    effCs fns aug anno [] es = (effEs fns aug anno es, []) := (FragE.toC_all.2 es h).2 fns aug anno

theorem FragDs_iff (es : List Expr) : FragDs es = true ↔ FragCs es = true ∧ storesOkEs false [] es = true := by
  induction es with
  | nil => simp [FragDs, FragCs, storesOkEs]
  | cons e r ih => simp only [FragDs, FragD, FragCs, storesOkEs, Bool.and_eq_true, ih]; grind

theorem FragD.toC (e : Expr) (h : FragD e = true) : FragC e = true := and_left h

theorem FragDs.toC (es : List Expr) (h : FragDs es = true) : FragCs es = true := ((FragDs_iff es).mp h).1

theorem FragE.toD (e : Expr) (h : FragE e = true) : FragD e = true :=
  Bool.and_eq_true_iff.mpr (FragE.toC_all.1 e h).1

theorem FragEs.toD (es : List Expr) (h : FragEs es = true) : FragDs es = true := (FragDs_iff es).mpr (FragE.toC_all.2 es h).1

theorem FragSD.toC (s : Stmt) : FragSD s = true → FragSC s = true :=
  Stmt.rec (motive_1 := fun s => FragSD s = true → FragSC s = true) (motive_2 := fun ss => FragSDs ss = true → FragSCs ss = true)
    (functionDef := fun _ _ args _ decos returns _ ihb h => by
      have hm := and_right (and_left (and_left (and_left h)))
      cases args with
      | arguments =>
        exact and_imp_and (and_imp_and (and_imp_and (and_imp_and id (and_imp_and (and_imp_and id (FragDs.toC _)) (FragDs.toC _)))
          (FragDs.toC decos)) (FragDs.toC returns)) ihb h
      | _ => cases hm)
    (classDef := fun _ _ bases kws _ decos ihb h =>
      and_imp_and (and_imp_and (and_imp_and (FragDs.toC bases) (FragDs.toC kws)) (FragDs.toC decos)) ihb h)
    (ret := fun _ v h => FragDs.toC v h)
    (delete := fun _ v h => FragDs.toC v h)
    (assign := fun _ ts v h => and_imp_and (FragDs.toC ts) (FragD.toC v) h)
    (augAssign := fun _ t _ v h => and_imp_and (FragD.toC t) (FragD.toC v) h)
    (annAssign := fun _ t an v _ h => and_imp_and (and_imp_and (FragD.toC t) (FragD.toC an)) (FragDs.toC v) h)
    (for_ := fun _ t it _ _ _ _ ihb iho h =>
      and_imp_and (and_imp_and (and_imp_and (and_imp_and (and_imp_and id id) (FragD.toC t)) (FragD.toC it)) ihb) iho h)
    (while_ := fun _ t _ _ ihb iho h => and_imp_and (and_imp_and (FragD.toC t) ihb) iho h)
    (if_ := fun _ t _ _ ihb iho h => and_imp_and (and_imp_and (FragD.toC t) ihb) iho h)
    (with_ := fun _ items _ _ ihb h => and_imp_and (and_imp_and (and_imp_and id (FragDs.toC items)) id) ihb h)
    (raise := fun _ e c h => and_imp_and (FragDs.toC e) (FragDs.toC c) h)
    (try_ := fun _ _ _ _ _ ihb ihh iho ihf h => and_imp_and (and_imp_and (and_imp_and ihb ihh) iho) ihf h)
    (handler := fun _ ty _ _ ihb h => and_imp_and (FragDs.toC ty) ihb h)
    (assert_ := fun _ t m h => and_imp_and (FragD.toC t) (FragDs.toC m) h)
    (import_ := fun _ _ _ => rfl) (importFrom := fun _ _ _ _ _ => rfl) (global := fun _ _ _ => rfl)
    (nonlocal := fun _ _ _ => rfl) (expr := fun _ v h => FragD.toC v h) (pass := fun _ _ => rfl) (break_ := fun _ _ => rfl)
    (continue_ := fun _ _ => rfl) (other := fun _ _ es _ ihb h => and_imp_and (FragDs.toC es) ihb h)
    (nil := fun _ => rfl) (cons := fun _ _ ihs ihr h => and_imp_and ihs ihr h) s

theorem FragSDs.toC : (ss : List Stmt) → FragSDs ss = true → FragSCs ss = true
  | [], _ => rfl
  | s :: r, h => and_imp_and (FragSD.toC s) (FragSDs.toC r) h

theorem FragS.toD (s : Stmt) : FragS s = true → FragSD s = true :=
  Stmt.rec (motive_1 := fun s => FragS s = true → FragSD s = true) (motive_2 := fun ss => FragSs ss = true → FragSDs ss = true)
    (functionDef := fun _ _ args _ decos returns _ ihb h => by
      have hm := and_right (and_left (and_left (and_left h)))
      cases args with
      | arguments =>
        exact and_imp_and (and_imp_and (and_imp_and (and_imp_and id (and_imp_and (and_imp_and id (FragEs.toD _)) (FragEs.toD _)))
          (FragEs.toD decos)) (FragEs.toD returns)) ihb h
      | _ => cases hm)
    (classDef := fun _ _ bases kws _ decos ihb h =>
      and_imp_and (and_imp_and (and_imp_and (FragEs.toD bases) (FragEs.toD kws)) (FragEs.toD decos)) ihb h)
    (ret := fun _ v h => FragEs.toD v h)
    (delete := fun _ v h => FragEs.toD v h)
    (assign := fun _ ts v h => and_imp_and (FragEs.toD ts) (FragE.toD v) h)
    (augAssign := fun _ t _ v h => and_imp_and (FragE.toD t) (FragE.toD v) h)
    (annAssign := fun _ t an v _ h => and_imp_and (and_imp_and (FragE.toD t) (FragE.toD an)) (FragEs.toD v) h)
    (for_ := fun _ t it _ _ _ _ ihb iho h =>
      and_imp_and (and_imp_and (and_imp_and (and_imp_and (and_imp_and id id) (FragE.toD t)) (FragE.toD it)) ihb) iho h)
    (while_ := fun _ t _ _ ihb iho h => and_imp_and (and_imp_and (FragE.toD t) ihb) iho h)
    (if_ := fun _ t _ _ ihb iho h => and_imp_and (and_imp_and (FragE.toD t) ihb) iho h)
    (with_ := fun _ items _ _ ihb h => and_imp_and (and_imp_and (and_imp_and id (FragEs.toD items)) id) ihb h)
    (raise := fun _ e c h => and_imp_and (FragEs.toD e) (FragEs.toD c) h)
    (try_ := fun _ _ _ _ _ ihb ihh iho ihf h => and_imp_and (and_imp_and (and_imp_and ihb ihh) iho) ihf h)
    (handler := fun _ ty _ _ ihb h => and_imp_and (FragEs.toD ty) ihb h)
    (assert_ := fun _ t m h => and_imp_and (FragE.toD t) (FragEs.toD m) h)
    (import_ := fun _ _ _ => rfl) (importFrom := fun _ _ _ _ _ => rfl) (global := fun _ _ _ => rfl)
    (nonlocal := fun _ _ _ => rfl) (expr := fun _ v h => FragE.toD v h) (pass := fun _ _ => rfl) (break_ := fun _ _ => rfl)
    (continue_ := fun _ _ => rfl) (other := fun _ _ es _ ihb h => and_imp_and (FragEs.toD es) ihb h)
    (nil := fun _ => rfl) (cons := fun _ _ ihs ihr h => and_imp_and ihs ihr h) s

theorem FragSs.toD : (ss : List Stmt) → FragSs ss = true → FragSDs ss = true
  | [], _ => rfl
  | s :: r, h => and_imp_and (FragS.toD s) (FragSs.toD r) h

theorem effSC_eq_effS_all : (∀ s, FragS s = true → ∀ fns, effSC fns s = effS fns s) ∧
    (∀ ss, FragSs ss = true → ∀ fns, effSCs fns ss = effSs fns ss) := by
  apply FragS.mutual_induct
  case case1 =>
    intro _ _ args _ _ _ _ ih h fns
    cases args with
    | arguments =>
      simp only [FragS, Bool.and_eq_true] at h
      simp only [effSC, effS, effCs_eq_effEs, ih, h]
    | _ => rfl
  all_goals (intros; simp only [FragS, FragSs, Bool.and_eq_true] at *
             simp only [effSC, effSCs, effS, effSs, effC_eq_effE, effCs_eq_effEs, *])

end Malt.Analysis
