import MaltModel.Rt.Builtins
/-! The `_find_originating_frame` loop (`findLoop`), `holders`, the frame discipline `GenStack` and the soundness of the
driver's check of recorded stacks against it. -/
namespace Malt.Builtins

theorem findLoop_skip (name : String) (id : Nat) (inn : Bool) :
    ∀ (l : List Frame) (i : Nat) (res : Option Nat), (∀ f ∈ l, f.holds name id = false) →
      findLoop name id inn l i res = res := by
  intro l
  induction l with
  | nil => intro i res _; rfl
  | cons f r ih =>
    intro i res h
    have hf := h f (List.mem_cons_self ..)
    simp only [findLoop, hf, Bool.false_eq_true, if_false]
    exact ih _ _ (fun g hg => h g (List.mem_cons_of_mem _ hg))

/-- `innermost=True`: the loop breaks at the first holder. -/
theorem findLoop_innermost (name : String) (id : Nat) (fr : Frame) (rest : List Frame)
    (hfr : fr.holds name id = true) :
    ∀ (lib : List Frame) (i : Nat) (res : Option Nat), (∀ f ∈ lib, f.holds name id = false) →
      findLoop name id true (lib ++ fr :: rest) i res = some (i + lib.length) := by
  intro lib
  induction lib with
  | nil => intro i res _; simp [findLoop, hfr]
  | cons f r ih =>
    intro i res h
    have hf := h f (List.mem_cons_self ..)
    simp only [List.cons_append, findLoop, hf, Bool.false_eq_true, if_false, List.length_cons]
    rw [ih (i + 1) res (fun g hg => h g (List.mem_cons_of_mem _ hg))]
    congr 1; omega

/-- `innermost=False`: every holder overwrites `result`, so the last one wins. -/
theorem findLoop_outermost (name : String) (id : Nat) (fr : Frame) (outer : List Frame)
    (hfr : fr.holds name id = true) (hout : ∀ f ∈ outer, f.holds name id = false) :
    ∀ (pre : List Frame) (i : Nat) (res : Option Nat),
      findLoop name id false (pre ++ fr :: outer) i res = some (i + pre.length) := by
  intro pre
  induction pre with
  | nil =>
    intro i res
    simp only [List.nil_append, findLoop, hfr, if_true, Bool.false_eq_true, if_false, List.length_nil, Nat.add_zero]
    exact findLoop_skip name id false outer (i + 1) (some i) hout
  | cons f r ih =>
    intro i res
    simp only [List.cons_append, findLoop, Bool.false_eq_true, if_false, List.length_cons]
    split
    · rw [ih (i + 1) (some i)]; congr 1; omega
    · rw [ih (i + 1) res]; congr 1; omega

theorem findLoop_some (name : String) (id : Nat) (inn : Bool) :
    ∀ (l : List Frame) (i : Nat) (res : Option Nat) (j : Nat),
      findLoop name id inn l i res = some j →
        res = some j ∨ ∃ k f, j = i + k ∧ l[k]? = some f ∧ f.holds name id = true := by
  intro l
  induction l with
  | nil => intro i res j h; exact .inl h
  | cons f r ih =>
    intro i res j h
    unfold findLoop at h
    split at h
    · rename_i hf
      split at h
      · cases h; exact .inr ⟨0, f, rfl, rfl, hf⟩
      · rcases ih _ _ _ h with h' | ⟨k, g, rfl, hg, hh⟩
        · cases h'; exact .inr ⟨0, f, rfl, rfl, hf⟩
        · exact .inr ⟨k + 1, g, by omega, hg, hh⟩
    · rcases ih _ _ _ h with h' | ⟨k, g, rfl, hg, hh⟩
      · exact .inl h'
      · exact .inr ⟨k + 1, g, by omega, hg, hh⟩

/-- Reading `__class__` and the first variable name off a frame is what PEP 3135 prescribes for it. -/
theorem superArgs_eq_superSpec (fr : Frame) : superArgs fr = superSpec fr := by
  simp only [superArgs, superSpec, Malt.Gen.Builtins.superTypeKey, Malt.Gen.Builtins.superSelfIndex]
  cases fr.varnames <;> cases List.lookup "__class__" fr.locals <;> simp

theorem outermost_at (name : String) (id : Nat) (pre : List Frame) (user : Frame) (outer : List Frame)
    (hu : user.holds name id = true) (hout : ∀ f ∈ outer, f.holds name id = false) :
    findOriginatingFrame name id false (pre ++ user :: outer) = some pre.length ∧
      (pre ++ user :: outer)[pre.length]? = some user ∧
      ((pre ++ user :: outer)[pre.length]?).bind superArgs = superSpec user := by
  have hget : (pre ++ user :: outer)[pre.length]? = some user := by simp
  refine ⟨?_, hget, by rw [hget, Option.bind_some, superArgs_eq_superSpec]⟩
  simpa [findOriginatingFrame] using findLoop_outermost name id user outer hu hout pre 0 none

theorem innermost_at (name : String) (id : Nat) (lib : List Frame) (c : Frame) (rest : List Frame)
    (hlib : ∀ f ∈ lib, f.holds name id = false) (hc : c.holds name id = true) :
    findOriginatingFrame name id true (lib ++ c :: rest) = some lib.length ∧
      (lib ++ c :: rest)[lib.length]? = some c := by
  refine ⟨?_, by simp⟩
  simpa [findOriginatingFrame] using findLoop_innermost name id c rest hc lib 0 none hlib

theorem bodyHidesName_eq {name : String} {id : Nat} {needed : List String} {stack : List Frame} {i j : Nat}
    {a b : Frame} (hi : findOriginatingFrame name id true stack = some i)
    (hj : findOriginatingFrame name id false stack = some j) (ha : stack[i]? = some a)
    (hb : stack[j]? = some b) : bodyHidesName name id needed stack = !lookupAgree a b needed := by
  simp only [bodyHidesName, hi, hj, ha, hb]

theorem lookupAgree_iff {a b : Frame} {needed : List String} :
    lookupAgree a b needed = true ↔ ∀ n ∈ needed, a.locals.lookup n = b.locals.lookup n := by
  simp only [lookupAgree, List.all_eq_true, beq_iff_eq]

theorem holders_cons_of_holds {name : String} {id : Nat} {f : Frame} (l : List Frame)
    (h : f.holds name id = true) : holders name id (f :: l) = f :: holders name id l := by
  unfold holders
  rw [List.filter_cons, if_pos h]

theorem holders_append (name : String) (id : Nat) (a b : List Frame) :
    holders name id (a ++ b) = holders name id a ++ holders name id b := by
  simp [holders]

theorem holders_nil_iff {name : String} {id : Nat} {l : List Frame} :
    holders name id l = [] ↔ ∀ f ∈ l, f.holds name id = false := by
  simp [holders]

theorem holders_skip {name : String} {id : Nat} {ops : List Frame} (l : List Frame)
    (h : ∀ f ∈ ops, f.holds name id = false) : holders name id (ops ++ l) = holders name id l := by
  rw [holders_append, holders_nil_iff.mpr h, List.nil_append]

theorem split_first_holder (name : String) (id : Nat) :
    ∀ (l : List Frame), holders name id l ≠ [] →
      ∃ lib h t, l = lib ++ h :: t ∧ (∀ f ∈ lib, f.holds name id = false) ∧ h.holds name id = true := by
  intro l
  induction l with
  | nil => intro hl; exact absurd rfl hl
  | cons a r ihr =>
    intro hl
    cases ha : a.holds name id with
    | true => exact ⟨[], a, r, rfl, nofun, ha⟩
    | false =>
      rw [← List.singleton_append, holders_skip _ (List.forall_mem_singleton.mpr ha)] at hl
      obtain ⟨ops, h', t', rfl, hops, hh'⟩ := ihr hl
      exact ⟨a :: ops, h', t', rfl, List.forall_mem_cons.mpr ⟨ha, hops⟩, hh'⟩

theorem genGlobalsOk_cons {name : String} {id g : Nat} {h : Frame} {t : List Frame}
    (hh : h.holds name id = true) :
    genGlobalsOk name id g (h :: t) = true ↔ h.globals = g ∧ genGlobalsOk name id g t = true := by
  simp [genGlobalsOk, holders_cons_of_holds _ hh]

theorem GenStack.split {name : String} {id g d : Nat} {gen : List Frame} {u : Frame}
    (h : GenStack name id g d gen u) :
    ∃ pre, gen = pre ++ [u] ∧ u.holds name id = true ∧ u.globals = g ∧ d ≤ pre.length ∧
      (d = 0 → pre = []) := by
  induction h with
  | user u hu hg => exact ⟨[], rfl, hu, hg, Nat.le_refl _, fun _ => rfl⟩
  | body d b ops rest u hb hg hops _ ih =>
    obtain ⟨pre, hpre, hu, hgu, hd, _⟩ := ih
    refine ⟨b :: (ops ++ pre), by simp [hpre], hu, hgu, ?_, fun h => by omega⟩
    simp only [List.length_cons, List.length_append]
    omega

theorem GenStack.head {name : String} {id g d : Nat} {gen : List Frame} {u : Frame}
    (h : GenStack name id g d gen u) :
    ∃ c t, gen = c :: t ∧ c.holds name id = true ∧ c.globals = g ∧ (d = 0 → c = u ∧ t = []) := by
  cases h with
  | user u hu hg => exact ⟨u, [], rfl, hu, hg, fun _ => ⟨rfl, rfl⟩⟩
  | body d b ops rest u hb hg hops hrest => exact ⟨b, ops ++ rest, rfl, hb, hg, fun h => by omega⟩

theorem GenStack.outermost_at {name : String} {id g d : Nat} {gen : List Frame} {u : Frame}
    (h : GenStack name id g d gen u) (lib outer : List Frame)
    (hout : ∀ f ∈ outer, f.holds name id = false) :
    findOriginatingFrame name id false (lib ++ gen ++ outer) = some (lib.length + gen.length - 1) ∧
      (lib ++ gen ++ outer)[lib.length + gen.length - 1]? = some u ∧
      ((lib ++ gen ++ outer)[lib.length + gen.length - 1]?).bind superArgs = superSpec u := by
  obtain ⟨pre, hpre, hu, _, _, _⟩ := h.split
  have hst : lib ++ gen ++ outer = (lib ++ pre) ++ u :: outer := by rw [hpre]; simp
  have hlen : lib.length + gen.length - 1 = (lib ++ pre).length := by
    rw [hpre]; simp only [List.length_append, List.length_cons, List.length_nil]; omega
  rw [hst, hlen]
  exact _root_.Malt.Builtins.outermost_at name id (lib ++ pre) u outer hu hout

theorem GenStack.globals {name : String} {id g d : Nat} {gen : List Frame} {u : Frame}
    (h : GenStack name id g d gen u) : ∀ f ∈ gen, f.holds name id = true → f.globals = g := by
  induction h with
  | user u hu hg => intro f hf _; simp at hf; rw [hf]; exact hg
  | body d b ops rest u hb hg hops _ ih =>
    intro f hf hh
    simp only [List.mem_cons, List.mem_append] at hf
    rcases hf with rfl | hf | hf
    · exact hg
    · rw [hops f hf] at hh; cases hh
    · exact ih f hf hh

/-- The holders are the `d` generated bodies and the user function. -/
theorem GenStack.holders_length {name : String} {id g d : Nat} {gen : List Frame} {u : Frame}
    (h : GenStack name id g d gen u) : (holders name id gen).length = d + 1 := by
  induction h with
  | user u hu hg => rw [holders_cons_of_holds _ hu]; rfl
  | body d b ops rest u hb hg hops _ ih =>
    rw [holders_cons_of_holds _ hb, holders_skip _ hops, List.length_cons, ih]

theorem split_holders {name : String} {id g n : Nat} {stack : List Frame}
    (hlen : (holders name id stack).length = n + 1) (hgl : genGlobalsOk name id g stack = true) :
    ∃ lib h t, stack = lib ++ h :: t ∧ (∀ f ∈ lib, f.holds name id = false) ∧ h.holds name id = true ∧
      h.globals = g ∧ (holders name id t).length = n ∧ genGlobalsOk name id g t = true := by
  obtain ⟨lib, h, t, rfl, hlib, hh⟩ := split_first_holder name id stack (fun e => by rw [e] at hlen; cases hlen)
  rw [holders_skip _ hlib, holders_cons_of_holds _ hh, List.length_cons, Nat.add_right_cancel_iff] at hlen
  rw [genGlobalsOk, holders_skip _ hlib, ← genGlobalsOk, genGlobalsOk_cons hh] at hgl
  exact ⟨lib, h, t, rfl, hlib, hh, hgl.1, hlen, hgl.2⟩

/-- Soundness of the driver's check (`genDepth`, `genGlobalsOk`): a stack with `n + 1` holders, all in globals `g`, is
non-holders, an activation at depth `n`, non-holders. -/
theorem genStack_of_holders (name : String) (id g : Nat) :
    ∀ (n : Nat) (stack : List Frame), (holders name id stack).length = n + 1 →
      genGlobalsOk name id g stack = true →
      ∃ lib gen outer u, stack = lib ++ gen ++ outer ∧ GenStack name id g n gen u ∧
        (∀ f ∈ lib, f.holds name id = false) ∧ (∀ f ∈ outer, f.holds name id = false) := by
  intro n
  induction n with
  | zero =>
    intro stack hlen hgl
    obtain ⟨lib, h, t, rfl, hlib, hh, hg, hlen, -⟩ := split_holders hlen hgl
    exact ⟨lib, [h], t, h, by simp, .user h hh hg, hlib, holders_nil_iff.mp (List.length_eq_zero_iff.mp hlen)⟩
  | succ n ih =>
    intro stack hlen hgl
    obtain ⟨lib, h, t, rfl, hlib, hh, hg, hlen, hglt⟩ := split_holders hlen hgl
    obtain ⟨ops, gen, outer, u, rfl, hgen, hops, hout⟩ := ih t hlen hglt
    exact ⟨lib, h :: (ops ++ gen), outer, u, by simp, .body n h ops gen u hh hg hops hgen, hlib, hout⟩

end Malt.Builtins
