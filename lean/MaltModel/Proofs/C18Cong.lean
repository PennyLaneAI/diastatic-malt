import MaltModel.Proofs.C18Sem1
namespace Malt.Anf
open Malt.Py Malt.SemAnf

abbrev CongK {α : Type} (X : String → Prop) (k : St → ER α) : Prop := Sim2 (AgreeX X) k k

theorem CongK.congr {α : Type} {X : String → Prop} {k k2 : St → ER α} (h : ∀ σ, k σ = k2 σ) (hc : CongK X k2) : CongK X k :=
  Sim2.congr h h hc

theorem congK_doCall (O : Oracle) (X : String → Prop) (fv : Val) (as : List Arg) : CongK X (fun σ => doCall O fv as σ) := by
  intro σ τ h
  simp only [doCall]
  split
  · refine ⟨by rw [h.1], h.emit_both _⟩
  · exact ⟨rfl, h⟩

theorem congK_opts_nil (O : Oracle) (X : String → Prop) : CongK X (evalOpts O []) := by
  intro σ τ h
  simp only [evalOpts]; exact ⟨trivial, h⟩

theorem congK_opts_cons {O : Oracle} {X : String → Prop} {e : Expr} {es : List Expr}
    (he : CongK X (evalE O e)) (hes : CongK X (evalOpts O es)) : CongK X (evalOpts O (e :: es)) := by
  refine CongK.congr (evalOpts_cons_bindK O e es) (Sim2.bindK he (fun a => ?_))
  intro σ τ hA
  have h := hes σ τ hA
  exact ⟨consR_fst_congr a h.1, by rw [consR_snd, consR_snd]; exact h.2⟩

theorem congK_stepE (O : Oracle) (X : String → Prop) (e : Expr) (vs : List Val) : CongK X (stepE O e vs) := by
  rcases stepE_cases O e vs with ⟨r, h⟩ | ⟨f, as, h⟩
  · exact CongK.congr h (Sim2.pure r)
  · exact CongK.congr h (congK_doCall O X f as)

theorem eval_congr (O : Oracle) (X : String → Prop) :
    (∀ e, fragE e = true → (∀ y ∈ namesE e, ¬ X y) → CongK X (evalE O e)) ∧
    (∀ es, fragEs es = true → (∀ y ∈ namesEs es, ¬ X y) → CongK X (evalOpts O es)) := by
  refine fragE_ind ?name ?const ?node ?walrus ?nil ?cons
  case name =>
    intro i s c hx σ τ hA
    simp only [evalE]
    exact ⟨by rw [hA.2 s (hx s (by simp [namesE]))], hA⟩
  case const =>
    intro i k r _ σ τ hA
    simp only [evalE]; exact ⟨trivial, hA⟩
  case node =>
    intro e hn hf ih hx
    rw [namesE_node hn hf] at hx
    exact CongK.congr (evalE_node O hn hf) (Sim2.bindK (ih hx) (congK_stepE O X e))
  case walrus =>
    intro i j s v ih hx
    simp only [namesE, List.mem_append] at hx
    refine CongK.congr (evalE_namedexpr O i j s v) (Sim2.bindK (ih (fun y hy => hx y (Or.inr hy))) (fun x => ?_))
    intro σ τ hA
    exact ⟨rfl, hA.set_both s x⟩
  case nil => exact fun _ => congK_opts_nil O X
  case cons =>
    intro e es _ ihe ihes hx
    simp only [namesEs, List.mem_append] at hx
    exact congK_opts_cons (ihe (fun y hy => hx y (Or.inl hy))) (ihes (fun y hy => hx y (Or.inr hy)))

theorem evalE_congr (O : Oracle) (X : String → Prop) (e : Expr) (hf : fragE e = true) (hx : ∀ y ∈ namesE e, ¬ X y) :
    CongK X (evalE O e) := (eval_congr O X).1 e hf hx

theorem evalE_agree (O : Oracle) {e : Expr} (hf : fragE e = true) (hnt : ∀ y ∈ namesE e, isTempName y = false) :
    Sim2 Agree (evalE O e) (evalE O e) :=
  Sim2.of_agreeX (evalE_congr O _ e hf (fun y hy => by simp [hnt y hy]))

theorem pureE_kids {e : Expr} (hn : nodeE e = true) (hp : pureE e = true) : pureEs (kids e) = true := by
  revert hn
  fun_cases nodeE e <;> intro hn
  case case8 => cases hn
  case case3 => simp [pureE] at hp
  all_goals simp only [pureE, Bool.and_eq_true] at hp
  all_goals simp [pureEs, kids, kidsOf, tag_map_snd, hp]

theorem stepE_pure (O : Oracle) {e : Expr} {vs : List Val} (hn : nodeE e = true) (hp : pureE e = true)
    (hl : vs.length = (kids e).length) : ∃ v, ∀ τ, stepE O e vs τ = (.ok v, τ) := by
  revert hn
  fun_cases nodeE e <;> intro hn
  case case8 => cases hn
  case case3 => simp [pureE] at hp
  case case1 | case4 => match vs, hl with | [x], _ => exact ⟨_, fun _ => rfl⟩
  case case2 | case5 => match vs, hl with | [x, y], _ => exact ⟨_, fun _ => rfl⟩
  case case6 i l ops rs =>
    simp only [pureE, Bool.and_eq_true, beq_iff_eq] at hp
    have hrs : rs.length = 1 := hp.1.2 ▸ hp.2
    simp only [kids, kidsOf, tag, List.map_cons, List.map_map, List.length_cons, List.length_map, hrs] at hl
    match vs, hl with | [x, y], _ => exact ⟨_, fun _ => rfl⟩
  case case7 => exact ⟨_, fun _ => rfl⟩

def PureAt (O : Oracle) (e : Expr) : Prop :=
  ∀ σ τ, (∀ y ∈ namesE e, σ.get y = τ.get y) → ∃ v, evalE O e σ = (.ok v, σ) ∧ evalE O e τ = (.ok v, τ)

theorem eval_pure (O : Oracle) :
    (∀ e, fragE e = true → pureE e = true → PureAt O e) ∧
    (∀ es, fragEs es = true → pureEs es = true → ∀ (σ τ : St), (∀ y ∈ namesEs es, σ.get y = τ.get y) →
      ∃ vs, vs.length = es.length ∧ evalOpts O es σ = (.ok vs, σ) ∧ evalOpts O es τ = (.ok vs, τ)) := by
  refine fragE_ind ?name ?const ?node ?walrus ?nil ?cons
  case name =>
    intro i s c _ σ τ h
    exact ⟨σ.get s, by simp [evalE], by simp [evalE, h s (by simp [namesE])]⟩
  case const =>
    intro i k r _ σ τ _
    exact ⟨constVal k r, by simp [evalE], by simp [evalE]⟩
  case node =>
    intro e hn hf ih hp σ τ h
    obtain ⟨vs, hl, h1, h2⟩ := ih (pureE_kids hn hp) σ τ (namesE_node hn hf ▸ h)
    obtain ⟨v, hv⟩ := stepE_pure O hn hp hl
    exact ⟨v, by rw [evalE_node O hn hf]; simp only [bindK, h1, hv], by rw [evalE_node O hn hf]; simp only [bindK, h2, hv]⟩
  case walrus =>
    intro i j s v _ hp
    simp [pureE] at hp
  case nil =>
    intro _ σ τ _
    exact ⟨[], rfl, by simp [evalOpts], by simp [evalOpts]⟩
  case cons =>
    intro e es _ ihe ihes hp σ τ h
    simp only [pureEs, Bool.and_eq_true] at hp
    simp only [namesEs, List.mem_append] at h
    obtain ⟨x, hx, hx'⟩ := ihe hp.1 σ τ (fun y hy => h y (Or.inl hy))
    obtain ⟨vs, hl, hv, hv'⟩ := ihes hp.2 σ τ (fun y hy => h y (Or.inr hy))
    exact ⟨x :: vs, by simp [hl], by rw [evalOpts_cons]; simp [hx, hv, consR], by rw [evalOpts_cons]; simp [hx', hv', consR]⟩

theorem evalE_pure (O : Oracle) (e : Expr) (hf : fragE e = true) (hp : pureE e = true) : PureAt O e :=
  (eval_pure O).1 e hf hp

theorem pures_eval (O : Oracle) : ∀ (es : List Expr), fragEs es = true → pureEs es = true → ∀ (σ τ : St),
    (∀ y ∈ namesEs es, σ.get y = τ.get y) → ∃ vs, evalOpts O es σ = (.ok vs, σ) ∧ evalOpts O es τ = (.ok vs, τ) :=
  fun es hf hp σ τ h => let ⟨vs, _, h1, h2⟩ := (eval_pure O).2 es hf hp σ τ h; ⟨vs, h1, h2⟩

end Malt.Anf
