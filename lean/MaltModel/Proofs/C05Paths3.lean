import MaltModel.Proofs.C05FrameX
/-!
# C05, Lemma B: the invariant relating the builder state to the flow summary of the code visited so far

Throughout, `T` is the `finally` section that may be waiting for its first node and `curP` the nodes that flow into that node
once it exists; both matter only at the start of a `finally` block reached by a pending jump, elsewhere `curP = []`.
-/
namespace Malt.Cfg
open Malt.Py

/-- Tagged dictionary keys owned by the open scopes: section keys of loops and functions, `raises` keys of handlers. -/
def scopeKeys : List Scope → List Nat
  | [] => []
  | .try_ _ _ hs :: σ => hs.map sk ++ scopeKeys σ
  | sc :: σ => sk sc.id :: scopeKeys σ

theorem mem_scopeKeys_cons {k : Nat} (sc : Scope) {σ : List Scope} (h : k ∈ scopeKeys σ) : k ∈ scopeKeys (sc :: σ) := by
  cases sc with
  | try_ i f hs => exact List.mem_append.mpr (Or.inr h)
  | _ => exact List.mem_cons_of_mem _ h

theorem sk_id_mem_scopeKeys {stop : Stop} {sc : Scope} (σ : List Scope) (h : sc.isStop stop = true) :
    sk sc.id ∈ scopeKeys (sc :: σ) := by
  cases sc with
  | try_ i f hs => cases stop <;> cases h
  | _ => exact List.mem_cons_self ..

theorem enclosingFinally_target_key (stop : Stop) : ∀ (σ : List Scope) (t : Nat), (enclosingFinally stop σ).1 = some t →
    sk t ∈ scopeKeys σ := by
  intro σ
  induction σ with
  | nil => intro t h; cases h
  | cons sc σ ih =>
    intro t h
    simp only [enclosingFinally] at h
    split at h
    · rename_i hs
      cases h
      exact sk_id_mem_scopeKeys σ hs
    · exact mem_scopeKeys_cons sc (ih t h)

theorem enclosingExcept_key (stop : Stop) : ∀ (σ : List Scope) (h : Nat), h ∈ enclosingExcept stop σ → sk h ∈ scopeKeys σ := by
  intro σ
  induction σ with
  | nil => intro h hh; cases hh
  | cons sc σ ih =>
    intro h hh
    simp only [enclosingExcept] at hh
    split at hh
    · rename_i hs
      cases sc with
      | try_ i f hs' => cases stop <;> cases hs
      | _ => cases hh
    · rcases List.mem_append.mp hh with hh | hh
      · cases sc with
        | try_ i f hs' => exact List.mem_append.mpr (Or.inl (List.mem_map.mpr ⟨h, hh, rfl⟩))
        | _ => cases hh
      · exact mem_scopeKeys_cons sc (ih h hh)

def loopOf (σ : List Scope) : Option Nat := (enclosingFinally .loop σ).1
def fnOf (σ : List Scope) : Option Nat := (enclosingFinally .fn σ).1
def guardsOf (stop : Stop) (σ : List Scope) : List Nat := (enclosingFinally stop σ).2

theorem loopOf_loop (i : Nat) (σ : List Scope) : loopOf (Scope.loop i :: σ) = some i := rfl
theorem guardsOf_loop_loop (i : Nat) (σ : List Scope) : guardsOf .loop (Scope.loop i :: σ) = [] := rfl
theorem fnOf_loop (i : Nat) (σ : List Scope) : fnOf (Scope.loop i :: σ) = fnOf σ := rfl
theorem guardsOf_fn_loop (i : Nat) (σ : List Scope) : guardsOf .fn (Scope.loop i :: σ) = guardsOf .fn σ := rfl
theorem loopOf_fn (i : Nat) : loopOf [Scope.fn i] = none := rfl
theorem fnOf_fn (i : Nat) : fnOf [Scope.fn i] = some i := rfl

/-- `continues` or `exits` -/
def dictOf (c : Bool) (b : B) : List (Nat × List Nat) := if c then b.continues else b.exits

theorem dictOf_false (b : B) : dictOf false b = b.exits := rfl
theorem dictOf_true (b : B) : dictOf true b = b.continues := rfl

theorem dictOf_congr {b b' : B} (he : b'.exits = b.exits) (hc : b'.continues = b.continues) (c : Bool) : dictOf c b' = dictOf c b := by
  cases c
  · exact he
  · exact hc

def Complete (b : B) (g : Nat) : Prop := g ∉ b.pendingFinally ∧ ∃ beg ends, aget g b.finallySub = some (some beg, some ends)

/-- Where control is after jump `j` has passed the guards `pre`: at `j` itself, or at an end of the last `finally` block passed. -/
def Stage (b : B) (pre : List Nat) (j x : Nat) : Prop :=
  (pre = [] ∧ x = j) ∨ ∃ g beg ends, pre.getLast? = some g ∧ aget g b.finallySub = some (some beg, some ends) ∧ x ∈ b.deref ends

/-- `x` is a pending jump outcome toward section `t` with exactly the guards `G` still to pass. -/
def PJ (c : Bool) (b : B) (t : Nat) (G : List Nat) (x : Nat) : Prop :=
  ∃ l j pre, aget t (dictOf c b) = some l ∧ j ∈ l ∧ aget j b.finallySections = some (pre ++ G) ∧
    (∀ g, g ∈ pre → Complete b g) ∧ Stage b pre j x

def BeginOf (b : B) (g y : Nat) : Prop := g ∉ b.pendingFinally ∧ ∃ ends, aget g b.finallySub = some (some y, some ends)

/-- A pending pair: `_connect_jump_to_finally_sections` adds the edge when the section the registered jump `j` targets is
exited. -/
def PPd (b : B) (gs : List Nat) (j : Nat) (p : Nat × Nat) : Prop :=
    ((∃ g rest, gs = g :: rest ∧ p.1 = j ∧ BeginOf b g p.2) ∨
     (∃ l1 g g' r beg ends, gs = l1 ++ g :: g' :: r ∧ g ∉ b.pendingFinally ∧ aget g b.finallySub = some (some beg, some ends) ∧
        p.1 ∈ b.deref ends ∧ BeginOf b g' p.2))
def PPat (b : B) (c : Bool) (t : Nat) (p : Nat × Nat) : Prop :=
  ∃ l j gs, aget t (dictOf c b) = some l ∧ j ∈ l ∧ aget j b.finallySections = some gs ∧ PPd b gs j p
def Tgt (σ : List Scope) (c : Bool) (t : Nat) : Prop := loopOf σ = some t ∨ (c = false ∧ fnOf σ = some t)

/-- `x` is a leaf, or one of the nodes `curP` that will be connected to the first node of the waiting section `T`. -/
def Src (b : B) (T : Nat) (curP : List Nat) (x : Nat) : Prop := x ∈ b.leafSet ∨ (x ∈ curP ∧ Wait b T)

def ReqOk (σ : List Scope) (b : B) (T : Nat) (curP : List Nat) (p : Nat × Nat) : Prop :=
  p ∈ b.edges ∨ (∃ c t, Tgt σ c t ∧ PPat b c t p) ∨ (p.1 ∈ curP ∧ StartedAt b T p.2)

/-- `ReqOk` with the admissible targets as a parameter (`ReqOk σ` is `ReqOkT (Tgt σ)`) -/
def ReqOkT (P : Bool → Nat → Prop) (b : B) (T : Nat) (curP : List Nat) (p : Nat × Nat) : Prop :=
  p ∈ b.edges ∨ (∃ c t, P c t ∧ PPat b c t p) ∨ (p.1 ∈ curP ∧ StartedAt b T p.2)

structure Pend (σ : List Scope) (T : Nat) (curP : List Nat) (b : B) (R : Flow) : Prop where
  req : ∀ p, p ∈ R.req → ReqOk σ b T curP p
  brk : ∀ x, x ∈ R.brk → ∃ L, loopOf σ = some L ∧ PJ false b L (guardsOf .loop σ) x
  cont : ∀ x, x ∈ R.cont → ∃ L, loopOf σ = some L ∧ PJ true b L (guardsOf .loop σ) x
  ret : ∀ x, x ∈ R.ret → ∃ F, fnOf σ = some F ∧ PJ false b F (guardsOf .fn σ) x
  raise : ∀ x, x ∈ R.raise → x ∈ b.errors ∧
    ∀ h, h ∈ enclosingExcept .fn σ → ∃ l, aget h b.raises = some l ∧ x ∈ l
  exempt : ∀ x, x ∈ R.exempt → x ∈ b.errors

def ListsDisjoint (b : B) : Prop :=
  ∀ c c' t t' l l' j, aget t (dictOf c b) = some l → aget t' (dictOf c' b) = some l' → j ∈ l → j ∈ l' → c = c' ∧ t = t'

/-- what a frame with keys `K` needs of the state before it to carry `Pend σ` across -/
structure Tr (σ : List Scope) (K : List Nat) (b : B) : Prop where
  disj : ∀ k, k ∈ scopeKeys σ → k ∉ K
  old : ∀ k, k ∈ K → k ∉ Old b
  lin : ListsInNodes b

/-- What Lemma B assumes before visiting code whose (tagged) keys and nodes are `K`. -/
structure Pre (σ : List Scope) (K : List Nat) (b : B) : Prop extends Tr σ K b where
  fresh : ∀ k, ck k ∈ K → aget k b.condEntry = none
  loopOpen : ∀ L, loopOf σ = some L → (∃ l, aget L b.exits = some l) ∧ (∃ l, aget L b.continues = some l)
  fnOpen : ∃ F, fnOf σ = some F ∧ ∃ l, aget F b.exits = some l
  valid : Valid b
  ldj : ListsDisjoint b

structure Post (σ : List Scope) (T : Nat) (curP : List Nat) (b' : B) (R : Flow) : Prop where
  pend : Pend σ T curP b' R
  norm : InLeaves b' R.normal
  ldj : ListsDisjoint b'

/-- A block may be empty: then control is still where it was. -/
structure PostL (σ : List Scope) (T : Nat) (curP : List Nat) (b' : B) (R : Flow) (em : Bool) : Prop where
  pend : Pend σ T curP b' R
  norm : ∀ x, x ∈ R.normal → Src b' T curP x
  normE : em = true → InLeaves b' R.normal
  ldj : ListsDisjoint b'

theorem complete_mono {K : List Nat} {b b' : B} (hx : FrameX K b b') {g : Nat} (hg : sk g ∉ K) (h : Complete b g) : Complete b' g := by
  obtain ⟨h1, beg, ends, h2⟩ := h
  obtain ⟨e1, e2⟩ := hx.fsub g hg h1
  exact ⟨e2, beg, ends, by rw [e1]; exact h2⟩

theorem beginOf_mono {K : List Nat} {b b' : B} (hx : FrameX K b b') {g y : Nat} (hg : sk g ∉ K) (h : BeginOf b g y) : BeginOf b' g y := by
  obtain ⟨h1, ends, h2⟩ := h
  obtain ⟨e1, e2⟩ := hx.fsub g hg h1
  exact ⟨e2, ends, by rw [e1]; exact h2⟩

theorem startedAt_mono {K : List Nat} {b b' : B} (hx : FrameX K b b') {g y : Nat} (hg : sk g ∉ K) (h : StartedAt b g y) : StartedAt b' g y := by
  obtain ⟨h1, e, h2⟩ := h
  obtain ⟨e1, e2⟩ := hx.fsub g hg h1
  exact ⟨e2, e, by rw [e1]; exact h2⟩

theorem sk_mem_old {b : B} {g : Nat} {v : Option NodeId × Option Ref} (h : aget g b.finallySub = some v) : sk g ∈ Old b := by
  have := aget_mem h
  exact List.mem_append.mpr (Or.inr (List.mem_append.mpr (Or.inl (List.mem_map.mpr ⟨(g, v), this, rfl⟩))))

theorem nk_mem_old {b : B} {n : Nat} (h : n ∈ b.nodes) : nk n ∈ Old b :=
  List.mem_append.mpr (Or.inl (List.mem_map.mpr ⟨n, h, rfl⟩))

theorem ck_not_old (k : Nat) (b : B) : ck k ∉ Old b := by
  intro h
  simp only [Old, List.mem_append, List.mem_map] at h
  rcases h with ⟨x, _, hx⟩ | ⟨x, _, hx⟩ | ⟨x, _, hx⟩ | ⟨x, _, hx⟩
  · exact ck_ne_nk k x hx.symm
  · exact sk_ne_ck _ _ hx
  · exact sk_ne_ck _ _ hx
  · exact sk_ne_ck _ _ hx

theorem dict_mono {K : List Nat} {b b' : B} (hf : Frame K b b') (c : Bool) {t : Nat} (ht : sk t ∉ K) {l : List Nat}
    (hl : aget t (dictOf c b) = some l) : ∃ l', aget t (dictOf c b') = some l' ∧ ∀ x, x ∈ l → x ∈ l' := by
  cases c
  · exact hf.exits t ht l hl
  · exact hf.continues t ht l hl

theorem dict_in_nodes {b : B} (hl : ListsInNodes b) (c : Bool) {t : Nat} {l : List Nat} (h : aget t (dictOf c b) = some l) :
    ∀ x, x ∈ l → x ∈ b.nodes := by
  cases c
  · exact hl.exits t l h
  · exact hl.continues t l h

theorem stage_mono {σ : List Scope} {K : List Nat} {b b' : B} (ht : Tr σ K b) (f : FF K b b')
    {pre : List Nat} {j x : Nat} (hc : ∀ g, g ∈ pre → Complete b g) (h : Stage b pre j x) : Stage b' pre j x := by
  rcases h with h | ⟨g, beg, ends, h1, h2, h3⟩
  · exact Or.inl h
  · have hg : g ∈ pre := List.mem_of_getLast? h1
    have hgK : sk g ∉ K := fun hk => ht.old _ hk (sk_mem_old h2)
    obtain ⟨e1, _⟩ := f.x.fsub g hgK (hc g hg).1
    exact Or.inr ⟨g, beg, ends, h1, by rw [e1]; exact h2, f.f.deref ends x h3⟩

theorem PJ.mono {σ : List Scope} {K : List Nat} {b b' : B} (ht : Tr σ K b) (f : FF K b b') {c : Bool} {t : Nat} (hk : sk t ∉ K)
    {G : List Nat} {x : Nat} (h : PJ c b t G x) : PJ c b' t G x := by
  obtain ⟨l, j, pre, h1, h2, h3, h4, h5⟩ := h
  obtain ⟨l', hl', hs⟩ := dict_mono f.f c hk h1
  have hj : nk j ∉ K := fun hk => ht.old _ hk (nk_mem_old (dict_in_nodes ht.lin c h1 j h2))
  refine ⟨l', j, pre, hl', hs j h2, by rw [f.x.fsec j hj]; exact h3, ?_, stage_mono ht f h4 h5⟩
  intro g hg
  obtain ⟨_, beg, ends, hge⟩ := h4 g hg
  exact complete_mono f.x (fun hk => ht.old _ hk (sk_mem_old hge)) (h4 g hg)

theorem dict_key_old {b : B} (c : Bool) {t : Nat} {l : List Nat} (h : aget t (dictOf c b) = some l) : sk t ∈ Old b := by
  cases c
  · exact List.mem_append.mpr (Or.inr (List.mem_append.mpr (Or.inr (List.mem_append.mpr (Or.inl (key_of_aget h))))))
  · exact List.mem_append.mpr (Or.inr (List.mem_append.mpr (Or.inr (List.mem_append.mpr (Or.inr (key_of_aget h))))))

theorem PPat.mono {σ : List Scope} {K : List Nat} {b b' : B} (ht : Tr σ K b) (f : FF K b b') {c : Bool} {t : Nat} {p : Nat × Nat}
    (h : PPat b c t p) : PPat b' c t p := by
  obtain ⟨l, j, gs, h1, h2, h3, h4⟩ := h
  have hk : sk t ∉ K := fun hk => ht.old _ hk (dict_key_old c h1)
  obtain ⟨l', hl', hs⟩ := dict_mono f.f c hk h1
  have hj : nk j ∉ K := fun hk => ht.old _ hk (nk_mem_old (dict_in_nodes ht.lin c h1 j h2))
  refine ⟨l', j, gs, hl', hs j h2, by rw [f.x.fsec j hj]; exact h3, ?_⟩
  have bmono : ∀ g y, BeginOf b g y → BeginOf b' g y := by
    intro g y hb
    have hb' := hb
    obtain ⟨_, ends, he⟩ := hb'
    exact beginOf_mono f.x (fun hk => ht.old _ hk (sk_mem_old he)) hb
  rcases h4 with ⟨g, rest, e1, e2, e3⟩ | ⟨l1, g, g', r, beg, ends, e1, e2, e3, e4, e5⟩
  · exact Or.inl ⟨g, rest, e1, e2, bmono g _ e3⟩
  · have hgK : sk g ∉ K := fun hk => ht.old _ hk (sk_mem_old e3)
    obtain ⟨q1, q2⟩ := f.x.fsub g hgK e2
    exact Or.inr ⟨l1, g, g', r, beg, ends, e1, q2, by rw [q1]; exact e3, f.f.deref ends _ e4, bmono g' _ e5⟩

theorem ReqOkT.mono {P : Bool → Nat → Prop} {σ : List Scope} {K : List Nat} {b b' : B} (ht : Tr σ K b) (f : FF K b b') {T : Nat}
    {curP : List Nat} (hT : curP = [] ∨ sk T ∉ K) {p : Nat × Nat} (h : ReqOkT P b T curP p) : ReqOkT P b' T curP p := by
  rcases h with h | ⟨c, t, htg, h⟩ | ⟨h1, h2⟩
  · exact Or.inl (f.f.edges p h)
  · exact Or.inr (Or.inl ⟨c, t, htg, PPat.mono ht f h⟩)
  · rcases hT with hT | hT
    · rw [hT] at h1; cases h1
    · exact Or.inr (Or.inr ⟨h1, startedAt_mono f.x hT h2⟩)

theorem ReqOk.of_pair {σ : List Scope} {b : B} {T : Nat} {curP : List Nat} {p : Nat × Nat}
    (h : p ∈ b.edges ∨ (p.1 ∈ curP ∧ StartedAt b T p.2)) : ReqOk σ b T curP p :=
  h.elim Or.inl (fun h => Or.inr (Or.inr h))

theorem ReqOkT.imp {P P' : Bool → Nat → Prop} {b : B} {T : Nat} {curP : List Nat} {p : Nat × Nat} (hP : ∀ c t, P c t → P' c t)
    (h : ReqOkT P b T curP p) : ReqOkT P' b T curP p :=
  Or.imp id (Or.imp (fun ⟨c, t, htg, h⟩ => ⟨c, t, hP c t htg, h⟩) id) h

/-- without pending nodes the waiting section does not matter -/
theorem ReqOkT.retarget {P P' : Bool → Nat → Prop} {b : B} {T T' : Nat} {curP : List Nat} {p : Nat × Nat}
    (hP : ∀ c t, P c t → P' c t) (h : ReqOkT P b T [] p) : ReqOkT P' b T' curP p := by
  rcases h with h | ⟨c, t, htg, h⟩ | ⟨h1, _⟩
  · exact Or.inl h
  · exact Or.inr (Or.inl ⟨c, t, hP c t htg, h⟩)
  · cases h1

theorem ReqOk.retarget {σ : List Scope} {b : B} {T T' : Nat} {curP : List Nat} {p : Nat × Nat} (h : ReqOk σ b T [] p) : ReqOk σ b T' curP p :=
  ReqOkT.retarget (fun _ _ h => h) h

theorem nomem {α} (x : α) (h : x ∈ ([] : List α)) {P : Prop} : P := (List.not_mem_nil h).elim

theorem forall_mem_app3 {α} {P : α → Prop} {l1 l2 l3 : List α} (h1 : ∀ x, x ∈ l1 → P x) (h2 : ∀ x, x ∈ l2 → P x)
    (h3 : ∀ x, x ∈ l3 → P x) : ∀ x, x ∈ l1 ++ (l2 ++ l3) → P x :=
  fun x hx => (List.mem_append.mp hx).elim (h1 x) (fun hx => (List.mem_append.mp hx).elim (h2 x) (h3 x))

theorem Pend.empty (σ : List Scope) (T : Nat) (curP : List Nat) (b : B) : Pend σ T curP b {} :=
  ⟨fun x h => nomem x h, fun x h => nomem x h, fun x h => nomem x h, fun x h => nomem x h, fun x h => nomem x h, fun x h => nomem x h⟩

theorem Pend.of_req (σ : List Scope) (T : Nat) (curP : List Nat) (b : B) (l : List (Nat × Nat)) (nrm : List Nat)
    (h : ∀ p, p ∈ l → ReqOk σ b T curP p) : Pend σ T curP b { req := l, normal := nrm } :=
  ⟨h, fun x h => nomem x h, fun x h => nomem x h, fun x h => nomem x h, fun x h => nomem x h, fun x h => nomem x h⟩

theorem Pend.of_brk {σ : List Scope} {T : Nat} {curP : List Nat} {b : B} {l : List (Nat × Nat)} {N : List Nat}
    (hr : ∀ p, p ∈ l → ReqOk σ b T curP p) (h : ∀ x, x ∈ N → ∃ L, loopOf σ = some L ∧ PJ false b L (guardsOf .loop σ) x) :
    Pend σ T curP b { req := l, brk := N } :=
  ⟨hr, h, fun x h => nomem x h, fun x h => nomem x h, fun x h => nomem x h, fun x h => nomem x h⟩

theorem Pend.of_cont {σ : List Scope} {T : Nat} {curP : List Nat} {b : B} {l : List (Nat × Nat)} {N : List Nat}
    (hr : ∀ p, p ∈ l → ReqOk σ b T curP p) (h : ∀ x, x ∈ N → ∃ L, loopOf σ = some L ∧ PJ true b L (guardsOf .loop σ) x) :
    Pend σ T curP b { req := l, cont := N } :=
  ⟨hr, fun x h => nomem x h, h, fun x h => nomem x h, fun x h => nomem x h, fun x h => nomem x h⟩

theorem Pend.of_ret {σ : List Scope} {T : Nat} {curP : List Nat} {b : B} {l : List (Nat × Nat)} {N : List Nat}
    (hr : ∀ p, p ∈ l → ReqOk σ b T curP p) (h : ∀ x, x ∈ N → ∃ F, fnOf σ = some F ∧ PJ false b F (guardsOf .fn σ) x) :
    Pend σ T curP b { req := l, ret := N } :=
  ⟨hr, fun x h => nomem x h, fun x h => nomem x h, h, fun x h => nomem x h, fun x h => nomem x h⟩

theorem Pend.of_raise {σ : List Scope} {T : Nat} {curP : List Nat} {b : B} {l : List (Nat × Nat)} {N : List Nat}
    (hr : ∀ p, p ∈ l → ReqOk σ b T curP p)
    (h : ∀ x, x ∈ N → x ∈ b.errors ∧ ∀ h, h ∈ enclosingExcept .fn σ → ∃ l, aget h b.raises = some l ∧ x ∈ l) :
    Pend σ T curP b { req := l, raise := N } :=
  ⟨hr, fun x h => nomem x h, fun x h => nomem x h, fun x h => nomem x h, h, fun x h => nomem x h⟩

theorem Pend.retarget {σ : List Scope} {T T' : Nat} {curP : List Nat} {b : B} {R : Flow} (h : Pend σ T [] b R) : Pend σ T' curP b R :=
  ⟨fun p hp => (h.req p hp).retarget, h.brk, h.cont, h.ret, h.raise, h.exempt⟩

theorem Pend.transfer {σ : List Scope} {T : Nat} {curP : List Nat} {b b' : B} {R : Flow} (h : Pend σ T curP b R)
    (hreq : ∀ p, ReqOk σ b T curP p → ReqOk σ b' T curP p)
    (hpj : ∀ (c : Bool) (stop : Stop) (t : Nat) (G : List Nat) (x : Nat), (enclosingFinally stop σ).1 = some t →
      PJ c b t G x → PJ c b' t G x)
    (herr : ∀ x, x ∈ b.errors → x ∈ b'.errors)
    (hrs : ∀ hd, hd ∈ enclosingExcept .fn σ → ∀ l x, aget hd b.raises = some l → x ∈ l →
      ∃ l', aget hd b'.raises = some l' ∧ x ∈ l') : Pend σ T curP b' R :=
  ⟨fun p hp => hreq p (h.req p hp),
   fun x hx => (h.brk x hx).imp fun L hL => ⟨hL.1, hpj false .loop L _ x hL.1 hL.2⟩,
   fun x hx => (h.cont x hx).imp fun L hL => ⟨hL.1, hpj true .loop L _ x hL.1 hL.2⟩,
   fun x hx => (h.ret x hx).imp fun F hF => ⟨hF.1, hpj false .fn F _ x hF.1 hF.2⟩,
   fun x hx => ⟨herr x (h.raise x hx).1, fun hd hhd =>
     let ⟨l, hl, hxl⟩ := (h.raise x hx).2 hd hhd
     hrs hd hhd l x hl hxl⟩,
   fun x hx => herr x (h.exempt x hx)⟩

theorem Pend.transport {σ : List Scope} {T : Nat} {curP : List Nat} {K : List Nat} {b b' : B} {R : Flow}
    (ht : Tr σ K b) (f : FF K b b') (hT : curP = [] ∨ sk T ∉ K) (h : Pend σ T curP b R) : Pend σ T curP b' R :=
  h.transfer (fun _ hp => ReqOkT.mono ht f hT hp)
    (fun _ stop t _ _ hs hp => PJ.mono ht f (ht.disj _ (enclosingFinally_target_key stop σ t hs)) hp) f.x.errors
    (fun hd hhd l x hl hxl => f.f.raises_mem (ht.disj _ (enclosingExcept_key .fn σ hd hhd)) ⟨l, hl, hxl⟩)

theorem Pend.seq {σ : List Scope} {T : Nat} {curP : List Nat} {b : B} {R1 R2 : Flow} (h1 : Pend σ T curP b R1)
    (h2 : Pend σ T curP b R2) : Pend σ T curP b (R1.seq R2) :=
  ⟨fun p hp => (List.mem_append.mp hp).elim (h1.req p) (h2.req p), fun x hx => (List.mem_append.mp hx).elim (h1.brk x) (h2.brk x),
   fun x hx => (List.mem_append.mp hx).elim (h1.cont x) (h2.cont x), fun x hx => (List.mem_append.mp hx).elim (h1.ret x) (h2.ret x),
   fun x hx => (List.mem_append.mp hx).elim (h1.raise x) (h2.raise x),
   fun x hx => (List.mem_append.mp hx).elim (h1.exempt x) (h2.exempt x)⟩

/-- `Pend` does not look at `normal`, the only part in which `alt` differs from `seq` -/
theorem Pend.alt {σ : List Scope} {T : Nat} {curP : List Nat} {b : B} {R1 R2 : Flow} (h1 : Pend σ T curP b R1)
    (h2 : Pend σ T curP b R2) : Pend σ T curP b (R1.alt R2) :=
  have h := h1.seq h2
  ⟨h.req, h.brk, h.cont, h.ret, h.raise, h.exempt⟩

theorem Pend.of_alt_left {σ : List Scope} {T : Nat} {curP : List Nat} {b : B} {R1 R2 : Flow} (h : Pend σ T curP b (R1.alt R2)) :
    Pend σ T curP b R1 :=
  ⟨fun p hp => h.req p (List.mem_append_left _ hp), fun x hx => h.brk x (List.mem_append_left _ hx),
   fun x hx => h.cont x (List.mem_append_left _ hx), fun x hx => h.ret x (List.mem_append_left _ hx),
   fun x hx => h.raise x (List.mem_append_left _ hx), fun x hx => h.exempt x (List.mem_append_left _ hx)⟩

theorem Pend.drop_normal {σ : List Scope} {T : Nat} {curP : List Nat} {b : B} {R : Flow} (h : Pend σ T curP b R) :
    Pend σ T curP b { R with normal := [] } := ⟨h.req, h.brk, h.cont, h.ret, h.raise, h.exempt⟩

/-- (`enclosingFinally` matches on the literal flag `true` of a `try` scope: with a variable flag the hypotheses are `rfl` only after
`cases fin`) -/
theorem Pend.rescope {σ σ' : List Scope} {T : Nat} {curP : List Nat} {b : B} {R : Flow} (h : Pend σ T curP b R)
    (hl : loopOf σ' = loopOf σ) (hgl : guardsOf .loop σ' = guardsOf .loop σ) (hf : fnOf σ' = fnOf σ)
    (hgf : guardsOf .fn σ' = guardsOf .fn σ) (he : ∀ h, h ∈ enclosingExcept .fn σ' → h ∈ enclosingExcept .fn σ) :
    Pend σ' T curP b R :=
  ⟨fun p hp => (h.req p hp).imp id (Or.imp (fun ⟨c, t, htg, hpp⟩ => ⟨c, t, by rw [Tgt, hl, hf]; exact htg, hpp⟩) id),
   by rw [hl, hgl]; exact h.brk, by rw [hl, hgl]; exact h.cont, by rw [hf, hgf]; exact h.ret,
   fun x hx => ⟨(h.raise x hx).1, fun hd hhd => (h.raise x hx).2 hd (he hd hhd)⟩, h.exempt⟩

theorem Pre.sub {σ : List Scope} {K K' : List Nat} {b : B} (h : Pre σ K b) (hs : ∀ k, k ∈ K' → k ∈ K) : Pre σ K' b :=
  ⟨⟨fun k hk hk' => h.disj k hk (hs _ hk'), fun k hk => h.old k (hs _ hk), h.lin⟩, fun k hk => h.fresh k (hs _ hk), h.loopOpen,
   h.fnOpen, h.valid, h.ldj⟩

theorem Pre.not_node {σ : List Scope} {K : List Nat} {b : B} (h : Pre σ K b) {n : Nat} (hn : nk n ∈ K) : n ∉ b.nodes :=
  fun hm => h.old _ hn (nk_mem_old hm)

theorem Pre.move {σ : List Scope} {K1 K2 : List Nat} {b b1 : B} (h : Pre σ K2 b) (hf : Frame K1 b b1) (hx : FrameX K1 b b1)
    (hσ1 : ∀ k, k ∈ scopeKeys σ → k ∉ K1) (hd : ∀ k, k ∈ K2 → k ∉ K1) (hl : ListsDisjoint b1) : Pre σ K2 b1 := by
  refine ⟨⟨h.disj, ?_, hx.lin h.lin⟩, ?_, ?_, ?_, hf.valid h.valid, hl⟩
  · intro k hk hko
    rcases hx.old k hko with h' | h'
    · exact h.old k hk h'
    · exact hd k hk h'
  · intro k hk
    rw [hf.condEntry k (hd _ hk)]
    exact h.fresh k hk
  · intro L hL
    have hkey := hσ1 _ (enclosingFinally_target_key .loop σ L hL)
    obtain ⟨⟨l1, h1⟩, ⟨l2, h2⟩⟩ := h.loopOpen L hL
    obtain ⟨l1', h1', _⟩ := hf.exits L hkey l1 h1
    obtain ⟨l2', h2', _⟩ := hf.continues L hkey l2 h2
    exact ⟨⟨l1', h1'⟩, ⟨l2', h2'⟩⟩
  · obtain ⟨F, hF, l, hl⟩ := h.fnOpen
    obtain ⟨l', hl', _⟩ := hf.exits F (hσ1 _ (enclosingFinally_target_key .fn σ F hF)) l hl
    exact ⟨F, hF, l', hl'⟩

theorem Pre.step {σ : List Scope} {K1 K2 : List Nat} {b b1 : B} (h : Pre σ (K1 ++ K2) b) (hf : Frame K1 b b1) (hx : FrameX K1 b b1)
    (hd : ∀ k, k ∈ K2 → k ∉ K1) (hl : ListsDisjoint b1) : Pre σ K2 b1 :=
  (h.sub (fun _ hk => List.mem_append.mpr (Or.inr hk))).move hf hx
    (fun k hk hk1 => h.disj k hk (List.mem_append.mpr (Or.inl hk1))) hd hl

theorem startedAt_of_same {b b' : B} {T y : Nat} (h2 : b'.finallySub = b.finallySub) (h3 : b'.pendingFinally = b.pendingFinally)
    (h : StartedAt b T y) : StartedAt b' T y := by
  obtain ⟨h1, e, he⟩ := h
  exact ⟨by rw [h3]; exact h1, e, by rw [h2]; exact he⟩

theorem wait_of_same {b b' : B} {T : Nat} (h2 : b'.finallySub = b.finallySub) (h3 : b'.pendingFinally = b.pendingFinally)
    (h : Wait b T) : Wait b' T := by
  obtain ⟨h1, x, e, he⟩ := h
  exact ⟨by rw [h3]; exact h1, x, e, by rw [h2]; exact he⟩

theorem src_of_same {b b' : B} {T : Nat} {curP : List Nat} {x : Nat} (h1 : b'.leafSet = b.leafSet) (h2 : b'.finallySub = b.finallySub)
    (h3 : b'.pendingFinally = b.pendingFinally) (h : Src b T curP x) : Src b' T curP x :=
  h.imp (fun h => by rw [h1]; exact h) (fun h => ⟨h.1, wait_of_same h2 h3 h.2⟩)

theorem pair_addNewNode {b b' : B} {T : Nat} {curP : List Nat} (n x : Nat) (h : Src b T curP x) (he : b'.edges = (b.addNewNode n).edges)
    (h2 : b'.finallySub = (b.addNewNode n).finallySub) (h3 : b'.pendingFinally = (b.addNewNode n).pendingFinally) :
    (x, n) ∈ b'.edges ∨ (x ∈ curP ∧ StartedAt b' T n) := by
  rcases h with h | ⟨h1, hw⟩
  · left; rw [he, B.edges_addNewNode]; exact List.mem_append.mpr (Or.inr (List.mem_map.mpr ⟨x, h, rfl⟩))
  · right; exact ⟨h1, startedAt_of_same h2 h3 (wait_startedAt_addNewNode n T hw)⟩

theorem pair_addOrdinaryNode {b : B} {T : Nat} {curP : List Nat} (n x : Nat) (h : Src b T curP x) :
    (x, n) ∈ (b.addOrdinaryNode n).edges ∨ (x ∈ curP ∧ StartedAt (b.addOrdinaryNode n) T n) :=
  pair_addNewNode n x h (by simp [B.addOrdinaryNode]) (by simp [B.addOrdinaryNode]) (by simp [B.addOrdinaryNode])

theorem pair_addJumpNode {b : B} {T : Nat} {curP : List Nat} (n x : Nat) (gs : List Nat) (h : Src b T curP x) :
    (x, n) ∈ (b.addJumpNode n gs).edges ∨ (x ∈ curP ∧ StartedAt (b.addJumpNode n gs) T n) :=
  pair_addNewNode n x h (by simp [B.addJumpNode]) (by simp [B.addJumpNode]) (by simp [B.addJumpNode])

theorem sk_not_tnodes (T : Nat) (l : List Nat) : sk T ∉ tnodes l := by
  intro hm; obtain ⟨y, _, hy⟩ := List.mem_map.mp hm; exact sk_ne_nk T y hy.symm

theorem emit_src (T : Nat) (curP : List Nat) (ns : List Nat) : ∀ (b : B) (cur : List Nat), (∀ x, x ∈ cur → Src b T curP x) →
    (∀ p, p ∈ (emit cur ns).1 → p ∈ (addOrdinaryNodes b ns).edges ∨ (p.1 ∈ curP ∧ StartedAt (addOrdinaryNodes b ns) T p.2)) ∧
    (∀ x, x ∈ (emit cur ns).2 → Src (addOrdinaryNodes b ns) T curP x) ∧
    (ns ≠ [] → InLeaves (addOrdinaryNodes b ns) (emit cur ns).2) := by
  induction ns with
  | nil => intro b cur h; exact ⟨fun p hp => (List.not_mem_nil hp).elim, h, fun hne => (hne rfl).elim⟩
  | cons n ns ih =>
    intro b cur h
    obtain ⟨i1, i2, i3⟩ := ih (b.addOrdinaryNode n) [n] (fun x hx => by
      simp only [List.mem_singleton] at hx; subst hx; exact Or.inl (by simp))
    have hf := frame_addOrdinaryNodes (tnodes ns) ns (b.addOrdinaryNode n)
    have hx := fx_addOrdinaryNodes (tnodes ns) ns (fun x hx => mem_tnodes hx) (b.addOrdinaryNode n)
    have hT := sk_not_tnodes T ns
    refine ⟨?_, i2, fun _ => ?_⟩
    · intro p hp
      simp only [emit, List.mem_append] at hp
      rcases hp with hp | hp
      · simp only [cross, List.mem_map] at hp
        obtain ⟨x, hxc, rfl⟩ := hp
        rcases pair_addOrdinaryNode n x (h x hxc) with h' | ⟨h1, h2⟩
        · exact Or.inl (hf.edges _ h')
        · exact Or.inr ⟨h1, startedAt_mono hx hT h2⟩
      · exact i1 p hp
    · by_cases hns : ns = []
      · subst hns; intro x hx'; simp only [emit, List.mem_singleton] at hx'; subst hx'; simp [addOrdinaryNodes]
      · exact i3 hns

theorem ldj_of_eq {b b' : B} (h1 : b'.exits = b.exits) (h2 : b'.continues = b.continues) (h : ListsDisjoint b) : ListsDisjoint b' := by
  intro c c' t t' l l' j a1 a2
  rw [dictOf_congr h1 h2] at a1 a2
  exact h c c' t t' l l' j a1 a2

theorem dictOf_putExits (b : B) (k : Nat) (l : List Nat) (c : Bool) :
    dictOf c (b.putExits k l) = if c then b.continues else aset k l b.exits := by cases c <;> rfl
theorem dictOf_putContinues (b : B) (k : Nat) (l : List Nat) (c : Bool) :
    dictOf c (b.putContinues k l) = if c then aset k l b.continues else b.exits := by cases c <;> rfl

theorem ldj_put (b : B) (c0 : Bool) (k : Nat) (l0 : List Nat) (b' : B)
    (hd : ∀ c, dictOf c b' = if c = c0 then aset k l0 (dictOf c b) else dictOf c b)
    (hm : ∀ x, x ∈ l0 → (∃ l, aget k (dictOf c0 b) = some l ∧ x ∈ l) ∨ (∀ c t l, aget t (dictOf c b) = some l → x ∉ l))
    (h : ListsDisjoint b) : ListsDisjoint b' := by
  -- where does a member of a list of b' come from?
  have orig : ∀ c t l j, aget t (dictOf c b') = some l → j ∈ l →
      (aget t (dictOf c b) = some l) ∨ (c = c0 ∧ t = k ∧ l = l0) := by
    intro c t l j a _
    rw [hd] at a
    by_cases hc : c = c0
    · simp only [hc, if_true] at a
      rw [aget_aset] at a
      by_cases ht : t = k
      · simp only [ht, if_true, Option.some.injEq] at a; exact Or.inr ⟨hc, ht, a.symm⟩
      · simp only [ht, if_false] at a; exact Or.inl (by rw [hc]; exact a)
    · simp only [hc, if_false] at a; exact Or.inl a
  intro c c' t t' l l' j a1 a2 m1 m2
  rcases orig c t l j a1 m1 with o1 | ⟨o1, o2, o3⟩ <;> rcases orig c' t' l' j a2 m2 with p1 | ⟨p1, p2, p3⟩
  · exact h c c' t t' l l' j o1 p1 m1 m2
  · subst p3
    rcases hm j m2 with ⟨l1, hl1, hj1⟩ | hnew
    · have := h c c0 t k l l1 j o1 hl1 m1 hj1
      exact ⟨this.1.trans p1.symm, this.2.trans p2.symm⟩
    · exact (hnew c t l o1 m1).elim
  · subst o3
    rcases hm j m1 with ⟨l1, hl1, hj1⟩ | hnew
    · have := h c0 c' k t' l1 l' j hl1 p1 hj1 m2
      exact ⟨o1.trans this.1, o2.trans this.2⟩
    · exact (hnew c' t' l' p1 m2).elim
  · exact ⟨o1.trans p1.symm, o2.trans p2.symm⟩

theorem ldj_del (b b' : B) (hd : ∀ c t l, aget t (dictOf c b') = some l → aget t (dictOf c b) = some l)
    (h : ListsDisjoint b) : ListsDisjoint b' :=
  fun c c' t t' l l' j a1 a2 => h c c' t t' l l' j (hd c t l a1) (hd c' t' l' a2)

theorem ldj_enterSection {b : B} (i : Nat) (h : ListsDisjoint b) : ListsDisjoint (b.enterSection i) := by
  refine ldj_put (b.check (ahas i b.exits) "assert: section entered twice") false i [] _ ?_ (fun x hx => (List.not_mem_nil hx).elim)
    (ldj_of_eq (by simp) (by simp) h)
  intro c; cases c <;> rfl

theorem ldj_delExits {b : B} (i : Nat) (h : ListsDisjoint b) : ListsDisjoint (b.delExits i) := by
  refine ldj_del b _ ?_ h
  intro c t l a
  cases c
  · exact aget_adel_some a
  · exact a

theorem ldj_delLoopKeys {b : B} (i : Nat) (h : ListsDisjoint b) : ListsDisjoint (b.delLoopKeys i) := by
  refine ldj_del b _ ?_ h
  intro c t l a
  cases c
  · exact a
  · exact aget_adel_some a

theorem emit_snoc (cur a : List Nat) (n : Nat) :
    (emit cur (a ++ [n])).1 = (emit cur a).1 ++ cross (emit cur a).2 n ∧ (emit cur (a ++ [n])).2 = [n] := by
  induction a generalizing cur with
  | nil => simp [emit]
  | cons x a ih =>
    obtain ⟨i1, i2⟩ := ih [x]
    simp only [List.cons_append, emit, i1, i2, List.append_assoc, and_self]

theorem addOrdinaryNodes_keeps {α} (f : B → α) (hf : ∀ b n, f (b.addOrdinaryNode n) = f b) :
    ∀ (ns : List Nat) (b : B), f (addOrdinaryNodes b ns) = f b
  | [], _ => rfl
  | n :: ns, b => (addOrdinaryNodes_keeps f hf ns (b.addOrdinaryNode n)).trans (hf b n)

theorem addOrdinaryNodes_exits (ns : List Nat) : ∀ b : B, (addOrdinaryNodes b ns).exits = b.exits :=
  addOrdinaryNodes_keeps B.exits B.addOrdinaryNode_exits ns
theorem addOrdinaryNodes_continues (ns : List Nat) : ∀ b : B, (addOrdinaryNodes b ns).continues = b.continues :=
  addOrdinaryNodes_keeps B.continues B.addOrdinaryNode_continues ns
theorem addOrdinaryNodes_finallySections (ns : List Nat) : ∀ b : B, (addOrdinaryNodes b ns).finallySections = b.finallySections :=
  addOrdinaryNodes_keeps B.finallySections B.addOrdinaryNode_finallySections ns

theorem mem_emit_snoc {cur a : List Nat} {n x : Nat} (h : x ∈ (emit cur (a ++ [n])).2) : x = n := by
  rw [(emit_snoc cur a n).2] at h
  exact List.mem_singleton.mp h

/-- `n` (after the lambdas `lams`) becomes a registered jump of key `t` in `exits` (`c = false`) or `continues` (`c = true`), with all
its guards ahead of it. -/
theorem reg_jump (c : Bool) (T : Nat) (curP : List Nat) (b : B) (cur lams : List Nat) (n t : Nat) (gs l : List Nat)
    (hc : ∀ x, x ∈ cur → Src b T curP x) (ht : aget t (dictOf c b) = some l) (hlin : ListsInNodes b) (hl : ListsDisjoint b)
    (hn : n ∉ b.nodes) :
    let bj := (addOrdinaryNodes b lams).addJumpNode n gs
    let b2 := if c then bj.putContinues t (l ++ [n]) else bj.putExits t (l ++ [n])
    (∀ p, p ∈ (emit cur (lams ++ [n])).1 → p ∈ b2.edges ∨ (p.1 ∈ curP ∧ StartedAt b2 T p.2)) ∧
    PJ c b2 t gs n ∧ ListsDisjoint b2 := by
  intro bj b2
  have hd : ∀ c', dictOf c' b2 = if c' = c then aset t (l ++ [n]) (dictOf c' bj) else dictOf c' bj := fun c' => by
    cases c <;> cases c' <;> rfl
  have he : b2.edges = bj.edges := by cases c <;> rfl
  have hfs : b2.finallySections = bj.finallySections := by cases c <;> rfl
  have hsub : b2.finallySub = bj.finallySub := by cases c <;> rfl
  have hpf : b2.pendingFinally = bj.pendingFinally := by cases c <;> rfl
  let b1 := addOrdinaryNodes b lams
  obtain ⟨e1, e2, _⟩ := emit_src T curP lams b cur hc
  have hd1 : ∀ c', dictOf c' (b1.addJumpNode n gs) = dictOf c' b := fun c' => by
    cases c'
    · exact (B.addJumpNode_exits b1 n gs).trans (addOrdinaryNodes_exits lams b)
    · exact (B.addJumpNode_continues b1 n gs).trans (addOrdinaryNodes_continues lams b)
  have xj := B.fx_addJumpNode [nk n] b1 n gs (List.mem_singleton.mpr rfl)
  have fj := B.frame_addJumpNode [nk n] b1 n gs
  have hTn : sk T ∉ [nk n] := fun h => sk_ne_nk T n (List.mem_singleton.mp h)
  refine ⟨?_, ⟨l ++ [n], n, [], ?_, List.mem_append.mpr (Or.inr (List.mem_singleton.mpr rfl)), ?_,
    fun g hg => (List.not_mem_nil hg).elim, Or.inl ⟨rfl, rfl⟩⟩, ?_⟩
  · intro p hp
    rw [(emit_snoc cur lams n).1] at hp
    rw [he]
    rcases List.mem_append.mp hp with hp | hp
    · rcases e1 p hp with h | ⟨h1, h2⟩
      · exact Or.inl (fj.edges p h)
      · exact Or.inr ⟨h1, startedAt_of_same hsub hpf (startedAt_mono xj hTn h2)⟩
    · obtain ⟨x, hx, rfl⟩ := List.mem_map.mp hp
      rcases pair_addJumpNode n x gs (e2 x hx) with h | ⟨h1, h2⟩
      · exact Or.inl h
      · exact Or.inr ⟨h1, startedAt_of_same hsub hpf h2⟩
  · rw [hd, if_pos rfl, aget_aset, if_pos rfl]
  · rw [hfs, B.finallySections_addJumpNode, aget_aset, if_pos rfl, List.nil_append]
  · refine ldj_put (b1.addJumpNode n gs) c t (l ++ [n]) b2 hd ?_ (ldj_of_eq (hd1 false) (hd1 true) hl)
    intro x hx
    rcases List.mem_append.mp hx with hx | hx
    · exact Or.inl ⟨l, by rw [hd1]; exact ht, hx⟩
    · rw [List.mem_singleton.mp hx]
      refine Or.inr (fun c' t' l' a hm => hn (dict_in_nodes hlin c' (t := t') (l := l') ?_ n hm))
      rw [← hd1 c']
      exact a

theorem reg_exit (T : Nat) (curP : List Nat) (b : B) (cur lams : List Nat) (n t : Nat) (gs ex : List Nat)
    (hc : ∀ x, x ∈ cur → Src b T curP x) (ht : aget t b.exits = some ex) (hlin : ListsInNodes b) (hl : ListsDisjoint b)
    (hn : n ∉ b.nodes) :
    let b2 := (addOrdinaryNodes b lams).addExitNode n t gs
    (∀ p, p ∈ (emit cur (lams ++ [n])).1 → p ∈ b2.edges ∨ (p.1 ∈ curP ∧ StartedAt b2 T p.2)) ∧
    PJ false b2 t gs n ∧ ListsDisjoint b2 := by
  intro b2
  have hb2 : b2 = ((addOrdinaryNodes b lams).addJumpNode n gs).putExits t (ex ++ [n]) := by
    show (addOrdinaryNodes b lams).addExitNode n t gs = _
    simp only [B.addExitNode, addOrdinaryNodes_exits, ht]
  rw [hb2]
  exact reg_jump false T curP b cur lams n t gs ex hc ht hlin hl hn

theorem reg_continue (T : Nat) (curP : List Nat) (b : B) (cur : List Nat) (n t : Nat) (gs cs : List Nat)
    (hc : ∀ x, x ∈ cur → Src b T curP x) (ht : aget t b.continues = some cs) (hlin : ListsInNodes b) (hl : ListsDisjoint b)
    (hn : n ∉ b.nodes) :
    let b2 := b.addContinueNode n t gs
    (∀ p, p ∈ (emit cur [n]).1 → p ∈ b2.edges ∨ (p.1 ∈ curP ∧ StartedAt b2 T p.2)) ∧
    PJ true b2 t gs n ∧ ListsDisjoint b2 := by
  intro b2
  have hb2 : b2 = (b.addJumpNode n gs).putContinues t (cs ++ [n]) := by
    show b.addContinueNode n t gs = _
    simp only [B.addContinueNode, ht]
  rw [hb2]
  exact reg_jump true T curP b cur [] n t gs cs hc ht hlin hl hn

theorem src_nil {b : B} {T x : Nat} (h : Src b T [] x) : x ∈ b.leafSet := by
  rcases h with h | ⟨h, _⟩
  · exact h
  · cases h

theorem Post.toL {σ : List Scope} {T : Nat} {curP : List Nat} {b : B} {R : Flow} (h : Post σ T curP b R) (em : Bool) :
    PostL σ T curP b R em :=
  ⟨h.pend, fun x hx => Or.inl (h.norm x hx), fun _ => h.norm, h.ldj⟩

theorem PostL.inLeaves {σ : List Scope} {T : Nat} {b : B} {R : Flow} {em : Bool} (h : PostL σ T [] b R em) : InLeaves b R.normal :=
  fun x hx => src_nil (h.norm x hx)

theorem PostL.toPost {σ : List Scope} {T : Nat} {b : B} {R : Flow} {em : Bool} (h : PostL σ T [] b R em) : Post σ T [] b R :=
  ⟨h.pend, h.inLeaves, h.ldj⟩

theorem PostL.toPostE {σ : List Scope} {T : Nat} {curP : List Nat} {b : B} {R : Flow} {em : Bool} (h : PostL σ T curP b R em)
    (he : em = true) : Post σ T curP b R := ⟨h.pend, h.normE he, h.ldj⟩

end Malt.Cfg
