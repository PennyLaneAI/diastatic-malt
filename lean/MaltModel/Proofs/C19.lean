import MaltModel.Analysis.TypeInfSem
namespace Malt.TypeInf
open Malt.Py

theorem InSet.mono {v : Val} {T T' : TySet} (h : InSet v T) (hs : ∀ t, t ∈ T → t ∈ T') : InSet v T' := by
  obtain ⟨t, ht, hv⟩ := h
  exact ⟨t, hs t ht, hv⟩

theorem forall_mem_left {α : Type} {P : α → Prop} {a b : List α} (h : ∀ x, x ∈ a ++ b → P x) : ∀ x, x ∈ a → P x :=
  (List.forall_mem_append.mp h).1

theorem forall_mem_right {α : Type} {P : α → Prop} {a b : List α} (h : ∀ x, x ∈ a ++ b → P x) : ∀ x, x ∈ b → P x :=
  (List.forall_mem_append.mp h).2

theorem TMap.get_cons (k : String) (v : TySet) (m : TMap) (x : String) :
    TMap.get ((k, v) :: m) x = if k = x then some v else TMap.get m x := rfl

theorem TMap.get_append (a b : TMap) (x : String) :
    TMap.get (a ++ b) x = match TMap.get a x with | some T => some T | none => TMap.get b x := by
  induction a with
  | nil => simp [TMap.get]
  | cons p a ih =>
    obtain ⟨k, v⟩ := p
    simp only [List.cons_append, TMap.get_cons]
    split <;> simp_all

theorem TMap.mem_keys {m : TMap} {x : String} : x ∈ m.keys ↔ ∃ T, m.get x = some T := by
  induction m with
  | nil => simp [TMap.keys, TMap.get]
  | cons p m ih =>
    obtain ⟨k, v⟩ := p
    rw [TMap.get_cons, show TMap.keys ((k, v) :: m) = k :: TMap.keys m from rfl, List.mem_cons, ih]
    by_cases hk : k = x
    · simp [hk]
    · simp [hk, Ne.symm hk]

theorem TMap.update_append (m : TMap) (a b : List (String × TySet)) :
    TMap.update (TMap.update m a) b = TMap.update m (a ++ b) := by
  simp [TMap.update]

theorem TMap.update_nil (m : TMap) : TMap.update m [] = m := by simp [TMap.update]

theorem TMap.get_update_single (m : TMap) (x : String) (T : TySet) (y : String) :
    (TMap.update m [(x, T)]).get y = if x = y then some T else m.get y := by
  simp [TMap.update, TMap.get_cons]

theorem TMap.le_nil (m : TMap) : TMap.le [] m := by
  intro x T h
  simp [TMap.get] at h

theorem TMap.le_refl (a : TMap) : TMap.le a a := fun _ T h => ⟨T, h, fun _ ht => ht⟩

theorem TMap.le_trans {a b c : TMap} (h1 : TMap.le a b) (h2 : TMap.le b c) : TMap.le a c := by
  intro x T hx
  obtain ⟨T', hb, hs⟩ := h1 x T hx
  obtain ⟨T'', hc, hs'⟩ := h2 x T' hb
  exact ⟨T'', hc, fun t ht => hs' t (hs t ht)⟩

theorem product_sound : ∀ (Ts : List TySet) (vs : Vals), AllTyped Ts vs → ∃ ts, ts ∈ product Ts ∧ hasTys vs ts = true
  | [], _, h => by
      cases h
      exact ⟨.nil, by simp [product], by simp [hasTys]⟩
  | T :: Ts, _, h => by
      cases h with
      | cons hv hrest =>
        obtain ⟨ts, hts, hh⟩ := product_sound Ts _ hrest
        obtain ⟨t, ht, hvt⟩ := hv
        refine ⟨.cons t ts, ?_, by simp [hasTys, hvt, hh]⟩
        simp only [product, List.mem_flatMap, List.mem_map]
        exact ⟨t, ht, ts, hts, rfl⟩

theorem tuple_inSet {Ts : List TySet} {vs : Vals} (h : AllTyped Ts vs) : InSet (.tuple vs) (tupleTypes Ts) := by
  obtain ⟨ts, hts, hh⟩ := product_sound Ts vs h
  refine ⟨.prod ts, ?_, by simpa [hasTy] using hh⟩
  simp only [tupleTypes, List.mem_map]
  exact ⟨ts, hts, rfl⟩

theorem retTypes_sound {ft : TySet} {ρ : Ty} {v : Val} (hall : allFn ft = true) (hf : InSet (.fn ρ) ft)
    (hv : hasTy v ρ = true) : InSet v (retTypes ft) := by
  obtain ⟨t, ht, hh⟩ := hf
  simp only [allFn, List.all_eq_true] at hall
  have := hall t ht
  cases t with
  | fn r =>
    simp only [hasTy, Bool.or_eq_true, beq_iff_eq] at hh
    refine ⟨r, ?_, ?_⟩
    · simp only [retTypes, List.mem_filterMap]
      exact ⟨.fn r, ht, rfl⟩
    · rcases hh with h | h
      · subst h; simp [hasTy]
      · subst h; exact hv
  | _ => simp at this

/-! ### soundness of `StmtInferrer` on expressions -/

section
variable {R : Resolver} {sem : Sem} {env : FnEnv} {S W : List String} {σ : State} {m : TMap}

theorem Sound.get (hS : Sound R env S σ m) {x : String} {v : Val} {T : TySet} (hx : x ∉ S) (hσ : σ x = some v)
    (hm : m.get x = some T) : InSet v T := by
  obtain ⟨h1, h2⟩ := hS x v hx hσ
  cases hfree : env.isFree x with
  | false =>
    obtain ⟨T', hm', hv⟩ := h1 hfree
    rw [hm] at hm'
    exact (Option.some.inj hm') ▸ hv
  | true => exact (h2 hfree).1 T hm

theorem Sound.name (hS : Sound R env S σ m) {i : Nat} {x : String} {v : Val} {T : TySet} (hx : x ∉ S) (hσ : σ x = some v)
    (ht : tyE R env m (.name i x .load) = some T) : InSet v T := by
  simp only [tyE] at ht
  split at ht
  · exact hS.get hx hσ (ht ▸ ‹_›)
  · split at ht
    · exact ((hS x v hx hσ).2 ‹_›).2 T ht
    · cases ht

theorem noTaint_sub {e e' : Expr} (h : NoTaint S e) (hsub : ∀ x, x ∈ readsE e' → x ∈ readsE e) : NoTaint S e' :=
  fun x hx => h x (hsub x hx)

/-! `tyE` on a compound expression: the resolver's answer for the operands' types, nothing as soon as one is unknown. -/

theorem tyE_attr (i : Nat) (e : Expr) (nm : String) (c : Ctx) :
    tyE R env m (.attr i e nm c) = (tyE R env m e).bind (R.attr i) := by
  rw [tyE]; cases tyE R env m e <;> rfl

theorem tyE_unary (i : Nat) (op : String) (e : Expr) :
    tyE R env m (.unary i op e) = (tyE R env m e).bind (R.unop i) := by
  rw [tyE]; cases tyE R env m e <;> rfl

theorem tyE_subscript (i : Nat) (e s : Expr) (c : Ctx) :
    tyE R env m (.subscript i e s c) = (tyE R env m e).bind fun A => (tyE R env m s).bind (R.slice i A) := by
  rw [tyE]; cases tyE R env m e <;> cases tyE R env m s <;> rfl

theorem tyE_binop (i : Nat) (op : String) (l r : Expr) :
    tyE R env m (.binop i op l r) = (tyE R env m l).bind fun A => (tyE R env m r).bind (R.binop i A) := by
  rw [tyE]; cases tyE R env m l <;> cases tyE R env m r <;> rfl

theorem tyE_compare (i : Nat) (l : Expr) (ops : List String) (rs : List Expr) :
    tyE R env m (.compare i l ops rs) = (tyE R env m l).bind fun A => (tyAll R env m rs).bind (R.compare i A) := by
  rw [tyE]; cases tyE R env m l <;> cases tyAll R env m rs <;> rfl

theorem tyAll_cons (e : Expr) (es : List Expr) :
    tyAll R env m (e :: es) = (tyE R env m e).bind fun A => (tyAll R env m es).map (A :: ·) := by
  rw [tyAll]; cases tyE R env m e <;> cases tyAll R env m es <;> rfl

theorem tyE_call_ext {i : Nat} {f : Expr} {args kws : List Expr} (hb : ∀ q, qnOf? f = some q → q ∉ env.bound) :
    tyE R env m (.call i f args kws) = R.call i (tyE R env m f) (tyOpts R env m args) (tyOptsKw R env m kws) := by
  simp only [tyE]
  split
  · rename_i q hq
    simp [hb q hq]
  · rfl

theorem tyE_call_local_some {i : Nat} {f : Expr} {args kws : List Expr} {q : String} {T : TySet} (hq : qnOf? f = some q)
    (hb : q ∈ env.bound) (h : tyE R env m (.call i f args kws) = some T) :
    ∃ ft, m.get q = some ft ∧ allFn ft = true ∧ T = retTypes ft := by
  have hbc : env.bound.contains q = true := by simpa using hb
  simp only [tyE, hq, hbc, if_true] at h
  split at h
  · cases h
  · rename_i ft hm
    split at h
    · exact ⟨ft, hm, ‹_›, (Option.some.inj h).symm⟩
    · cases h

theorem tyE_opaque (tin : TMap) (e : Expr) (h : isOpaque e = true) : tyE R env tin e = none := by
  revert h
  fun_cases isOpaque e <;> intro h <;> first | rfl | cases h

/-- What soundness says of one evaluated expression, of a list of expressions, of a list of keyword arguments. -/
def SoundE (R : Resolver) (env : FnEnv) (S : List String) (m : TMap) (e : Expr) (v : Val) : Prop :=
  ∀ T, NoTaint S e → tyE R env m e = some T → InSet v T

def SoundL (R : Resolver) (env : FnEnv) (S : List String) (m : TMap) (es : List Expr) (vs : Vals) : Prop :=
  (∀ x, x ∈ readsEs es → x ∉ S) → (∀ Ts, tyAll R env m es = some Ts → AllTyped Ts vs) ∧ OptTyped (tyOpts R env m es) vs

def SoundKw (R : Resolver) (env : FnEnv) (S : List String) (m : TMap) (es : List Expr) (vs : Vals) : Prop :=
  (∀ x, x ∈ readsEs es → x ∉ S) → OptTyped (tyOptsKw R env m es) vs

theorem optTyped_cons {o : Option TySet} {v : Val} {ts : List (Option TySet)} {vs : Vals}
    (h : ∀ T, o = some T → InSet v T) (ih : OptTyped ts vs) : OptTyped (o :: ts) (.cons v vs) := by
  cases o with
  | none => exact .none ih
  | some A => exact .some (h A rfl) ih

theorem SoundL.nil : SoundL R env S m [] .nil :=
  fun _ => ⟨fun Ts ht => by cases ht; exact .nil, .nil⟩

theorem SoundKw.nil : SoundKw R env S m [] .nil := fun _ => .nil

theorem SoundL.cons {e : Expr} {v : Val} {es : List Expr} {vs : Vals} (h1 : SoundE R env S m e v)
    (h2 : SoundL R env S m es vs) : SoundL R env S m (e :: es) (.cons v vs) := by
  intro hn
  obtain ⟨ihA, ihO⟩ := h2 (forall_mem_right hn)
  have h1 := fun T => h1 T (forall_mem_left hn)
  refine ⟨fun Ts ht => ?_, ?_⟩
  · simp only [tyAll_cons, Option.bind_eq_some_iff, Option.map_eq_some_iff] at ht
    obtain ⟨A, e1, Bs, e2, rfl⟩ := ht
    exact .cons (h1 A e1) (ihA Bs e2)
  · exact optTyped_cons (h1 · ·) ihO

theorem SoundKw.cons {i : Nat} {a : String} {ha : Bool} {val : Expr} {v : Val} {es : List Expr} {vs : Vals}
    (h1 : SoundE R env S m val v) (h2 : SoundKw R env S m es vs) :
    SoundKw R env S m (.keyword i a ha val :: es) (.cons v vs) := by
  intro hn
  exact optTyped_cons (h1 · (forall_mem_left hn))
    (h2 (forall_mem_right hn))

/- Each case is the `Truthful` field of its form on the parts' results; `NoTaint` passes to the parts, whose reads are appended
(`forall_mem_left/right`); a name or callee that a call may rebind (`W`) is read, hence tainted. -/
theorem tyE_sound (hT : Truthful R sem env) (hW : ∀ x, x ∈ W → x ∈ S) (hS : Sound R env S σ m)
    {e : Expr} {v : Val} (hev : Eval sem env.bound W σ e v) : SoundE R env S m e v := by
  induction hev using Eval.rec (motive_2 := fun es vs _ => SoundL R env S m es vs)
    (motive_3 := fun es vs _ => SoundKw R env S m es vs) with
  | const h => exact fun T _ ht => hT.const _ _ T _ ht h
  | name _ hσ => exact fun T hn ht => hS.name (hn _ (List.mem_singleton.mpr rfl)) hσ ht
  | nameHavoc hxW => exact fun T hn _ => absurd (hW _ hxW) (hn _ (List.mem_singleton.mpr rfl))
  | tuple _ ih =>
    intro T hn ht
    obtain ⟨Ts, hTs, rfl⟩ := Option.map_eq_some_iff.mp ht
    exact tuple_inSet ((ih hn).1 Ts hTs)
  | list _ ih => exact fun T hn ht => hT.listLit _ T _ ht (ih hn).2
  | attr _ hr ih =>
    intro T hn ht
    simp only [tyE_attr, Option.bind_eq_some_iff] at ht
    obtain ⟨A, h1, ht⟩ := ht
    exact hT.attr _ A T _ _ ht (ih A (forall_mem_left hn) h1) hr
  | callLocal hq hqr hb _ hσ hv =>
    intro T hn ht
    obtain ⟨ft, hm, hall, rfl⟩ := tyE_call_local_some hq hb ht
    have hfS := hn _ (List.mem_append_left _ (List.mem_append_left _ hqr))
    exact retTypes_sound hall (hS.get hfS hσ hm) hv
  | callHavoc _ hqr hfW =>
    exact fun T hn _ => absurd (hW _ hfW) (hn _ (List.mem_append_left _ (List.mem_append_left _ hqr)))
  | callExt hb _ _ hcall iha ihk =>
    intro T hn ht
    rw [tyE_call_ext hb] at ht
    exact hT.call _ _ _ _ T _ _ _ ht
      (iha (forall_mem_right (forall_mem_left hn))).2
      (ihk (forall_mem_right hn)) hcall
  | subscript _ _ hr ihe ihs =>
    intro T hn ht
    simp only [tyE_subscript, Option.bind_eq_some_iff] at ht
    obtain ⟨A, h1, B, h2, ht⟩ := ht
    exact hT.slice _ A B T _ _ _ ht (ihe A (forall_mem_left hn) h1)
      (ihs B (forall_mem_right hn) h2) hr
  | compare _ _ hr ihl ihrs =>
    intro T hn ht
    simp only [tyE_compare, Option.bind_eq_some_iff] at ht
    obtain ⟨A, h1, Bs, h2, ht⟩ := ht
    exact hT.compare _ A Bs T _ _ _ ht (ihl A (forall_mem_left hn) h1)
      ((ihrs (forall_mem_right hn)).1 Bs h2) hr
  | binop _ _ hc ihl ihr =>
    intro T hn ht
    simp only [tyE_binop, Option.bind_eq_some_iff] at ht
    obtain ⟨A, h1, B, h2, ht⟩ := ht
    exact hT.binop _ A B T _ _ _ ht (ihl A (forall_mem_left hn) h1)
      (ihr B (forall_mem_right hn) h2) hc
  | unary _ hr ih =>
    intro T hn ht
    simp only [tyE_unary, Option.bind_eq_some_iff] at ht
    obtain ⟨A, h1, ht⟩ := ht
    exact hT.unop _ A T _ _ ht (ih A hn h1) hr
  | opaq h =>
    intro T _ ht
    rw [tyE_opaque _ _ h] at ht
    cases ht
  | nil => exact SoundL.nil
  | cons _ _ ih1 ih2 => exact SoundL.cons ih1 ih2
  | kw _ _ ih1 ih2 => exact SoundKw.cons ih1 ih2
  | _ => exact SoundKw.nil  -- `EvalKw.nil`: its alternative has the same name as that of `EvalL.nil`

/- For a list on its own only the list cases matter: the elements are covered by `tyE_sound`. -/
theorem evalL_sound (hT : Truthful R sem env) (hW : ∀ x, x ∈ W → x ∈ S) (hS : Sound R env S σ m)
    {es : List Expr} {vs : Vals} (hev : EvalL sem env.bound W σ es vs) : SoundL R env S m es vs := by
  induction hev using EvalL.rec (motive_1 := fun _ _ _ => True) (motive_3 := fun _ _ _ => True) with
  | nil => exact SoundL.nil
  | cons he _ _ ih => exact SoundL.cons (tyE_sound hT hW hS he) ih
  | _ => trivial

theorem evalKw_sound (hT : Truthful R sem env) (hW : ∀ x, x ∈ W → x ∈ S) (hS : Sound R env S σ m)
    {es : List Expr} {vs : Vals} (hev : EvalKw sem env.bound W σ es vs) : SoundKw R env S m es vs := by
  induction hev using EvalKw.rec (motive_1 := fun _ _ _ => True) (motive_2 := fun _ _ _ => True) with
  | kw he _ _ ih => exact SoundKw.cons (tyE_sound hT hW hS he) ih
  | _ => first | trivial | exact SoundKw.nil

theorem tyAll_sound (hT : Truthful R sem env) (hW : ∀ x, x ∈ W → x ∈ S) (hS : Sound R env S σ m) :
    ∀ (es : List Expr) (Ts : List TySet) (vs : Vals), (∀ x, x ∈ readsEs es → x ∉ S) → tyAll R env m es = some Ts →
      EvalL sem env.bound W σ es vs → AllTyped Ts vs :=
  fun _ Ts _ hn ht hev => (evalL_sound hT hW hS hev hn).1 Ts ht

theorem tyOpts_sound (hT : Truthful R sem env) (hW : ∀ x, x ∈ W → x ∈ S) (hS : Sound R env S σ m) :
    ∀ (es : List Expr) (vs : Vals), (∀ x, x ∈ readsEs es → x ∉ S) →
      EvalL sem env.bound W σ es vs → OptTyped (tyOpts R env m es) vs :=
  fun _ _ hn hev => (evalL_sound hT hW hS hev hn).2

theorem tyOptsKw_sound (hT : Truthful R sem env) (hW : ∀ x, x ∈ W → x ∈ S) (hS : Sound R env S σ m) :
    ∀ (es : List Expr) (vs : Vals), (∀ x, x ∈ readsEs es → x ∉ S) →
      EvalKw sem env.bound W σ es vs → OptTyped (tyOptsKw R env m es) vs :=
  fun _ _ hn hev => evalKw_sound hT hW hS hev hn

theorem ScopedOk.local {X : List String} (h : ScopedOk env S X) {x : String} (hx : x ∈ X) (hs : x ∉ S) :
    env.isFree x = false := by
  obtain ⟨hb, hn⟩ := h x hx
  have : env.nonlocals.contains x = false := by
    cases hc : env.nonlocals.contains x with
    | false => rfl
    | true => exact absurd (hn hc) hs
  have hb' : x ∈ env.bound := by simpa using hb
  have hn' : x ∉ env.nonlocals := by simpa using this
  simp [FnEnv.isFree, hb', hn']

theorem ScopedOk.sub {X Y : List String} (h : ScopedOk env S X) (hsub : ∀ x, x ∈ Y → x ∈ X) : ScopedOk env S Y :=
  fun x hx => h x (hsub x hx)

theorem Agree.refl (X : List String) (σ : State) : Agree X σ σ := fun _ _ => rfl

theorem Agree.trans {X Y : List String} {σ₁ σ₂ σ₃ : State} (h1 : Agree X σ₁ σ₂) (h2 : Agree Y σ₂ σ₃) :
    Agree (X ++ Y) σ₁ σ₃ := by
  intro x hx
  simp only [List.mem_append, not_or] at hx
  rw [h2 x hx.2, h1 x hx.1]

theorem Agree.mono {X Y : List String} {σ σ' : State} (h : Agree X σ σ') (hsub : ∀ x, x ∈ X → x ∈ Y) : Agree Y σ σ' :=
  fun x hx => h x (fun hm => hx (hsub x hm))

theorem Sound.agree {X : List String} {σ' : State} (hS : Sound R env S σ m) (ha : Agree X σ σ') (hX : ∀ x, x ∈ X → x ∈ S) :
    Sound R env S σ' m := by
  intro x v hx hσ
  have : σ' x = σ x := ha x (fun hm => hx (hX x hm))
  exact hS x v hx (this ▸ hσ)

/-- A free name that has its external type has every type the map records for it. -/
theorem FreeOk.inSet {x : String} {v : Val} {T : TySet} (hf : FreeOk env S m) (hfree : env.isFree x = true) (hx : x ∉ S)
    (hb : ∀ T, extType R env x = some T → InSet v T) (hm : m.get x = some T) : InSet v T := by
  obtain ⟨T0, hc, hsub⟩ := hf x T hfree hx hm
  exact (hb T0 (by simp [extType, hc])).mono hsub

/- For a free name `Sound` asks that EVERY recorded set contains the type: hence `FreeOk` for the larger map. -/
theorem Sound.mono {m' : TMap} (hS : Sound R env S σ m) (hle : TMap.le m m') (hf : FreeOk env S m') :
    Sound R env S σ m' := by
  intro x v hx hσ
  obtain ⟨h1, h2⟩ := hS x v hx hσ
  refine ⟨fun hfree => ?_, fun hfree => ⟨fun T => hf.inSet hfree hx (h2 hfree).2, (h2 hfree).2⟩⟩
  obtain ⟨T, hm, hv⟩ := h1 hfree
  obtain ⟨T', hm', hsub⟩ := hle x T hm
  exact ⟨T', hm', hv.mono hsub⟩

theorem Sound.init {σ₀ : State} (h0 : InitOk R env S σ₀) (hf : FreeOk env S m) : Sound R env S σ₀ m := by
  intro x v hx hσ
  obtain ⟨hfree, hb⟩ := h0 x v hx hσ
  exact ⟨fun h => by simp [hfree] at h, fun _ => ⟨fun T => hf.inSet hfree hx hb, hb⟩⟩

theorem Sound.set {x : String} {v : Val} {T : TySet} (hS : Sound R env S σ m) (hv : InSet v T)
    (hloc : x ∉ S → env.isFree x = false) : Sound R env S (σ.set x v) (TMap.update m [(x, T)]) := by
  intro y w hy hσ
  by_cases hxy : y = x
  · subst hxy
    simp only [State.set, if_true, Option.some.injEq] at hσ
    subst hσ
    have hl := hloc hy
    refine ⟨fun _ => ⟨T, by simp [TMap.get_update_single], hv⟩, fun h => by simp [hl] at h⟩
  · have hσ' : σ y = some w := by simpa [State.set, hxy] using hσ
    have hg : (TMap.update m [(x, T)]).get y = m.get y := by
      rw [TMap.get_update_single]; simp [Ne.symm hxy]
    rw [hg]
    exact hS y w hy hσ'

theorem Sound.set_tainted {x : String} {v : Val} (hS : Sound R env S σ m) (hx : x ∈ S) :
    Sound R env S (σ.set x v) m :=
  hS.agree (X := [x]) (fun y hy => by simp [State.set, (by simpa using hy : y ≠ x)]) (fun y hy => by simp at hy; exact hy ▸ hx)

theorem Sound.update_tainted {news : List (String × TySet)} (hS : Sound R env S σ m)
    (hk : ∀ p, p ∈ news → p.1 ∈ S) : Sound R env S σ (TMap.update m news) := by
  intro x v hx hσ
  have hg : (TMap.update m news).get x = m.get x := by
    simp only [TMap.update, TMap.get_append]
    have : TMap.get news.reverse x = none := by
      cases hr : TMap.get news.reverse x with
      | none => rfl
      | some T =>
        obtain ⟨p, hp, rfl⟩ := List.mem_map.mp (TMap.mem_keys.mpr ⟨T, hr⟩)
        exact absurd (hk p (List.mem_reverse.mp hp)) hx
    rw [this]
  rw [hg]
  exact hS x v hx hσ

theorem bind_agree {t : Expr} {v : Val} {σ σ' : State} (h : Bind t v σ σ') : Agree (storedE t) σ σ' := by
  induction h using Bind.rec (motive_2 := fun es _ σ σ' _ => Agree (storedEs es) σ σ') with
  | name => exact fun y hy => by simp [State.set, mt List.mem_singleton.mpr hy]
  | seqT _ ih => exact ih
  | seqL _ ih => exact ih
  | inert _ => exact Agree.refl _ _
  | nil => exact Agree.refl _ _
  | cons _ _ ih1 ih2 => exact ih1.trans ih2

theorem bindL_agree {es : List Expr} {vs : Vals} {σ σ' : State} (h : BindL es vs σ σ') : Agree (storedEs es) σ σ' := by
  induction h using BindL.rec (motive_1 := fun _ _ _ _ _ => True) with
  | nil => exact Agree.refl _ _
  | cons hb _ _ ih => exact (bind_agree hb).trans ih
  | _ => trivial

/-- Whatever a target records is recorded for a name the target stores (by the recursion of `bindT`). -/
theorem bindT_keys_aux :
    (∀ (rt : Option TySet) (t : Expr), ∀ p ∈ bindT R rt t, p.1 ∈ storedE t) ∧
    (∀ (orig : TySet) (ityp : Option TySet) (i : Nat) (es : List Expr), ∀ p ∈ bindTs R orig ityp i es, p.1 ∈ storedEs es) := by
  refine bindT.mutual_induct_unfolding R (fun _ t r => ∀ p ∈ r, p.1 ∈ storedE t) (fun _ _ _ es r => ∀ p ∈ r, p.1 ∈ storedEs es)
    ?_ ?_ ?_ ?_ ?_ ?_
  · intro T i x p hp  -- a name in Store position
    rw [List.mem_singleton.mp hp]
    exact List.mem_singleton.mpr rfl
  · intro T i k es ih  -- a pattern
    exact ih
  · intro rt i v c ih  -- starred
    exact ih
  · intro t rt _ _ _ p hp  -- any other target records nothing
    cases hp
  · intro _ _ _ p hp  -- `bindTs` of `[]`
    cases hp
  · intro orig ityp i e es ih1 ih2 p hp  -- `bindTs` of `e :: es`
    rcases List.mem_append.mp hp with h | h
    · exact List.mem_append_left _ (ih1 p h)
    · exact List.mem_append_right _ (ih2 p h)

theorem bindT_keys (t : Expr) (rt : Option TySet) (p : String × TySet) (h : p ∈ bindT R rt t) : p.1 ∈ storedE t :=
  bindT_keys_aux.1 rt t p h

theorem bindTs_keys (es : List Expr) (orig : TySet) (ityp : Option TySet) (i : Nat) (p : String × TySet)
    (h : p ∈ bindTs R orig ityp i es) : p.1 ∈ storedEs es :=
  bindT_keys_aux.2 orig ityp i es p h

theorem bindT_eq_nil {t : Expr} (h : storedE t = []) (rt : Option TySet) : bindT R rt t = [] :=
  List.eq_nil_iff_forall_not_mem.mpr fun p hp => by simpa [h] using bindT_keys t rt p hp

theorem bindT_none (t : Expr) : bindT R none t = [] := by
  refine (bindT.mutual_induct_unfolding R (fun rt _ r => rt = none → r = []) (fun _ _ _ _ _ => True)
    ?_ ?_ ?_ ?_ ?_ ?_).1 none t rfl
  · intro T i x h; cases h  -- name and pattern need `some T`
  · intro T i k es _ h; cases h
  · intro rt i v c ih; exact ih  -- starred
  · intros; rfl  -- any other target
  · intros; trivial
  · intros; trivial

def RtOk (rt : Option TySet) (v : Val) : Prop := ∀ T, rt = some T → InSet v T

/-- A tuple / list pattern: either nothing sound is known for its names (no r-value type, or a starred element), and
they are all tainted; or the elements are bound one by one (`ih`). -/
theorem bindT_seq_sound {i : Nat} {k : SeqKind} {es : List Expr} {rt : Option TySet} {σ' : State}
    (hS : Sound R env S σ m) (ha : Agree (storedEs es) σ σ')
    (hu : ∀ x, x ∈ untrackedT R rt (.seq i k es .store) → x ∈ S)
    (ih : ∀ T, rt = some T → (∀ x, x ∈ untrackedTs R T (R.value "int" "0") 0 es → x ∈ S) →
      Sound R env S σ' (TMap.update m (bindTs R T (R.value "int" "0") 0 es))) :
    Sound R env S σ' (TMap.update m (bindT R rt (.seq i k es .store))) := by
  cases rt with
  | none => exact hS.agree ha hu
  | some T =>
    by_cases hstar : es.any isStarred = true
    · have hall : ∀ x, x ∈ storedEs es → x ∈ S := by simpa only [untrackedT, hstar, if_true] using hu
      exact (hS.agree ha hall).update_tainted (fun p hp => hall _ (bindTs_keys es T _ 0 p hp))
    · exact ih T rfl (by simpa only [untrackedT, hstar, Bool.false_eq_true, if_false] using hu)

/-- What binding says of the elements of a pattern: `vs` are the values from position `i` on of the value `vsAll` being
unpacked, whose type set is `orig`. -/
def BindTsSound (R : Resolver) (env : FnEnv) (S : List String) (es : List Expr) (vs : Vals) (σ σ' : State) : Prop :=
  ∀ (orig : TySet) (ityp : Option TySet) (i : Nat) (vsAll : Vals) (m : TMap), Sound R env S σ m →
    (InSet (.tuple vsAll) orig ∨ InSet (.list vsAll) orig) →
    (∀ k u, vs.get? k = some u → vsAll.get? (i + k) = some u) →
    (∀ x, x ∈ untrackedTs R orig ityp i es → x ∈ S) → ScopedOk env S (storedEs es) →
    Sound R env S σ' (TMap.update m (bindTs R orig ityp i es))

theorem bindT_sound (hT : Truthful R sem env) {t : Expr} {v : Val} {σ σ' : State} (hb : Bind t v σ σ') :
    ∀ (rt : Option TySet) (m : TMap), Sound R env S σ m → RtOk rt v →
      (∀ x, x ∈ untrackedT R rt t → x ∈ S) → ScopedOk env S (storedE t) → Sound R env S σ' (TMap.update m (bindT R rt t)) := by
  induction hb using Bind.rec (motive_2 := fun es vs σ σ' _ => BindTsSound R env S es vs σ σ') with
  | @name _ x _ _ =>
    intro rt m hS hrt hu hsc
    cases rt with
    | none => exact hS.set_tainted (hu x (List.mem_singleton.mpr rfl))
    | some T => exact hS.set (hrt T rfl) (hsc.local (List.mem_singleton.mpr rfl))
  | seqT hl ih =>
    exact fun rt m hS hrt hu hsc => bindT_seq_sound hS (bindL_agree hl) hu fun T h hu' =>
      ih T _ 0 _ m hS (Or.inl (hrt T h)) (fun _ _ h => by simpa using h) hu' hsc
  | seqL hl ih =>
    exact fun rt m hS hrt hu hsc => bindT_seq_sound hS (bindL_agree hl) hu fun T h hu' =>
      ih T _ 0 _ m hS (Or.inr (hrt T h)) (fun _ _ h => by simpa using h) hu' hsc
  | inert h0 =>
    intro rt m hS _ _ _
    rw [bindT_eq_nil h0]
    exact hS
  | nil => exact fun _ _ _ _ _ hS _ _ _ _ => hS
  | @cons _ v _ _ _ _ _ _ _ ih1 ih2 =>
    intro orig ityp i vsAll m hS horig hidx hu hsc
    have hrt : RtOk (R.sliceIdx i orig ityp) v := fun Ti hTi =>
      hT.sliceIdx i orig ityp Ti vsAll v hTi horig (hidx 0 v rfl)
    have h1 := ih1 _ m hS hrt (forall_mem_left hu)
      (hsc.sub fun x hx => List.mem_append_left _ hx)
    have h2 := ih2 orig ityp (i + 1) vsAll _ h1 horig
      (fun k u h => by simpa [Nat.add_assoc, Nat.add_comm 1 k] using hidx (k + 1) u h)
      (forall_mem_right hu) (hsc.sub fun x hx => List.mem_append_right _ hx)
    rwa [TMap.update_append] at h2

theorem bindAll_agree {ts : List Expr} {v : Val} {σ σ' : State} (h : BindAll ts v σ σ') : Agree (storedEs ts) σ σ' := by
  induction h with
  | nil => exact Agree.refl _ _
  | cons hb _ ih => exact (bind_agree hb).trans ih

theorem argsBound_agree {as : List Expr} {σ σ' : State} (hb : ArgsBound sem as σ σ') :
    Agree (as.filterMap argName) σ σ' := by
  induction hb with
  | nil => exact Agree.refl _ _
  | cons hn _ _ ih =>
    intro y hy
    simp only [List.filterMap_cons, hn, List.mem_cons, not_or] at hy
    rw [ih y hy.2]
    simp [State.set, hy.1]
  | skip hn _ ih =>
    intro y hy
    simp only [List.filterMap_cons, hn] at hy
    exact ih y hy

theorem step_frame {n : CNode} {σ σ' : State} (h : Step sem env W n σ σ') : Agree (storedN n ++ W) σ σ' := by
  cases h with
  | assign _ hb ha => exact (bindAll_agree hb).trans ha
  | fndef _ ha =>
    refine Agree.trans (X := [_]) ?_ ha
    intro y hy
    simp only [List.mem_singleton] at hy
    simp [State.set, hy]
  | args hb ha =>
    refine Agree.trans ?_ ha
    simp only [storedN]
    exact argsBound_agree hb
  | plain _ ha => exact ha

theorem bindAllT_keys : ∀ (ts : List Expr) (rt : Option TySet) (p : String × TySet),
    p ∈ bindAllT R rt ts → p.1 ∈ storedEs ts
  | [], _, _, h => nomatch h
  | t :: ts, rt, p, h => by
      rcases List.mem_append.mp h with h | h
      · exact List.mem_append_left _ (bindT_keys t rt p h)
      · exact List.mem_append_right _ (bindAllT_keys ts rt p h)

theorem bindAll_sound (hT : Truthful R sem env) {ts : List Expr} {v : Val} {σ σ' : State} (hb : BindAll ts v σ σ')
    (rt : Option TySet) (hrt : RtOk rt v) : ∀ (m : TMap), Sound R env S σ m →
      (∀ x, x ∈ untrackedAllT R rt ts → x ∈ S) → ScopedOk env S (storedEs ts) →
      Sound R env S σ' (TMap.update m (bindAllT R rt ts)) := by
  induction hb with
  | nil => exact fun _ hS _ _ => hS
  | cons hb1 _ ih =>
    intro m hS hu hsc
    have h1 := bindT_sound hT hb1 rt m hS hrt (forall_mem_left hu)
      (hsc.sub fun x hx => List.mem_append_left _ hx)
    have h2 := ih hrt _ h1 (forall_mem_right hu) (hsc.sub fun x hx => List.mem_append_right _ hx)
    rwa [TMap.update_append] at h2

theorem args_sound (hT : Truthful R sem env) {as : List Expr} {σ σ' : State} (hb : ArgsBound sem as σ σ') :
    ∀ (m : TMap), Sound R env S σ m → (∀ x, x ∈ untrackedArgs R env as → x ∈ S) →
      ScopedOk env S (as.filterMap argName) → Sound R env S σ' (TMap.update m (argSyms R env as)) := by
  induction hb with
  | nil => intro m hS _ _; simpa [argSyms, TMap.update_nil] using hS
  | @cons a n v as _ _ hn hv _ ih =>
    intro m hS hu hsc
    simp only [argSyms, ← TMap.update_append]
    have hsc' : ScopedOk env S (as.filterMap argName) := hsc.sub (fun x hx => by
      simp only [List.filterMap_cons, hn]; exact List.mem_cons_of_mem _ hx)
    have hu' : ∀ x, x ∈ untrackedArgs R env as → x ∈ S := fun x hx => hu x (by simp [untrackedArgs, hx])
    cases hty : argType R env a with
    | none =>
      have hnS : n ∈ S := hu n (by simp [untrackedArgs, hn, hty])
      simp only [hn, TMap.update_nil]
      exact ih m (hS.set_tainted hnS) hu' hsc'
    | some T =>
      simp only [hn]
      have hin : InSet v T := hT.arg a n T v hn hty hv
      have hloc : n ∉ S → env.isFree n = false := fun hx =>
        hsc.local (by simp [hn]) hx
      exact ih _ (hS.set hin hloc) hu' hsc'
  | @skip a as _ _ hn _ ih =>
    intro m hS hu hsc
    have : argSyms R env (a :: as) = argSyms R env as := by simp [argSyms, hn]
    rw [this]
    exact ih m hS (fun x hx => hu x (by simp [untrackedArgs, hx])) (hsc.sub (fun x hx => by
      simp only [List.filterMap_cons, hn]; exact hx))

theorem plain_newSyms {n : CNode} (h : isPlain n = true) (m : TMap) : newSyms R env m n = [] := by
  fun_cases newSyms R env m n <;> first | rfl | cases h

theorem plain_untracked {n : CNode} (h : isPlain n = true) (m : TMap) : untrackedN R env S m n = storedN n := by
  fun_cases untrackedN R env S m n <;> first | rfl | cases h

/-- Local soundness of `Analyzer.visit_node`'s transfer function. -/
theorem step_sound (hT : Truthful R sem env) (hW : ∀ x, x ∈ W → x ∈ S) {n : CNode} {σ σ' : State}
    (hstep : Step sem env W n σ σ') (hS : Sound R env S σ m)
    (hu : ∀ x, x ∈ untrackedN R env S m n → x ∈ S) (hsc : ScopedOk env S (storedN n)) :
    Sound R env S σ' (transfer R env n m) := by
  cases hstep with
  | @assign _ value v targets _ _ _ hev hb ha =>
    refine Sound.agree ?_ ha hW
    simp only [transfer, newSyms]
    by_cases htaint : (readsE value).any (fun x => S.contains x) = true
    · have hall : ∀ x, x ∈ storedEs targets → x ∈ S := fun x hx => hu x (by simp only [untrackedN, htaint, if_true]; exact hx)
      exact (hS.agree (bindAll_agree hb) hall).update_tainted
        (fun p hp => hall _ (bindAllT_keys targets _ p hp))
    · have hnt : NoTaint S value := by
        intro x hx hxs
        apply htaint
        simp only [List.any_eq_true]
        exact ⟨x, hx, by simpa using hxs⟩
      have hrt : RtOk (tyE R env m value) v := fun T hTy => tyE_sound hT hW hS hev T hnt hTy
      exact bindAll_sound hT hb _ hrt m hS
        (fun x hx => hu x (by simp only [untrackedN, htaint]; exact hx)) (by simpa [storedN] using hsc)
  | fndef hret ha =>
    refine Sound.agree ?_ ha hW
    simp only [transfer, newSyms]
    exact hS.set (hT.fnRet _ _ _ _ _ _ _ _ hret) (fun hx => hsc.local (by simp [storedN]) hx)
  | args hb ha =>
    refine Sound.agree ?_ ha hW
    simp only [transfer, newSyms]
    exact args_sound hT hb m hS (by simpa [untrackedN] using hu) (by simpa [storedN] using hsc)
  | plain hp ha =>
    simp only [transfer, plain_newSyms hp, TMap.update_nil]
    refine hS.agree ha ?_
    intro x hx
    simp only [List.mem_append] at hx
    rcases hx with hx | hx
    · exact hu x (by rw [plain_untracked hp]; exact hx)
    · exact hW x hx

end

/-! ### the annotations the model emits are `tyE` facts -/

section
variable {R : Resolver} {env : FnEnv} {tin : TMap}

def Justified (R : Resolver) (env : FnEnv) (tin : TMap) (p : Nat × TySet) : Prop :=
  ∃ e : Expr, e.id = p.1 ∧ tyE R env tin e = some p.2

theorem selfAnn_mem {e : Expr} {p : Nat × TySet} (h : p ∈ selfAnn R env tin e) : p.1 = e.id ∧ tyE R env tin e = some p.2 := by
  simp only [selfAnn] at h
  split at h
  · rw [List.mem_singleton.mp h]
    exact ⟨rfl, ‹_›⟩
  · cases h

def AllJustified (R : Resolver) (env : FnEnv) (tin : TMap) (l : List (Nat × TySet)) : Prop := ∀ p ∈ l, Justified R env tin p

theorem allJustified_nil : AllJustified R env tin [] := fun _ h => nomatch h

theorem allJustified_append {a b : List (Nat × TySet)} :
    AllJustified R env tin (a ++ b) ↔ AllJustified R env tin a ∧ AllJustified R env tin b := List.forall_mem_append

theorem allJustified_selfAnn (e : Expr) : AllJustified R env tin (selfAnn R env tin e) :=
  fun _ h => ⟨e, (selfAnn_mem h).1.symm, (selfAnn_mem h).2⟩

/-- `annTuple` stops at the first element of unknown type; either way it adds recursive results only. -/
theorem allJustified_annTuple_cons {e : Expr} {es : List Expr} (h1 : AllJustified R env tin (annE R env tin e))
    (h2 : AllJustified R env tin (annTuple R env tin es)) : AllJustified R env tin (annTuple R env tin (e :: es)) := by
  simp only [annTuple]
  split <;> simp only [allJustified_append, allJustified_nil, *, and_self]

/- By the recursion of `annE`: every list it returns is put together from recursive results and `selfAnn`s. -/
theorem ann_justified :
    (∀ e, AllJustified R env tin (annE R env tin e)) ∧ (∀ es, AllJustified R env tin (annKw R env tin es)) ∧
    (∀ es, AllJustified R env tin (annEs R env tin es)) ∧ (∀ es, AllJustified R env tin (annTuple R env tin es)) := by
  apply annE.mutual_induct_unfolding R env tin (fun _ => AllJustified R env tin) (fun _ => AllJustified R env tin)
    (fun _ => AllJustified R env tin) (fun _ => AllJustified R env tin)
  all_goals
    intros
    first
      | simp only [annKw, annEs, annTuple, allJustified_append, allJustified_nil, allJustified_selfAnn, *, and_self]; done
      | exact allJustified_annTuple_cons ‹_› ‹_›

theorem annE_justified : ∀ (e : Expr) (p : Nat × TySet), p ∈ annE R env tin e → Justified R env tin p :=
  ann_justified.1
theorem annTuple_justified : ∀ (es : List Expr) (p : Nat × TySet), p ∈ annTuple R env tin es → Justified R env tin p :=
  ann_justified.2.2.2
theorem annEs_justified : ∀ (es : List Expr) (p : Nat × TySet), p ∈ annEs R env tin es → Justified R env tin p :=
  ann_justified.2.2.1
theorem annKw_justified : ∀ (es : List Expr) (p : Nat × TySet), p ∈ annKw R env tin es → Justified R env tin p :=
  ann_justified.2.1

end

end Malt.TypeInf
