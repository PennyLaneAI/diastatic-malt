import MaltModel.Proofs.C03Basic
import MaltModel.Proofs.C03BlockVars
import MaltModel.Proofs.C03Pass
/-!
The calling contract of the calls the model emits: the names of the functions of a `chunk` are pairwise distinct, so
`lookupDef`, walking back from the call, finds each of them and `extract` yields the call with exactly those functions.
-/
namespace Malt.Conv.Contract
open Malt Malt.Py Malt.Conv.ControlFlow Malt.Naming

def AllGood (P : OpCall → Prop) (l : List (Option OpCall)) : Prop := ∀ o ∈ l, ∃ c, o = some c ∧ P c

theorem AllGood.nil {P} : AllGood P [] := by intro o ho; cases ho
theorem AllGood.append {P} {a b : List (Option OpCall)} (ha : AllGood P a) (hb : AllGood P b) : AllGood P (a ++ b) :=
  List.forall_mem_append.mpr ⟨ha, hb⟩
theorem AllGood.single {P} {c : OpCall} (h : P c) : AllGood P [some c] :=
  List.forall_mem_singleton.mpr ⟨c, rfl, h⟩

theorem AllGood.imp {P Q : OpCall → Prop} {l : List (Option OpCall)} (h : AllGood P l) (hPQ : ∀ c, P c → Q c) :
    AllGood Q l := fun o ho =>
  let ⟨c, hc, hP⟩ := h o ho
  ⟨c, hc, hPQ c hP⟩

theorem emittedBlock_nil (pre : List Stmt) : emittedBlock pre [] = [] := rfl

theorem emittedBlock_cons (pre : List Stmt) (s : Stmt) (rest : List Stmt) :
    emittedBlock pre (s :: rest) =
      (match opCall? s with
       | some (k, args, kws) => [extract pre k args kws]
       | none => []) ++ emittedStmt s ++ emittedBlock (s :: pre) rest := by
  cases h : opCall? s <;> simp [emittedBlock, h]

theorem emittedBlock_append : ∀ (xs ys pre : List Stmt),
    emittedBlock pre (xs ++ ys) = emittedBlock pre xs ++ emittedBlock (xs.reverse ++ pre) ys
  | [] => fun _ _ => rfl
  | x :: xs => by
      intro ys pre
      rw [List.cons_append, emittedBlock_cons, emittedBlock_cons, emittedBlock_append xs ys (x :: pre)]
      simp [List.append_assoc]

theorem AllGood.singleton_block {P} {s : Stmt} (h1 : opCall? s = none) (pre : List Stmt) (h : AllGood P (emittedStmt s)) :
    AllGood P (emittedBlock pre [s]) := by
  rw [emittedBlock_cons, h1, emittedBlock_nil]
  simpa using h

theorem opCall_none_of_clean (s : Stmt) (h : cleanS s = true) : opCall? s = none := by
  cases s
  case expr => simpa [cleanS, isOpCall] using h
  all_goals rfl

mutual
theorem clean_stmt : ∀ (s : Stmt), cleanS s = true → emittedStmt s = []
  | .functionDef _ _ _ b _ _ _ | .classDef _ _ _ _ b _ | .with_ _ _ b _ | .handler _ _ _ b | .other _ _ _ b => fun h =>
      clean_block b [] h
  | .for_ _ _ _ b e _ _ | .while_ _ _ b e | .if_ _ _ b e => fun h => by
      simp only [cleanS, Bool.and_eq_true] at h
      simp only [emittedStmt, clean_block b [] h.1, clean_block e [] h.2, List.append_nil]
  | .try_ _ b hd e f => fun h => by
      simp only [cleanS, Bool.and_eq_true] at h
      simp only [emittedStmt, clean_block b [] h.1.1.1, clean_block hd [] h.1.1.2, clean_block e [] h.1.2,
        clean_block f [] h.2, List.append_nil]
  | .expr .. | .assign .. | .augAssign .. | .ret .. | .delete .. | .annAssign .. | .raise .. | .assert_ .. | .import_ ..
  | .importFrom .. | .global .. | .nonlocal .. | .pass .. | .break_ .. | .continue_ .. => fun _ => rfl
theorem clean_block : ∀ (ss pre : List Stmt), cleanL ss = true → emittedBlock pre ss = []
  | [], pre => fun _ => emittedBlock_nil pre
  | s :: rest, pre => fun h => by
      simp only [cleanL, Bool.and_eq_true] at h
      rw [emittedBlock_cons, opCall_none_of_clean s h.1, clean_stmt s h.1, clean_block rest _ h.2]
      rfl
end

theorem cleanL_eq_all : ∀ l : List Stmt, cleanL l = l.all cleanS
  | [] => rfl
  | s :: l => by rw [cleanL, cleanL_eq_all l, List.all_cons]

theorem emittedBlock_clean_append (xs : List Stmt) {ys pre : List Stmt} (h : cleanL xs = true) :
    emittedBlock pre (xs ++ ys) = emittedBlock (xs.reverse ++ pre) ys := by
  rw [emittedBlock_append, clean_block xs pre h]
  rfl

theorem AllGood.of_clean {P} {pre ss : List Stmt} (h : cleanL ss = true) : AllGood P (emittedBlock pre ss) := by
  rw [clean_block ss pre h]
  exact .nil

theorem filterMap_argName (ps : List String) :
    (ps.map fun p => Expr.arg 0 p []).filterMap argName? = ps := by
  rw [List.filterMap_map]
  exact List.filterMap_some

theorem all_argName (ps : List String) :
    ((ps.map fun p => Expr.arg 0 p []).all fun a => (argName? a).isSome) = true := by
  rw [List.all_map]
  exact List.all_eq_true.mpr fun _ _ => rfl

theorem fnInfo_fnDef (n : String) (ps : List String) (b : List Stmt) :
    fnInfo? (fnDef n ps b) = some (n, { params := ps, plain := true, body := b }) := by
  simp only [fnDef, argsOf, fnInfo?, filterMap_argName, all_argName]
  simp

theorem opCall_fnDef (n : String) (ps : List String) (b : List Stmt) : opCall? (fnDef n ps b) = none := rfl
theorem emittedStmt_fnDef (n : String) (ps : List String) (b : List Stmt) :
    emittedStmt (fnDef n ps b) = emittedBlock [] b := by simp [fnDef, emittedStmt]

theorem clean_decls (fs : FnScope) (vars : List String) : cleanL (nonlocalDecls fs vars) = true := by
  rw [cleanL_eq_all]
  exact all_nonlocalDecls (fun _ => rfl) fun _ => rfl

theorem isDecl_decl {fs : FnScope} {vars : List String} : ∀ s ∈ nonlocalDecls fs vars, isDecl s = true :=
  List.all_eq_true.mp (all_nonlocalDecls (fun _ => rfl) fun _ => rfl)

theorem clean_undef (u : List String) : cleanL (undefinedAssigns u) = true := by
  rw [cleanL_eq_all]
  exact all_undefinedAssigns fun _ => rfl

theorem clean_setterBody (vars : List String) (fs : FnScope) :
    cleanL (setterBody vars (nonlocalDecls fs vars)) = true := by
  cases vars with
  | nil => rfl
  | cons v vs =>
    rw [setterBody_cons, cleanL_eq_all, List.all_append, ← cleanL_eq_all, clean_decls]
    rfl

theorem emitted_defBody {P : OpCall → Prop} {fs : FnScope} {dv : List String} {body : List Stmt}
    (hbody : ∀ pre, AllGood P (emittedBlock pre body)) :
    AllGood P (emittedBlock [] (nonlocalDecls fs dv ++ body)) := by
  rw [emittedBlock_clean_append _ (clean_decls ..)]
  exact hbody _

theorem exprQN_toExpr (c : Ctx) : ∀ q : QN, exprQN (q.toExpr c) = some q
  | .sym s => rfl
  | .lit k r => rfl
  | .attr b a => by simp [QN.toExpr, exprQN, exprQN_toExpr .load b]
  | .sub b i => by simp [QN.toExpr, exprQN, exprQN_toExpr .load b, exprQN_toExpr .load i]

theorem exprQN_qnExpr (c : Ctx) (v : String) : exprQN (qnExpr c v) = some (qnOf v) := exprQN_toExpr c _

theorem qnOf_toString (v : String) : (qnOf v).toString = v := by
  unfold qnOf
  split
  · rename_i q _
    split
    · rename_i h; simpa using h
    · rfl
  · rfl

theorem qnOf_inj {a b : String} (h : qnOf a = qnOf b) : a = b := by
  rw [← qnOf_toString a, ← qnOf_toString b, h]

theorem getterDen_toExpr (q : QN) :
    getterDen (q.toExpr .load) = some { qn := q, guarded := false, label := .noneMarker } := by
  cases q <;> simp [QN.toExpr, getterDen, exprQN, exprQN_toExpr]

theorem getterDen_guardedVar (v : String) :
    getterDen (guardedVar v) =
      some { qn := qnOf v, guarded := BlockVars.isComposite v,
             label := if BlockVars.isComposite v then strConst v else .noneMarker } := by
  unfold guardedVar
  by_cases h : BlockVars.isComposite v = true
  · simp [h, getterDen, agOp?, agAttr, noArgs, argsOf, exprQN_qnExpr]
  · simp only [h, if_false, Bool.false_eq_true]
    exact getterDen_toExpr _

theorem natConst_intConst (n : Nat) : natConst? (intConst n) = some n := by
  simp only [intConst, natConst?]
  exact Nat.toNat?_repr n

theorem posOk_var (v : String) : PosOk (strConst v) (guardedVar v) (qnExpr .store v) := by
  refine ⟨v, _, ⟨0, rfl⟩, getterDen_guardedVar v, rfl, exprQN_qnExpr _ _, ?_, ?_⟩
  · intro h
    simp only at h
    simp only [h, if_true]
    exact ⟨0, rfl⟩
  · intro h; exact h

theorem all3_vars : ∀ vars : List String,
    All3 PosOk (vars.map strConst) (vars.map guardedVar) (vars.map (qnExpr .store))
  | [] => .nil
  | v :: vs => .cons (posOk_var v) (all3_vars vs)

theorem mapM_exprQN_vars : ∀ vars : List String,
    (vars.map (qnExpr .store)).mapM exprQN = some (vars.map qnOf)
  | [] => rfl
  | v :: vs => by
      simp only [List.map_cons, List.mapM_cons, exprQN_qnExpr, mapM_exprQN_vars vs]
      rfl

theorem nodup_map_qnOf {vars : List String} (h : vars.Nodup) : (vars.map qnOf).Nodup :=
  List.Pairwise.map qnOf (fun _ _ hab heq => hab (qnOf_inj heq)) h

structure StateOk (vars : List String) (c : OpCall) : Prop where
  names : c.names = vars.map strConst
  getter : getterTuple c = some (vars.map guardedVar)
  setter : setterTargets c = some (vars.map (qnExpr .store))

theorem StateOk.positions {vars c} (h : StateOk vars c) : Positions c :=
  ⟨_, _, h.getter, h.setter, h.names ▸ all3_vars vars⟩

theorem StateOk.lengths {vars c} (h : StateOk vars c) : Lengths c := h.positions.lengths

theorem StateOk.distinct {vars c} (h : StateOk vars c) (hn : vars.Nodup) : Distinct c :=
  ⟨_, _, h.setter, mapM_exprQN_vars vars, nodup_map_qnOf hn⟩

theorem StateOk.getterPure {vars c} (h : StateOk vars c) : GetterPure c := by
  refine ⟨_, h.getter, ?_⟩
  intro g hg
  obtain ⟨v, _, rfl⟩ := List.mem_map.mp hg
  rw [getterDen_guardedVar]; rfl

theorem stateOk_of {vars : List String} {fs : FnScope} {c : OpCall}
    (hn : c.names = vars.map strConst)
    (hg : c.getter.body = getterBody vars)
    (hs : c.setter.body = setterBody vars (nonlocalDecls fs vars))
    (hp : c.setter.params = [setterParam vars]) : StateOk vars c := by
  refine ⟨hn, ?_, ?_⟩
  · simp [getterTuple, hg, getterBody, tupleE]
  · unfold setterTargets
    rw [hs, hp]
    cases vars with
    | nil => simp [setterBody_nil, isDecl]
    | cons v vs =>
      rw [setterBody_cons, List.dropWhile_append_of_pos isDecl_decl]
      simp [setterParam, isDecl, tupleE, nameE]

theorem declared_of_target {fs : FnScope} {vars : List String} {rest : List Stmt} {t : Expr} {s : String} {i : Nat}
    {ctx : Ctx} (ht : t ∈ vars.map (qnExpr .store)) (heq : t = .name i s ctx) (hs : BlockVars.isComposite s = false) :
    s ∈ declaredNames (nonlocalDecls fs vars ++ rest) := by
  obtain ⟨v, hv, rfl⟩ := List.mem_map.mp ht
  have hq : some (qnOf v) = some (QN.sym s) := by rw [← exprQN_qnExpr .store v, heq]; rfl
  rw [← qnOf_toString v, Option.some.inj hq] at hv
  unfold declaredNames
  rw [List.takeWhile_append_of_pos isDecl_decl, List.flatMap_append]
  refine List.mem_append_left _ ?_
  unfold nonlocalDecls
  rw [List.flatMap_append, flatMap_opt (.global 0 ·) (fun _ => rfl), flatMap_opt (.nonlocal 0 ·) (fun _ => rfl),
    List.mem_append, List.mem_filter, List.mem_filter]
  by_cases hg : fs.globals.contains s = true
  · exact .inl ⟨hv, hg⟩
  · refine .inr ⟨hv, ?_⟩
    simp only [hs, Bool.not_false, Bool.true_and, Bool.not_eq_true', List.contains_eq_mem, decide_eq_false_iff_not,
      List.mem_filter, not_and]
    exact fun _ hm => hg (by simpa using hm)

theorem setterDeclares_of {vars : List String} {fs : FnScope} {c : OpCall}
    (hst : StateOk vars c) (hs : c.setter.body = setterBody vars (nonlocalDecls fs vars)) : SetterDeclares c := by
  refine ⟨_, hst.setter, fun t ht i s ctx heq hsimple => ?_⟩
  rw [hs]
  cases vars with
  | nil => cases ht
  | cons a as => exact declared_of_target ht heq hsimple

theorem callbacksDeclare_of {vars : List String} {fs : FnScope} {c : OpCall} (hst : StateOk vars c)
    (hb : ∃ rb, c.body.body = nonlocalDecls fs vars ++ rb)
    (hsnd : c.kind ≠ .whileStmt → ∀ f, c.second = some f → ∃ rf, f.body = nonlocalDecls fs vars ++ rf) :
    CallbacksDeclare c := by
  refine ⟨_, hst.setter, fun t ht i s ctx heq hsimple => ?_⟩
  obtain ⟨rb, hrb⟩ := hb
  refine ⟨hrb ▸ declared_of_target ht heq hsimple, fun hk f hf => ?_⟩
  obtain ⟨rf, hrf⟩ := hsnd hk f hf
  exact hrf ▸ declared_of_target ht heq hsimple

theorem lookupDef_skip {l pre : List Stmt} {n : String} (h : ∀ s ∈ l, ∀ p, fnInfo? s = some p → p.1 ≠ n) :
    lookupDef (l ++ pre) n = lookupDef pre n := by
  induction l with
  | nil => rfl
  | cons s l ih =>
    rw [List.cons_append, lookupDef, ih fun s hs => h s (List.mem_cons_of_mem _ hs)]
    cases hf : fnInfo? s with
    | none => rfl
    | some p => exact if_neg fun he => h s (List.mem_cons_self ..) p hf (beq_iff_eq.mp he)

/-- Here and not beside `GenDef`: `FnInfo` belongs to the contract. -/
def _root_.Malt.Conv.ControlFlow.GenDef.info (d : GenDef) : FnInfo := { params := d.params, plain := true, body := d.body }

theorem fnInfo_stmt (d : GenDef) : fnInfo? d.stmt = some (d.name, d.info) := fnInfo_fnDef ..

theorem lookupDef_chunk (u : List String) (pre : List Stmt) : ∀ (defs : List GenDef), (defs.map (·.name)).Nodup →
    ∀ d ∈ defs, lookupDef ((undefinedAssigns u).reverse ++ ((defs.map GenDef.stmt).reverse ++ pre)) d.name = some d.info := by
  intro defs hn d hd
  rw [lookupDef_skip fun s hs p hp => by
    obtain ⟨v, rfl⟩ := mem_undefinedAssigns (List.mem_reverse.mp hs)
    cases hp]
  induction defs generalizing pre with
  | nil => cases hd
  | cons d0 ds ih =>
    -- `d0` is the farthest from the call: the later `ds` are searched first, and none of them has its name
    rw [List.map_cons, List.nodup_cons] at hn
    rw [List.map_cons, List.reverse_cons, List.append_assoc]
    rcases List.mem_cons.mp hd with rfl | hd
    · rw [lookupDef_skip, List.singleton_append, lookupDef, fnInfo_stmt]
      · exact if_pos (beq_self_eq_true _)
      · intro s hs p hp he
        obtain ⟨d', hd', rfl⟩ := List.mem_map.mp (List.mem_reverse.mp hs)
        rw [fnInfo_stmt] at hp
        cases hp
        exact hn.1 (List.mem_map.mpr ⟨d', hd', he⟩)
    · exact ih _ hn.2 hd

theorem emittedBlock_defs (rest : List Stmt) : ∀ (defs : List GenDef) (pre : List Stmt),
    emittedBlock pre (defs.map GenDef.stmt ++ rest) =
      defs.flatMap (fun d => emittedBlock [] d.body) ++ emittedBlock ((defs.map GenDef.stmt).reverse ++ pre) rest
  | [], _ => rfl
  | d :: defs, pre => by
      rw [List.map_cons, List.cons_append, emittedBlock_cons, emittedBlock_defs rest defs, List.flatMap_cons,
        List.reverse_cons, GenDef.stmt, opCall_fnDef, emittedStmt_fnDef]
      simp only [List.append_assoc, List.cons_append, List.nil_append]

theorem emittedBlock_chunk (defs : List GenDef) (u : List String) {op : String} {k : OpKind} (hk : kindOfOp op = some k)
    (args : List Expr) (pre : List Stmt) :
    emittedBlock pre (chunk defs u op args) = defs.flatMap (fun d => emittedBlock [] d.body) ++
      [extract ((undefinedAssigns u).reverse ++ ((defs.map GenDef.stmt).reverse ++ pre)) k args []] := by
  unfold chunk
  rw [List.append_assoc, emittedBlock_defs, emittedBlock_clean_append _ (clean_undef u), emittedBlock_cons, emittedBlock_nil]
  simp [opCallStmt, opCall?, agOp?, agAttr, hk, emittedStmt]

theorem extract_if {pre : List Stmt} {b o g s : String} {fb fo fg fs : FnInfo} {cond nouts : Expr} {names : List Expr}
    (hb : lookupDef pre b = some fb) (ho : lookupDef pre o = some fo) (hg : lookupDef pre g = some fg)
    (hs : lookupDef pre s = some fs) :
    extract pre .ifStmt [cond, nameE b, nameE o, nameE g, nameE s, tupleE names, nouts] [] =
      some { kind := .ifStmt, head := cond, names := names, getter := fg, setter := fs, body := fb, second := some fo,
             last := nouts } := by
  simp [extract, nameE, nameOf?, tupleE, tupleElts?, hb, ho, hg, hs]

theorem extract_while {pre : List Stmt} {t b g s : String} {ft fb fg fs : FnInfo} {opts : Expr} {names : List Expr}
    (ht : lookupDef pre t = some ft) (hb : lookupDef pre b = some fb) (hg : lookupDef pre g = some fg)
    (hs : lookupDef pre s = some fs) :
    extract pre .whileStmt [nameE t, nameE b, nameE g, nameE s, tupleE names, opts] [] =
      some { kind := .whileStmt, head := nameE t, names := names, getter := fg, setter := fs, body := fb,
             second := some ft, last := opts } := by
  simp [extract, nameE, nameOf?, tupleE, tupleElts?, ht, hb, hg, hs]

theorem extract_for {pre : List Stmt} {b g s : String} {fb fg fs : FnInfo} {it opts : Expr} {names : List Expr}
    {decls : List Stmt} (ex : Option (String × Expr)) (he : ∀ d ∈ extraDefs decls ex, lookupDef pre d.name = some d.info)
    (hb : lookupDef pre b = some fb) (hg : lookupDef pre g = some fg) (hs : lookupDef pre s = some fs) :
    extract pre .forStmt [it, extraArg ex, nameE b, nameE g, nameE s, tupleE names, opts] [] =
      some { kind := .forStmt, head := it, names := names, getter := fg, setter := fs, body := fb,
             second := (extraDefs decls ex).head?.map (·.info), last := opts } := by
  cases ex with
  | none => simp [extract, extraDefs, extraArg, noneConst, isNoneConst, nameE, nameOf?, tupleE, tupleElts?, hb, hg, hs]
  | some p =>
    have he := he _ (.head _)
    simp [extract, extraDefs, extraArg, isNoneConst, nameE, nameOf?, tupleE, tupleElts?, he, hb, hg, hs]

theorem forBodyTarget_eq {c : OpCall} {decls rest : List Stmt} {t : Expr} {i : String}
    (hd : ∀ s ∈ decls, isDecl s = true) (hb : c.body.body = decls ++ [.assign 0 [t] (nameE i)] ++ rest)
    (hp : c.body.params = [i]) : forBodyTarget c = some t := by
  unfold forBodyTarget
  rw [hb, hp, List.append_assoc, List.dropWhile_append_of_pos hd]
  simp [isDecl, nameE]

/-- What the traversal proves of every emitted call; `L` = the loops of the source tree. -/
def GoodIn (env : Env) (L : List SourceLoop) (c : OpCall) : Prop := Good c ∧ OptsOk env L c ∧ CallbacksDeclare c

theorem optsOk_if {env : Env} {L : List SourceLoop} {c : OpCall} (hk : c.kind = .ifStmt) :
    OptsOk env L c ↔ ∃ (fs : FnScope) (id : Nat),
      c.names = (env.blockVars fs id ((env.scope id "BODY_SCOPE").bound ++ (env.scope id "ORELSE_SCOPE").bound)).scopeVars.map strConst ∧
      c.last = intConst (env.blockVars fs id ((env.scope id "BODY_SCOPE").bound ++ (env.scope id "ORELSE_SCOPE").bound)).nouts := by
  simp only [OptsOk, hk]

theorem optsOk_for {env : Env} {L : List SourceLoop} {c : OpCall} (hk : c.kind = .forStmt) :
    OptsOk env L c ↔ ∃ l ∈ L, l.isFor = true ∧
      c.last = loopOptions env.dirs l.id [("iterate_names", strConst (unparseE l.header))] ∧
      forBodyTarget c = some (splice .store l.header) := by
  simp only [OptsOk, hk]

theorem optsOk_while {env : Env} {L : List SourceLoop} {c : OpCall} (hk : c.kind = .whileStmt) :
    OptsOk env L c ↔ ∃ l ∈ L, l.isFor = false ∧
      c.last = loopOptions env.dirs l.id [] ∧ whileTest c = some (splice .load l.header) := by
  simp only [OptsOk, hk]

theorem outputsFirst_of_optsOk {env : Env} {L : List SourceLoop} {c : OpCall} (h : OptsOk env L c) : OutputsFirst env c := by
  intro hk
  obtain ⟨fs, id, hn, hl⟩ := (optsOk_if hk).mp h
  refine ⟨fs, id, _, rfl, hn, by rw [hl]; exact natConst_intConst _, ?_, fun i v hi =>
    BlockVars.blockVars_outputs_first hi⟩
  rw [hn, List.length_map]
  exact (BlockVars.blockVars_nouts rfl).1

theorem GoodIn.contract {env : Env} {L : List SourceLoop} {c : OpCall} (h : GoodIn env L c) : OperatorContract env L c :=
  let ⟨⟨hlen, hpos, har, hno, hdis, hpure, hdecl⟩, hopt, hcb⟩ := h
  { lengths := hlen, positions := hpos, distinct := hdis, arity := har, getterPure := hpure, setterDeclares := hdecl,
    callbacksDeclare := hcb, nouts := hno, outputsFirst := outputsFirst_of_optsOk hopt, opts := hopt }

theorem goodIn_of_state {env : Env} {L : List SourceLoop} (vars : List String) (fs : FnScope) {c : OpCall}
    (hn : c.names = vars.map strConst)
    (hg : c.getter.body = getterBody vars)
    (hs : c.setter.body = setterBody vars (nonlocalDecls fs vars))
    (hp : c.setter.params = [setterParam vars])
    (hnd : vars.Nodup) (har : Arity c) (hno : Nouts c) (hopt : OptsOk env L c)
    (hb : ∃ rb, c.body.body = nonlocalDecls fs vars ++ rb)
    (hsnd : c.kind ≠ .whileStmt → ∀ f, c.second = some f → ∃ rf, f.body = nonlocalDecls fs vars ++ rf) : GoodIn env L c :=
  have hst := stateOk_of hn hg hs hp
  ⟨⟨hst.lengths, hst.positions, har, hno, hst.distinct hnd, hst.getterPure, setterDeclares_of hst hs⟩, hopt,
    callbacksDeclare_of hst hb hsnd⟩

theorem chunk_good {P : OpCall → Prop} {defs : List GenDef} {op : String} {k : OpKind} {args : List Expr}
    {u : List String} (hn : (defs.map (·.name)).Nodup) (hk : kindOfOp op = some k)
    (hb : ∀ d ∈ defs, AllGood P (emittedBlock [] d.body))
    (hc : ∀ pre, (∀ d ∈ defs, lookupDef pre d.name = some d.info) → ∃ c, extract pre k args [] = some c ∧ P c) :
    ∀ pre, AllGood P (emittedBlock pre (chunk defs u op args)) := by
  intro pre
  rw [emittedBlock_chunk defs u hk]
  refine AllGood.append ?_ ?_
  · intro o ho
    obtain ⟨d, hd, ho⟩ := List.mem_flatMap.mp ho
    exact hb d hd o ho
  · obtain ⟨c, hc, hP⟩ := hc _ (lookupDef_chunk u pre defs hn)
    rw [hc]
    exact AllGood.single hP

theorem stateDefs_good {P} {vars : List String} {fs : FnScope} {g s : String} :
    ∀ d ∈ stateDefs vars (nonlocalDecls fs vars) g s, AllGood P (emittedBlock [] d.body) := by
  intro d hd
  simp only [stateDefs, List.mem_cons, List.not_mem_nil, or_false] at hd
  rcases hd with rfl | rfl
  · exact .of_clean rfl
  · exact .of_clean (clean_setterBody ..)

theorem ifChunk_good {env : Env} {L : List SourceLoop} {bv : BlockVars.Result} {fs : FnScope} {id : Nat} {test : Expr}
    {body orelse : List Stmt} {g s b o : String}
    (hbv : bv = env.blockVars fs id ((env.scope id "BODY_SCOPE").bound ++ (env.scope id "ORELSE_SCOPE").bound))
    (hn : [g, s, b, o].Nodup)
    (hbody : ∀ pre, AllGood (GoodIn env L) (emittedBlock pre body))
    (horelse : ∀ pre, AllGood (GoodIn env L) (emittedBlock pre orelse)) :
    ∀ pre, AllGood (GoodIn env L)
      (emittedBlock pre (ifChunk bv (nonlocalDecls fs bv.scopeVars) test body orelse g s b o)) := by
  rw [ifChunk_eq]
  refine chunk_good hn rfl ?_ ?_
  · intro d hd
    rcases List.mem_append.mp hd with hd | hd
    · exact stateDefs_good d hd
    · simp only [List.mem_cons, List.not_mem_nil, or_false] at hd
      rcases hd with rfl | rfl
      · exact emitted_defBody hbody
      · refine emitted_defBody fun pre => ?_
        split
        · exact .of_clean rfl
        · exact horelse pre
  · intro pre hl
    simp only [stateDefs, List.cons_append, List.nil_append, List.forall_mem_cons] at hl
    obtain ⟨hg, hs, hb, ho, _⟩ := hl
    refine ⟨_, extract_if hb ho hg hs, goodIn_of_state bv.scopeVars fs rfl rfl rfl rfl
      (hbv ▸ BlockVars.blockVars_nodup ..) ⟨rfl, rfl, rfl, rfl⟩
      (fun _ => ⟨bv.nouts, natConst_intConst _, by simpa using (BlockVars.blockVars_nouts hbv).1⟩)
      ((optsOk_if rfl).mpr ⟨fs, id, hbv ▸ rfl, hbv ▸ rfl⟩) ⟨_, rfl⟩ fun _ f hf => by cases hf; exact ⟨_, rfl⟩⟩

theorem whileChunk_good {env : Env} {L : List SourceLoop} {bv : BlockVars.Result} {fs : FnScope} {id : Nat} {test : Expr}
    {body : List Stmt} {g s b t : String} (hbv : bv = env.blockVars fs id (env.scope id "BODY_SCOPE").bound)
    (hL : ⟨id, false, test⟩ ∈ L) (hn : [g, s, b, t].Nodup)
    (hbody : ∀ pre, AllGood (GoodIn env L) (emittedBlock pre body)) :
    ∀ pre, AllGood (GoodIn env L)
      (emittedBlock pre (whileChunk bv (nonlocalDecls fs bv.scopeVars) (loopOptions env.dirs id []) test body g s b t)) := by
  rw [whileChunk_eq]
  refine chunk_good hn rfl ?_ ?_
  · intro d hd
    rcases List.mem_append.mp hd with hd | hd
    · exact stateDefs_good d hd
    · simp only [List.mem_cons, List.not_mem_nil, or_false] at hd
      rcases hd with rfl | rfl
      · exact emitted_defBody hbody
      · exact .of_clean rfl
  · intro pre hl
    simp only [stateDefs, List.cons_append, List.nil_append, List.forall_mem_cons] at hl
    obtain ⟨hg, hs, hb, ht, _⟩ := hl
    exact ⟨_, extract_while ht hb hg hs, goodIn_of_state bv.scopeVars fs rfl rfl rfl rfl
      (hbv ▸ BlockVars.blockVars_nodup ..) ⟨rfl, rfl, rfl, rfl⟩ (fun h => nomatch h)
      ((optsOk_while rfl).mpr ⟨_, hL, rfl, rfl, rfl⟩) ⟨_, rfl⟩ fun hk => absurd rfl hk⟩

theorem forChunk_good {env : Env} {L : List SourceLoop} {bv : BlockVars.Result} {fs : FnScope} {id : Nat}
    {target iter : Expr} {body : List Stmt} {ex : Option (String × Expr)} {g s i b : String}
    (hbv : bv = env.blockVars fs id ((env.scope id "BODY_SCOPE").bound ++ (env.scope id "ITERATE_SCOPE").bound))
    (hL : ⟨id, true, target⟩ ∈ L) (hn : (g :: s :: b :: (ex.map (·.1)).toList).Nodup)
    (hbody : ∀ pre, AllGood (GoodIn env L) (emittedBlock pre body)) :
    ∀ pre, AllGood (GoodIn env L)
      (emittedBlock pre (forChunk bv (nonlocalDecls fs bv.scopeVars)
        (loopOptions env.dirs id [("iterate_names", strConst (unparseE target))]) target iter body ex g s i b)) := by
  rw [forChunk_eq]
  refine chunk_good (by cases ex <;> exact hn) rfl ?_ fun pre hl => ?_
  · intro d hd
    rcases List.mem_append.mp hd with hd | hd
    · exact stateDefs_good d hd
    · rcases List.mem_cons.mp hd with rfl | hd
      · rw [List.append_assoc]
        refine emitted_defBody fun pre => ?_
        rw [emittedBlock_clean_append [_] rfl]
        exact hbody _
      · cases ex with
        | none => cases hd
        | some p =>
          rw [List.mem_singleton.mp hd]
          refine emitted_defBody fun pre => ?_
          exact .of_clean rfl
  · simp only [stateDefs, List.cons_append, List.nil_append, List.forall_mem_cons] at hl
    obtain ⟨hg, hs, hb, he⟩ := hl
    refine ⟨_, extract_for ex he hb hg hs, ?_⟩
    exact goodIn_of_state bv.scopeVars fs rfl rfl rfl rfl (hbv ▸ BlockVars.blockVars_nodup ..)
      ⟨rfl, rfl, rfl, by cases ex <;> rfl⟩ (fun h => nomatch h)
      ((optsOk_for rfl).mpr ⟨_, hL, rfl, rfl, forBodyTarget_eq isDecl_decl rfl rfl⟩) ⟨_, List.append_assoc ..⟩
      fun _ f hf => by cases ex <;> cases hf; exact ⟨_, rfl⟩

/-- Stated for every prefix `pre`: the prefix of a block changes under `emittedBlock_append`. -/
theorem tStmt_tStmts_good (env : Env) (L : List SourceLoop) :
    (∀ fs nm s, cleanS s = true → (∀ l ∈ sourceLoopsS s, l ∈ L) →
      ∀ pre, AllGood (GoodIn env L) (emittedBlock pre (tStmt env fs nm s).1)) ∧
    ∀ fs nm ss, cleanL ss = true → (∀ l ∈ sourceLoopsL ss, l ∈ L) →
      ∀ pre, AllGood (GoodIn env L) (emittedBlock pre (tStmts env fs nm ss).1) := by
  apply tStmt_induct env
    (P := fun _ s out => cleanS s = true → (∀ l ∈ sourceLoopsS s, l ∈ L) →
      ∀ pre, AllGood (GoodIn env L) (emittedBlock pre out))
    (PL := fun _ ss out => cleanL ss = true → (∀ l ∈ sourceLoopsL ss, l ∈ L) →
      ∀ pre, AllGood (GoodIn env L) (emittedBlock pre out))
  case copied =>
    intro _ s _ hc _ pre
    exact .of_clean (by rw [cleanL, hc]; rfl)
  case if_ =>
    intros
    rename_i hbv hb ho hn hc hl pre
    simp only [cleanS, Bool.and_eq_true] at hc
    simp only [sourceLoopsS, List.forall_mem_append] at hl
    exact ifChunk_good hbv hn (hb hc.1 hl.1) (ho hc.2 hl.2) pre
  case while_ =>
    intros
    rename_i hbv hb hn hc hl pre
    simp only [cleanS, Bool.and_eq_true] at hc
    simp only [sourceLoopsS, List.forall_mem_cons, List.forall_mem_append] at hl
    exact whileChunk_good hbv hl.1 hn (hb hc.1 hl.2.1) pre
  case asyncFor =>
    intros
    rename_i hb ho hc hl pre
    simp only [cleanS, Bool.and_eq_true] at hc
    simp only [sourceLoopsS, List.forall_mem_append] at hl
    apply AllGood.singleton_block rfl
    simp only [emittedStmt]
    exact AllGood.append (hb hc.1 hl.1.2 _) (ho hc.2 hl.2 _)
  case for_ =>
    intros
    rename_i hbv hb hn _ hc hl pre
    simp only [cleanS, Bool.and_eq_true] at hc
    simp only [sourceLoopsS, List.forall_mem_append] at hl
    exact forChunk_good hbv (hl.1.1 _ (List.mem_singleton.mpr rfl)) (List.nodup_cons.mp hn).2 (hb hc.1 hl.1.2) pre
  case functionDef | classDef | with_ | handler | other =>
    intros
    rename_i hb hc hl pre
    apply AllGood.singleton_block rfl
    simp only [emittedStmt]
    exact hb hc hl _
  case try_ =>
    intros
    rename_i hb hh he hf hc hl pre
    simp only [cleanS, Bool.and_eq_true] at hc
    simp only [sourceLoopsS, List.forall_mem_append] at hl
    apply AllGood.singleton_block rfl
    simp only [emittedStmt]
    exact AllGood.append (AllGood.append (AllGood.append (hb hc.1.1.1 hl.1.1.1 _) (hh hc.1.1.2 hl.1.1.2 _))
      (he hc.1.2 hl.1.2 _)) (hf hc.2 hl.2 _)
  case nil =>
    intro _ _ _ pre
    exact .of_clean rfl
  case cons =>
    intros
    rename_i h1 h2 hc hl pre
    simp only [cleanL, Bool.and_eq_true] at hc
    simp only [sourceLoopsL, List.forall_mem_append] at hl
    rw [emittedBlock_append]
    exact AllGood.append (h1 hc.1 hl.1 _) (h2 hc.2 hl.2 _)

theorem tStmts_good (env : Env) (L : List SourceLoop) : ∀ (ss : List Stmt) (fs : FnScope) (nm : Namer),
    cleanL ss = true → (∀ l ∈ sourceLoopsL ss, l ∈ L) →
    ∀ pre, AllGood (GoodIn env L) (emittedBlock pre (tStmts env fs nm ss).1) :=
  fun ss fs nm => (tStmt_tStmts_good env L).2 fs nm ss

theorem cfOutput_good (env : Env) (nm : Namer) (root : Stmt) (h : cleanS root = true) :
    AllGood (GoodIn env (sourceLoopsS root)) (emitted (cfOutput env nm root)) :=
  (tStmt_tStmts_good env (sourceLoopsS root)).1 {} nm root h (fun _ hl => hl) []

end Malt.Conv.Contract
