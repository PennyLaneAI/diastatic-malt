import MaltModel.Proofs.C12Stack
/-!
Nested `malt.convert` wrappers: an exception that an inner wrapper has re-created travels on through the enclosing
converted calls, and every one of them still adds its frame.
-/
namespace Malt.Errors

/-- One `converted_call` level as it attaches: it sees the traceback `dropped :: pre ++ site :: below` (`dropped`: the
`converted_call` frame that `[1:]` removes).  `below` is whatever the exception in flight holds under the site: the
callee's frames or, after an inner wrapper raised a fresh exception, only that wrapper's frame. -/
structure ALevel where
  map : SourceMap
  dropped : Frame
  pre : List Frame
  site : Frame
  below : List Frame
  siteOrigin : Origin

def ALevel.level (a : ALevel) : Level := ⟨a.dropped :: (a.pre ++ a.site :: a.below), a.map⟩

def ALevel.ok (a : ALevel) : Prop :=
  get a.map ⟨a.site.file, a.site.line⟩ = some a.siteOrigin ∧ ∀ f ∈ a.below, get a.map ⟨f.file, f.line⟩ = none

instance (a : ALevel) : Decidable a.ok := by unfold ALevel.ok; infer_instance

/-- `none`: a `malt.convert` wrapper re-raising; `some a`: a `converted_call` attaching. -/
def evOf : Option ALevel → Event
  | none => .rethrow
  | some a => .attach a.level

theorem attach_site (en es api : String) (a : ALevel) (h : a.ok) (prev : Option Metadata) :
    attach a.level.tb prev en es a.map api =
      match prev with
      | none => some ⟨elide api a.below.reverse [] ++ [FrameInfo.ofOrigin a.siteOrigin], en ++ ": " ++ es⟩
      | some c => some ⟨c.stack ++ [FrameInfo.ofOrigin a.siteOrigin], c.cause⟩ :=
  -- `attach` drops `a.dropped` (the `[1:]` slice, `Gen.Errors.attachDropsFrames`) by computation
  init_site a.map api (en ++ ": " ++ es) a.pre a.below a.site a.siteOrigin h.1 h.2 prev

theorem runEvents_attach (en es api : String) (a : ALevel) (prev : Option Metadata) (md : Metadata) (evs : List Event)
    (h : attach a.level.tb prev en es a.map api = some md) :
    runEvents en es api (evOf (some a) :: evs) ⟨prev, false⟩ = runEvents en es api evs ⟨some md, false⟩ := by
  have hlv : a.level.map = a.map := rfl
  simp [evOf, runEvents, attachState, hlv, h]

/-- The re-raise leaves the exception attachable only because `to_exception` does not set `ag_pass_through`. -/
theorem wrapperRethrow_some (hpt : Gen.Errors.toExceptionSetsPassThrough = false) (md : Metadata) :
    wrapperRethrow ⟨some md, false⟩ = ⟨some md, false⟩ := by
  simp [wrapperRethrow, hpt]

theorem runEvents_accumulates (hpt : Gen.Errors.toExceptionSetsPassThrough = false)
    (en es api : String) (rest : List (Option ALevel)) (md : Metadata)
    (hr : ∀ a, some a ∈ rest → a.ok) :
    runEvents en es api (rest.map evOf) ⟨some md, false⟩ =
      some ⟨some ⟨md.stack ++ (rest.filterMap id).map (fun a => FrameInfo.ofOrigin a.siteOrigin), md.cause⟩, false⟩ := by
  induction rest generalizing md with
  | nil => simp [runEvents]
  | cons e rest ih =>
    have hr' : ∀ a, some a ∈ rest → a.ok := fun a ha => hr a (List.mem_cons_of_mem _ ha)
    cases e with
    | none =>
      simp only [List.map_cons, evOf, runEvents, wrapperRethrow_some hpt]
      rw [ih md hr']; simp
    | some a =>
      rw [List.map_cons, runEvents_attach en es api a (some md) _ _ (attach_site en es api a (hr a (by simp)) (some md)),
        ih _ hr']
      simp

end Malt.Errors
