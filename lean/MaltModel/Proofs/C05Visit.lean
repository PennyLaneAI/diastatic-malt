import MaltModel.Proofs.C05Paths3B
/-!
# C05, Lemma B: the visit judgement and its rules

The rules mention neither the syntax tree nor `visitStmt`: a block is its keys, its end state, its summary and an implication
`Entry … → Visit …`; Lemma B (`C05Paths3C`) is `Entry → Visit` at `visitStmt`, `keys3`, `flowStmt`.
-/
namespace Malt.Cfg
open Malt.Py

/-- a visit of code with keys `K` and summary `R`: its frame, a node step if the code begins with a node (`em`), the path invariant -/
structure Visit (σ : List Scope) (T : Nat) (curP : List Nat) (K : List Nat) (em : Bool) (b b' : B) (R : Flow) : Prop where
  ff : FF K b b'
  node : em = true → NodeStep K b b'
  post : PostL σ T curP b' R em

theorem Visit.post0 {σ : List Scope} {T : Nat} {K : List Nat} {em : Bool} {b b' : B} {R : Flow} (h : Visit σ T [] K em b b' R) :
    Post σ T [] b' R := h.post.toPost

theorem Visit.of_node {σ : List Scope} {T : Nat} {curP K : List Nat} {b b' : B} {R : Flow} (n : NodeStep K b b')
    (p : Post σ T curP b' R) : Visit σ T curP K true b b' R :=
  ⟨n.frame, fun _ => n, p.toL true⟩

theorem Visit.of_post {σ : List Scope} {T : Nat} {curP K : List Nat} {b b' : B} {R : Flow} (f : FF K b b') (p : Post σ T curP b' R) :
    Visit σ T curP K false b b' R :=
  ⟨f, nofun, p.toL false⟩

/-- what a visit of code with keys `K` starts from, control being at the nodes `cur` -/
structure Entry (σ : List Scope) (T : Nat) (curP K cur : List Nat) (b : B) : Prop where
  nd : K.Nodup
  pre : Pre σ K b
  tok : TOk curP T K
  src : ∀ x, x ∈ cur → Src b T curP x

theorem Entry.of_leaves {σ : List Scope} {T : Nat} {K cur : List Nat} {b : B} (nd : K.Nodup) (hp : Pre σ K b) (hc : InLeaves b cur) :
    Entry σ T [] K cur b := ⟨nd, hp, TOk.nil _ _, fun x hx => Or.inl (hc x hx)⟩

theorem Entry.leaves {σ : List Scope} {T : Nat} {K cur : List Nat} {b : B} (E : Entry σ T [] K cur b) : InLeaves b cur :=
  fun x hx => src_nil (E.src x hx)

theorem Entry.left {σ : List Scope} {T : Nat} {curP A C cur : List Nat} {b : B} (E : Entry σ T curP (A ++ C) cur b) :
    Entry σ T curP A cur b :=
  ⟨(List.nodup_append.mp E.nd).1, E.pre.sub (fun _ hk => List.mem_append.mpr (Or.inl hk)), E.tok.left, E.src⟩

theorem Entry.perm {σ : List Scope} {T : Nat} {curP K K' cur : List Nat} {b : B} (E : Entry σ T curP K cur b) (h : K.Perm K') :
    Entry σ T curP K' cur b :=
  ⟨h.nodup_iff.mp E.nd, E.pre.sub (fun _ hk => h.mem_iff.mpr hk), E.tok.sub (fun _ hk => h.mem_iff.mpr hk), E.src⟩

theorem Visit.nodes (σ : List Scope) (T : Nat) (curP : List Nat) (b : B) (cur ns : List Nat) (em : Bool) (hem : em = true → ns ≠ [])
    (hc : ∀ x, x ∈ cur → Src b T curP x) (hl : ListsDisjoint b) :
    Visit σ T curP (tnodes ns) em b (addOrdinaryNodes b ns) { req := (emit cur ns).1, normal := (emit cur ns).2 } := by
  obtain ⟨e1, e2, e3⟩ := emit_src T curP ns b cur hc
  refine ⟨ff_addOrdinaryNodes _ ns (fun x hx => mem_tnodes hx) b, fun he => ?_,
    Pend.of_req σ T curP _ _ _ (fun p hp => .of_pair (e1 p hp)), e2, fun he => e3 (hem he),
    ldj_addOrdinaryNodes ns b hl⟩
  obtain ⟨n, ns, rfl⟩ := List.exists_cons_of_ne_nil (hem he)
  exact ns_addOrdinaryNodes _ b n ns (fun x hx => mem_tnodes hx)

theorem Visit.simple (σ : List Scope) (T : Nat) (curP : List Nat) (b : B) (cur lams : List Nat) (n : Nat)
    (hl : ListsDisjoint b) (hc : ∀ x, x ∈ cur → Src b T curP x) :
    Visit σ T curP (tnodes (lams ++ [n])) true b ((addOrdinaryNodes b lams).addOrdinaryNode n)
      { req := (emit cur (lams ++ [n])).1, normal := (emit cur (lams ++ [n])).2 } := by
  rw [← addOrdinaryNodes_snoc]
  exact Visit.nodes σ T curP b cur (lams ++ [n]) true (fun _ => by simp) hc hl

theorem Visit.pre {σ : List Scope} {T : Nat} {curP K : List Nat} {em : Bool} {b b₁ b₂ : B} {R : Flow} (f : FF K b b₁)
    (V : Visit σ T curP K em b₁ b₂ R) : Visit σ T curP K em b b₂ R :=
  ⟨f.trans V.ff, fun h => (V.node h).pre f, V.post⟩

theorem Visit.weaken {σ : List Scope} {T : Nat} {curP K K' : List Nat} {em : Bool} {b b' : B} {R : Flow} (V : Visit σ T curP K em b b' R)
    (hs : ∀ k, k ∈ K → k ∈ K') : Visit σ T curP K' em b b' R :=
  ⟨V.ff.weaken hs, fun h => (V.node h).weaken hs, V.post⟩

theorem Visit.dead {σ : List Scope} {T : Nat} {curP K : List Nat} {em : Bool} {b b' : B} {R : Flow} (V : Visit σ T curP K em b b' R) :
    Visit σ T curP K em b b' {} :=
  ⟨V.ff, V.node, Pend.empty σ T curP _, fun x h => nomem x h, fun _ x h => nomem x h, V.post.ldj⟩

/-- Nothing is pending any more once a node exists, so the second part is visited with `curP = []`. -/
theorem Visit.seq {σ : List Scope} {T : Nat} {curP K₁ K₂ : List Nat} {em₁ em₂ : Bool} {b b₁ b₂ : B} {R₁ R₂ : Flow}
    {cur : List Nat} (E : Entry σ T curP (K₁ ++ K₂) cur b)
    (V₁ : Entry σ T curP K₁ cur b → Visit σ T curP K₁ em₁ b b₁ R₁) (he : em₁ = true ∨ curP = [])
    (V₂ : Entry σ T [] K₂ R₁.normal b₁ → Visit σ T [] K₂ em₂ b₁ b₂ R₂) :
    Visit σ T curP (K₁ ++ K₂) (em₁ || em₂) b b₂ (R₁.seq R₂) := by
  have V₁ := V₁ E.left
  obtain ⟨hnd, hp, hT, _⟩ := E
  have hp1 : Pre σ K₂ b₁ :=
    Pre.step hp V₁.ff.f V₁.ff.x (fun k hk h1 => (List.nodup_append.mp hnd).2.2 k h1 k hk rfl) V₁.post.ldj
  have V := V₂ (.of_leaves (List.nodup_append.mp hnd).2.1 hp1 (he.elim V₁.post.normE (fun e => by subst e; exact V₁.post.inLeaves)))
  refine ⟨(V₁.ff.appL _).trans (V.ff.appR _), fun h => ?_,
    Pend.seq (keeps_tr hp1.toTr V.ff hT.right _ V₁.post.pend) V.post.pend.retarget, fun x hx => Or.inl (V.post.inLeaves x hx),
    fun _ => V.post.inLeaves, V.post.ldj⟩
  cases em₁ with
  | true => exact ((V₁.node rfl).weaken (fun _ hk => List.mem_append.mpr (Or.inl hk))).post (V.ff.appR _)
  | false => exact ((V.node h).weaken (fun _ hk => List.mem_append.mpr (Or.inr hk))).pre (V₁.ff.appL _)

theorem Entry.beginStatement {σ : List Scope} {T : Nat} {curP K cur : List Nat} {b : B} (E : Entry σ T curP K cur b) (i : Nat) :
    Entry σ T curP K cur (b.beginStatement i) :=
  ⟨E.nd, E.pre.beginStatement i, E.tok, fun x hx => (neutral_beginStatement b i).src rfl (E.src x hx)⟩

theorem Visit.bracket {σ : List Scope} {T : Nat} {curP K : List Nat} {em : Bool} {b b₁ : B} {R : Flow} (i : Nat)
    (V : Visit σ T curP K em (b.beginStatement i) b₁ R) : Visit σ T curP K em b (b₁.endStatement i) R :=
  have V := V.pre (ff_beginStatement K b i)
  ⟨V.ff.trans (ff_endStatement K b₁ i), fun h => (V.node h).post (ff_endStatement K b₁ i),
   keeps_endStatement b₁ i _ V.post.pend,
   fun x hx => (neutral_endStatement b₁ i).src (B.leafSet_endStatement b₁ i) (V.post.norm x hx),
   fun h x hx => (B.leafSet_endStatement b₁ i).symm ▸ V.post.normE h x hx, (neutral_endStatement b₁ i).ldj V.post.ldj⟩

theorem exit_jump {σ : List Scope} {T : Nat} {curP cur : List Nat} {b : B} (stop : Stop) (lams : List Nat) (n t : Nat)
    (hp : Pre σ (tnodes (lams ++ [n])) b) (ht : (enclosingFinally stop σ).1 = some t) (hl : ∃ l, aget t b.exits = some l)
    (hc : ∀ x, x ∈ cur → Src b T curP x) :
    NodeStep (tnodes (lams ++ [n])) b (processExit σ (addOrdinaryNodes b lams) n stop false) ∧
    (∀ p, p ∈ (emit cur (lams ++ [n])).1 → ReqOk σ (processExit σ (addOrdinaryNodes b lams) n stop false) T curP p) ∧
    PJ false (processExit σ (addOrdinaryNodes b lams) n stop false) t (guardsOf stop σ) n ∧
    ListsDisjoint (processExit σ (addOrdinaryNodes b lams) n stop false) := by
  obtain ⟨l, hl⟩ := hl
  have hn := mem_tnodes (List.mem_append_right lams (List.mem_singleton.mpr (rfl : n = n)))
  obtain ⟨e1, e3, e4⟩ := reg_exit T curP b cur lams n t (guardsOf stop σ) l hc hl hp.lin hp.ldj (hp.not_node hn)
  refine ⟨(ns_processExit _ σ _ n stop false t hn ht).pre
    (ff_addOrdinaryNodes _ lams (fun x hx => mem_tnodes (List.mem_append_left _ hx)) b), ?_⟩
  rw [processExit_jump σ _ n stop t ht]
  exact ⟨fun p hp' => .of_pair (e1 p hp'), e3, e4⟩

theorem Visit.ret_ {σ : List Scope} {T : Nat} {curP cur : List Nat} {b : B} (lams : List Nat) (n : Nat)
    (E : Entry σ T curP (tnodes (lams ++ [n])) cur b) :
    Visit σ T curP (tnodes (lams ++ [n])) true b (processExit σ (addOrdinaryNodes b lams) n .fn false)
      { req := (emit cur (lams ++ [n])).1, ret := (emit cur (lams ++ [n])).2 } := by
  obtain ⟨_, hp, _, hc⟩ := E
  obtain ⟨F, hF, hl⟩ := hp.fnOpen
  obtain ⟨nd, hr, hj, hd⟩ := exit_jump .fn lams n F hp hF hl hc
  exact .of_node nd ⟨Pend.of_ret hr (fun x hx => by rw [mem_emit_snoc hx]; exact ⟨F, hF, hj⟩), fun x h => nomem x h, hd⟩

theorem Visit.raise_ {σ : List Scope} {T : Nat} {curP cur : List Nat} {b : B} (lams : List Nat) (n : Nat)
    (E : Entry σ T curP (tnodes (lams ++ [n])) cur b) :
    Visit σ T curP (tnodes (lams ++ [n])) true b ((processExit σ (addOrdinaryNodes b lams) n .fn true).pushError n)
      { req := (emit cur (lams ++ [n])).1, raise := (emit cur (lams ++ [n])).2 } := by
  obtain ⟨_, hp, _, hc⟩ := E
  obtain ⟨F, hF, l, hl⟩ := hp.fnOpen
  have hn := mem_tnodes (List.mem_append_right lams (List.mem_singleton.mpr (rfl : n = n)))
  obtain ⟨e1, _, e4⟩ := reg_exit T curP b cur lams n F (guardsOf .fn σ) l hc hl hp.lin hp.ldj (hp.not_node hn)
  obtain ⟨N, he, herr, hr⟩ := raise_effect ((addOrdinaryNodes b lams).addExitNode n F (guardsOf .fn σ)) n (enclosingExcept .fn σ)
  refine .of_node (((ns_processExit _ σ _ n .fn true F hn hF).pre
    (ff_addOrdinaryNodes _ lams (fun x hx => mem_tnodes (List.mem_append_left _ hx)) b)).post
    (ff_pushError _ _ n)) ?_
  rw [processExit_raise σ _ n .fn F hF]
  refine ⟨Pend.of_raise (fun p hp' => ?_) (fun x hx => by rw [mem_emit_snoc hx]; exact ⟨herr, hr⟩), fun x h => nomem x h, N.ldj e4⟩
  rcases e1 p hp' with h | ⟨h1, h2⟩
  · exact Or.inl (by rw [he]; exact h)
  · exact Or.inr (Or.inr ⟨h1, startedAt_of_same N.finallySub N.pendingFinally h2⟩)

theorem Visit.break_ {σ : List Scope} {T : Nat} {curP cur : List Nat} {b : B} (n L : Nat)
    (E : Entry σ T curP [nk n] cur b) (hL : loopOf σ = some L) :
    Visit σ T curP [nk n] true b (processExit σ b n .loop false) { req := (emit cur [n]).1, brk := (emit cur [n]).2 } := by
  obtain ⟨_, hp, _, hc⟩ := E
  obtain ⟨nd, hr, hj, hd⟩ := exit_jump .loop [] n L hp hL (hp.loopOpen L hL).1 hc
  exact .of_node nd ⟨Pend.of_brk hr (fun x hx => by rw [List.mem_singleton.mp hx]; exact ⟨L, hL, hj⟩), fun x h => nomem x h, hd⟩

theorem Visit.continue_ {σ : List Scope} {T : Nat} {curP cur : List Nat} {b : B} (n L : Nat)
    (E : Entry σ T curP [nk n] cur b) (hL : loopOf σ = some L) :
    Visit σ T curP [nk n] true b (processContinue σ b n) { req := (emit cur [n]).1, cont := (emit cur [n]).2 } := by
  obtain ⟨_, hp, _, hc⟩ := E
  obtain ⟨l, hl⟩ := (hp.loopOpen L hL).2
  obtain ⟨e1, e3, e4⟩ := reg_continue T curP b cur n L (guardsOf .loop σ) l hc hl hp.lin hp.ldj (hp.not_node (List.mem_singleton.mpr rfl))
  refine .of_node (ns_processContinue [nk n] σ b n L (List.mem_singleton.mpr rfl) hL) ?_
  rw [processContinue_eq σ _ n L hL]
  exact ⟨Pend.of_cont (fun p hp' => .of_pair (e1 p hp'))
    (fun x hx => by rw [List.mem_singleton.mp hx]; exact ⟨L, hL, e3⟩), fun x h => nomem x h, e4⟩

/-- inside the conditional section `rep`, where the next `new_cond_branch rep` goes back to the split point `L0` (holding `E`; `N`: the ends
of the branches visited before) -/
structure BranchIn (σ : List Scope) (rep L0 : Nat) (K : List Nat) (b : B) (E N : List Nat) : Prop where
  nd : K.Nodup
  fresh : ck rep ∉ K
  pre : Pre σ K b
  cond : CondIn (b.newCondBranch rep) rep L0 E N
  ent : InLeaves (b.newCondBranch rep) E

theorem BranchIn.enter {σ : List Scope} {rep : Nat} {K : List Nat} {b : B} {E : List Nat} (hnd : (ck rep :: K).Nodup)
    (hp : Pre σ (ck rep :: K) b) (hE : InLeaves b E) :
    BranchIn σ rep (b.enterCondSection rep).leaves K (b.enterCondSection rep) E [] := by
  have c3 := enterCondSection_leafSet b rep
  have S := (Todo.start hnd hp).step (P := []) (ff_enterCondSection [ck rep] b rep (List.mem_cons_self ..))
    ((neutral_enterCondSection b rep).ldj hp.ldj)
  obtain ⟨C, hl⟩ := CondIn.first (enterCondSection_condLeaves b rep) (enterCondSection_condEntry b rep ▸ hp.fresh rep (List.mem_cons_self ..))
    (fun x hx => c3 ▸ hE x hx)
  exact ⟨S.nd, S.own_not, S.pre, C, fun x hx => by rw [hl, c3]; exact hE x hx⟩

/-- what the branches with keys `K` arrive at, the section being closed at `b'`: `N`, `X` and their normal ends are leaves -/
structure Branches (σ : List Scope) (T rep : Nat) (K : List Nat) (b b' : B) (N X : List Nat) (R : Flow) : Prop where
  ff : FF (ck rep :: K) b b'
  pend : Pend σ T [] b' R
  ldj : ListsDisjoint b'
  leaves : ∀ x, (x ∈ N ∨ x ∈ X ∨ x ∈ R.normal) → x ∈ b'.leafSet

theorem Branches.close {σ : List Scope} {T rep L0 : Nat} {b : B} {E N : List Nat} (I : BranchIn σ rep L0 [] b E N) :
    Branches σ T rep [] b ((b.newCondBranch rep).exitCondSection rep) N E {} :=
  have f := ff_newCondBranch [ck rep] b rep (List.mem_cons_self ..)
  have hN := I.cond.exit (f.f.valid I.pre.valid) I.ent
  ⟨f.trans (ff_exitCondSection _ _ rep (List.mem_cons_self ..)), Pend.empty σ T [] _,
    (neutral_exitCondSection _ rep).ldj ((neutral_newCondBranch b rep).ldj I.pre.ldj),
    fun x hx => hx.elim (fun h => hN x (List.mem_append_left _ h))
      (fun hx => hx.elim (fun h => hN x (List.mem_append_right _ h)) (fun h => nomem x h))⟩

theorem Branches.cons {σ : List Scope} {T rep L0 : Nat} {Kb Kr : List Nat} {eb : Bool} {b b3 b' : B} {E N X : List Nat} {Rb R' : Flow}
    (I : BranchIn σ rep L0 (Kb ++ Kr) b E N)
    (Vb : Entry σ T [] Kb E (b.newCondBranch rep) → Visit σ T [] Kb eb (b.newCondBranch rep) b3 Rb)
    (rest : FF (ck rep :: Kb) b b3 → BranchIn σ rep L0 Kr b3 E (N ++ Rb.normal) →
      Branches σ T rep Kr b3 b' (N ++ Rb.normal) X R') :
    Branches σ T rep (Kb ++ Kr) b b' N X (Rb.alt R') := by
  have f01 : FF [ck rep] b (b.newCondBranch rep) := ff_newCondBranch _ b rep (List.mem_singleton.mpr rfl)
  have S1 := (Todo.of_ck I.pre I.nd I.fresh).step (P := []) f01 ((neutral_newCondBranch b rep).ldj I.pre.ldj)
  have Vb := Vb (.of_leaves S1.head.nd S1.head.pre I.ent)
  have S2 := S1.step (Vb.ff.cons _) Vb.post.ldj
  obtain ⟨C3, hE3⟩ := (I.cond.frame Vb.ff.f S1.head.own_not).next Vb.post.inLeaves
  have f02 : FF (ck rep :: Kb) b b3 := (f01.own _).trans (Vb.ff.cons _)
  obtain ⟨I1, I2, I3, I4⟩ := rest f02 ⟨S2.nd, S2.own_not, S2.pre, C3, hE3⟩
  refine ⟨(f02.left _).trans (I1.after _), Pend.alt (keeps_tr (S2.pre.toTr.cons_ck rep) I1 (TOk.nil _ _) _ Vb.post.pend) I2, I3, ?_⟩
  rintro x (h | h | h)
  · exact I4 x (Or.inl (List.mem_append_left _ h))
  · exact I4 x (Or.inr (Or.inl h))
  · exact (List.mem_append.mp h).elim (fun h => I4 x (Or.inl (List.mem_append_right _ h))) (fun h => I4 x (Or.inr (Or.inr h)))

theorem Branches.last {σ : List Scope} {T rep L0 : Nat} {Kb : List Nat} {eb : Bool} {b b3 : B} {E N : List Nat} {Rb : Flow}
    (I : BranchIn σ rep L0 Kb b E N)
    (Vb : Entry σ T [] Kb E (b.newCondBranch rep) → Visit σ T [] Kb eb (b.newCondBranch rep) b3 Rb) :
    Branches σ T rep Kb b (b3.exitCondSection rep) N [] Rb := by
  have f01 : FF [ck rep] b (b.newCondBranch rep) := ff_newCondBranch _ b rep (List.mem_singleton.mpr rfl)
  have S1 := (Todo.of_ck I.pre I.nd I.fresh).step (P := []) f01 ((neutral_newCondBranch b rep).ldj I.pre.ldj)
  have Vb := Vb (.of_leaves S1.nd S1.pre I.ent)
  have f3e : FF [ck rep] b3 (b3.exitCondSection rep) := ff_exitCondSection _ b3 rep (List.mem_singleton.mpr rfl)
  have hN := (I.cond.frame Vb.ff.f S1.own_not).exit (Vb.ff.f.valid S1.pre.valid) Vb.post.inLeaves
  refine ⟨((f01.own _).trans (Vb.ff.cons _)).trans (f3e.own _),
    keeps_tr ((Tr.nil σ (Vb.ff.x.lin S1.pre.lin)).cons_ck rep) f3e (TOk.nil _ _) _ Vb.post.pend,
    (neutral_exitCondSection b3 rep).ldj Vb.post.ldj, ?_⟩
  rintro x (h | h | h)
  · exact hN x (List.mem_append_left _ h)
  · exact nomem x h
  · exact hN x (List.mem_append_right _ h)

theorem Visit.if_ {σ : List Scope} {T : Nat} {curP cur Kb Ko : List Nat} {eb eo : Bool} {b b3 b5 : B} {Rb Ro : Flow} (i : Nat)
    (lams : List Nat) (n : Nat)
    (E : Entry σ T curP (ck i :: (tnodes (lams ++ [n]) ++ (Kb ++ Ko))) cur b)
    (Vb : Entry σ T [] Kb (emit cur (lams ++ [n])).2 (((addOrdinaryNodes (b.enterCondSection i) lams).addOrdinaryNode n).newCondBranch i) →
      Visit σ T [] Kb eb (((addOrdinaryNodes (b.enterCondSection i) lams).addOrdinaryNode n).newCondBranch i) b3 Rb)
    (Vo : Entry σ T [] Ko (emit cur (lams ++ [n])).2 (b3.newCondBranch i) → Visit σ T [] Ko eo (b3.newCondBranch i) b5 Ro) :
    Visit σ T curP (ck i :: (tnodes (lams ++ [n]) ++ (Kb ++ Ko))) true b (b5.exitCondSection i)
      (Flow.seq { req := (emit cur (lams ++ [n])).1 } (Flow.alt Rb Ro)) := by
  obtain ⟨hnd, hp, hT, hc⟩ := E
  have S0 := Todo.start hnd hp
  have n01 : Neutral b (b.enterCondSection i) := neutral_enterCondSection b i
  let bt := (addOrdinaryNodes (b.enterCondSection i) lams).addOrdinaryNode n
  have Vt := Visit.simple σ T curP (b.enterCondSection i) cur lams n (n01.ldj hp.ldj) (fun x hx => n01.src (enterCondSection_leafSet b i) (hc x hx))
  have n0t : NodeStep (ck i :: tnodes (lams ++ [n])) b bt :=
    ((Vt.node rfl).weaken (fun _ h => List.mem_cons_of_mem _ h)).pre (ff_enterCondSection _ b i (List.mem_cons_self ..))
  have St := S0.step n0t.frame Vt.post.ldj
  have hcl_t : aget i bt.condLeaves = some [] := by rw [Vt.ff.f.condLeaves i S0.head.own_not]; exact enterCondSection_condLeaves b i
  have hce_t : aget i bt.condEntry = none := by
    rw [Vt.ff.f.condEntry i S0.head.own_not, enterCondSection_condEntry]; exact hp.fresh i (List.mem_cons_self ..)
  obtain ⟨C2, hl2⟩ := CondIn.first hcl_t hce_t (Vt.post.normE rfl)
  have Br := Branches.cons (X := []) ⟨St.nd, St.own_not, St.pre, C2, fun x hx => hl2 ▸ Vt.post.normE rfl x hx⟩ Vb
    (fun _ I => Branches.last I Vo)
  exact .of_node ((n0t.left _).post (Br.ff.after _))
    ⟨Pend.seq (St.keeps_ck Br.ff hT.tail.right _ Vt.post.pend.drop_normal) Br.pend.retarget,
     fun x hx => Br.leaves x (Or.inr (Or.inr hx)), Br.ldj⟩

theorem Pend.out_of_loop {σ : List Scope} {i : Nat} {T : Nat} {curP : List Nat} {b : B} {R : Flow}
    (h : Pend (Scope.loop i :: σ) T curP b R) :
    Pend σ T curP b { ret := R.ret, raise := R.raise, exempt := R.exempt } :=
  ⟨fun _ hx => (List.not_mem_nil hx).elim, fun _ hx => (List.not_mem_nil hx).elim, fun _ hx => (List.not_mem_nil hx).elim,
   h.ret, h.raise, h.exempt⟩

theorem Pre.in_loop {σ : List Scope} {K : List Nat} {b : B} {i : Nat} (h : Pre σ K b) (hi : sk i ∉ K)
    (hex : ∃ l, aget i b.exits = some l) (hc : ∃ l, aget i b.continues = some l) : Pre (Scope.loop i :: σ) K b := by
  refine ⟨⟨fun k hk => ?_, h.old, h.lin⟩, h.fresh, fun L hL => ?_, h.fnOpen, h.valid, h.ldj⟩
  · rcases List.mem_cons.mp hk with e | hk
    · rw [e]; exact hi
    · exact h.disj k hk
  · obtain rfl : i = L := Option.some.inj ((loopOf_loop i σ).symm.trans hL)
    exact ⟨hex, hc⟩

theorem pair_enterLoopSection (T : Nat) (curP : List Nat) (b : B) (i h : Nat) (cur : List Nat) (hc : ∀ x, x ∈ cur → Src b T curP x) :
    ∀ p, p ∈ cross cur h → p ∈ (b.enterLoopSection i h).edges ∨ (p.1 ∈ curP ∧ StartedAt (b.enterLoopSection i h) T p.2) := by
  intro p hp
  obtain ⟨x, hx, rfl⟩ := List.mem_map.mp hp
  have hs : Src ((b.check (ahas i b.sectionEntry || ahas i b.continues) "assert: loop section entered twice").putContinues i []) T curP x :=
    src_of_same (by simp) (by simp) (by simp) (hc x hx)
  rcases pair_addOrdinaryNode h x hs with h1 | ⟨h1, h2⟩
  · exact Or.inl h1
  · exact Or.inr ⟨h1, startedAt_of_same rfl rfl h2⟩

theorem Visit.loop_header (σ : List Scope) (T : Nat) (curP : List Nat) (b : B) (cur lams : List Nat) (i h : Nat)
    (hl : ListsDisjoint b) (hT : TOk curP T (sk i :: tnodes (lams ++ [h]))) (hc : ∀ x, x ∈ cur → Src b T curP x) :
    Visit σ T curP (sk i :: tnodes (lams ++ [h])) true b ((addOrdinaryNodes b lams).enterLoopSection i h)
      { req := (emit cur lams).1 ++ cross (emit cur lams).2 h, normal := [h] } := by
  obtain ⟨e1, e2, _⟩ := emit_src T curP lams b cur hc
  have n23 := ns_enterLoopSection (sk i :: tnodes (lams ++ [h])) (addOrdinaryNodes b lams) i h (List.mem_cons_self ..)
    (List.mem_cons_of_mem _ (mem_tnodes (List.mem_append_right _ (List.mem_singleton.mpr rfl))))
  refine .of_node (n23.pre (ff_addOrdinaryNodes _ lams
    (fun n hn => List.mem_cons_of_mem _ (mem_tnodes (List.mem_append.mpr (Or.inl hn)))) b))
    ⟨Pend.of_req σ T curP _ _ [h] (fun p hp' => ?_), fun x hx => by rw [enterLoopSection_leafSet]; exact hx,
      ldj_enterLoopSection i h (ldj_addOrdinaryNodes lams b hl)⟩
  rcases List.mem_append.mp hp' with hp' | hp'
  · rcases e1 p hp' with h1 | ⟨h1, h2⟩
    · exact Or.inl (n23.frame.f.edges p h1)
    · exact Or.inr (Or.inr ⟨h1, hT.startedAt n23.frame.x h1 h2⟩)
  · exact .of_pair (pair_enterLoopSection T curP _ i h _ e2 p hp')

/-- leaving a loop: the body's `continue`s and normal ends go back to the header, its `break`s are leaves -/
theorem Pend.loopSum {σ : List Scope} {i h T : Nat} {curP Ko : List Nat} {b4 b5 b6 b7 : B} {Rb Ro : Flow}
    (IHb : Post (Scope.loop i :: σ) T [] b4 Rb) (X5 : ExitOk true i b4 b5) (x5c : ∀ x, PJ true b4 i [] x → (x, h) ∈ b5.edges)
    (x5l : ∀ x, x ∈ b4.leafSet → (x, h) ∈ b5.edges) (tr5 : Tr σ Ko b5) (fo : FF Ko b5 b6) (hi : sk i ∉ Ko)
    (X7 : ExitOk false i b6 b7) (x7j : ∀ x, PJ false b6 i [] x → x ∈ b7.leafSet)
    (Bd : Pend σ T curP b7 { ret := Rb.ret, raise := Rb.raise, exempt := Rb.exempt }) (C : Pend σ T curP b7 Ro) :
    Pend σ T curP b7 (loopSum h Rb Ro) ∧ ∀ x, x ∈ Rb.brk → x ∈ b7.leafSet := by
  have e57 : ∀ p, p ∈ b5.edges → p ∈ b7.edges := fun p hp => X7.edges p (fo.f.edges p hp)
  have hbrk : ∀ x, x ∈ Rb.brk → x ∈ b7.leafSet := by
    intro x hx
    obtain ⟨L, hL, hpj⟩ := IHb.pend.brk x hx
    obtain rfl : i = L := Option.some.inj ((loopOf_loop i σ).symm.trans hL)
    rcases X5.pj false i [] x hpj with ⟨h', _⟩ | hpj5
    · cases h'
    · exact x7j x (PJ.mono tr5 fo hi hpj5)
  have hcont : ∀ x, x ∈ Rb.cont → (x, h) ∈ b5.edges := by
    intro x hx
    obtain ⟨L, hL, hpj⟩ := IHb.pend.cont x hx
    obtain rfl : i = L := Option.some.inj ((loopOf_loop i σ).symm.trans hL)
    exact x5c x hpj
  -- the body's pending pairs: those of the loop's own jumps are edges by now, the others target the function
  have hreqB : ∀ p, p ∈ Rb.req → ReqOk σ b7 T curP p := by
    intro p hp'
    refine ReqOkT.retarget ?_ (ReqOkT.exit X7 (ReqOkT.mono tr5 fo (Or.inl rfl)
      (ReqOkT.exit X5 (P := Tgt (Scope.loop i :: σ)) (IHb.pend.req p hp'))))
    rintro c t ⟨⟨hL | hF, h5⟩, h7⟩
    · obtain rfl : i = t := Option.some.inj ((loopOf_loop i σ).symm.trans hL)
      cases c
      · exact (h7 ⟨rfl, rfl⟩).elim
      · exact (h5 ⟨rfl, rfl⟩).elim
    · exact Or.inr hF
  have BC := Pend.seq Bd C
  refine ⟨⟨fun p hp' => (forall_mem_app3 hreqB
      (fun p hp' => by
        obtain ⟨x, hx, rfl⟩ := List.mem_map.mp hp'
        exact Or.inl (e57 _ (x5l x (IHb.norm x hx))))
      (fun p hp' => (List.mem_append.mp hp').elim
        (fun hp' => by
          obtain ⟨x, hx, rfl⟩ := List.mem_map.mp hp'
          exact Or.inl (e57 _ (hcont x hx)))
        (C.req p)) p hp'),
     C.brk, C.cont, BC.ret, BC.raise, BC.exempt⟩, hbrk⟩

theorem Visit.loop {σ : List Scope} {T : Nat} {curP cur Kb Ko : List Nat} {eb eo : Bool} {b b4 b6 : B} {Rb Ro : Flow}
    (i h : Nat) (lams : List Nat)
    (E : Entry σ T curP (sk i :: (tnodes (lams ++ [h]) ++ (Kb ++ Ko))) cur b)
    (Vb : Entry (Scope.loop i :: σ) T [] Kb [h] ((addOrdinaryNodes (b.enterSection i) lams).enterLoopSection i h) →
      Visit (Scope.loop i :: σ) T [] Kb eb ((addOrdinaryNodes (b.enterSection i) lams).enterLoopSection i h) b4 Rb)
    (Vo : Entry σ T [] Ko [h] (b4.exitLoopSection i) → Visit σ T [] Ko eo (b4.exitLoopSection i) b6 Ro) :
    Visit σ T curP (sk i :: (tnodes (lams ++ [h]) ++ (Kb ++ Ko))) true b (b6.exitSection i)
      (Flow.seq { req := (emit cur lams).1 ++ cross (emit cur lams).2 h } (loopSum h Rb Ro)) := by
  obtain ⟨hnd, hp, hT, hc⟩ := E
  have S0 := Todo.start hnd hp
  have hσi := S0.own_scope
  let b1 := b.enterSection i
  have s1 := enterSection_exits b i
  have f01 : FF (sk i :: tnodes (lams ++ [h])) b b1 := ff_enterSection _ b i (List.mem_cons_self ..)
  have hc1 : ∀ x, x ∈ cur → Src b1 T curP x := fun x hx =>
    src_of_same (b := b) (enterSection_leafSet b i) (by simp [b1, B.enterSection]) (by simp [b1, B.enterSection]) (hc x hx)
  have Vh := Visit.loop_header σ T curP b1 cur lams i h (ldj_enterSection i hp.ldj) hT.cons_left hc1
  let b3 := (addOrdinaryNodes b1 lams).enterLoopSection i h
  have n13 : NodeStep (sk i :: tnodes (lams ++ [h])) b1 b3 := Vh.node rfl
  obtain ⟨ex2, hex2, _⟩ := (frame_addOrdinaryNodes [] lams b1).exits i (by simp) [] s1
  have l1 := enterLoopSection_continues (addOrdinaryNodes b1 lams) i h
  have hex3 : aget i b3.exits = some ex2 := by rw [show b3.exits = (addOrdinaryNodes b1 lams).exits from enterLoopSection_exits _ i h]; exact hex2
  have S3 := S0.step (f01.trans Vh.ff) Vh.post.ldj
  have hi_b := S3.head.own_not
  have pre3 := S3.head.pre.in_loop hi_b ⟨_, hex3⟩ ⟨_, l1⟩
  have Vb := Vb (.of_leaves S3.head.nd pre3 (Vh.post.normE rfl))
  have IHb := Vb.post0
  have fb : FF Kb b3 b4 := Vb.ff
  have hse4 : aget i b4.sectionEntry = some h := by rw [fb.f.sectionEntry i hi_b]; exact enterLoopSection_sectionEntry _ i h
  obtain ⟨cs4, hcs4, _⟩ := fb.f.continues i hi_b [] l1
  obtain ⟨ex4, hex4, _⟩ := fb.f.exits i hi_b ex2 hex3
  obtain ⟨X5, x5c, x5l, x5s, x5e⟩ := exitLoopSection_spec b4 i h cs4 hse4 hcs4 IHb.ldj
  let b5 := b4.exitLoopSection i
  -- the continues registered in the body are nodes of the body
  have f35 : FF (sk i :: Kb) b3 b5 := (fb.cons _).trans
    (ff_exitLoopSection _ b4 i (List.mem_cons_self ..) (B.conts_of_frame (fb.cons _).x l1))
  have n15 : NodeStep (sk i :: (tnodes (lams ++ [h]) ++ Kb)) b1 b5 := (n13.left _).post (f35.after _)
  have S5 := S0.assoc.step ((f01.left _).trans n15.frame) X5.ldj
  have hi_o := S5.own_not
  have pre5 := S5.pre
  have hc5 : InLeaves b5 [h] := fun x hx => by rw [show b5.leafSet = [h] from x5s]; exact hx
  have Vo := Vo (.of_leaves S5.nd pre5 hc5)
  have IHo := Vo.post0
  have fo : FF Ko b5 b6 := Vo.ff
  have hex5 : aget i b5.exits = some ex4 := by rw [show b5.exits = b4.exits from x5e]; exact hex4
  obtain ⟨ex6, hex6, hsub6⟩ := fo.f.exits i hi_o ex4 hex5
  have hv6 : Valid b6 := fo.f.valid pre5.valid
  obtain ⟨X7, x7j, x7l⟩ := exitSection_spec b6 i ex6 hex6 hv6.leaves IHo.ldj
  -- what is kept
  have k67 : ∀ T' cP, Keeps σ T' cP b6 (b6.exitSection i) := fun _ _ => keeps_exit X7 hσi
  have k56 : ∀ T' cP, TOk cP T' (sk i :: (tnodes (lams ++ [h]) ++ (Kb ++ Ko))) → Keeps σ T' cP b5 b6 :=
    fun _ _ ht => keeps_tr pre5.toTr fo ht.tail.right.right
  have k45 : ∀ T' cP, Keeps σ T' cP b4 b5 := fun _ _ => keeps_exit X5 hσi
  have k34 : ∀ T' cP, TOk cP T' (sk i :: (tnodes (lams ++ [h]) ++ (Kb ++ Ko))) → Keeps σ T' cP b3 b4 :=
    fun _ _ ht => keeps_tr S3.head.pre.toTr fb ht.tail.right.left
  have k47 : ∀ T' cP, TOk cP T' (sk i :: (tnodes (lams ++ [h]) ++ (Kb ++ Ko))) →
      Keeps σ T' cP b4 (b6.exitSection i) :=
    fun T' cP ht => ((k45 T' cP).trans (k56 T' cP ht)).trans (k67 T' cP)
  have k37 : Keeps σ T curP b3 (b6.exitSection i) := (k34 T curP hT).trans (k47 T curP hT)
  have A := k37 _ Vh.post.pend.drop_normal
  have Bd := (k47 T [] (TOk.nil _ _) _ IHb.pend.out_of_loop).retarget (T' := T) (curP := curP)
  have C := (k67 T [] _ IHo.pend).retarget (T' := T) (curP := curP)
  obtain ⟨L, hbrk⟩ := Pend.loopSum (h := h) IHb X5 x5c x5l pre5.toTr fo hi_o X7 x7j Bd C
  -- the exits registered since `enter_section` are nodes of the loop
  have f67 : FF (sk i :: ((tnodes (lams ++ [h]) ++ Kb) ++ Ko)) b6 (b6.exitSection i) :=
    ff_exitSection _ _ i (List.mem_cons_self ..) (B.exits_of_frame ((n15.frame.left _).trans (fo.right _ _)).x s1)
  refine .of_node ?_ ⟨Pend.seq A L, fun x hx => ?_, X7.ldj⟩
  · rw [← List.append_assoc (tnodes (lams ++ [h]))]
    exact ((n15.pre (f01.left _)).left _).post ((fo.right _ _).trans f67)
  exact (List.mem_append.mp hx).elim (fun hx => x7l x (IHo.norm x hx)) (hbrk x)

theorem head_addOrdinaryNodes_cons (b : B) (n : Nat) (ns : List Nat) (hb : b.head = none) :
    (addOrdinaryNodes b (n :: ns)).head = some n := by
  have h1 : (b.addOrdinaryNode n).head = some n := by
    simp [B.addOrdinaryNode, B.addNewNode, B.pushNode, hb, Option.or]
  exact (frame_addOrdinaryNodes [] ns (b.addOrdinaryNode n)).head n h1

theorem Pre.start (i : Nat) (K : List Nat) (hi : sk i ∉ K) : Pre [Scope.fn i] K (({} : B).enterSection i) := by
  have f := ff_enterSection [sk i] ({} : B) i (List.mem_cons_self ..)
  have hold : Old (({} : B).enterSection i) = [sk i] := rfl
  have ldj0 : ListsDisjoint ({} : B) := by
    intro c c' t t' l l' j a1
    cases c <;> simp [dictOf, aget] at a1
  refine ⟨⟨fun k hk => List.mem_singleton.mp hk ▸ hi, fun k hk ho => hi (List.mem_singleton.mp (hold ▸ ho) ▸ hk),
      f.x.lin ⟨fun k l h => by simp [aget] at h, fun k l h => by simp [aget] at h⟩⟩, fun k _ => rfl,
    fun L hL => (by rw [loopOf_fn] at hL; cases hL), ⟨i, fnOf_fn i, [], enterSection_exits ({} : B) i⟩,
    f.f.valid ⟨by decide, fun k r h => by simp [aget] at h⟩, ldj_enterSection i ldj0⟩

theorem fn_graph {Kb : List Nat} {eb : Bool} {b2 : B} {Rb : Flow} {T : Nat} (i : Nat) (lams : List Nat) (n : Nat)
    (hnd : (sk i :: (tnodes (lams ++ [n]) ++ Kb)).Nodup)
    (Vb : Entry [Scope.fn i] T [] Kb (emit [] (lams ++ [n])).2 ((addOrdinaryNodes (({} : B).enterSection i) lams).addOrdinaryNode n) →
      Visit [Scope.fn i] T [] Kb eb ((addOrdinaryNodes (({} : B).enterSection i) lams).addOrdinaryNode n) b2 Rb) :
    (b2.exitSection i).head = (lams ++ [n]).head? ∧
    (∀ p, p ∈ (emit [] (lams ++ [n])).1 ++ Rb.req → p ∈ (b2.exitSection i).edges) ∧
    (∀ x, x ∈ Rb.normal ++ Rb.ret → x ∈ (b2.exitSection i).leafSet) ∧
    (∀ x, x ∈ Rb.raise ++ Rb.exempt → x ∈ (b2.exitSection i).errors) := by
  obtain ⟨hi_all, hnd2⟩ := List.nodup_cons.mp hnd
  have hib : sk i ∉ Kb := fun h => hi_all (List.mem_append.mpr (Or.inr h))
  let b0 : B := ({} : B).enterSection i
  have pre0 := Pre.start i _ hi_all
  have V1 := Visit.simple [Scope.fn i] T [] b0 [] lams n pre0.ldj (fun x h => nomem x h)
  have hp1 := Pre.step pre0 V1.ff.f V1.ff.x (fun k hk h1 => (List.nodup_append.mp hnd2).2.2 k h1 k hk rfl) V1.post.ldj
  have V2 := Vb (.of_leaves (List.nodup_append.mp hnd2).2.1 hp1 (V1.post.normE rfl))
  obtain ⟨F, hF, ex1, hex1⟩ := hp1.fnOpen
  obtain rfl : i = F := Option.some.inj ((fnOf_fn i).symm.trans hF)
  obtain ⟨ex2, hex2, _⟩ := V2.ff.f.exits i hib ex1 hex1
  obtain ⟨X, xj, xl⟩ := exitSection_spec b2 i ex2 hex2 (V2.ff.f.valid hp1.valid).leaves V2.post.ldj
  refine ⟨?_, fun p hp => ?_, fun x hx => ?_, fun x hx => ?_⟩
  · obtain ⟨n0, r0, hns⟩ : ∃ n0 r0, lams ++ [n] = n0 :: r0 := by
      cases lams with
      | nil => exact ⟨_, _, rfl⟩
      | cons x r => exact ⟨x, r ++ [n], rfl⟩
    have h1 : ((addOrdinaryNodes b0 lams).addOrdinaryNode n).head = some n0 := by
      rw [← addOrdinaryNodes_snoc, hns]
      exact head_addOrdinaryNodes_cons b0 n0 r0 rfl
    rw [hns]
    exact (B.frame_exitSection [sk i] b2 i (List.mem_cons_self ..)).head n0 (V2.ff.f.head n0 h1)
  · -- a pending pair can only wait for the exit of this section
    rcases ReqOkT.exit X ((Pend.seq (keeps_tr hp1.toTr V2.ff (TOk.nil _ _) _ V1.post.pend) V2.post.pend).req p hp) with
      h | ⟨c, t, ⟨hL | ⟨hc, hF'⟩, hne⟩, _⟩ | ⟨h, _⟩
    · exact h
    · rw [loopOf_fn] at hL; cases hL
    · exact (hne ⟨hc, (Option.some.inj ((fnOf_fn i).symm.trans hF')).symm⟩).elim
    · exact nomem _ h
  · rcases List.mem_append.mp hx with hx | hx
    · exact xl x (V2.post.inLeaves x hx)
    · obtain ⟨F, hF', hpj⟩ := V2.post.pend.ret x hx
      obtain rfl : i = F := Option.some.inj ((fnOf_fn i).symm.trans hF')
      exact xj x hpj
  · rw [X.errors]
    exact (List.mem_append.mp hx).elim (fun h => (V2.post.pend.raise x h).1) (V2.post.pend.exempt x)

end Malt.Cfg
