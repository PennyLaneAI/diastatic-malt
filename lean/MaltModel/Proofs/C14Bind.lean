import MaltModel.Rt.Builtins
/-! Python call binding (`bind`, `accepts`, `firstErr`, keyword order), `envEquiv`, and the stepwise evaluation of
`callMapped`/`callOverload`; nothing here is specific to one builtin. -/
namespace Malt.Builtins
open Malt.Gen.Builtins

variable {α : Type}

theorem bind_ok {sig : Signature} {c : CallShape α} {env : Env α} (h : bind sig c = .ok env) :
    accepts sig c = true ∧ env = envOf sig c := by
  unfold bind at h
  split at h
  · rename_i ha
    exact ⟨ha, by injection h with h; exact h.symm⟩
  · cases h

theorem bind_of_accepts {sig : Signature} {c : CallShape α} (h : accepts sig c = true) :
    bind sig c = .ok (envOf sig c) := by
  simp [bind, h]

theorem bind_error_of_not_accepts {sig : Signature} {c : CallShape α} (h : accepts sig c = false) :
    ∃ e, bind sig c = .error e := by
  simp [bind, h]

theorem accepts_parts {sig : Signature} {c : CallShape α} (h : accepts sig c = true) :
    (hasVarPos sig = true ∨ c.pos.length ≤ nPos sig) ∧ keysNodup c.kw = true ∧
    (∀ kv ∈ c.kw, kwAdmissible sig c.pos.length kv.1 = true) ∧
    (∀ p ∈ sig, satisfied sig c p = true) := by
  simp only [accepts, Bool.and_eq_true, Bool.or_eq_true, decide_eq_true_eq, List.all_eq_true] at h
  exact ⟨h.1.1.1, h.1.1.2, h.1.2, h.2⟩

theorem accepts_nodup {sig : Signature} {c : CallShape α} (h : accepts sig c = true) : keysNodup c.kw = true :=
  (accepts_parts h).2.1

theorem accepts_pos_le {sig : Signature} {c : CallShape α} (h : accepts sig c = true)
    (hv : hasVarPos sig = false) : c.pos.length ≤ nPos sig := by
  rcases (accepts_parts h).1 with h' | h'
  · rw [hv] at h'; cases h'
  · exact h'

/-- Used as `false_of_eq_true_false h rfl` with `h : accepts form c = true` on a shape `c` concrete
enough for `accepts form c` to evaluate (to `false`): that shape cannot occur. -/
theorem false_of_eq_true_false {b : Bool} (h : b = true) (h' : b = false) : False := by
  rw [h] at h'; cases h'

/-- Names a keyword may still use when `n` positional arguments were given (no `**kwargs`). -/
def freeKwNames (sig : Signature) (n : Nat) : List String :=
  ((sig.filter isKw).map (·.name)).filter (fun k => !posFilled sig n k)

theorem accepts_keys_free {sig : Signature} {c : CallShape α} (h : accepts sig c = true)
    (hv : hasVarKw sig = false) : ∀ kv ∈ c.kw, kv.1 ∈ freeKwNames sig c.pos.length := by
  intro kv hkv
  have ha := (accepts_parts h).2.2.1 kv hkv
  unfold kwAdmissible at ha
  split at ha
  · rename_i ht
    simp only [kwTarget, List.any_eq_true, Bool.and_eq_true, beq_iff_eq] at ht
    obtain ⟨p, hp, hk, hn⟩ := ht
    refine List.mem_filter.mpr ⟨List.mem_map.mpr ⟨p, List.mem_filter.mpr ⟨hp, hk⟩, hn⟩, ?_⟩
    simpa using ha
  · rw [hv] at ha; cases ha

theorem hasKey_eq_false {β : Type} {k : String} {kw : List (String × β)} :
    hasKey k kw = false ↔ ∀ kv ∈ kw, kv.1 ≠ k := by
  simp only [hasKey, List.any_eq_false, beq_iff_eq]

theorem keysNodup_iff {β : Type} (kw : List (String × β)) : keysNodup kw = true ↔ (kw.map (·.1)).Nodup := by
  induction kw with
  | nil => simp [keysNodup]
  | cons kv r ih =>
    simp only [keysNodup, Bool.and_eq_true, Bool.not_eq_true', hasKey_eq_false, ih, List.map_cons, List.nodup_cons,
      List.mem_map, not_exists, not_and]

theorem kw_nil_of_no_keys {β : Type} {kw : List (String × β)} (h : ∀ kv ∈ kw, kv.1 ∈ ([] : List String)) : kw = [] := by
  cases kw with
  | nil => rfl
  | cons kv r => exact absurd (h kv (List.mem_cons_self ..)) List.not_mem_nil

theorem kw_of_one_key {β : Type} {kw : List (String × β)} {s : String} (hn : keysNodup kw = true)
    (h : ∀ kv ∈ kw, kv.1 ∈ [s]) : kw = [] ∨ ∃ v, kw = [(s, v)] := by
  match kw, hn, h with
  | [], _, _ => exact .inl rfl
  | (k, v) :: r, hn, h =>
    rw [keysNodup, Bool.and_eq_true, Bool.not_eq_true', hasKey_eq_false] at hn
    rw [List.forall_mem_cons] at h
    obtain rfl := List.mem_singleton.mp h.1
    have : r = [] := kw_nil_of_no_keys fun kv hkv => absurd (List.mem_singleton.mp (h.2 kv hkv)) (hn.1 kv hkv)
    exact .inr ⟨v, by rw [this]⟩

/-- One step of the CPython-order scan. -/
theorem kwErrs_cons_none (sig : Signature) (npos : Nat) (allKeys : List String) (kv : String × Val α)
    (r : List (String × Val α)) (seen : List String) :
    kwErrs sig npos allKeys (kv :: r) seen = none ↔
      (kwAdmissible sig npos kv.1 = true ∧ kv.1 ∉ seen ∧ kwErrs sig npos allKeys r (kv.1 :: seen) = none) := by
  rw [kwErrs, kwAdmissible]
  cases kwTarget sig kv.1
  · cases hasVarKw sig
    · -- no such parameter and no `**kwargs`: an error either way, and not admissible
      simp only [Bool.false_eq_true, if_false, false_and, iff_false]
      split <;> simp
    · -- collected by `**kwargs`: always admissible
      simp only [Bool.false_eq_true, if_false, if_true, true_and, List.contains_iff_mem]
      split <;> simp [*]
  · -- names a parameter: admissible unless that parameter is filled positionally
    simp only [if_true, Bool.or_eq_true, List.contains_iff_mem, Bool.not_eq_true']
    cases posFilled sig npos kv.1 <;> simp
    -- remaining goal: the parameter is free; the keyword passes iff it was not seen before
    split <;> simp [*]

theorem kwErrs_none_iff (sig : Signature) (npos : Nat) (allKeys : List String) :
    ∀ (kw : List (String × Val α)) (seen : List String),
      kwErrs sig npos allKeys kw seen = none ↔
        (keysNodup kw = true ∧ (∀ kv ∈ kw, kwAdmissible sig npos kv.1 = true) ∧
         (∀ kv ∈ kw, kv.1 ∉ seen)) := by
  intro kw
  induction kw with
  | nil => intro seen; simp [kwErrs, keysNodup]
  | cons kv r ih =>
    intro seen
    -- "the tail's keys are not in `kv.1 :: seen`" supplies both `keysNodup` and "not in `seen`"
    rw [kwErrs_cons_none, ih, keysNodup, Bool.and_eq_true, Bool.not_eq_true', hasKey_eq_false]
    simp only [List.forall_mem_cons]
    simp only [List.mem_cons, not_or]
    constructor
    · rintro ⟨ha, hs, hn, hr, hrs⟩
      exact ⟨⟨fun x hx => (hrs x hx).1, hn⟩, ⟨ha, hr⟩, hs, fun x hx => (hrs x hx).2⟩
    · rintro ⟨⟨hk, hn⟩, ⟨ha, hr⟩, hs, hrs⟩
      exact ⟨ha, hs, hn, hr, fun x hx => ⟨hk x hx, hrs x hx⟩⟩

theorem firstErr_none_iff (sig : Signature) (c : CallShape α) :
    firstErr sig c = none ↔ accepts sig c = true := by
  -- `firstErr` tests the conjuncts of `accepts` in turn: keys distinct and admissible, positional count, all satisfied
  unfold firstErr
  cases hk : kwErrs sig c.pos.length (c.kw.map (·.1)) c.kw [] with
  | some e =>
    simp only [reduceCtorEq, false_iff]
    intro ha
    have hp := accepts_parts ha
    have := (kwErrs_none_iff sig c.pos.length (c.kw.map (·.1)) c.kw []).mpr ⟨hp.2.1, hp.2.2.1, by simp⟩
    rw [this] at hk; cases hk
  | none =>
    have hkk := (kwErrs_none_iff sig c.pos.length (c.kw.map (·.1)) c.kw []).mp hk
    simp only
    by_cases hpos : (hasVarPos sig || decide (c.pos.length ≤ nPos sig)) = true
    · simp only [hpos, Bool.not_true, Bool.false_eq_true, if_false]
      cases hf : sig.find? (fun p => !satisfied sig c p) with
      | some p =>
        simp only [reduceCtorEq, false_iff]
        intro ha
        have hs := (accepts_parts ha).2.2.2 p (List.mem_of_find?_eq_some hf)
        have := List.find?_some hf
        simp [hs] at this
      | none =>
        simp only [true_iff]
        simp only [Bool.or_eq_true, decide_eq_true_eq] at hpos
        simp only [accepts, Bool.and_eq_true, Bool.or_eq_true, decide_eq_true_eq, List.all_eq_true]
        refine ⟨⟨⟨hpos, hkk.1⟩, hkk.2.1⟩, fun p hp => ?_⟩
        have := List.find?_eq_none.mp hf p hp
        simpa using this
    · simp only [hpos]
      simp only [Bool.not_eq_true] at hpos
      simp only [Bool.not_false, if_true, reduceCtorEq, false_iff]
      intro ha
      have := (accepts_parts ha).1
      simp only [Bool.or_eq_false_iff, decide_eq_false_iff_not] at hpos
      rcases this with h | h
      · rw [hpos.1] at h; cases h
      · exact hpos.2 h

/-- The `getD` default in `bind` is never used. -/
theorem bind_error_is_firstErr (sig : Signature) (c : CallShape α) (e : BindErr)
    (h : bind sig c = .error e) : firstErr sig c = some e := by
  unfold bind at h
  split at h
  · cases h
  · rename_i ha
    cases hf : firstErr sig c with
    | none => exact absurd ((firstErr_none_iff sig c).mp hf) ha
    | some e' =>
      rw [hf] at h
      simp only [Option.getD_some] at h
      injection h with h
      rw [h]

theorem callMapped_unfold (truthy : α → Bool) (b on : String) (ov : Overload) (c : CallShape α)
    (h1 : builtinFunctionsMap.lookup b = some on) (h2 : findOverload on = some ov) :
    callMapped truthy b c = callOverload truthy ov c := by
  simp [callMapped, h1, h2]

theorem callMappedS_unfold (staged : Staging α) (truthy : α → Bool) (b on : String) (ov : Overload) (c : CallShape α)
    (h1 : builtinFunctionsMap.lookup b = some on) (h2 : findOverload on = some ov) :
    callMappedS staged truthy b c = callOverloadS staged truthy ov c := by
  simp [callMappedS, h1, h2]

theorem overloadName_of_supported {b : String} (hb : b ∈ supportedBuiltins) :
    overloadName b = builtinFunctionsMap.lookup b := by
  rw [overloadName, List.contains_iff_mem.mpr hb, if_pos rfl]

theorem forward_eq_callMapped (truthy : α → Bool) {b on : String} (hb : b ∈ supportedBuiltins)
    (h1 : builtinFunctionsMap.lookup b = some on) (c : CallShape α) :
    forward truthy b c = callMapped truthy b c := by
  rw [forward, callMapped, overloadName_of_supported hb, h1]

theorem callOverload_bind_error (truthy : α → Bool) (ov : Overload) (c : CallShape α) (e : BindErr)
    (h : bind ov.params c = .error e) : callOverload truthy ov c = .error (.bind e) := by
  simp [callOverload, h]

theorem callOverload_of_steps (truthy : α → Bool) (ov : Overload) (c c1 c2 : CallShape α) (env env1 : Env α)
    (h : Helper) (br : Branch)
    (hb : bind ov.params c = .ok env) (hk : kwAllowed ov env = true)
    (he : evalCall env ov.call = some c1) (hh : findHelper ov.call.callee = some h)
    (hb1 : bind h.params c1 = .ok env1) (hp : pickBranch truthy env1 h.branches = some br)
    (he2 : evalCall env1 br.call = some c2) :
    callOverload truthy ov c = .ok ⟨br.call.callee, c2, ov.ret == .value && br.ret == .value⟩ := by
  simp [callOverload, hb, hk, he, hh, hb1, hp, he2]

theorem callOverload_inv (truthy : α → Bool) (ov : Overload) (c : CallShape α) (r : Fwd α)
    (h : callOverload truthy ov c = .ok r) :
    ∃ env c1 hl env1 br, bind ov.params c = .ok env ∧ kwAllowed ov env = true ∧
      evalCall env ov.call = some c1 ∧ findHelper ov.call.callee = some hl ∧
      bind hl.params c1 = .ok env1 ∧ pickBranch truthy env1 hl.branches = some br ∧
      evalCall env1 br.call = some r.call ∧ r.callee = br.call.callee ∧
      r.tail = (ov.ret == .value && br.ret == .value) := by
  unfold callOverload at h
  split at h
  · cases h
  · rename_i env hb
    split at h
    · cases h
    · rename_i hk
      split at h
      · cases h
      · rename_i c1 he
        split at h
        · cases h
        · rename_i hl hh
          split at h
          · cases h
          · rename_i env1 hb1
            split at h
            · cases h
            · rename_i br hbr
              split at h
              · cases h
              · rename_i c2 he2
                injection h with h
                subst h
                exact ⟨env, c1, hl, env1, br, hb, by simpa using hk, he, hh, hb1, hbr, he2, rfl, rfl⟩

theorem pickBranch_mem (truthy : α → Bool) (env : Env α) :
    ∀ (brs : List Branch) (br : Branch), pickBranch truthy env brs = some br → br ∈ brs := by
  intro brs
  induction brs with
  | nil => intro br h; cases h
  | cons b r ih =>
    intro br h
    unfold pickBranch at h
    split at h
    · injection h with h; rw [← h]; exact List.mem_cons_self ..
    · exact List.mem_cons_of_mem _ (ih br h)
    · cases h

section
variable [DecidableEq α]

theorem valEquiv_refl (truthy : α → Bool) (b p : String) (v : Val α) : valEquiv truthy b p v v = true := by
  simp [valEquiv]

theorem boundEquiv_refl (truthy : α → Bool) (b p : String) (x : Bound α) : boundEquiv truthy b p x x = true := by
  cases x <;> simp [boundEquiv, valEquiv_refl]

theorem envEquiv_refl (truthy : α → Bool) (b : String) (e : Env α) : envEquiv truthy b e e = true := by
  induction e with
  | nil => rfl
  | cons x r ih => simp [envEquiv, boundEquiv_refl, ih]

theorem envEquiv_of_eq (truthy : α → Bool) (b : String) {e e' : Env α} (h : e = e') :
    envEquiv truthy b e e' = true := by
  subst h; exact envEquiv_refl truthy b e
end

theorem hasKey_perm {β : Type} (k : String) {kw kw' : List (String × β)} (h : kw.Perm kw') : hasKey k kw = hasKey k kw' := by
  simp only [hasKey]
  exact h.any_eq

theorem lookup_perm {β : Type} (k : String) {kw kw' : List (String × β)} (h : kw.Perm kw')
    (hn : (kw.map (·.1)).Nodup) : kw.lookup k = kw'.lookup k := by
  induction h with
  | nil => rfl
  | cons x _ ih =>
    rcases x with ⟨a, b⟩
    simp only [List.map_cons, List.nodup_cons] at hn
    simp only [List.lookup_cons]
    split
    · rfl
    · exact ih hn.2
  | swap x y l =>
    rcases x with ⟨a, b⟩; rcases y with ⟨c, d⟩
    simp only [List.map_cons, List.nodup_cons, List.mem_cons, not_or] at hn
    simp only [List.lookup_cons]
    by_cases h1 : k == c <;> by_cases h2 : k == a <;> simp [h1, h2]
    simp only [beq_iff_eq] at h1 h2
    exact absurd (h1.symm.trans h2) hn.1.1
  | trans h1 _ ih1 ih2 =>
    rw [ih1 hn, ih2 ((h1.map _).nodup_iff.mp hn)]

theorem accepts_kw_perm (sig : Signature) (pos : List (Val α)) {kw kw' : List (String × Val α)} (h : kw.Perm kw') :
    accepts sig ⟨pos, kw⟩ = accepts sig ⟨pos, kw'⟩ := by
  have h1 : keysNodup kw = keysNodup kw' := by
    rw [Bool.eq_iff_iff, keysNodup_iff, keysNodup_iff]
    exact (h.map _).nodup_iff
  have h2 : kw.all (fun kv => kwAdmissible sig pos.length kv.1) = kw'.all (fun kv => kwAdmissible sig pos.length kv.1) := h.all_eq
  have h3 : sig.all (satisfied sig ⟨pos, kw⟩) = sig.all (satisfied sig ⟨pos, kw'⟩) := by
    congr 1
    funext p
    simp only [satisfied, filled, hasKey_perm p.name h]
  simp only [accepts, h1, h2, h3]

theorem envOf_kw_perm (sig : Signature) (hv : hasVarKw sig = false) (pos : List (Val α)) {kw kw' : List (String × Val α)}
    (h : kw.Perm kw') (hn : keysNodup kw = true) : envOf sig ⟨pos, kw⟩ = envOf sig ⟨pos, kw'⟩ := by
  have hn' := (keysNodup_iff kw).mp hn
  simp only [envOf]
  apply List.map_congr_left
  intro p hp
  congr 1
  have hk : p.kind ≠ .varKw := by
    intro hk
    have : hasVarKw sig = true := by
      simp only [hasVarKw, List.any_eq_true]
      exact ⟨p, hp, by simp [hk]⟩
    rw [hv] at this; cases this
  -- `boundOf` reads the keywords through `lookup`, except for `**kwargs`
  unfold boundOf
  simp only [lookup_perm p.name h hn']
  cases hkind : p.kind with
  | varKw => exact absurd hkind hk
  | _ => rfl

theorem bind_kw_perm (sig : Signature) (hv : hasVarKw sig = false) (pos : List (Val α))
    {kw kw' : List (String × Val α)} (h : kw.Perm kw') {env : Env α}
    (hb : bind sig ⟨pos, kw⟩ = .ok env) : bind sig ⟨pos, kw'⟩ = .ok env := by
  obtain ⟨ha, rfl⟩ := bind_ok hb
  rw [envOf_kw_perm sig hv pos h (accepts_nodup ha)]
  exact bind_of_accepts (accepts_kw_perm sig pos h ▸ ha)

end Malt.Builtins
