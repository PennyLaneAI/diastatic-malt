import MaltModel.Proofs.C18Sem2
import MaltModel.Proofs.C18Cong
namespace Malt.Anf
open Malt.Py Malt.SemAnf

/-- Pending statements (`G`) are assignments: `break` / `continue` / `return` cannot come out of `G`. -/
def SimKR {α : Type} (R : St → St → Prop) (O : Oracle) (G : List Stmt) (k k' : St → ER α) : Prop :=
  ∀ σ σ', R σ σ' →
    match execB O G σ' with
    | (.normal, σ2') => (k' σ2').1 = (k σ).1 ∧ R (k σ).2 (k' σ2').2
    | (.raise x, σ2') => (k σ).1 = .error x ∧ R (k σ).2 σ2'
    | _ => False

abbrev SimER (R : St → St → Prop) (O : Oracle) (e e' : Expr) (G : List Stmt) : Prop := SimKR R O G (evalE O e) (evalE O e')
abbrev SimLR (R : St → St → Prop) (O : Oracle) (es es' : List Expr) (G : List Stmt) : Prop :=
  SimKR R O G (evalOpts O es) (evalOpts O es')

def SimK {α : Type} (O : Oracle) (G : List Stmt) (k k' : St → ER α) : Prop :=
  ∀ σ σ', Agree σ σ' →
    match execB O G σ' with
    | (.normal, σ2') => (k' σ2').1 = (k σ).1 ∧ Agree (k σ).2 (k' σ2').2
    | (.raise x, σ2') => (k σ).1 = .error x ∧ Agree (k σ).2 σ2'
    | _ => False

abbrev SimE (O : Oracle) (e e' : Expr) (G : List Stmt) : Prop := SimK O G (evalE O e) (evalE O e')
abbrev SimL (O : Oracle) (es es' : List Expr) (G : List Stmt) : Prop := SimK O G (evalOpts O es) (evalOpts O es')

theorem simK_iff {α : Type} {O : Oracle} {G : List Stmt} {k k' : St → ER α} : SimK O G k k' ↔ SimKR Agree O G k k' := Iff.rfl

variable {R : St → St → Prop}

theorem SimKR.cases {α : Type} {O : Oracle} {G : List Stmt} {k k' : St → ER α} (h : SimKR R O G k k')
    {σ σ' : St} (hA : R σ σ') :
    (∃ σ2 r σ1 τ1, execB O G σ' = (.normal, σ2) ∧ k σ = (r, σ1) ∧ k' σ2 = (r, τ1) ∧ R σ1 τ1) ∨
    (∃ x σ1 σ2, execB O G σ' = (.raise x, σ2) ∧ k σ = (.error x, σ1) ∧ R σ1 σ2) := by
  have := h σ σ' hA
  revert this
  rcases execB O G σ' with ⟨o, σ2⟩
  cases o with
  | normal => exact fun h => Or.inl ⟨σ2, (k σ).1, (k σ).2, (k' σ2).2, rfl, rfl, Prod.ext h.1 rfl, h.2⟩
  | raise x => exact fun h => Or.inr ⟨x, (k σ).2, σ2, rfl, Prod.ext h.1 rfl, h.2⟩
  | _ => exact False.elim

theorem SimK.cases {α : Type} {O : Oracle} {G : List Stmt} {k k' : St → ER α} (h : SimK O G k k') {σ σ' : St}
    (hA : Agree σ σ') :
    (∃ σ2 r σ1 τ1, execB O G σ' = (.normal, σ2) ∧ k σ = (r, σ1) ∧ k' σ2 = (r, τ1) ∧ Agree σ1 τ1) ∨
    (∃ x σ1 σ2, execB O G σ' = (.raise x, σ2) ∧ k σ = (.error x, σ1) ∧ Agree σ1 σ2) :=
  (simK_iff.mp h).cases hA

theorem SimKR.congr {α : Type} {O : Oracle} {G : List Stmt} {k k' k2 k2' : St → ER α}
    (h1 : ∀ σ, k σ = k2 σ) (h2 : ∀ σ, k' σ = k2' σ) (h : SimKR R O G k2 k2') : SimKR R O G k k' := by
  obtain rfl : k = k2 := funext h1
  obtain rfl : k' = k2' := funext h2
  exact h

theorem SimK.congr {α : Type} {O : Oracle} {G : List Stmt} {k k' k2 k2' : St → ER α}
    (h1 : ∀ σ, k σ = k2 σ) (h2 : ∀ σ, k' σ = k2' σ) (h : SimK O G k2 k2') : SimK O G k k' :=
  simK_iff.mpr (SimKR.congr h1 h2 (simK_iff.mp h))

theorem SimKR.lift {α β : Type} {O : Oracle} {G : List Stmt} {k k' : St → ER α} {g g' : α → St → ER β}
    (hg : ∀ a, Sim2 R (g a) (g' a)) (h : SimKR R O G k k') : SimKR R O G (bindK k g) (bindK k' g') := by
  intro σ σ' hA
  rcases h.cases hA with ⟨σ2, r, σ1, τ1, hG, hk, hk', hag⟩ | ⟨x, σ1, σ2, hG, hk, hag⟩
  · simp only [hG, bindK, hk, hk']
    cases r with
    | error x => exact ⟨rfl, hag⟩
    | ok a => exact hg a σ1 τ1 hag
  · simp only [hG, bindK, hk]
    exact ⟨trivial, hag⟩

theorem SimKR.nil {α : Type} {O : Oracle} {k k' : St → ER α} (h : Sim2 R k k') : SimKR R O [] k k' :=
  fun σ σ' hR => h σ σ' hR

theorem SimKR.trans {α : Type} {R' : St → St → Prop} {O : Oracle} {G1 G2 : List Stmt} {k k1 k2 : St → ER α}
    (hrefl : ∀ σ, R' σ σ) (hcomp : ∀ {σ τ υ}, R σ τ → R' τ υ → R σ υ) (h1 : SimKR R O G1 k k1) (h2 : SimKR R' O G2 k1 k2) :
    SimKR R O (G1 ++ G2) k k2 := by
  intro σ σ' hA
  rw [execB_append]
  rcases h1.cases hA with ⟨σ1', r, σ1, τ1, hG, hk, hk1, hag⟩ | ⟨x, σ1, σ1', hG, hk, hag⟩
  · simp only [hG]
    -- `h2` is used on the diagonal only, at the state reached after `G1`
    rcases h2.cases (hrefl σ1') with ⟨σ2', r', τ1', τ2, hG2, hk1', hk2, hag2⟩ | ⟨x, τ1', σ2', hG2, hk1', hag2⟩
    · obtain ⟨rfl, rfl⟩ : r = r' ∧ τ1 = τ1' := by rw [hk1] at hk1'; exact ⟨congrArg Prod.fst hk1', congrArg Prod.snd hk1'⟩
      simp only [hG2, hk, hk2]
      exact ⟨trivial, hcomp hag hag2⟩
    · obtain ⟨rfl, rfl⟩ : r = .error x ∧ τ1 = τ1' := by rw [hk1] at hk1'; exact ⟨congrArg Prod.fst hk1', congrArg Prod.snd hk1'⟩
      simp only [hG2, hk]
      exact ⟨trivial, hcomp hag hag2⟩
  · simp only [hG, hk]
    exact ⟨trivial, hag⟩

/-! What is left of the head operand is evaluated AFTER the pending statements of the later operands: three reasons why
that is harmless. -/

theorem sim_cons_rest_unmoved (O : Oracle) {c c1 : Expr} {d1 : List Stmt} {rest : List Expr}
    (hc : SimER R O c c1 d1) (hr : SimLR R O rest rest []) : SimLR R O (c :: rest) (c1 :: rest) d1 := by
  intro σ σ' hA
  rw [evalOpts_cons O c rest σ]
  rcases hc.cases hA with ⟨σa', r, σc, σb', hd, hv, hv1, hag⟩ | ⟨x, σc, σa', hd, hv, hag⟩
  · simp only [hd, hv, evalOpts_cons O c1 rest σa', hv1]
    cases r with
    | error x => exact ⟨rfl, hag⟩
    | ok v =>
      have hs2 := hr σc σb' hag
      simp only [execB] at hs2
      exact ⟨consR_fst_congr v hs2.1, by rw [consR_snd, consR_snd]; exact hs2.2⟩
  · simp only [hd, hv]
    exact ⟨trivial, hag⟩

theorem sim_cons_head_pure (O : Oracle) {c c1 : Expr} {d1 G2 : List Stmt} {rest r2 : List Expr}
    (hc : SimER R O c c1 d1) (hr : SimLR R O rest r2 G2) (hp : PureAt O c1)
    (hfr : ∀ σ, ∀ y ∈ namesE c1, (execB O G2 σ).2.get y = σ.get y) :
    SimLR R O (c :: rest) (c1 :: r2) (d1 ++ G2) := by
  intro σ σ' hA
  rw [execB_append, evalOpts_cons O c rest σ]
  rcases hc.cases hA with ⟨σa', r, σc, σx, hd, hv, hv1, hag⟩ | ⟨x, σc, σa', hd, hv, hag⟩
  · -- purity twice: `c1` leaves the state alone; below: it may be evaluated after `G2` as well
    obtain ⟨v, hv1', -⟩ := hp σa' σa' (fun _ _ => rfl)
    obtain ⟨rfl, rfl⟩ : .ok v = r ∧ σa' = σx := by rw [hv1'] at hv1; simpa using hv1
    simp only [hd, hv]
    have hget := hfr σa'
    rcases hr.cases hag with ⟨σd', q, σe, τe, hh, hk, hk', hag3⟩ | ⟨x, σe, σd', hh, hk, hag3⟩
    · rw [hh] at hget
      obtain ⟨v', hva, hvd⟩ := hp σa' σd' (fun y hy => (hget y hy).symm)
      obtain rfl : v = v' := by rw [hv1'] at hva; simpa using hva
      simp only [hh, evalOpts_cons O c1 r2 σd', hvd, hk, hk']
      cases q <;> exact ⟨rfl, hag3⟩
    · simp only [hh, hk]
      exact ⟨rfl, hag3⟩
  · simp only [hd, hv]
    exact ⟨trivial, hag⟩

theorem sim_cons_head_hoisted (O : Oracle) {c c1 : Expr} {d1 H2 : List Stmt} {rest r2 : List Expr} {m : Nat}
    (hset : ∀ {σ τ : St} (v : Val), R σ τ → R σ (τ.set (tmpName m) v))
    (hc : SimER R O c c1 d1) (hr : SimLR R O rest r2 H2) (hf : fragE c1 = true)
    (hfr : ∀ σ, (execB O H2 σ).2.get (tmpName m) = σ.get (tmpName m)) :
    SimLR R O (c :: rest) (.name 0 (tmpName m) .load :: r2) (d1 ++ (tmpAssign m c1 :: H2)) := by
  intro σ σ' hA
  rw [execB_append, evalOpts_cons O c rest σ]
  rcases hc.cases hA with ⟨σa', r, σc, σb', hd, hv, hv1, hag⟩ | ⟨x, σc, σa', hd, hv, hag⟩
  · simp only [hd, hv, execB, exec_tmpAssign O m c1 σa' hf, hv1]
    cases r with
    | error x => exact ⟨rfl, hag⟩
    | ok v =>
      have hget := hfr (σb'.set (tmpName m) v)
      simp only [get_set, if_true] at hget
      simp only
      rcases hr.cases (hset v hag) with ⟨σd', q, σe, τe, hh, hk, hk', hag3⟩ | ⟨x, σe, σd', hh, hk, hag3⟩
      · rw [hh] at hget
        simp only [hh, evalOpts_cons O (.name 0 (tmpName m) .load), evalE, hget, hk, hk']
        cases q <;> exact ⟨rfl, hag3⟩
      · simp only [hh, hk]
        exact ⟨rfl, hag3⟩
  · simp only [hd, hv]
    exact ⟨trivial, hag⟩

def isAtom : Expr → Bool
  | .name .. => true
  | .const .. => true
  | _ => false

theorem atom_visit (cfg : Config) {e : Expr} (h : isAtom e = true) (n : Nat) : visitE cfg e n = .ok (e, [], n) := by
  cases e <;> simp [isAtom] at h <;> simp [visitE]

theorem atomStay_spec {cfg : Config} {pk fld : String} {e : Expr} (h : atomStay cfg pk fld e = true) :
    isAtom e = true ∧ okChild cfg pk fld e = true := by
  cases e <;> simp [atomStay] at h <;> simp [isAtom, h]

theorem sim_cons_atom (O : Oracle) {c : Expr} {G : List Stmt} {rest r2 : List Expr} (hat : isAtom c = true)
    (hnt : ∀ y ∈ namesE c, isTempName y = false)
    (hfr : ∀ σ, ∀ y ∈ namesE c, (execB O G σ).2.get y = σ.get y)
    (hr : SimL O rest r2 G) : SimL O (c :: rest) (c :: r2) G := by
  have hfp : fragE c = true ∧ pureE c = true := by cases c <;> simp [isAtom] at hat <;> exact ⟨rfl, rfl⟩
  exact sim_cons_head_pure (G2 := G) O (SimKR.nil (evalE_agree O hfp.1 hnt)) hr (evalE_pure O c hfp.1 hfp.2) hfr

end Malt.Anf
