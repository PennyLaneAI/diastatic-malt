import MaltModel.Conv.ParserImage
import MaltModel.Proofs.C17Rel
/- The node-local part of `parserImage` is invariant under `copy_clean` and the `ContextAdjuster`; a node of the result
is a node of the template with its fields replaced, or a copy of a bound node. -/
namespace Malt.Conv.Template
open Malt.Py Malt.Conv

def bindingPi : Binding → Bool
  | .node e => piE e
  | .nodes es => piEs es
  | .stmt s => piS s
  | .stmts ss => piSs ss

def bindingsPi (b : Bindings) : Bool := b.all fun p => bindingPi p.2

theorem copy_piE (e : Expr) : ∀ (n : Nat), piE (copyE e n).1 = piE e := by
  induction e using Expr.rec (motive_2 := fun es => ∀ (n : Nat), piEs (copyEs es n).1 = piEs es) with
  | nil => rfl
  | cons e es ih0 ih1 n => simp [copyEs, piEs, ih0, ih1]
  | _ => intro n; unfold copyE piE; simp_all

theorem copy_piEs : ∀ (es : List Expr) (n : Nat), piEs (copyEs es n).1 = piEs es
  | [], n => rfl
  | e :: es, n => by simp [copyEs, piEs, copy_piE e, copy_piEs es]

theorem copy_piS (s : Stmt) : ∀ (n : Nat), piS (copyS s n).1 = piS s := by
  induction s using Stmt.rec (motive_2 := fun ss => ∀ (n : Nat), piSs (copySs ss n).1 = piSs ss) with
  | nil => rfl
  | cons s ss ih0 ih1 n => simp [copySs, piSs, ih0, ih1]
  | _ => intro n; unfold copyS piS; simp_all [copy_piE, copy_piEs]

theorem copy_piSs : ∀ (ss : List Stmt) (n : Nat), piSs (copySs ss n).1 = piSs ss
  | [], n => rfl
  | s :: ss, n => by simp [copySs, piSs, copy_piS s, copy_piSs ss]

theorem adjust_piE (c : Ctx) (e : Expr) : piE (adjust c e) = piE e := by
  induction e using Expr.rec (motive_2 := fun es => ∀ c, piEs (adjustEs c es) = piEs es) generalizing c with
  | other i k ats kids ih => by_cases hk : k = "Dict" <;> simp [adjust, hk, piE, ih]
  | nil => rfl
  | cons e es ih0 ih1 c => simp [adjustEs, piEs, ih0, ih1]
  | _ => unfold adjust piE; simp_all

theorem adjust_piEs : ∀ (c : Ctx) (es : List Expr), piEs (adjustEs c es) = piEs es
  | c, [] => rfl
  | c, e :: es => by simp [adjustEs, piEs, adjust_piE c e, adjust_piEs c es]

theorem map_adjTop_piEs (c : Ctx) : ∀ (es : List Expr), piEs (es.map (adjTop c)) = piEs es
  | [] => rfl
  | e :: es => by
      have he : piE (adjTop c e) = piE e := by
        unfold adjTop
        split
        · exact adjust_piE c e
        · rfl
      simp [piEs, he, map_adjTop_piEs c es]

theorem bindingsPi_lookup {b : Bindings} (hb : bindingsPi b = true) {s : String} {bd : Binding} (h : b.lookup s = some bd) :
    bindingPi bd = true :=
  let ⟨k, hk⟩ := lookup_mem b s bd h
  List.all_eq_true.1 hb (k, bd) hk

theorem bindingPi_exprs {bd : Binding} (h : bindingPi bd = true) : piEs bd.exprs = true := by
  cases bd <;> simp_all [bindingPi, Binding.exprs, piEs]

theorem pi_and {a b a' b' : Bool} (h1 : a = true → a' = true) (h2 : b = true → b' = true) :
    (a && b) = true → (a' && b') = true := by
  simp only [Bool.and_eq_true]
  exact fun h => ⟨h1 h.1, h2 h.2⟩

theorem argRepl_pi (es : List Expr) (n : Nat) : piEs es = true → piEs (argRepl es n).1 = true := by
  exact argRepl_induct (motive := fun es _ t => piEs es = true → piEs t.1 = true) (fun _ => id)
    (fun _ _ _ _ _ ih hp => ih (Bool.and_eq_true_iff.1 hp).2) (fun _ _ _ _ ih => pi_and id ih) es n

theorem piEs_append : ∀ (l r : List Expr), piEs (l ++ r) = (piEs l && piEs r)
  | [], r => by simp [piEs]
  | e :: l, r => by simp [piEs, piEs_append l r, Bool.and_assoc]

theorem piSs_append : ∀ (l r : List Stmt), piSs (l ++ r) = (piSs l && piSs r)
  | [], r => by simp [piSs]
  | e :: l, r => by simp [piSs, piSs_append l r, Bool.and_assoc]

theorem piEs_single {x : Expr} : piEs [x] = piE x := by simp [piEs]

theorem piSs_single {x : Stmt} : piSs [x] = piS x := by simp [piSs]

theorem pi_one {p : Prop} {x : Expr} (h : p → piE x = true) : p → piEs [x] = true := by rwa [piEs_single]

theorem pi_of_one {p : Prop} {x : Expr} (h : p → piEs [x] = true) : p → piE x = true := by rwa [piEs_single] at h

theorem pi_oneS {p : Prop} {x : Stmt} (h : p → piS x = true) : p → piSs [x] = true := by rwa [piSs_single]

theorem InstE.pi {b : Bindings} (hb : bindingsPi b = true) {e : Expr} {n : Nat} {r : List Expr} {n' : Nat}
    (h : InstE b e n r n') : piE e = true → piEs r = true := by
  induction h using InstE.rec (motive_2 := fun es _ r _ _ => piEs es = true → piEs r = true) with
  | noneMarker | nameFree hl | const => exact pi_one id
  | nameBound hl =>
      intro _
      rw [map_adjTop_piEs, copy_piEs]
      exact bindingPi_exprs (bindingsPi_lookup hb hl)
  | attr h0 ha ih0 | keywordFree hl h0 ih0 | starred h0 ih0 | unary h0 ih0 => exact pi_one (pi_of_one ih0)
  | keywordBound hl hk =>
      intro _
      rw [copy_piEs]
      exact bindingPi_exprs (bindingsPi_lookup hb (eq_some_of_ite_none hl))
  | argFree hl =>
      intro hp
      unfold piE at hp
      rw [piEs_single]
      unfold piE
      rwa [copy_piEs]
  | argBound hl =>
      intro _
      exact argRepl_pi _ _ (bindingPi_exprs (bindingsPi_lookup hb hl))
  | subscript h0 h1 ih0 ih1 | binop h0 h1 ih0 ih1 | lambda h0 h1 ih0 ih1 | namedexpr h0 h1 ih0 ih1 =>
      exact pi_one (pi_and (pi_of_one ih0) (pi_of_one ih1))
  | seq h0 ih0 | boolop h0 ih0 | other h0 ih0 => exact pi_one ih0
  | call h0 h1 h2 ih0 ih1 ih2 => exact pi_one (pi_and (pi_and (pi_of_one ih0) ih1) ih2)
  | compare h0 h1 ih0 ih1 | withitem h0 h1 ih0 ih1 => exact pi_one (pi_and (pi_of_one ih0) ih1)
  | ifexp h0 h1 h2 ih0 ih1 ih2 => exact pi_one (pi_and (pi_and (pi_of_one ih0) (pi_of_one ih1)) (pi_of_one ih2))
  | comp h0 h1 ih0 ih1 => exact pi_one (pi_and ih0 ih1)
  | comprehension h0 h1 h2 ih0 ih1 ih2 => exact pi_one (pi_and (pi_and (pi_of_one ih0) (pi_of_one ih1)) ih2)
  | arguments h0 h1 h2 h3 h4 h5 h6 ih0 ih1 ih2 ih3 ih4 ih5 ih6 =>
      exact pi_one (pi_and (pi_and (pi_and (pi_and (pi_and (pi_and ih0 ih1) ih2) ih3) ih4) ih5) ih6)
  | nil => exact rfl
  | cons h0 h1 ih0 ih1 hp =>
      rw [piEs_append]
      exact pi_and ih0 ih1 hp

theorem InstEs.pi {b : Bindings} (hb : bindingsPi b = true) {es : List Expr} {n : Nat} {r : List Expr} {n' : Nat}
    (h : InstEs b es n r n') : piEs es = true → piEs r = true :=
  h.thread (Q := fun es _ r _ => piEs es = true → piEs r = true) (fun _ _ => rfl)
    fun h0 ih1 => piEs_append _ _ ▸ pi_and (h0.pi hb) ih1

theorem InstS.pi {b : Bindings} (hb : bindingsPi b = true) {st : Stmt} {n : Nat} {r : List Stmt} {n' : Nat}
    (h : InstS b st n r n') : piS st = true → piSs r = true := by
  induction h using InstS.rec (motive_2 := fun ss _ r _ _ => piSs ss = true → piSs r = true) with
  | exprFree hl => exact pi_oneS id
  | exprStmt hl =>
      intro _
      rw [piSs_single, copy_piS]
      exact bindingsPi_lookup hb hl
  | exprStmts hl =>
      intro _
      rw [copy_piSs]
      exact bindingsPi_lookup hb hl
  | exprEmpty hl => exact fun _ => rfl
  | expr hv h0 => exact pi_oneS (pi_of_one (InstE.pi hb h0))
  | functionDef h0 h1 h2 h3 hn ih1 =>
      exact pi_oneS (pi_and (pi_and (pi_and (pi_of_one (InstE.pi hb h0)) ih1) (InstEs.pi hb h2)) (InstEs.pi hb h3))
  | classDef h0 h1 h2 h3 ih2 => exact pi_oneS (pi_and (pi_and (pi_and (InstEs.pi hb h0) (InstEs.pi hb h1)) ih2) (InstEs.pi hb h3))
  | ret h0 | delete h0 => exact pi_oneS (InstEs.pi hb h0)
  | assign h0 h1 => exact pi_oneS (pi_and (InstEs.pi hb h0) (pi_of_one (InstE.pi hb h1)))
  | augAssign h0 h1 => exact pi_oneS (pi_and (pi_of_one (InstE.pi hb h0)) (pi_of_one (InstE.pi hb h1)))
  | annAssign h0 h1 h2 => exact pi_oneS (pi_and (pi_and (pi_of_one (InstE.pi hb h0)) (pi_of_one (InstE.pi hb h1))) (InstEs.pi hb h2))
  | for_ h0 h1 h2 h3 h4 ih2 ih3 =>
      exact pi_oneS (pi_and (pi_and (pi_and (pi_and (pi_of_one (InstE.pi hb h0)) (pi_of_one (InstE.pi hb h1))) ih2) ih3) (InstEs.pi hb h4))
  | while_ h0 h1 h2 ih1 ih2 | if_ h0 h1 h2 ih1 ih2 => exact pi_oneS (pi_and (pi_and (pi_of_one (InstE.pi hb h0)) ih1) ih2)
  | with_ h0 h1 ih1 | handler h0 h1 ih1 | other h0 h1 ih1 => exact pi_oneS (pi_and (InstEs.pi hb h0) ih1)
  | raise h0 h1 => exact pi_oneS (pi_and (InstEs.pi hb h0) (InstEs.pi hb h1))
  | try_ h0 h1 h2 h3 ih0 ih1 ih2 ih3 => exact pi_oneS (pi_and (pi_and (pi_and ih0 ih1) ih2) ih3)
  | assert_ h0 h1 => exact pi_oneS (pi_and (pi_of_one (InstE.pi hb h0)) (InstEs.pi hb h1))
  | import_ | importFrom | global | nonlocal | pass | break_ | continue_ => exact pi_oneS (fun _ => rfl)
  | nil => exact rfl
  | cons h0 h1 ih0 ih1 hp =>
      rw [piSs_append]
      exact pi_and ih0 ih1 hp

theorem InstSs.pi {b : Bindings} (hb : bindingsPi b = true) {ss : List Stmt} {n : Nat} {r : List Stmt} {n' : Nat}
    (h : InstSs b ss n r n') : piSs ss = true → piSs r = true :=
  h.thread (Q := fun ss _ r _ => piSs ss = true → piSs r = true) (fun _ _ => rfl)
    fun h0 ih1 => piSs_append _ _ ▸ pi_and (h0.pi hb) ih1

theorem instS_pi (b : Bindings) (hb : bindingsPi b = true) : ∀ (st : Stmt) (n : Nat) (r : List Stmt) (n' : Nat),
    piS st = true → instS b st n = .ok (r, n') → piSs r = true :=
  fun st n r n' hp h => (InstS.of_instS b st n r n' h).pi hb hp

end Malt.Conv.Template
