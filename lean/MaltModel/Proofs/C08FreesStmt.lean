import MaltModel.Proofs.C08FreesModel
namespace Malt.Analysis
open Malt.Py Malt.Spec

theorem aliasBinds_eq (names : List (String × String)) (h : names.all (fun a => !(a.2 == "" && a.1 == "*")) = true) :
    aliasBinds names = names.map aliasName := by
  unfold aliasBinds
  induction names with
  | nil => rfl
  | cons a r ih =>
    simp only [List.all_cons, Bool.and_eq_true] at h
    have hv : (if a.2 != "" then some a.2 else if a.1 == "*" then none else some ((a.1.splitOn ".").headD a.1))
        = some (aliasName a) := by
      by_cases h2 : a.2 = ""
      · have h1 : a.1 ≠ "*" := by
          intro h1; simp [h2, h1] at h
        simp [h2, h1, aliasName]
      · simp [h2, aliasName]
    rw [List.filterMap_cons, hv, ih h.2, List.map_cons]

theorem argAnnotations_plain (as : List Expr) (h : as.all isPlainArg = true) : Spec.argAnnotations as = [] := by
  rw [Spec.argAnnotations, List.flatMap_eq_nil_iff]
  intro a ha
  obtain ⟨i, n, rfl⟩ := (isPlainArg_iff a).mp (List.all_eq_true.mp h a ha)
  rfl

/-- Where the analysis and Python agree (`SpecOkS`), a plain-name target is collected like any other: it is bound. -/
theorem collectS_annAssign {j : Nat} {t an : Expr} {v : List Expr} {simple : Bool}
    (hs : SpecOkS (.annAssign j t an v simple) = true) (a : Acc) :
    collectS (.annAssign j t an v simple) a = collectEs false v (collectE false an (collectE false t a)) := by
  cases t <;> try rfl
  case name i n c =>
    simp only [SpecOkS, Bool.and_eq_true, bne_iff_ne, ne_eq] at hs
    cases c <;> simp_all [collectS, collectE]

mutual
theorem collectsS : (s : Stmt) → FragS s = true → SpecOkS s = true → (fns : List FnCtx) →
    Collects (effS fns s) (fun a => collectS s a) (ownBindsS s) (ownLeaksS s) (ownDeclsS true s) (ownDeclsS false s)
      (defsS s)
  | .ret _ v, hf, _, fns | .delete _ v, hf, _, fns => (collectsEs v hf fns false false).exp
  | .expr _ v, hf, _, fns => (collectsE v hf fns false false).exp
  | .assign _ ts v, hf, _, fns => ((collectsEs ts (and_left hf) fns false false).comp (collectsE v (and_right hf) fns false false)).exp
  | .augAssign _ t _ v, hf, _, fns =>
      ((collectsE t (and_left hf) fns true false).comp (collectsE v (and_right hf) fns false false)).exp
  | .raise _ e c, hf, _, fns => ((collectsEs e (and_left hf) fns false false).comp (collectsEs c (and_right hf) fns false false)).exp
  | .assert_ _ t m, hf, _, fns => ((collectsE t (and_left hf) fns false false).comp (collectsEs m (and_right hf) fns false false)).exp
  | .annAssign _ t an v simple, hf, hs, fns => by
      simp only [FragS, Bool.and_eq_true] at hf
      simp only [effS, ownBindsS, ownLeaksS, ownDeclsS, defsS, collectS_annAssign hs]
      exact (((collectsE t hf.1.1 fns false false).comp (collectsE an hf.1.2 fns false true)).comp
        (collectsEs v hf.2 fns false false)).congr (by intro x; simp; grind) (hb := by intro x; simp; grind)
        (hl := by intro x; simp; grind) |>.exp
  | .import_ _ names, _, hs, fns
  | .importFrom _ _ names _, _, hs, fns => by
      simp only [SpecOkS] at hs
      simp only [collectS, effS, ownBindsS, ownLeaksS, ownDeclsS, defsS, aliasBinds_eq names hs]
      exact Collects.bindAll _ _ (by simp [aliasEff])
  | .global _ names, _, _, _ => Collects.globalDecl names
  | .nonlocal _ names, _, _, _ => Collects.nonlocalDecl names
  | .pass _, _, _, _ | .break_ _, _, _, _ | .continue_ _, _, _, _ => Collects.id
  | .other _ _ es bs, hf, hs, fns => (collectsEs es (and_left hf) fns false false).comp (collectsSs bs (and_right hf) hs fns)
  | .try_ _ b h o f, hf, hs, fns =>
      (((collectsSs b (and_left (and_left (and_left hf))) (and_left (and_left (and_left hs))) fns).comp
        (collectsSs h (and_right (and_left (and_left hf))) (and_right (and_left (and_left hs))) fns)).comp
        (collectsSs o (and_right (and_left hf)) (and_right (and_left hs)) fns)).comp (collectsSs f (and_right hf) (and_right hs) fns)
  | .handler _ ty name body, hf, hs, fns => by
      have hb := and_right hs
      obtain rfl : name = [] := List.isEmpty_iff.mp (and_left hs)
      exact ((collectsEs ty (and_left hf) fns false false).comp (collectsSs body (and_right hf) hb fns)).exp
  | .with_ _ items body _, hf, hs, fns =>
      ((collectsEs items (and_right (and_left (and_left hf))) fns false false).comp (collectsSs body (and_right hf) hs fns)).exp
  | .if_ _ t body orelse, hf, hs, fns
  | .while_ _ t body orelse, hf, hs, fns => by
      simp only [FragS, Bool.and_eq_true] at hf
      simp only [SpecOkS, Bool.and_eq_true] at hs
      simpa [collectS, effS, ownBindsS, ownLeaksS, ownDeclsS, defsS] using
        (collectsE t hf.1.1 fns false false).exp.comp
          ((collectsSs body hf.1.2 hs.1 fns).exp.comp (collectsSs orelse hf.2 hs.2 fns).exp)
  | .for_ _ t it body orelse extra _, hf, hs, fns => by
      simp only [FragS, Bool.and_eq_true, List.isEmpty_iff] at hf
      obtain ⟨⟨⟨⟨⟨_, hx⟩, ht⟩, hit⟩, hb⟩, ho⟩ := hf
      subst hx
      simp only [SpecOkS, Bool.and_eq_true] at hs
      simp only [collectS, collectEs, effS, ownBindsS, ownLeaksS, ownDeclsS, defsS]
      exact ((((collectsE t ht fns false false).comp (collectsE it hit fns false false)).comp (collectsSs body hb hs.1 fns)).comp
        (collectsSs orelse ho hs.2 fns)).congr (by intro x; simp; grind)
  | .classDef i name bases kws body decos, hf, hs, fns => by
      simp only [FragS, Bool.and_eq_true] at hf
      obtain ⟨⟨⟨hb, hk⟩, hd⟩, hbody⟩ := hf
      simp only [SpecOkS] at hs
      simp only [collectS, effS, ownBindsS, ownLeaksS, ownDeclsS, defsS]
      exact (((((Collects.bind {} name (by simp)).comp (collectsEs bases hb (.cls i :: fns) false false)).comp
          (collectsEs kws hk (.cls i :: fns) false false)).comp (collectsEs decos hd (.cls i :: fns) false false)).classBlock
        (collectsSs body hbody hs (.cls i :: fns)) (effSs_sets body hbody _) (effSs_declRead body _)
        (effEs (.cls i :: fns) false false bases ++ effEs (.cls i :: fns) false false kws ++ effEs (.cls i :: fns) false false decos)
        (((effEs_sets bases hb _ false false).append (effEs_sets kws hk _ false false)).append (effEs_sets decos hd _ false false))
        (by intro x; simp; grind) (by intro x; simp) (by intro x; simp) i name).congr
        (by intro x; simp; grind) (hb := by intro x; simp; grind) (hl := by intro x; simp; grind)
  | .functionDef i name args body decos returns isAsync, hf, hs, fns => by
      cases args with
      | arguments ai po ar va ko kd kw df =>
        simp only [FragS, Bool.and_eq_true, Bool.not_eq_true'] at hf
        obtain ⟨⟨⟨⟨_, ⟨⟨⟨⟨⟨⟨hpo, har⟩, hva⟩, hko⟩, hkw⟩, hkd⟩, hdf⟩⟩, hdec⟩, hret⟩, hbody⟩ := hf
        simp only [SpecOkS] at hs
        have hann : Spec.argAnnotations (po ++ ar ++ va ++ ko ++ kw) = [] :=
          argAnnotations_plain _ (by simp [List.all_append, hpo, har, hva, hko, hkw])
        simp only [collectS, effS, ownBindsS, ownLeaksS, ownDeclsS, defsS, hann, collectEs]
        -- the collector goes through defaults, kw_defaults, returns, decorators; the analyzer the other way round
        exact ((((((Collects.bind {} name (by simp)).comp (collectsEs df hdf (.fn i name :: fns) false false)).comp
            (collectsEs kd hkd (.fn i name :: fns) false false)).comp (collectsEs returns hret (.fn i name :: fns) false true)).comp
            (collectsEs decos hdec (.fn i name :: fns) false false)).comp
          ((collectsSs body hbody hs (.fn i name :: fns)).funBlock (effSs_sets body hbody _) (effSs_declRead body _)
            po ar va ko kw i .function name (.inl rfl) [.functionDef i name (.arguments ai po ar va ko kd kw df) body decos returns isAsync]
            (by simp [mkDefBlock]))).congr
          (by intro x; simp; grind) (hb := by intro x; simp; grind) (hl := by intro x; simp; grind)
      | _ => simp [FragS] at hf
theorem collectsSs : (ss : List Stmt) → FragSs ss = true → SpecOkSs ss = true → (fns : List FnCtx) →
    Collects (effSs fns ss) (fun a => collectSs ss a) (ownBindsSs ss) (ownLeaksSs ss) (ownDeclsSs true ss) (ownDeclsSs false ss)
      (defsSs ss)
  | [], _, _, _ => Collects.id
  | s :: rest, hf, hs, fns => (collectsS s (and_left hf) (and_left hs) fns).comp (collectsSs rest (and_right hf) (and_right hs) fns)
end

theorem collectS_spec : (s : Stmt) → FragS s = true → SpecOkS s = true → (a : Acc) →
    CollectsS a (collectS s a) (ownBindsS s) (ownLeaksS s) (ownDeclsS true s) (ownDeclsS false s) :=
  fun s hf hs a => (collectsS s hf hs []).toCollectsS a

theorem collectSs_spec (ss : List Stmt) (hf : FragSs ss = true) (hs : SpecOkSs ss = true) (a : Acc) :
    CollectsS a (collectSs ss a) (ownBindsSs ss) (ownLeaksSs ss) (ownDeclsSs true ss) (ownDeclsSs false ss) :=
  (collectsSs ss hf hs []).toCollectsS a

theorem collectS_blocks : (s : Stmt) → FragS s = true → SpecOkS s = true → (a : Acc) →
    NewBlocks a (collectS s a) ((defsS s).map mkDefBlock) :=
  fun s hf hs a => (collectsS s hf hs []).toNewBlocks a

theorem collectSs_blocks (ss : List Stmt) (hf : FragSs ss = true) (hs : SpecOkSs ss = true) (a : Acc) :
    NewBlocks a (collectSs ss a) ((defsSs ss).map mkDefBlock) := (collectsSs ss hf hs []).toNewBlocks a

end Malt.Analysis
