import MaltModel.Sem.WrappersStmt
/-
Replacing every expression of a program by one that evaluates the same leaves the run unchanged
(`gexec_map_congr_all`), and `Malt.Sem.exec` is the generic `gexec (evalE X)` (`exec_eq_gexec_all`).
-/
namespace Malt.C01Exprs
open Malt.Sem (Name Val BinOp Exc Event St Ext Out truthy iterItems)
open Malt.SemW

theorem find_map_snd {β γ : Type} (g : β → γ) (t : Nat) (hs : List (Nat × β)) :
    ((hs.map fun h => (h.1, g h.2)).find? (fun h => h.1 == t)).map (·.2)
      = ((hs.find? (fun h => h.1 == t)).map (·.2)).map g := by
  rw [List.find?_map, Option.map_map, Option.map_map]
  rfl

theorem find_snd_mem {β : Type} {t : Nat} {hs : List (Nat × β)} {b : β}
    (h : (hs.find? (fun h => h.1 == t)).map (·.2) = some b) : ∃ h ∈ hs, h.2 = b := by
  obtain ⟨p, hp, rfl⟩ := Option.map_eq_some_iff.mp h
  exact ⟨p, List.mem_of_find?_eq_some hp, rfl⟩

section congr
variable {ε ε' : Type} (f : ε → ε') (ev' : ε' → St → Except Exc Val × St) (ev : ε → St → Except Exc Val × St)
  (q : ε → Bool) (hq : ∀ e, q e = true → ∀ σ, ev' (f e) σ = ev e σ)

theorem gmapH_eq_map : ∀ hs : List (Nat × GBlock ε), gmapH f hs = hs.map fun h => (h.1, gmapB f h.2)
  | [] => rfl
  | (_, _) :: hs => congrArg (_ :: ·) (gmapH_eq_map hs)

theorem gfindHandler_map (hs : List (Nat × GBlock ε)) : ∀ (ex : Exc),
    gfindHandler (gmapH f hs) ex = (gfindHandler hs ex).map (gmapB f)
  | .nameError _ | .typeError => rfl
  | .user t => by rw [gmapH_eq_map]; exact find_map_snd (gmapB f) t hs

theorem gallH_eq_all : ∀ hs : List (Nat × GBlock ε), gallH q hs = hs.all fun h => gallB q h.2
  | [] => rfl
  | (_, _) :: hs => by rw [gallH, gallH_eq_all hs, List.all_cons]

theorem gallH_find (hs : List (Nat × GBlock ε)) (ex : Exc) (b : GBlock ε)
    (hall : gallH q hs = true) (hf : gfindHandler hs ex = some b) : gallB q b = true := by
  cases ex with
  | user t =>
    obtain ⟨p, hp, rfl⟩ := find_snd_mem hf
    rw [gallH_eq_all] at hall
    exact List.all_eq_true.mp hall p hp
  | _ => cases hf

include hq
/-- Induction on the fuel.  After one unfolding step the recursive calls appear with `gmapS` / `Option.map` reduced, so
the induction hypotheses are restated in that form (`hw`, `hF`) and rewritten, with `hq`, under the `match` arms. -/
theorem gexec_map_congr_all : ∀ (n : Nat),
    (∀ (s : GStmt ε) (σ : St), gallS q s = true → gexec ev' n (gmapS f s) σ = gexec ev n s σ) ∧
    (∀ (b : GBlock ε) (σ : St), gallB q b = true → gexecB ev' n (gmapB f b) σ = gexecB ev n b σ) ∧
    (∀ (x : Name) (extra : Option ε) (b : GBlock ε) (items : List Val) (σ : St),
      (match extra with | none => true | some t => q t) = true → gallB q b = true →
      gexecFor ev' n x (extra.map f) (gmapB f b) items σ = gexecFor ev n x extra b items σ) := by
  intro n
  induction n with
  | zero => exact ⟨fun _ _ _ => rfl, fun _ _ _ => rfl, fun _ _ _ _ _ _ _ => rfl⟩
  | succ n ih =>
    obtain ⟨ihS, ihB, ihF⟩ := ih
    refine ⟨?_, ?_, ?_⟩
    · intro s σ hs
      cases s with
      | assign x e => simp only [gmapS, gexec, hq e hs]
      | expr e => simp only [gmapS, gexec, hq e hs]
      | ifS c t e =>
          simp only [gallS, Bool.and_eq_true] at hs
          simp only [gmapS, gexec, hq c hs.1.1, fun σ => ihB t σ hs.1.2, fun σ => ihB e σ hs.2]
      | whileS c b =>
          have hw : ∀ σ, gexec ev' n (.whileS (f c) (gmapB f b)) σ = _ := fun σ => ihS (.whileS c b) σ hs
          simp only [gallS, Bool.and_eq_true] at hs
          simp only [gmapS, gexec, hq c hs.1, fun σ => ihB b σ hs.2, hw]
      | forS x it extra b =>
          simp only [gallS, Bool.and_eq_true] at hs
          cases extra with
          | none =>
              have hF : ∀ items σ, gexecFor ev' n x none (gmapB f b) items σ = _ := fun items σ => ihF x none b items σ rfl hs.2
              simp only [gmapS, gexec, Option.map, hq it hs.1.1, hF]
          | some t =>
              have hF : ∀ items σ, gexecFor ev' n x (some (f t)) (gmapB f b) items σ = _ :=
                fun items σ => ihF x (some t) b items σ hs.1.2 hs.2
              simp only [gmapS, gexec, Option.map, hq it hs.1.1, hq t hs.1.2, hF]
      | ret e =>
          cases e with
          | none => rfl
          | some e => simp only [gmapS, gexec, Option.map, hq e hs]
      | tryS body hs' fin =>
          simp only [gallS, Bool.and_eq_true] at hs
          simp only [gmapS, gexec, fun σ => ihB body σ hs.1.1, fun σ => ihB fin σ hs.2, gfindHandler_map]
          rcases gexecB ev n body σ with _ | ⟨o, σ1⟩
          · rfl
          · cases o with
            | exc ex =>
                dsimp only
                cases hfh : gfindHandler hs' ex with
                | none => rfl
                | some hb => simp only [Option.map, ihB hb σ1 (gallH_find q hs' ex hb hs.1.2 hfh)]
            | _ => rfl
      | withS tag body => simp only [gmapS, gexec, fun σ => ihB body σ hs]
      | _ => rfl
    · intro b σ hb
      cases b with
      | nil => rfl
      | cons s rest =>
          simp only [gallB, Bool.and_eq_true] at hb
          simp only [gmapB, gexecB, ihS s σ hb.1, fun σ => ihB rest σ hb.2]
    · intro x extra b items σ hx hb
      cases items with
      | nil => rfl
      | cons v items =>
          cases extra with
          | none =>
              have hF : ∀ σ, gexecFor ev' n x none (gmapB f b) items σ = _ := fun σ => ihF x none b items σ hx hb
              simp only [gexecFor, Option.map, ihB b _ hb, hF]
          | some t =>
              have hF : ∀ σ, gexecFor ev' n x (some (f t)) (gmapB f b) items σ = _ := fun σ => ihF x (some t) b items σ hx hb
              simp only [gexecFor, Option.map, ihB b _ hb, hq t hx, hF]
end congr

theorem toGH_eq_map : ∀ hs : List (Nat × Malt.Sem.Block), toGH hs = hs.map fun h => (h.1, toGB h.2)
  | [] => rfl
  | (_, _) :: hs => congrArg (_ :: ·) (toGH_eq_map hs)

theorem gfindHandler_toGH (hs : List (Nat × Malt.Sem.Block)) : ∀ (ex : Exc),
    gfindHandler (toGH hs) ex = (Malt.Sem.findHandler hs ex).map toGB
  | .nameError _ | .typeError => rfl
  | .user t => by rw [toGH_eq_map]; exact find_map_snd toGB t hs

/-- `gexec` repeats `Malt.Sem.exec` word for word: after one unfolding step and the induction hypotheses the two
sides differ only in the names of the auxiliary `match` functions, which `rfl` sees through. -/
theorem exec_eq_gexec_all (X : Ext) : ∀ (n : Nat),
    (∀ (s : Malt.Sem.Stmt) (σ : St), Malt.Sem.exec X n s σ = gexec (Malt.Sem.evalE X) n (toG s) σ) ∧
    (∀ (b : Malt.Sem.Block) (σ : St), Malt.Sem.execB X n b σ = gexecB (Malt.Sem.evalE X) n (toGB b) σ) ∧
    (∀ (x : Name) (extra : Option Malt.Sem.Expr) (b : Malt.Sem.Block) (items : List Val) (σ : St),
      Malt.Sem.execFor X n x extra b items σ = gexecFor (Malt.Sem.evalE X) n x extra (toGB b) items σ) := by
  intro n
  induction n with
  | zero => exact ⟨fun _ _ => rfl, fun _ _ => rfl, fun _ _ _ _ _ => rfl⟩
  | succ n ih =>
    obtain ⟨ihS, ihB, ihF⟩ := ih
    refine ⟨?_, ?_, ?_⟩
    · intro s σ
      cases s with
      | whileS c b =>
          have hw : ∀ σ2, Malt.Sem.exec X n (.whileS c b) σ2 = _ := fun σ2 => ihS (.whileS c b) σ2
          simp only [Malt.Sem.exec, toG, gexec, ihB, hw]
          rfl
      | tryS body hs fin =>
          simp only [Malt.Sem.exec, toG, gexec, ihB]
          rcases gexecB (Malt.Sem.evalE X) n (toGB body) σ with _ | ⟨o, σ1⟩
          · rfl
          · cases o with
            | exc ex =>
                simp only [gfindHandler_toGH]
                cases Malt.Sem.findHandler hs ex <;> rfl
            | _ => rfl
      | ret e => cases e <;> simp only [Malt.Sem.exec, toG, gexec] <;> rfl
      | forS x it extra b => cases extra <;> simp only [Malt.Sem.exec, toG, gexec, ihF] <;> rfl
      | _ => simp only [Malt.Sem.exec, toG, gexec, ihB] <;> rfl
    · intro b σ
      cases b with
      | nil => rfl
      | cons s rest =>
          simp only [Malt.Sem.execB, toGB, gexecB, ihS, ihB]
          rfl
    · intro x extra b items σ
      cases items with
      | nil => rfl
      | cons v items =>
          cases extra <;> simp only [Malt.Sem.execFor, gexecFor, ihB, ihF] <;> rfl
mutual
theorem gallS_true {ε : Type} : ∀ (s : GStmt ε), gallS (fun _ => true) s = true
  | .assign .. | .expr .. | .brk | .cont | .raise _ | .pass => rfl
  | .ret e => by cases e <;> rfl
  | .ifS _ t e => by simp [gallS, gallB_true t, gallB_true e]
  | .whileS _ b | .withS _ b => by simp [gallS, gallB_true b]
  | .forS _ _ extra b => by cases extra <;> simp [gallS, gallB_true b]
  | .tryS b hs f => by simp [gallS, gallB_true b, gallH_true hs, gallB_true f]
theorem gallB_true {ε : Type} : ∀ (b : List (GStmt ε)), gallB (fun _ => true) b = true
  | [] => rfl
  | s :: ss => by simp [gallB, gallS_true s, gallB_true ss]
theorem gallH_true {ε : Type} : ∀ (hs : List (Nat × List (GStmt ε))), gallH (fun _ => true) hs = true
  | [] => rfl
  | (_, b) :: hs => by simp [gallH, gallB_true b, gallH_true hs]
end

theorem gexec_map_toG (X : Ext) {ε : Type} (f : Malt.Sem.Expr → ε) (ev : ε → St → Except Exc Val × St)
    (h : ∀ e σ, ev (f e) σ = Malt.Sem.evalE X e σ) (n : Nat) :
    (∀ (s : Malt.Sem.Stmt) (σ : St), gexec ev n (gmapS f (toG s)) σ = Malt.Sem.exec X n s σ) ∧
    (∀ (b : Malt.Sem.Block) (σ : St), gexecB ev n (gmapB f (toGB b)) σ = Malt.Sem.execB X n b σ) :=
  have hc := gexec_map_congr_all f ev (Malt.Sem.evalE X) (fun _ => true) (fun e _ => h e) n
  have he := exec_eq_gexec_all X n
  ⟨fun s σ => (hc.1 (toG s) σ (gallS_true _)).trans (he.1 s σ).symm,
    fun b σ => (hc.2.1 (toGB b) σ (gallB_true _)).trans (he.2.1 b σ).symm⟩

end Malt.C01Exprs
