import MaltModel.Proofs.JumpsSyntax
/-
The lowerings preserve the hypotheses of the jump-lowering theorems, `finOKB` and freshness for the next pass (`CleanB`),
and the smaller fragment `inS0B` (which no composed theorem needs).
-/
namespace Malt.Sem.Jumps
open Malt.Sem

theorem inS0B_append : ∀ (a b : List Stmt), inS0B (a ++ b) = (inS0B a && inS0B b)
  | [], b => by simp [inS0B]
  | s :: a, b => by simp [inS0B, inS0B_append a b, Bool.and_assoc]

theorem finOKB_append : ∀ (a b : List Stmt), finOKB (a ++ b) = (finOKB a && finOKB b)
  | [], b => by simp [finOKB]
  | s :: a, b => by simp [finOKB, finOKB_append a b, Bool.and_assoc]

theorem CleanB_append (G : Name → Prop) : ∀ (a b : List Stmt), CleanB G (a ++ b) ↔ (CleanB G a ∧ CleanB G b)
  | [], b => by simp [CleanB]
  | s :: a, b => by simp [CleanB, CleanB_append G a b, and_assoc]

/-- `inS0S`/`inS0B` have no handler-list form: the third motive of the induction is trivial. -/
theorem brk_inS0 (gen : Gen) : (∀ s cur p, inS0S s = true → inS0B (brkS gen cur p s).1 = true) ∧
    (∀ b cur p, inS0B b = true → inS0B (brkB gen cur p b).1 = true) ∧ (∀ _ : List (Nat × List Stmt), True) := by
  apply stmt_induct
  case ifS =>
    intro c t e iht ihe cur p h
    simp only [inS0S, Bool.and_eq_true] at h
    simp only [brkS, inS0B, inS0S, iht cur (0 :: p) h.1, ihe cur (1 :: p) h.2, Bool.and_self]
  case whileS =>
    intro c b ih cur p h
    have hb := ih (gen p) p h
    simp only [brkS]
    split <;> simp only [inS0B, inS0S, hb, Bool.and_self]
  case forS =>
    intro x it ex b ih cur p h
    have hb := ih (gen p) p h
    simp only [brkS]
    split <;> simp only [inS0B, inS0S, hb, Bool.and_self]
  case tryS => intro b hs f _ _ _ cur p h; cases h
  case withS => intro t b _ cur p h; cases h
  case cons =>
    intro s r ihs ihr cur p h
    simp only [inS0B, Bool.and_eq_true] at h
    simp only [brkB, inS0B_append, ihs cur (r.length :: p) h.1, ihr cur p h.2, Bool.and_self]
  case hnil => trivial
  case hcons => intros; trivial
  all_goals intros; rfl

theorem brkS_inS0 (gen : Gen) (cur : Name) : ∀ (p : List Nat) (s : Stmt), inS0S s = true →
    inS0B (brkS gen cur p s).1 = true := fun p s => (brk_inS0 gen).1 s cur p
theorem brkB_inS0 (gen : Gen) (cur : Name) : ∀ (p : List Nat) (b : List Stmt), inS0B b = true →
    inS0B (brkB gen cur p b).1 = true := fun p b => (brk_inS0 gen).2.1 b cur p

theorem inS0B_guarded (g : Bool) (v : Name) (b : List Stmt) : inS0B (if g then [ifNot v b] else b) = inS0B b := by
  cases g
  · rfl
  · simp only [if_true, inS0B, inS0S, ifNot, Bool.and_true]

theorem cnt_inS0 (gen : Gen) : (∀ s cur p, inS0S s = true → inS0B (cntS gen cur p s).1 = true) ∧
    (∀ b cur p g, inS0B b = true → inS0B (cntB gen cur p g b).1 = true) ∧ (∀ _ : List (Nat × List Stmt), True) := by
  apply stmt_induct
  case ifS =>
    intro c t e iht ihe cur p h
    simp only [inS0S, Bool.and_eq_true] at h
    simp only [cntS, inS0B, inS0S, iht cur (0 :: p) false h.1, ihe cur (1 :: p) false h.2, Bool.and_self]
  case whileS =>
    intro c b ih cur p h
    have hb := ih (gen p) p false h
    simp only [cntS, inS0B, inS0S, Bool.and_true]
    split <;> simp only [inS0B, inS0S, hb, Bool.and_self]
  case forS =>
    intro x it ex b ih cur p h
    have hb := ih (gen p) p false h
    simp only [cntS, inS0B, inS0S, Bool.and_true]
    split <;> simp only [inS0B, inS0S, hb, Bool.and_self]
  case tryS => intro b hs f _ _ _ cur p h; cases h
  case withS => intro t b _ cur p h; cases h
  case cons =>
    intro s r ihs ihr cur p g h
    simp only [inS0B, Bool.and_eq_true] at h
    simp only [cntB, inS0B_guarded, inS0B_append, ihs cur (r.length :: p) h.1, ihr cur p _ h.2, Bool.and_self]
  case hnil => trivial
  case hcons => intros; trivial
  all_goals intros; rfl

theorem cntS_inS0 (gen : Gen) (cur : Name) : ∀ (p : List Nat) (s : Stmt), inS0S s = true →
    inS0B (cntS gen cur p s).1 = true := fun p s => (cnt_inS0 gen).1 s cur p
theorem cntB_inS0 (gen : Gen) (cur : Name) : ∀ (p : List Nat) (g : Bool) (b : List Stmt), inS0B b = true →
    inS0B (cntB gen cur p g b).1 = true := fun p g b => (cnt_inS0 gen).2.1 b cur p g

theorem ret_inS0 (dr rv : Name) : (∀ s u, inS0S s = true → inS0B (retS dr rv u s).1 = true) ∧
    (∀ b g u, inS0B b = true → inS0B (retB dr rv g u b).1 = true) ∧ (∀ _ : List (Nat × List Stmt), True) := by
  apply stmt_induct
  case ifS =>
    intro c t e iht ihe u h
    simp only [inS0S, Bool.and_eq_true] at h
    simp only [retS, inS0B, inS0S, iht false false h.1, ihe false false h.2, Bool.and_self]
  case whileS =>
    intro c b ih u h
    simp only [retS, inS0B, inS0S, ih false false h, Bool.and_self]
  case forS =>
    intro x it ex b ih u h
    simp only [retS, inS0B, inS0S, ih false false h, Bool.and_self]
  case tryS => intro b hs f _ _ _ u h; cases h
  case withS => intro t b _ u h; cases h
  case cons =>
    intro s r ihs ihr g u h
    simp only [inS0B, Bool.and_eq_true] at h
    simp only [retB, inS0B_guarded, inS0B_append, ihs u h.1, ihr _ _ h.2, Bool.and_self]
  case hnil => trivial
  case hcons => intros; trivial
  all_goals intros; rfl

theorem retS_inS0 (dr rv : Name) : ∀ (u : Bool) (s : Stmt), inS0S s = true → inS0B (retS dr rv u s).1 = true :=
  fun u s => (ret_inS0 dr rv).1 s u
theorem retB_inS0 (dr rv : Name) : ∀ (g u : Bool) (b : List Stmt), inS0B b = true →
    inS0B (retB dr rv g u b).1 = true := fun g u b => (ret_inS0 dr rv).2.1 b g u

theorem lowerReturn_inS0 (dr rv : Name) (b : Block) (h : inS0B b = true) : inS0B (lowerReturn dr rv b) = true := by
  have := retB_inS0 dr rv false false b h
  simp only [lowerReturn]
  split <;> simp [inS0B, inS0S, inS0B_append, this]


section
variable (G : Name → Prop) (gen : Gen) (hgen : ∀ q, ¬ G (gen q))
include hgen

theorem brk_clean : (∀ s cur p, ¬ G cur → CleanS G s → CleanB G (brkS gen cur p s).1) ∧
    (∀ b cur p, ¬ G cur → CleanB G b → CleanB G (brkB gen cur p b).1) ∧
    (∀ hs cur p, ¬ G cur → CleanH G hs → CleanH G (brkH gen cur p hs).1) := by
  apply stmt_induct
  case assign => exact fun _ _ _ _ _ h => ⟨h, trivial⟩
  case expr | ret | raise => exact fun _ _ _ _ h => ⟨h, trivial⟩
  case pass | cont => exact fun _ _ _ h => ⟨h, trivial⟩
  case brk => exact fun cur p hc _ => ⟨⟨hc, trivial⟩, trivial, trivial⟩
  case ifS => exact fun c t e iht ihe cur p hc h => ⟨⟨h.1, iht cur (0 :: p) hc h.2.1, ihe cur (1 :: p) hc h.2.2⟩, trivial⟩
  case whileS =>
    intro c b ih cur p hc h
    have hb := ih (gen p) p (hgen p) h.2
    show CleanB G (if _ then _ else _ : List Stmt × Bool).1
    split
    · exact ⟨⟨hgen p, trivial⟩, ⟨⟨hgen p, h.1⟩, hb⟩, trivial⟩
    · exact ⟨⟨h.1, hb⟩, trivial⟩
  case forS =>
    intro x it ex b ih cur p hc h
    have hb := ih (gen p) p (hgen p) h.2.2.2
    show CleanB G (if _ then _ else _ : List Stmt × Bool).1
    split
    · exact ⟨⟨hgen p, trivial⟩, ⟨h.1, h.2.1, hgen p, hgen p, hb⟩, trivial⟩
    · exact ⟨⟨h.1, h.2.1, h.2.2.1, hb⟩, trivial⟩
  case tryS =>
    exact fun b hs f ihb ihh ihf cur p hc h =>
      ⟨⟨ihb cur (0 :: p) hc h.1, ihh cur (1 :: p) hc h.2.1, ihf cur (2 :: p) hc h.2.2⟩, trivial⟩
  case withS => exact fun t b ih cur p hc h => ⟨ih cur (0 :: p) hc h, trivial⟩
  case nil | hnil => exact fun _ _ _ _ => trivial
  case cons =>
    exact fun s r ihs ihr cur p hc h => (CleanB_append G _ _).mpr ⟨ihs cur (r.length :: p) hc h.1, ihr cur p hc h.2⟩
  case hcons => exact fun t b r ihb ihr cur p hc h => ⟨ihb cur (r.length :: p) hc h.1, ihr cur p hc h.2⟩

theorem brkS_clean : ∀ (cur : Name) (p : List Nat) (s : Stmt), ¬ G cur → CleanS G s →
    CleanB G (brkS gen cur p s).1 := fun cur p s => (brk_clean G gen hgen).1 s cur p
theorem brkB_clean : ∀ (cur : Name) (p : List Nat) (b : List Stmt), ¬ G cur → CleanB G b →
    CleanB G (brkB gen cur p b).1 := fun cur p b => (brk_clean G gen hgen).2.1 b cur p
theorem brkH_clean : ∀ (cur : Name) (p : List Nat) (hs : List (Nat × List Stmt)), ¬ G cur → CleanH G hs →
    CleanH G (brkH gen cur p hs).1 := fun cur p hs => (brk_clean G gen hgen).2.2 hs cur p

theorem cnt_clean : (∀ s cur p, ¬ G cur → CleanS G s → CleanB G (cntS gen cur p s).1) ∧
    (∀ b cur p g, ¬ G cur → CleanB G b → CleanB G (cntB gen cur p g b).1) ∧
    (∀ hs cur p, ¬ G cur → CleanH G hs → CleanH G (cntH gen cur p hs).1) := by
  apply stmt_induct
  case assign => exact fun _ _ _ _ _ h => ⟨h, trivial⟩
  case expr | ret | raise => exact fun _ _ _ _ h => ⟨h, trivial⟩
  case pass | brk => exact fun _ _ _ h => ⟨h, trivial⟩
  case cont => exact fun cur p hc _ => ⟨⟨hc, trivial⟩, trivial⟩
  case ifS =>
    exact fun c t e iht ihe cur p hc h =>
      ⟨⟨h.1, iht cur (0 :: p) false hc h.2.1, ihe cur (1 :: p) false hc h.2.2⟩, trivial⟩
  case whileS =>
    intro c b ih cur p hc h
    have hb := ih (gen p) p false (hgen p) h.2
    refine ⟨⟨h.1, ?_⟩, trivial⟩
    split
    · exact ⟨⟨hgen p, trivial⟩, hb⟩
    · exact hb
  case forS =>
    intro x it ex b ih cur p hc h
    have hb := ih (gen p) p false (hgen p) h.2.2.2
    refine ⟨⟨h.1, h.2.1, h.2.2.1, ?_⟩, trivial⟩
    split
    · exact ⟨⟨hgen p, trivial⟩, hb⟩
    · exact hb
  case tryS =>
    exact fun b hs f ihb ihh ihf cur p hc h =>
      ⟨⟨ihb cur (0 :: p) false hc h.1, ihh cur (1 :: p) hc h.2.1, ihf cur (2 :: p) false hc h.2.2⟩, trivial⟩
  case withS => exact fun t b ih cur p hc h => ⟨ih cur (0 :: p) false hc h, trivial⟩
  case nil => exact fun _ _ _ _ _ => trivial
  case hnil => exact fun _ _ _ _ => trivial
  case cons =>
    intro s r ihs ihr cur p g hc h
    have hsr := (CleanB_append G _ _).mpr ⟨ihs cur (r.length :: p) hc h.1, ihr cur p (cntS gen cur (r.length :: p) s).2 hc h.2⟩
    cases g with
    | false => exact hsr
    | true => exact ⟨⟨hc, hsr, trivial⟩, trivial⟩
  case hcons => exact fun t b r ihb ihr cur p hc h => ⟨ihb cur (r.length :: p) false hc h.1, ihr cur p hc h.2⟩

theorem cntS_clean : ∀ (cur : Name) (p : List Nat) (s : Stmt), ¬ G cur → CleanS G s →
    CleanB G (cntS gen cur p s).1 := fun cur p s => (cnt_clean G gen hgen).1 s cur p
theorem cntB_clean : ∀ (cur : Name) (p : List Nat) (g : Bool) (b : List Stmt), ¬ G cur → CleanB G b →
    CleanB G (cntB gen cur p g b).1 := fun cur p g b => (cnt_clean G gen hgen).2.1 b cur p g
theorem cntH_clean : ∀ (cur : Name) (p : List Nat) (hs : List (Nat × List Stmt)), ¬ G cur → CleanH G hs →
    CleanH G (cntH gen cur p hs).1 := fun cur p hs => (cnt_clean G gen hgen).2.2 hs cur p

end

/-! The side conditions of `finOKS` at a `try` are about the absence of jumps; a lowering adds none but the `continue`
that break lowering puts for a `break`, and only where there was a `break`. -/

section
variable (gen : Gen) (cur : Name)

theorem brkB_jumpFreeOut (p : List Nat) (b : List Stmt) (h : jumpFreeB b = true) :
    jumpFreeB (brkB gen cur p b).1 = true := by
  obtain ⟨hb, hc, hr⟩ := jumpFreeB_iff.mp h
  exact jumpFreeB_iff.mpr ⟨brkB_noBrk gen cur p b, by rw [brkB_hasCont, hc, hb]; rfl, by rw [brkB_hasRet, hr]⟩

theorem brkH_jumpFreeOut (p : List Nat) (hs : List (Nat × List Stmt)) (h : jumpFreeH hs = true) :
    jumpFreeH (brkH gen cur p hs).1 = true := by
  obtain ⟨hb, hc, hr⟩ := jumpFreeH_iff.mp h
  exact jumpFreeH_iff.mpr ⟨brkH_noBrk gen cur p hs, by rw [brkH_hasCont, hc, hb]; rfl, by rw [brkH_hasRet, hr]⟩

theorem brkB_escFree (p : List Nat) (b : List Stmt) (h : escFreeB b = true) :
    escFreeB (brkB gen cur p b).1 = true := by
  obtain ⟨hb, hc, hr⟩ := escFreeB_iff.mp h
  exact escFreeB_iff.mpr ⟨mayBrkB_false_of_hasBrk (brkB_noBrk gen cur p b), by rw [brkB_topCont, hc, hb]; rfl,
    by rw [brkB_hasRet, hr]⟩

theorem brkB_quiet (p : List Nat) (b : List Stmt) (h : quietB b = true) :
    quietB (brkB gen cur p b).1 = true := by
  simp only [quietB, Bool.and_eq_true, Bool.not_eq_true'] at h ⊢
  exact ⟨brkB_escFree gen cur p b h.1, by rw [brkB_hasRaise]; exact h.2⟩

theorem cntB_jumpFreeOut (p : List Nat) (g : Bool) (b : List Stmt) (h : jumpFreeB b = true) :
    jumpFreeB (cntB gen cur p g b).1 = true := by
  obtain ⟨hb, _, hr⟩ := jumpFreeB_iff.mp h
  exact jumpFreeB_iff.mpr ⟨by rw [cntB_hasBrk, hb], cntB_noCont gen cur p g b, by rw [cntB_hasRet, hr]⟩

theorem cntH_jumpFreeOut (p : List Nat) (hs : List (Nat × List Stmt)) (h : jumpFreeH hs = true) :
    jumpFreeH (cntH gen cur p hs).1 = true := by
  obtain ⟨hb, _, hr⟩ := jumpFreeH_iff.mp h
  exact jumpFreeH_iff.mpr ⟨by rw [cntH_hasBrk, hb], cntH_noCont gen cur p hs, by rw [cntH_hasRet, hr]⟩

theorem cntB_escFree (p : List Nat) (g : Bool) (b : List Stmt) (h : escFreeB b = true) :
    escFreeB (cntB gen cur p g b).1 = true := by
  obtain ⟨hb, _, hr⟩ := escFreeB_iff.mp h
  exact escFreeB_iff.mpr ⟨by rw [cntB_mayBrk, hb], topContB_false_of_hasCont (cntB_noCont gen cur p g b),
    by rw [cntB_hasRet, hr]⟩

theorem cntB_quiet (p : List Nat) (g : Bool) (b : List Stmt) (h : quietB b = true) :
    quietB (cntB gen cur p g b).1 = true := by
  simp only [quietB, Bool.and_eq_true, Bool.not_eq_true'] at h ⊢
  exact ⟨cntB_escFree gen cur p g b h.1, by rw [cntB_hasRaise]; exact h.2⟩

end

theorem brk_finOK (gen : Gen) : (∀ s cur p, finOKS s = true → finOKB (brkS gen cur p s).1 = true) ∧
    (∀ b cur p, finOKB b = true → finOKB (brkB gen cur p b).1 = true) ∧
    (∀ hs cur p, finOKH hs = true → finOKH (brkH gen cur p hs).1 = true) := by
  apply stmt_induct
  case ifS =>
    intro c t e iht ihe cur p h
    simp only [finOKS, Bool.and_eq_true] at h
    simp only [brkS, finOKB, finOKS, iht cur (0 :: p) h.1, ihe cur (1 :: p) h.2, Bool.and_self]
  case whileS =>
    intro c b ih cur p h
    have hb := ih (gen p) p h
    simp only [brkS]
    split <;> simp only [finOKB, finOKS, hb, Bool.and_self]
  case forS =>
    intro x it ex b ih cur p h
    have hb := ih (gen p) p h
    simp only [brkS]
    split <;> simp only [finOKB, finOKS, hb, Bool.and_self]
  case tryS =>
    intro b hs f ihb ihh ihf cur p h
    obtain ⟨hb, hh, hf, hesc, hq⟩ := finOKS_try.mp h
    show finOKB [.tryS _ _ _] = true
    rw [finOKB, finOKB, Bool.and_true]
    exact finOKS_try.mpr ⟨ihb cur (0 :: p) hb, ihh cur (1 :: p) hh, ihf cur (2 :: p) hf, brkB_escFree gen cur _ f hesc,
      hq.imp (brkB_quiet gen cur _ f) fun hq => ⟨brkB_jumpFreeOut gen cur _ b hq.1, brkH_jumpFreeOut gen cur _ hs hq.2⟩⟩
  case withS =>
    intro t b ih cur p h
    simp only [brkS, finOKB, finOKS, ih cur (0 :: p) h, Bool.and_self]
  case cons =>
    intro s r ihs ihr cur p h
    simp only [finOKB, Bool.and_eq_true] at h
    simp only [brkB, finOKB_append, ihs cur (r.length :: p) h.1, ihr cur p h.2, Bool.and_self]
  case hcons =>
    intro t b r ihb ihr cur p h
    simp only [finOKH, Bool.and_eq_true] at h
    simp only [brkH, finOKH, ihb cur (r.length :: p) h.1, ihr cur p h.2, Bool.and_self]
  all_goals intros; rfl

theorem brkS_finOK (gen : Gen) (cur : Name) : ∀ (p : List Nat) (s : Stmt), finOKS s = true →
    finOKB (brkS gen cur p s).1 = true := fun p s => (brk_finOK gen).1 s cur p
theorem brkB_finOK (gen : Gen) (cur : Name) : ∀ (p : List Nat) (b : List Stmt), finOKB b = true →
    finOKB (brkB gen cur p b).1 = true := fun p b => (brk_finOK gen).2.1 b cur p
theorem brkH_finOK (gen : Gen) (cur : Name) : ∀ (p : List Nat) (hs : List (Nat × List Stmt)), finOKH hs = true →
    finOKH (brkH gen cur p hs).1 = true := fun p hs => (brk_finOK gen).2.2 hs cur p

theorem finOKB_guarded (g : Bool) (v : Name) (b : List Stmt) : finOKB (if g then [ifNot v b] else b) = finOKB b := by
  cases g
  · rfl
  · simp only [if_true, finOKB, finOKS, ifNot, Bool.and_true]

theorem cnt_finOK (gen : Gen) : (∀ s cur p, finOKS s = true → finOKB (cntS gen cur p s).1 = true) ∧
    (∀ b cur p g, finOKB b = true → finOKB (cntB gen cur p g b).1 = true) ∧
    (∀ hs cur p, finOKH hs = true → finOKH (cntH gen cur p hs).1 = true) := by
  apply stmt_induct
  case ifS =>
    intro c t e iht ihe cur p h
    simp only [finOKS, Bool.and_eq_true] at h
    simp only [cntS, finOKB, finOKS, iht cur (0 :: p) false h.1, ihe cur (1 :: p) false h.2, Bool.and_self]
  case whileS =>
    intro c b ih cur p h
    have hb := ih (gen p) p false h
    simp only [cntS, finOKB, finOKS, Bool.and_true]
    split <;> simp only [finOKB, finOKS, hb, Bool.and_self]
  case forS =>
    intro x it ex b ih cur p h
    have hb := ih (gen p) p false h
    simp only [cntS, finOKB, finOKS, Bool.and_true]
    split <;> simp only [finOKB, finOKS, hb, Bool.and_self]
  case tryS =>
    intro b hs f ihb ihh ihf cur p h
    obtain ⟨hb, hh, hf, hesc, hq⟩ := finOKS_try.mp h
    show finOKB [.tryS _ _ _] = true
    rw [finOKB, finOKB, Bool.and_true]
    exact finOKS_try.mpr ⟨ihb cur (0 :: p) false hb, ihh cur (1 :: p) hh, ihf cur (2 :: p) false hf,
      cntB_escFree gen cur _ _ f hesc, hq.imp (cntB_quiet gen cur _ _ f) fun hq =>
        ⟨cntB_jumpFreeOut gen cur _ _ b hq.1, cntH_jumpFreeOut gen cur _ hs hq.2⟩⟩
  case withS =>
    intro t b ih cur p h
    simp only [cntS, finOKB, finOKS, ih cur (0 :: p) false h, Bool.and_self]
  case cons =>
    intro s r ihs ihr cur p g h
    simp only [finOKB, Bool.and_eq_true] at h
    simp only [cntB, finOKB_guarded, finOKB_append, ihs cur (r.length :: p) h.1, ihr cur p _ h.2, Bool.and_self]
  case hcons =>
    intro t b r ihb ihr cur p h
    simp only [finOKH, Bool.and_eq_true] at h
    simp only [cntH, finOKH, ihb cur (r.length :: p) false h.1, ihr cur p h.2, Bool.and_self]
  all_goals intros; rfl

theorem cntS_finOK (gen : Gen) (cur : Name) : ∀ (p : List Nat) (s : Stmt), finOKS s = true →
    finOKB (cntS gen cur p s).1 = true := fun p s => (cnt_finOK gen).1 s cur p
theorem cntB_finOK (gen : Gen) (cur : Name) : ∀ (p : List Nat) (g : Bool) (b : List Stmt), finOKB b = true →
    finOKB (cntB gen cur p g b).1 = true := fun p g b => (cnt_finOK gen).2.1 b cur p g
theorem cntH_finOK (gen : Gen) (cur : Name) : ∀ (p : List Nat) (hs : List (Nat × List Stmt)), finOKH hs = true →
    finOKH (cntH gen cur p hs).1 = true := fun p hs => (cnt_finOK gen).2.2 hs cur p

theorem lowerBreak_clean {G : Name → Prop} {gen : Gen} (hgen : ∀ q, ¬ G (gen q)) {body : Block} (h : CleanB G body) :
    CleanB G (lowerBreak gen body) := brkB_clean G gen hgen (gen []) [0] body (hgen []) h

theorem lowerContinue_clean {G : Name → Prop} {gen : Gen} (hgen : ∀ q, ¬ G (gen q)) {body : Block} (h : CleanB G body) :
    CleanB G (lowerContinue gen body) := cntB_clean G gen hgen (gen []) [0] false body (hgen []) h

theorem lowerBreak_finOK (gen : Gen) {body : Block} (h : finOKB body = true) : finOKB (lowerBreak gen body) = true :=
  brkB_finOK gen (gen []) [0] body h

theorem lowerContinue_finOK (gen : Gen) {body : Block} (h : finOKB body = true) :
    finOKB (lowerContinue gen body) = true := cntB_finOK gen (gen []) [0] false body h

theorem lowerBreak_topCont (gen : Gen) (body : Block) :
    topContB (lowerBreak gen body) = (topContB body || mayBrkB body) := brkB_topCont gen (gen []) [0] body

end Malt.Sem.Jumps
