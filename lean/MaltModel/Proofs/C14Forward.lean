import MaltModel.Proofs.C14Subst
/-!
A documented form without `*args`/`**kwargs` accepts finitely many generic calls; by parametricity what the overload
does with those is what it does with every call (`rowForwards`).  `map`, `print`, `zip` are treated by hand.

In `Preserved truthy b form c` the same `form` is used on both sides: the builtin is taken to bind the
forwarded call by the documented form that accepted the original one (matters for `int`, `range`,
`next`, which have two).
-/
namespace Malt.Builtins
open Malt.Gen.Builtins

variable {α : Type}

def arrangements : Nat → List String → List (List String)
  | 0, _ => [[]]
  | n + 1, L => [] :: L.flatMap (fun k => (arrangements n (L.filter (· != k))).map (k :: ·))

theorem mem_arrangements : ∀ (ks : List String) (n : Nat) (L : List String), ks.length ≤ n → ks.Nodup →
    (∀ k ∈ ks, k ∈ L) → ks ∈ arrangements n L := by
  intro ks
  induction ks with
  | nil => intro n L _ _ _; cases n <;> simp [arrangements]
  | cons k r ih =>
    intro n L hl hn hL
    cases n with
    | zero => simp at hl
    | succ n =>
      rw [List.nodup_cons] at hn
      refine List.mem_cons_of_mem _
        (List.mem_flatMap.mpr ⟨k, hL k (List.mem_cons_self ..), List.mem_map.mpr ⟨r, ?_, rfl⟩⟩)
      refine ih n _ (Nat.le_of_succ_le_succ hl) hn.2 fun k' hk' =>
        List.mem_filter.mpr ⟨hL k' (List.mem_cons_of_mem _ hk'), ?_⟩
      simpa using fun e : k' = k => hn.1 (e ▸ hk')

def shapeOk (ov : Overload) (b : String) (form : Signature) (c : CallShape Nat) : Bool :=
  !accepts form c ||
  match callOverload (fun _ => true) ov c with
  | .ok r => r.callee == b && accepts form r.call && envOf form c == envOf form r.call
  | .error _ => false

/-- `form` takes neither `*args` nor `**kwargs`, so the generic calls it accepts have at most `nPos form`
positional arguments and a duplicate-free list of still free keyword names as keys; all pass `shapeOk`. -/
def formOk (ov : Overload) (b : String) (form : Signature) : Bool :=
  !hasVarPos form && !hasVarKw form &&
  (List.range (nPos form + 1)).all (fun n =>
    (arrangements (freeKwNames form n).length (freeKwNames form n)).all (fun keys =>
      shapeOk ov b form (generic n keys)))

theorem formOk_sound (truthy : α → Bool) {ov : Overload} {hl : Helper} {b : String} {form : Signature}
    (hh : findHelper ov.call.callee = some hl) (htf : truthFree hl = true) (hform : formOk ov b form = true)
    (c : CallShape α) (hns : ∀ v ∈ valuesOf c, isUnspecV v = false) (h : accepts form c = true) :
    ∃ r, callOverload truthy ov c = .ok r ∧ r.callee = b ∧ accepts form r.call = true ∧
      envOf form c = envOf form r.call := by
  simp only [formOk, Bool.and_eq_true, Bool.not_eq_true', List.all_eq_true, List.mem_range] at hform
  obtain ⟨⟨hvp, hvk⟩, hall⟩ := hform
  -- `c` is an instance of a generic call that the check covers
  have hg := c.label_subst
  rw [label_eq_generic hns] at hg
  have hag : accepts form (generic c.pos.length (c.kw.map (·.1))) = true := by
    rw [← accepts_subst (argAt c), hg]; exact h
  have hsub : ∀ k ∈ c.kw.map (·.1), k ∈ freeKwNames form c.pos.length := by
    intro k hk
    obtain ⟨kv, hkv, rfl⟩ := List.mem_map.mp hk
    exact accepts_keys_free h hvk kv hkv
  have hnd := (keysNodup_iff c.kw).mp (accepts_nodup h)
  have hs := hall c.pos.length (Nat.lt_succ_of_le (accepts_pos_le h hvp)) _
    (mem_arrangements _ _ _ (hnd.length_le_of_subset hsub) hnd hsub)
  rw [shapeOk, hag, Bool.not_true, Bool.false_or] at hs
  split at hs
  · rename_i r hr
    simp only [Bool.and_eq_true, beq_iff_eq] at hs
    obtain ⟨⟨hcallee, hacc⟩, henv⟩ := hs
    -- what the overload does with the generic call it does with its instance `c`
    have hr' := callOverload_subst truthy (noSentinel_argAt c) ov (generic c.pos.length (c.kw.map (·.1)))
    rw [hg, callOverload_truthFree _ _ ov _ r hl hh htf hr] at hr'
    refine ⟨r.subst (argAt c), hr', hcallee, (accepts_subst _ form r.call).trans hacc, ?_⟩
    show envOf form c = envOf form (r.call.subst (argAt c))
    rw [envOf_subst, ← henv, ← envOf_subst, hg]
  · cases hs

def onOverload (b : String) (check : Overload → Bool) : Bool :=
  match builtinFunctionsMap.lookup b with
  | some on =>
    match findOverload on with
    | some ov => check ov
    | none => false
  | none => false

theorem onOverload_elim {b : String} {check : Overload → Bool} (h : onOverload b check = true) :
    ∃ on ov, builtinFunctionsMap.lookup b = some on ∧ findOverload on = some ov ∧ check ov = true := by
  unfold onOverload at h
  split at h
  · rename_i on h1
    split at h
    · rename_i ov h2
      exact ⟨on, ov, h1, h2, h⟩
    · cases h
  · cases h

def rowForwards (b : String) : Bool :=
  onOverload b fun ov =>
    (match findHelper ov.call.callee with
     | some h => truthFree h
     | none => false) && (spec b).all (formOk ov b)

theorem spec_varargs :
    spec "map" = [[⟨"function", .posOnly, none⟩, ⟨"iterable", .posOnly, none⟩, ⟨"iterables", .varPos, none⟩]] ∧
    spec "print" = [[⟨"objects", .varPos, none⟩, ⟨"sep", .kwOnly, some "' '"⟩, ⟨"end", .kwOnly, some "'\\n'"⟩,
                     ⟨"file", .kwOnly, some "None"⟩, ⟨"flush", .kwOnly, some "False"⟩]] ∧
    spec "zip" = [[⟨"iterables", .varPos, none⟩, ⟨"strict", .kwOnly, some "False"⟩]] := by decide +kernel

theorem callMapped_map (truthy : α → Bool) (a : Val α) (rest : List (Val α)) :
    callMapped truthy "map" ⟨a :: rest, []⟩ = .ok ⟨"map", ⟨a :: rest, []⟩, true⟩ := by rfl

/-! A signature `(*n, **m)` accepts everything with distinct keywords. -/

theorem accepts_star_dstar (n m : String) (c : CallShape α) :
    accepts [⟨n, .varPos, none⟩, ⟨m, .varKw, none⟩] c = keysNodup c.kw := by
  have : ∀ kv ∈ c.kw, kwAdmissible [⟨n, .varPos, none⟩, ⟨m, .varKw, none⟩] c.pos.length kv.1 = true := by
    intro kv _
    simp [kwAdmissible, kwTarget, isKw, hasVarKw]
  have h2 : c.kw.all (fun kv => kwAdmissible [⟨n, .varPos, none⟩, ⟨m, .varKw, none⟩] c.pos.length kv.1) = true :=
    List.all_eq_true.mpr this
  simp [accepts, hasVarPos, h2, satisfied]

theorem envOf_star_dstar (n m : String) (c : CallShape α) :
    envOf [⟨n, .varPos, none⟩, ⟨m, .varKw, none⟩] c = [(n, .star c.pos), (m, .dstar c.kw)] := by
  have : c.kw.filter (fun kv => !kwTarget [⟨n, .varPos, none⟩, ⟨m, .varKw, none⟩] kv.1) = c.kw := by
    apply List.filter_eq_self.mpr
    intro kv _
    simp [kwTarget, isKw]
  simp [envOf, boundOf, this, nPos, posParams, isPos]

private theorem pickBranch_truthy (truthy : α → Bool) (env : Env α) (p : String) (v : Val α)
    (b1 b2 : Branch) (hg1 : b1.guards = [.truthy p]) (hg2 : b2.guards = [])
    (hv : lookupVal env p = some v) :
    pickBranch truthy env [b1, b2] = some (if truthyV truthy v then b1 else b2) := by
  cases ht : truthyV truthy v <;> simp [pickBranch, guardsHold, evalGuard, hg1, hg2, hv, ht]

variable [DecidableEq α]

def Preserved (truthy : α → Bool) (b : String) (form : Signature) (c : CallShape α) : Prop :=
  ∃ r, callMapped truthy b c = .ok r ∧ r.callee = b ∧ accepts form r.call = true ∧
    envEquiv truthy b (envOf form c) (envOf form r.call) = true

theorem Preserved.of_rowForwards (truthy : α → Bool) {b : String} (hrow : rowForwards b = true)
    {form : Signature} (hf : form ∈ spec b) (c : CallShape α) (hns : ∀ v ∈ valuesOf c, isUnspecV v = false)
    (h : accepts form c = true) : Preserved truthy b form c := by
  obtain ⟨on, ov, h1, h2, hrow⟩ := onOverload_elim hrow
  rw [Bool.and_eq_true, List.all_eq_true] at hrow
  obtain ⟨htf, hforms⟩ := hrow
  split at htf
  · rename_i hl hh
    obtain ⟨r, e1, e2, e3, e4⟩ := formOk_sound truthy hh htf (hforms form hf) c hns h
    exact ⟨r, (callMapped_unfold truthy b on ov c h1 h2).trans e1, e2, e3, envEquiv_of_eq _ _ e4⟩
  · cases htf

theorem preserved_map (truthy : α → Bool) (form : Signature) (hf : form ∈ spec "map") (c : CallShape α)
    (h : accepts form c = true) : Preserved truthy "map" form c := by
  rw [spec_varargs.1, List.mem_singleton] at hf
  subst hf
  obtain ⟨pos, kw⟩ := c
  have hkw : kw = [] := kw_nil_of_no_keys (accepts_keys_free h rfl)
  subst hkw
  match pos, h with
  | [], h => exact (false_of_eq_true_false h rfl).elim
  | a :: rest, h => exact ⟨_, callMapped_map truthy a rest, rfl, h, envEquiv_refl _ _ _⟩

theorem preserved_print (truthy : α → Bool) (form : Signature) (hf : form ∈ spec "print") (c : CallShape α)
    (h : accepts form c = true) : Preserved truthy "print" form c := by
  rw [spec_varargs.2.1, List.mem_singleton] at hf
  subst hf
  obtain ⟨pos, kw⟩ := c
  have hn : keysNodup kw = true := accepts_nodup h
  have hkeys : ∀ kv ∈ kw, kv.1 ∈ ["sep", "end", "file", "flush"] := accepts_keys_free h rfl
  have hb : bind [⟨"objects", .varPos, none⟩, ⟨"kwargs", .varKw, none⟩] (⟨pos, kw⟩ : CallShape α)
      = .ok [("objects", .star pos), ("kwargs", .dstar kw)] := by
    rw [bind_of_accepts (by rw [accepts_star_dstar]; exact hn), envOf_star_dstar]
  refine ⟨⟨"print", ⟨pos, kw⟩, false⟩, ?_, rfl, h, envEquiv_refl _ _ _⟩
  rw [callMapped_unfold truthy "print" "print_" _ _ rfl rfl]
  refine callOverload_of_steps truthy _ _ ⟨pos, kw⟩ ⟨pos, kw⟩ _ _ _
    ⟨[], ⟨"print", [], some "objects", [], some "kwargs"⟩, .discard⟩ hb ?_ rfl rfl hb rfl rfl
  -- the keys the form admits are those of `print_`'s whitelist
  have : kw.all (fun kv => ["sep", "end", "file", "flush"].contains kv.1) = true := by
    apply List.all_eq_true.mpr
    intro kv hkv
    exact List.contains_iff_mem.mpr (hkeys kv hkv)
  simpa [kwAllowed, List.lookup] using this

private theorem envEquiv_zip (truthy : α → Bool) (pos : List (Val α)) (v w : Val α)
    (h : truthyV truthy v = truthyV truthy w) :
    envEquiv truthy "zip" [("iterables", .star pos), ("strict", .val v)]
      [("iterables", .star pos), ("strict", .val w)] = true := by
  simp [envEquiv, boundEquiv, valEquiv, truthParams, h]

theorem preserved_zip (truthy : α → Bool) (form : Signature) (hf : form ∈ spec "zip") (c : CallShape α)
    (h : accepts form c = true) : Preserved truthy "zip" form c := by
  rw [spec_varargs.2.2, List.mem_singleton] at hf
  subst hf
  obtain ⟨pos, kw⟩ := c
  have hn := accepts_nodup h
  have hkeys : ∀ kv ∈ kw, kv.1 ∈ ["strict"] := accepts_keys_free h rfl
  rcases kw_of_one_key hn hkeys with rfl | ⟨v, rfl⟩
  · exact ⟨_, rfl, rfl, rfl, envEquiv_of_eq _ _ rfl⟩
  · -- `_py_zip` passes `strict=True` on if `v` is true and leaves `strict` out otherwise
    have key : callMapped truthy "zip" ⟨pos, [("strict", v)]⟩
        = .ok ⟨"zip", ⟨pos, if truthyV truthy v then [("strict", .const "True")] else []⟩, true⟩ := by
      rw [callMapped_unfold truthy "zip" "zip_" _ _ rfl rfl]
      refine (callOverload_of_steps truthy _ _ _ ⟨pos, if truthyV truthy v then [("strict", .const "True")] else []⟩ _ _ _
        (if truthyV truthy v then
          ⟨[.truthy "strict"], ⟨"zip", [], some "iterables", [("strict", .lit "True")], none⟩, .value⟩
         else ⟨[], ⟨"zip", [], some "iterables", [], none⟩, .value⟩)
        rfl rfl rfl rfl rfl (pickBranch_truthy truthy _ "strict" v _ _ rfl rfl rfl) ?_).trans ?_
      · cases truthyV truthy v <;> rfl
      · cases truthyV truthy v <;> rfl
    refine ⟨_, key, rfl, ?_, ?_⟩
    · cases truthyV truthy v <;> rfl
    · cases ht : truthyV truthy v
      · exact envEquiv_zip truthy pos _ _ (ht.trans (by simp [truthyV, falsyConsts]))
      · exact envEquiv_zip truthy pos _ _ (ht.trans (by simp [truthyV, falsyConsts]))

end Malt.Builtins
