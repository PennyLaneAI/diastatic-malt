import MaltModel.Proofs.FuncSim
namespace Malt.Func
open Malt.Sem

def noCallO : Option Expr → Bool
  | none => true
  | some e => noCallE e

mutual
def pureS : AStmt → Bool
  | .assign _ _ e => noCallE e
  | .expr _ e => noCallE e
  | .pass _ => true
  | .ret _ e => noCallO e
  | .raise _ _ => true
  | .ifS _ c t e => noCallE c && pureB t && pureB e
  | .whileS _ c b => noCallE c && pureB b
  | .forS _ _ it extra b => noCallE it && noCallO extra && pureB b
  | .withS .. => false      -- enter / exit are logged events
  | .tryS .. => false       -- an out-of-band raise could be caught
def pureB : List AStmt → Bool
  | [] => true
  | s :: r => pureS s && pureB r
end

mutual
def pureTS : TStmt → Bool
  | .assign _ e => noCallE e
  | .expr e => noCallE e
  | .pass => true
  | .ret e => noCallO e
  | .raise _ => true
  | .undefAssign _ => true
  | .ifF c b e _ _ => noCallE c && pureTB b && pureTB e
  | .whileF c b _ => noCallE c && pureTB b
  | .forF _ it extra b _ => noCallE it && noCallO extra && pureTB b
  | .withT .. => false
  | .tryT .. => false
def pureTB : List TStmt → Bool
  | [] => true
  | s :: r => pureTS s && pureTB r
end

theorem evalT_pure (X : Ext) (e : Expr) (σ : TSt) (h : noCallE e = true) : (evalT X e σ).2 = σ := by
  have := evalE_pure_log X e σ.view h
  simp only [evalT]
  rw [this]
  rfl

/-! Names a target block may write, including the state variables its operators set. -/
mutual
def asgTS : TStmt → List Name
  | .assign x _ => [x]
  | .undefAssign x => [x]
  | .ifF _ b e decl _ => decl ++ (asgTB b ++ asgTB e)
  | .whileF _ b decl => decl ++ asgTB b
  | .forF x _ _ b decl => decl ++ (x :: asgTB b)
  | .withT _ b => asgTB b
  | .tryT b hs f => asgTB b ++ (asgTH hs ++ asgTB f)
  | _ => []
def asgTB : List TStmt → List Name
  | [] => []
  | s :: r => asgTS s ++ asgTB r
def asgTH : List (Nat × List TStmt) → List Name
  | [] => []
  | (_, b) :: r => asgTB b ++ asgTH r
end

theorem setState_log : ∀ (decl : List Name) (ss : List Slot) (σ : TSt), (setState decl ss σ).log = σ.log
  | [], _, _ => by simp [setState]
  | _ :: _, [], _ => by simp [setState]
  | x :: xs, s :: ss, σ => by simp only [setState]; rw [setState_log xs ss]; rfl

theorem setState_notin : ∀ (decl : List Name) (ss : List Slot) (σ : TSt) (y : Name), y ∉ decl →
    (setState decl ss σ).env y = σ.env y
  | [], _, _, _, _ => by simp [setState]
  | _ :: _, [], _, _, _ => by simp [setState]
  | x :: xs, s :: ss, σ, y, h => by
      simp only [setState]
      rw [setState_notin xs ss _ y (fun hh => h (List.mem_cons_of_mem _ hh))]
      have : y ≠ x := fun hh => h (by simp [hh])
      simp [TSt.setSlot, this]

theorem getState_cons {x : Name} {xs : List Name} {σ : TSt} {ss : List Slot} (h : getState (x :: xs) σ = .ok ss) :
    ∃ ss', ss = σ.env x :: ss' ∧ getState xs σ = .ok ss' := by
  simp only [getState] at h
  split at h
  · cases h
  · split at h
    · cases h; exact ⟨_, rfl, ‹_›⟩
    · cases h

theorem setState_getState : ∀ (decl : List Name) (σ : TSt) (ss : List Slot) (τ : TSt) (y : Name),
    getState decl σ = .ok ss → (setState decl ss τ).env y = if y ∈ decl then σ.env y else τ.env y
  | [], σ, ss, τ, y, h => by cases h; simp [setState]
  | x :: xs, σ, ss, τ, y, h => by
      obtain ⟨ss', rfl, h'⟩ := getState_cons h
      simp only [setState]
      rw [setState_getState xs σ ss' _ y h']
      by_cases hy : y ∈ xs
      · simp [hy]
      · by_cases hyx : y = x
        · subst hyx; simp [hy, TSt.setSlot]
        · simp [hy, hyx, TSt.setSlot]

/-- The composed tuple of `if_stmt`: first `n` entries from snapshot `a`, the rest from snapshot `b`. -/
theorem setState_select : ∀ (decl : List Name) (n : Nat) (σa σb : TSt) (sa sb : List Slot) (τ : TSt) (y : Name),
    decl.Nodup → getState decl σa = .ok sa → getState decl σb = .ok sb →
    (setState decl (selectOuts n sa sb) τ).env y =
      if y ∈ decl.take n then σa.env y else if y ∈ decl then σb.env y else τ.env y
  | [], n, σa, σb, sa, sb, τ, y, _, ha, hb => by
      simp [getState] at ha hb; subst ha; subst hb; simp [setState]
  | x :: xs, 0, σa, σb, sa, sb, τ, y, _, _, hb => by
      simp only [selectOuts, List.take_zero, List.drop_zero, List.nil_append]
      rw [setState_getState (x :: xs) σb sb τ y hb]
      simp
  | x :: xs, n+1, σa, σb, sa, sb, τ, y, hnd, ha, hb => by
      obtain ⟨sa', rfl, ha'⟩ := getState_cons ha
      obtain ⟨sb', rfl, hb'⟩ := getState_cons hb
      have hnd' := List.nodup_cons.mp hnd
      have ih := setState_select xs n σa σb sa' sb' (τ.setSlot x (σa.env x)) y hnd'.2 ha' hb'
      simp only [selectOuts] at ih ⊢
      simp only [List.take_succ_cons, List.drop_succ_cons, List.cons_append, setState]
      rw [ih]
      by_cases hyx : y = x
      · subst hyx
        have h1 : y ∉ xs.take n := fun hh => hnd'.1 (List.mem_of_mem_take hh)
        simp [h1, hnd'.1, TSt.setSlot]
      · simp [hyx, TSt.setSlot]

/-- `get_state()`; an unbound state variable raises. -/
def getThen (decl : List Name) (σ : TSt) (k : List Slot → Option (Out × TSt)) : Option (Out × TSt) :=
  match getState decl σ with
  | .error y => some (.exc (.nameError y), σ)
  | .ok s => k s

theorem getThen_post {P : Out → TSt → Prop} {decl : List Name} {σ : TSt} {k : List Slot → Option (Out × TSt)}
    (hk : ∀ s, getState decl σ = .ok s → Post P (k s)) (he : ∀ y, P (.exc (.nameError y)) σ) :
    Post P (getThen decl σ k) := by
  unfold getThen
  cases h : getState decl σ with
  | error y => exact Post.pure (he y)
  | ok s => exact hk s h

section EquationsF
variable (X : Ext) (n : Nat) (σ : TSt)

theorem execFB_cons (s : TStmt) (rest : TBlock) :
    execFB X (n+1) (s :: rest) σ = andThen (execF X n s σ) (execFB X n rest) := by
  conv => lhs; whnf
  rcases execF X n s σ with _ | ⟨_ | _, _⟩ <;> rfl

/-- Both branch functions run, from the same snapshot; the first `nouts` entries of the selected one are kept. -/
theorem execF_ifF (c : Expr) (b e : TBlock) (d : List Name) (k : Nat) :
    execF X (n+1) (.ifF c b e d k) σ = valThen (evalT X c σ) fun v σ' => getThen d σ' fun s0 =>
      andThen (withFrame (localsOf b d) σ' (execFB X n b (mask (localsOf b d) σ'))) fun σb => getThen d σb fun sb =>
      andThen (withFrame (localsOf e d) (setState d s0 σb) (execFB X n e (mask (localsOf e d) (setState d s0 σb))))
        fun σo => getThen d σo fun so =>
          some (.normal, setState d (selectOuts k (if truthy v then sb else so) s0) σo) := by
  conv => lhs; whnf
  rcases evalT X c σ with ⟨_ | v, σ'⟩
  · rfl
  simp only [valThen, getThen]
  cases getState d σ' with
  | error y => rfl
  | ok s0 =>
    rcases withFrame (localsOf b d) σ' (execFB X n b (mask (localsOf b d) σ')) with _ | ⟨_ | _, σb⟩ <;> try rfl
    simp only [andThen]
    cases getState d σb with
    | error y => rfl
    | ok sb =>
      rcases withFrame (localsOf e d) (setState d s0 σb) (execFB X n e (mask (localsOf e d) (setState d s0 σb)))
        with _ | ⟨_ | _, σo⟩ <;> rfl

/-- The body is traced once out of band, then the loop starts from the restored snapshot. -/
theorem execF_whileF (c : Expr) (b : TBlock) (d : List Name) :
    execF X (n+1) (.whileF c b d) σ = getThen d σ fun s0 =>
      andThen (withFrame (localsOf b d) σ (execFB X n b (mask (localsOf b d) σ))) fun σt =>
        execFWhile X n c b d s0 (setState d s0 σt) := by
  conv => lhs; whnf
  simp only [getThen]
  cases getState d σ with
  | error y => rfl
  | ok s0 => rcases withFrame (localsOf b d) σ (execFB X n b (mask (localsOf b d) σ)) with _ | ⟨_ | _, _⟩ <;> rfl

theorem execFWhile_succ (c : Expr) (b : TBlock) (d : List Name) (carried : List Slot) :
    execFWhile X (n+1) c b d carried σ = valThen (evalT X c (setState d carried σ)) fun v σ' =>
      if !truthy v then some (.normal, σ')
      else andThen (withFrame (localsOf b d) σ' (execFB X n b (mask (localsOf b d) σ'))) fun σ'' =>
        getThen d σ'' fun carried' => execFWhile X n c b d carried' σ'' := by
  conv => lhs; whnf
  rcases evalT X c (setState d carried σ) with ⟨_ | v, σ'⟩
  · rfl
  simp only [valThen]
  split
  · rfl
  · rcases withFrame (localsOf b d) σ' (execFB X n b (mask (localsOf b d) σ')) with _ | ⟨_ | _, σ''⟩ <;> rfl

theorem execF_forF (x : Name) (it : Expr) (extra : Option Expr) (b : TBlock) (d : List Name) :
    execF X (n+1) (.forF x it extra b d) σ = valThen (evalT X it σ) fun v σ' =>
      match iterItems v with
      | .error ex => some (.exc ex, σ')
      | .ok items => getThen d σ' fun s0 =>
          andThen (withFrame (localsFor x b d) σ'
            (execFB X n (.assign x (.const (items.headD (.int 0))) :: b) (mask (localsFor x b d) σ'))) fun σt =>
          extraThen (evalT X) extra (execFFor X n x extra b d items s0) (setState d s0 σt) := by
  conv => lhs; whnf
  rcases evalT X it σ with ⟨_ | v, σ'⟩
  · rfl
  simp only [valThen]
  cases iterItems v with
  | error ex => rfl
  | ok items =>
    simp only [getThen]
    cases getState d σ' with
    | error y => rfl
    | ok s0 =>
      rcases withFrame (localsFor x b d) σ'
        (execFB X n (.assign x (.const (items.headD (.int 0))) :: b) (mask (localsFor x b d) σ')) with _ | ⟨_ | _, σt⟩ <;> try rfl
      cases extra with
      | none => rfl
      | some t => simp only [andThen, extraThen]; rcases evalT X t (setState d s0 σt) with ⟨_ | _, _⟩ <;> rfl

theorem execFFor_cons (x : Name) (extra : Option Expr) (b : TBlock) (d : List Name) (v : Val) (items : List Val)
    (carried : List Slot) :
    execFFor X (n+1) x extra b d (v :: items) carried σ =
      andThen (withFrame (localsFor x b d) (setState d carried σ)
        (execFB X n (.assign x (.const v) :: b) (mask (localsFor x b d) (setState d carried σ)))) fun σ' =>
      getThen d σ' fun carried' => extraThen (evalT X) extra (execFFor X n x extra b d items carried') σ' := by
  conv => lhs; whnf
  rcases withFrame (localsFor x b d) (setState d carried σ)
    (execFB X n (.assign x (.const v) :: b) (mask (localsFor x b d) (setState d carried σ))) with _ | ⟨_ | _, σ'⟩ <;> try rfl
  simp only [andThen, getThen]
  cases getState d σ' with
  | error y => rfl
  | ok carried' =>
    cases extra with
    | none => rfl
    | some t => simp only [extraThen]; rcases evalT X t σ' with ⟨_ | _, _⟩ <;> rfl

end EquationsF

/-- On the statements the pass leaves alone outside `with`/`try`, the two target semantics coincide. -/
def TStmt.simple : TStmt → Bool
  | .assign .. | .expr _ | .pass | .ret _ | .raise _ | .undefAssign _ => true
  | _ => false

theorem execF_simple (X : Ext) (n : Nat) {s : TStmt} (hs : s.simple = true) (σ : TSt) : execF X n s σ = execN X n s σ := by
  cases n with
  | zero => rfl
  | succ n =>
    cases s with
    | ret e => cases e <;> rfl
    | assign | expr | pass | raise | undefAssign => rfl
    | _ => cases hs

def Fr (W : List Name) (μ ν : TSt) : Prop := ν.log = μ.log ∧ ∀ x, x ∉ W → ν.env x = μ.env x

theorem Fr.rfl {W : List Name} {μ : TSt} : Fr W μ μ := ⟨_root_.rfl, fun _ _ => _root_.rfl⟩

theorem Fr.trans {W : List Name} {μ ν ξ : TSt} (h1 : Fr W μ ν) (h2 : Fr W ν ξ) : Fr W μ ξ :=
  ⟨h2.1.trans h1.1, fun x hx => (h2.2 x hx).trans (h1.2 x hx)⟩

theorem Fr.mono {W W' : List Name} {μ ν : TSt} (h : Fr W μ ν) (hs : W ⊆ W') : Fr W' μ ν :=
  ⟨h.1, fun x hx => h.2 x fun hh => hx (hs hh)⟩

theorem Fr.setSlot {W : List Name} {μ : TSt} {x : Name} (s : Slot) (hx : x ∈ W) : Fr W μ (μ.setSlot x s) := by
  refine ⟨_root_.rfl, fun y hy => ?_⟩
  have : y ≠ x := fun hh => hy (hh ▸ hx)
  simp [TSt.setSlot, this]

theorem Fr.setState {W : List Name} {μ : TSt} {decl : List Name} (ss : List Slot) (hd : decl ⊆ W) :
    Fr W μ (setState decl ss μ) :=
  ⟨setState_log _ _ _, fun y hy => setState_notin _ _ _ y fun hh => hy (hd hh)⟩

theorem Fr.after {W : List Name} {μ σ : TSt} {a : Option (Out × TSt)} (h : Fr W μ σ)
    (ha : Post (fun _ ν => Fr W σ ν) a) : Post (fun _ ν => Fr W μ ν) a := ha.mono fun _ _ h' => h.trans h'

theorem withFrame_frame {L W : List Name} {σ : TSt} {A : Option (Out × TSt)}
    (hA : Post (fun _ ν => Fr W (mask L σ) ν) A) : Post (fun _ ν => Fr W σ ν) (withFrame L σ A) := by
  intro o ν h
  obtain ⟨o', ν', hA', heq⟩ := withFrame_inv h
  cases heq
  obtain ⟨hl, hf⟩ := hA o' ν' hA'
  refine ⟨hl, fun x hx => ?_⟩
  simp only [restore]
  split
  · rfl
  · rename_i hL
    rw [hf x hx]
    simp only [mask, hL, Bool.false_eq_true, if_false]

theorem mask_log (L : List Name) (σ : TSt) : (mask L σ).log = σ.log := rfl

theorem valThen_pure {P : Out → TSt → Prop} {X : Ext} {e : Expr} {μ : TSt}
    {k : Val → TSt → Option (Out × TSt)} (hp : noCallE e = true) (hk : ∀ v, Post P (k v μ)) (he : ∀ ex, P (.exc ex) μ) :
    Post P (valThen (evalT X e μ) k) := by
  have h := evalT_pure X e μ hp
  exact valThen_post (fun v _ => by rw [h]; exact hk v) fun ex _ => by rw [h]; exact he ex

/-- Pure generated code writes only what `asgTS` lists and logs nothing. -/
theorem frameF (X : Ext) : ∀ n,
    (∀ s μ, pureTS s = true → Post (fun _ ν => Fr (asgTS s) μ ν) (execF X n s μ)) ∧
    (∀ b μ, pureTB b = true → Post (fun _ ν => Fr (asgTB b) μ ν) (execFB X n b μ)) ∧
    (∀ c body decl carried μ, noCallE c = true → pureTB body = true →
      Post (fun _ ν => Fr (decl ++ asgTB body) μ ν) (execFWhile X n c body decl carried μ)) ∧
    (∀ x extra body decl items carried μ, noCallO extra = true → pureTB body = true →
      Post (fun _ ν => Fr (decl ++ (x :: asgTB body)) μ ν) (execFFor X n x extra body decl items carried μ))
  | 0 => by
    refine ⟨fun s μ _ o ν h => ?_, fun b μ _ o ν h => ?_, fun c body decl carried μ _ _ o ν h => ?_,
      fun x extra body decl items carried μ _ _ o ν h => ?_⟩ <;> cases h
  | n+1 => by
    obtain ⟨ihS, ihB, ihW, ihFor⟩ := frameF X n
    have call : ∀ (L W : List Name) (body : TBlock) (μ : TSt), pureTB body = true → asgTB body ⊆ W →
        Post (fun _ ν => Fr W μ ν) (withFrame L μ (execFB X n body (mask L μ))) :=
      fun L W body μ hp hW => withFrame_frame ((ihB body _ hp).mono fun _ _ h => h.mono hW)
    have next : ∀ x extra body decl items carried μ, noCallO extra = true → pureTB body = true →
        Post (fun _ ν => Fr (decl ++ (x :: asgTB body)) μ ν)
          (extraThen (evalT X) extra (execFFor X n x extra body decl items carried) μ) := by
      intro x extra body decl items carried μ hpe hpb
      cases extra with
      | none => exact ihFor x none body decl items carried μ hpe hpb
      | some t =>
        exact valThen_pure hpe (fun tv => ite_post (fun _ => ihFor x (some t) body decl items carried μ hpe hpb)
          fun _ => .pure .rfl) fun _ => .rfl
    refine ⟨fun s μ hp => ?_, fun b μ hp => ?_, fun c body decl carried μ hpc hpb => ?_,
      fun x extra body decl items carried μ hpe hpb => ?_⟩
    · cases s with
      | assign x e =>
        rw [execF_simple X _ rfl, execN_assign]
        exact valThen_pure hp (fun v => .pure (.setSlot _ (by simp [asgTS]))) fun _ => .rfl
      | expr e => rw [execF_simple X _ rfl, execN_expr]; exact valThen_pure hp (fun v => .pure .rfl) fun _ => .rfl
      | pass => exact .pure .rfl
      | raise t => exact .pure .rfl
      | undefAssign x => exact .pure (.setSlot _ (by simp [asgTS]))
      | ret e =>
        cases e with
        | none => exact .pure .rfl
        | some e => rw [execF_simple X _ rfl, execN_ret]; exact valThen_pure hp (fun v => .pure .rfl) fun _ => .rfl
      | ifF c body orelse decl nouts =>
        simp only [pureTS, Bool.and_eq_true] at hp
        simp only [asgTS]
        have hd : decl ⊆ decl ++ (asgTB body ++ asgTB orelse) := List.subset_append_left _ _
        have hb : asgTB body ⊆ decl ++ (asgTB body ++ asgTB orelse) := fun _ h => by simp [h]
        have he : asgTB orelse ⊆ decl ++ (asgTB body ++ asgTB orelse) := fun _ h => by simp [h]
        rw [execF_ifF]
        refine valThen_pure hp.1.1 (fun v => getThen_post (fun s0 _ => ?_) fun _ => .rfl) fun _ => .rfl
        refine andThen_post (call _ _ body μ hp.1.2 hb) (fun σb hσb => ?_) fun _ _ _ h => h
        refine hσb.after (getThen_post (fun sb _ => ?_) fun _ => .rfl)
        refine andThen_post ((Fr.setState s0 hd).after (call _ _ orelse _ hp.2 he)) (fun σo hσo => ?_) fun _ _ _ h => h
        exact hσo.after (getThen_post (fun so _ => .pure (.setState _ hd)) fun _ => .rfl)
      | whileF c body decl =>
        simp only [pureTS, Bool.and_eq_true] at hp
        simp only [asgTS]
        rw [execF_whileF]
        refine getThen_post (fun s0 _ => ?_) fun _ => .rfl
        refine andThen_post (call _ _ body μ hp.2 (List.subset_append_right _ _)) (fun σt hσt => ?_) fun _ _ _ h => h
        exact (hσt.trans (.setState s0 (List.subset_append_left _ _))).after (ihW c body decl s0 _ hp.1 hp.2)
      | forF x it extra body decl =>
        simp only [pureTS, Bool.and_eq_true] at hp
        simp only [asgTS]
        rw [execF_forF]
        refine valThen_pure hp.1.1 (fun v => ?_) fun _ => .rfl
        cases iterItems v with
        | error ex => exact .pure .rfl
        | ok items =>
          refine getThen_post (fun s0 _ => ?_) fun _ => .rfl
          refine andThen_post (call _ _ (.assign x (.const (items.headD (.int 0))) :: body) μ
            (by simp [pureTB, pureTS, noCallE, hp.2]) (by simp [asgTB, asgTS])) (fun σt hσt => ?_) fun _ _ _ h => h
          exact (hσt.trans (.setState s0 (List.subset_append_left _ _))).after (next x extra body decl items s0 _ hp.1.2 hp.2)
      | withT tag body => simp [pureTS] at hp
      | tryT body hs fin => simp [pureTS] at hp
    · cases b with
      | nil => exact .pure .rfl
      | cons s rest =>
        simp only [pureTB, Bool.and_eq_true] at hp
        simp only [asgTB]
        rw [execFB_cons]
        exact andThen_post ((ihS s μ hp.1).mono fun _ _ h => h.mono (List.subset_append_left _ _))
          (fun μ₁ h₁ => h₁.after ((ihB rest μ₁ hp.2).mono fun _ _ h => h.mono (List.subset_append_right _ _)))
          fun _ _ _ h => h
    · rw [execFWhile_succ]
      have h0 : Fr (decl ++ asgTB body) μ (setState decl carried μ) := .setState _ (List.subset_append_left _ _)
      refine h0.after (valThen_pure hpc (fun v => ite_post (fun _ => .pure .rfl) fun _ => ?_) fun _ => .rfl)
      refine andThen_post (call _ _ body _ hpb (List.subset_append_right _ _)) (fun σ₂ h₂ => ?_) fun _ _ _ h => h
      exact h₂.after (getThen_post (fun carried' _ => ihW c body decl carried' σ₂ hpc hpb) fun _ => .rfl)
    · cases items with
      | nil => exact .pure (.setState _ (List.subset_append_left _ _))
      | cons v items =>
        rw [execFFor_cons]
        have h0 : Fr (decl ++ (x :: asgTB body)) μ (setState decl carried μ) := .setState _ (List.subset_append_left _ _)
        refine h0.after (andThen_post (call _ _ (.assign x (.const v) :: body) _ (by simp [pureTB, pureTS, noCallE, hpb])
          (by simp [asgTB, asgTS])) (fun σ₂ h₂ => ?_) fun _ _ _ h => h)
        exact h₂.after (getThen_post (fun carried' _ => next x extra body decl items carried' σ₂ hpe hpb) fun _ => .rfl)

end Malt.Func
