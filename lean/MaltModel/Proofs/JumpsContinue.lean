import MaltModel.Proofs.JumpsCommon
/-
The continue lowering `cntS/cntB/cntH` (Conv/JumpsSem.lean).  The guard state machine of continue_statements.py
(`create_guard_current/next`) appears as the `guard` argument of `cntB`: a statement that contains a `continue` of the
current loop (`hit`) makes the rest of its block conditional on the flag.
-/
namespace Malt.Sem.Jumps
open Malt.Sem

def cntJ (gen : Gen) (pc : List Nat) : Jump := flagJ gen pc .cont .normal (.inr rfl) (.inl rfl)

theorem cntS_jumpFree (gen : Gen) (cur : Name) : ∀ (p : List Nat) (s : Stmt), jumpFreeS s = true →
    (cntS gen cur p s).2 = false :=
  fun p s h => (cntS_hit gen cur p s).trans (jumpFreeS_esc s h).2.1

theorem cntB_jumpFree (gen : Gen) (cur : Name) (p : List Nat) (g : Bool) (b : List Stmt) (h : jumpFreeB b = true) :
    (cntB gen cur p g b).2 = false :=
  (cntB_hit gen cur p g b).trans (jumpFreeB_esc b h).2.1

theorem cntH_jumpFree (gen : Gen) (cur : Name) (p : List Nat) (hs : List (Nat × List Stmt))
    (h : jumpFreeH hs = true) : (cntH gen cur p hs).2 = false :=
  (cntH_hit gen cur p hs).trans (jumpFreeH_esc hs h).2.1

section
variable (gen : Gen) (X : Ext) (inj : ∀ p q : List Nat, gen p = gen q → p = q)
include inj

theorem cnt_bodyCongr {p : List Nat} {hit : Bool} {b b' : Block}
    (hB : Sim X (cntJ gen p) hit hit b' (execB X · b)) :
    BodyCongr X (Hid gen) (OuterFlags gen p) b (if hit then .assign (gen p) cFalse :: b' else b') := by
  intro n τ τ' ob τ1 hag hb
  have hout : ∀ {ob' σ' τ1'}, (cntJ gen p).OutRel hit ob ob' σ' τ1' →
      ∀ k (υ : St), loopThen (some (ob', υ)) k = loopThen (some (ob, υ)) k := by
    intro ob' σ' τ1' hp k υ
    by_cases hc : ob = .cont
    · rw [(hp.of_is hc).2.1, hc]; rfl
    · rw [(hp.of_not hc).1]
  cases hit with
  | true =>
    obtain ⟨m, τ1', ob', hx, hag1, hp1, hfr1⟩ := hB n τ (τ'.set (gen p) (.int 0)) ob τ1
      (hag.setHidden (Hid.gen gen p) _) (fun _ => St.set_env_eq _ _ _) hb
    refine ⟨m + 1, τ1', ob', ?_, hag1, hout hp1, (OuterFlags.set inj (Nat.le_refl _) τ' _).trans hfr1⟩
    cases m with
    | zero => exact nomatch hx
    | succ m => exact (execB_cons_normal (exec_assign_const X (gen p) (.int 0) τ' m)).trans hx
  | false =>
    obtain ⟨m, τ1', ob', hx, hag1, hp1, hfr1⟩ := hB n τ τ' ob τ1 hag nofun hb
    exact ⟨m, τ1', ob', hx, hag1, hout hp1, hfr1⟩

omit inj in
/-- Seen from the loop at `pc` around it; `hl` is what `while_congr`, `exec_for_congr` conclude of a loop at `p`. -/
theorem cnt_loop {l l' : Stmt} {pc p : List Nat} (hpc : pc.length < p.length)
    (hl : ∀ n σ σ' o σ1, Agree (Hid gen) σ σ' → exec X n l σ = some (o, σ1) →
      ∃ m σ1', exec X m l' σ' = some (o, σ1') ∧ Agree (Hid gen) σ1 σ1' ∧ SameHidden (OuterFlags gen p) σ' σ1')
    (hm : topContS l = false) : Sim X (cntJ gen pc) false false [l'] (exec X · l) := by
  intro n σ σ' o σ1 hag _ h
  obtain ⟨m, σ1', hx, hag1, hfr⟩ := hl n σ σ' o σ1 hag h
  exact SimTo.same (execB_singleton hx) hag1 (exec_ne_cont X h hm) hfr
    (fun x hx => ⟨pc, hpc, hx⟩) fun _ => OuterFlags.mono (Nat.le_of_lt hpc)

/-- `pc`: path of the enclosing loop, `p`: of the statement.  The flag has to be clear on entry whenever the lowered code is going to set it or, for a
block, is guarded by it.  The loop tests stay as they are and the flag is reset at the head of every iteration: a loop is
a body congruence (`BodyCongr`), not a guarded loop. -/
theorem cnt_sim :
    (∀ (s : Stmt) (pc p : List Nat), CleanS (Hid gen) s → finOKS s = true → pc.length < p.length →
      Sim X (cntJ gen pc) (cntS gen (gen pc) p s).2 (cntS gen (gen pc) p s).2
        (cntS gen (gen pc) p s).1 (exec X · s)) ∧
    (∀ (b : Block) (pc p : List Nat) (g : Bool), CleanB (Hid gen) b → finOKB b = true → pc.length ≤ p.length →
      Sim X (cntJ gen pc) (cntB gen (gen pc) p g b).2
        (g || (cntB gen (gen pc) p g b).2) (cntB gen (gen pc) p g b).1 (execB X · b)) ∧
    (∀ (hs : List (Nat × Block)) (pc p : List Nat), CleanH (Hid gen) hs → finOKH hs = true → pc.length ≤ p.length →
      SimH X (cntJ gen pc) (cntH gen (gen pc) p hs).2 (cntH gen (gen pc) p hs).2
        (cntH gen (gen pc) p hs).1 hs) := by
  have hatom : ∀ {s : Stmt} {pc : List Nat}, CleanS (Hid gen) s → topContS s = false →
      Sim X (cntJ gen pc) false false [s] (exec X · s) :=
    fun hc hm => Sim.atomic hc fun h => exec_ne_cont X h hm
  apply stmt_induct
  case cont => exact fun _ _ _ _ _ => flagJ_jump X inj (k := 2) (fun _ _ => rfl) fun _ => rfl
  case assign => exact fun _ _ _ _ hc _ _ => hatom hc rfl
  case expr | ret | raise => exact fun _ _ _ hc _ _ => hatom hc rfl
  case pass | brk => exact fun _ _ hc _ _ => hatom hc rfl
  case ifS =>
    intro c t e iht ihe pc p hc hf hpc
    simp only [finOKS, Bool.and_eq_true] at hf
    exact Sim.if_ hc.1 ((iht pc (0 :: p) false hc.2.1 hf.1 (le_subpath hpc _)).mono id orL)
      ((ihe pc (1 :: p) false hc.2.2 hf.2 (le_subpath hpc _)).mono id orR)
  case whileS =>
    intro c b ih pc p hc hf hpc
    exact cnt_loop gen X hpc (while_congr hc.1 (cnt_bodyCongr gen X inj (ih p p false hc.2 hf (Nat.le_refl _)))) rfl
  case forS =>
    intro x it ex b ih pc p ⟨hx, hcit, hcex, hcb⟩ hf hpc
    exact cnt_loop gen X hpc (exec_for_congr hx (fun _ => OuterFlags.hid) hcit hcex
      (cnt_bodyCongr gen X inj (ih p p false hcb hf (Nat.le_refl _)))) rfl
  case tryS =>
    intro body hs fin ihb ihh ihf pc p hc hf hpc
    obtain ⟨hfb, hfh, hff, hesc, hq⟩ := finOKS_try.mp hf
    have hhitf : (cntB gen (gen pc) (2 :: p) false fin).2 = false :=
      (cntB_hit gen (gen pc) (2 :: p) false fin).trans (escFreeB_iff.mp hesc).2.1
    exact Sim.try_ ((ihb pc (0 :: p) false hc.1 hfb (le_subpath hpc 0)).mono id fun h => orL (orL h))
      ((ihh pc (1 :: p) hc.2.1 hfh (le_subpath hpc 1)).mono id fun h => orL (orR h)) (ihf pc (2 :: p) false hc.2.2 hff (le_subpath hpc 2))
      hhitf (by rw [hhitf]; rfl) hq (cntB_jumpFree gen (gen pc) _ _ body) (cntH_jumpFree gen (gen pc) _ hs)
  case withS =>
    intro tag body ih pc p hc hf hpc
    exact Sim.with_ (ih pc (0 :: p) false hc hf (le_subpath hpc _))
  case nil => exact fun _ _ _ _ _ _ => Sim.nil
  case cons =>
    intro s r ihs ihr pc p g hc hf hpc
    simp only [finOKB, Bool.and_eq_true] at hf
    have h := Sim.seq (need := ((cntS gen (gen pc) (r.length :: p) s).2 ||
        (cntB gen (gen pc) p (cntS gen (gen pc) (r.length :: p) s).2 r).2))
      (ihs pc (r.length :: p) hc.1 hf.1 (Nat.lt_succ_of_le hpc)) (ihr pc p _ hc.2 hf.2 hpc) orL
      (fun h => (Bool.or_eq_true _ _).mp h |>.elim orL orR)
      fun _ hh => by
        rw [hh]
        cases r with
        | nil => exact .inl rfl
        | cons s' r' => exact .inr ⟨_, rfl⟩
    exact h.guarded orR fun hg => by rw [hg]; rfl
  case hnil => exact fun _ _ _ _ _ => SimH.nil
  case hcons =>
    intro t b r ihb ihr pc p hc hf hpc
    simp only [finOKH, Bool.and_eq_true] at hf
    exact SimH.cons ((ihb pc (r.length :: p) false hc.1 hf.1 (Nat.le_succ_of_le hpc)).mono id orL)
      ((ihr pc p hc.2 hf.2 hpc).mono id orR)

end

theorem lowerContinue_correct (gen : Gen) (X : Ext) (inj : ∀ p q : List Nat, gen p = gen q → p = q) (body : Block)
    (hclean : CleanB (Hid gen) body) (hfrag : finOKB body = true) (wf : topContB body = false)
    (n : Nat) (σ : St) (o : Out) (σ1 : St) (h : execB X n body σ = some (o, σ1)) :
    ∃ m σ1', execB X m (lowerContinue gen body) σ = some (o, σ1') ∧ Agree (Hid gen) σ1 σ1' := by
  have hhit : (cntB gen (gen []) [0] false body).2 = false := (cntB_hit gen (gen []) [0] false body).trans wf
  obtain ⟨m, σ1', o', hx, hag, hp, _⟩ :=
    (cnt_sim gen X inj).2.1 body [] [0] false hclean hfrag (Nat.zero_le _) n σ σ o σ1 (Agree.refl _ σ)
      (fun hh => by rw [hhit] at hh; cases hh) h
  -- the outcome cannot be `continue`: there is none outside a loop
  obtain ⟨rfl, _⟩ := hp.of_not (execB_ne_cont X h wf)
  exact ⟨m, σ1', hx, hag⟩

end Malt.Sem.Jumps
