import MaltModel.Proofs.C05Frame
/-!
# C05: frame conditions for the `finally` machinery

`FrameX K b b'`: `finally_section_subgraphs` entries of finished sections and `finally_sections` entries of registered jumps
are stable outside the (tagged) keys `K`; new members of `exits`/`continues` lists are nodes of `K`; a `finally` section that
waits for its first node keeps waiting or gets started; the used ids (`Old`) grow by keys of `K` only.
A visit that begins by creating a node starts every waiting `finally` section: it is frame steps, one `NodeStep`, frame steps.
-/
namespace Malt.Cfg
open Malt.Py

theorem sk_ne_nk (i j : Nat) : sk i ≠ nk j := by unfold sk nk; omega
theorem ck_ne_nk (i j : Nat) : ck i ≠ nk j := by unfold ck nk; omega
theorem nk_inj {i j : Nat} (h : nk i = nk j) : i = j := by unfold nk at h; omega

/-- (tagged) ids already used by the builder -/
def Old (b : B) : List Nat :=
  b.nodes.map nk ++ (b.finallySub.map (fun p => sk p.1) ++ (b.exits.map (fun p => sk p.1) ++ b.continues.map (fun p => sk p.1)))

structure ListsInNodes (b : B) : Prop where
  exits : ∀ k l, aget k b.exits = some l → ∀ x, x ∈ l → x ∈ b.nodes
  continues : ∀ k l, aget k b.continues = some l → ∀ x, x ∈ l → x ∈ b.nodes

/-- the `finally` section `g` awaits its first node -/
def Wait (b : B) (g : Nat) : Prop := g ∈ b.pendingFinally ∧ ∃ x e, aget g b.finallySub = some (x, e)
def Started (b : B) (g : Nat) : Prop := g ∉ b.pendingFinally ∧ ∃ beg e, aget g b.finallySub = some (some beg, e)

structure FrameX (K : List Nat) (b b' : B) : Prop where
  old : ∀ k, k ∈ Old b' → k ∈ Old b ∨ k ∈ K
  lin : ListsInNodes b → ListsInNodes b'
  fsub : ∀ g, sk g ∉ K → g ∉ b.pendingFinally → aget g b'.finallySub = aget g b.finallySub ∧ g ∉ b'.pendingFinally
  fsec : ∀ j, nk j ∉ K → aget j b'.finallySections = aget j b.finallySections
  exitsO : ∀ k l', aget k b'.exits = some l' → ∀ x, x ∈ l' → nk x ∈ K ∨ ∃ l, aget k b.exits = some l ∧ x ∈ l
  contO : ∀ k l', aget k b'.continues = some l' → ∀ x, x ∈ l' → nk x ∈ K ∨ ∃ l, aget k b.continues = some l ∧ x ∈ l
  errors : ∀ x, x ∈ b.errors → x ∈ b'.errors
  wait : ∀ g, sk g ∉ K → Wait b g → Wait b' g ∨ Started b' g
  nodes : ∀ x, x ∈ b.nodes → x ∈ b'.nodes
  fdir : ∀ g, sk g ∉ K → aget g b'.finallyDirect = aget g b.finallyDirect
  fends : ∀ g, sk g ∉ K → (aget g b'.finallySub).map (·.2) = (aget g b.finallySub).map (·.2)

theorem FrameX.refl (K : List Nat) (b : B) : FrameX K b b :=
  ⟨fun _ h => Or.inl h, id, fun _ _ h => ⟨rfl, h⟩, fun _ _ => rfl, fun k l' h x hx => Or.inr ⟨l', h, hx⟩,
   fun k l' h x hx => Or.inr ⟨l', h, hx⟩, fun _ h => h, fun _ _ h => Or.inl h, fun _ h => h, fun _ _ => rfl, fun _ _ => rfl⟩

theorem started_mono {K : List Nat} {b b' : B} (h : FrameX K b b') {g : Nat} (hg : sk g ∉ K) (hs : Started b g) : Started b' g := by
  obtain ⟨h1, beg, e, h2⟩ := hs
  obtain ⟨e1, e2⟩ := h.fsub g hg h1
  exact ⟨e2, beg, e, by rw [e1]; exact h2⟩

theorem FrameX.trans {K : List Nat} {a b c : B} (h1 : FrameX K a b) (h2 : FrameX K b c) : FrameX K a c := by
  refine ⟨?_, fun h => h2.lin (h1.lin h), ?_, fun j hj => by rw [h2.fsec j hj, h1.fsec j hj], ?_, ?_,
    fun x h => h2.errors x (h1.errors x h), ?_, fun x h => h2.nodes x (h1.nodes x h),
    fun g hg => by rw [h2.fdir g hg, h1.fdir g hg], fun g hg => by rw [h2.fends g hg, h1.fends g hg]⟩
  · intro k hk
    rcases h2.old k hk with hk | hk
    · exact h1.old k hk
    · exact Or.inr hk
  · intro g hg hp
    obtain ⟨e1, p1⟩ := h1.fsub g hg hp
    obtain ⟨e2, p2⟩ := h2.fsub g hg p1
    exact ⟨by rw [e2, e1], p2⟩
  · intro k l'' hl x hx
    rcases h2.exitsO k l'' hl x hx with h | ⟨l', hl', hx'⟩
    · exact Or.inl h
    · exact h1.exitsO k l' hl' x hx'
  · intro k l'' hl x hx
    rcases h2.contO k l'' hl x hx with h | ⟨l', hl', hx'⟩
    · exact Or.inl h
    · exact h1.contO k l' hl' x hx'
  · intro g hg hw
    rcases h1.wait g hg hw with hw | hs
    · exact h2.wait g hg hw
    · exact Or.inr (started_mono h2 hg hs)

theorem FrameX.weaken {K K' : List Nat} {b b' : B} (h : FrameX K b b') (hs : ∀ k, k ∈ K → k ∈ K') : FrameX K' b b' :=
  ⟨fun k hk => (h.old k hk).imp id (hs k), h.lin, fun g hg => h.fsub g (fun h' => hg (hs _ h')),
   fun j hj => h.fsec j (fun h' => hj (hs _ h')), fun k l' hl x hx => (h.exitsO k l' hl x hx).imp (hs _) id,
   fun k l' hl x hx => (h.contO k l' hl x hx).imp (hs _) id, h.errors, fun g hg => h.wait g (fun h' => hg (hs _ h')), h.nodes, fun g hg => h.fdir g (fun h' => hg (hs _ h')), fun g hg => h.fends g (fun h' => hg (hs _ h'))⟩

theorem FrameX.inert (K : List Nat) (b : B) (hd : Option NodeId) (hp : List (List NodeId)) (lv : Ref) (act : List Nat)
    (ow : List (NodeId × List Nat)) (ed : List (NodeId × NodeId)) (se : List (Nat × NodeId)) (rs : List (Nat × List NodeId))
    (ce : List (Nat × Ref)) (cl : List (Nat × List Ref)) (rt : List NodeId) (er : Option String) :
    FrameX K b { b with head := hd, heap := hp, leaves := lv, activeStmts := act, owners := ow, edges := ed, sectionEntry := se,
                        raises := rs, condEntry := ce, condLeaves := cl, roots := rt, err := er } :=
  { FrameX.refl K b with lin := fun hl => ⟨hl.exits, hl.continues⟩ }

theorem old_of_parts {K : List Nat} {b b' : B}
    (h1 : ∀ x, x ∈ b'.nodes → x ∈ b.nodes ∨ nk x ∈ K)
    (h2 : ∀ k, k ∈ b'.finallySub.map (fun p => sk p.1) → k ∈ b.finallySub.map (fun p => sk p.1) ∨ k ∈ K)
    (h3 : ∀ k, k ∈ b'.exits.map (fun p => sk p.1) → k ∈ b.exits.map (fun p => sk p.1) ∨ k ∈ K)
    (h4 : ∀ k, k ∈ b'.continues.map (fun p => sk p.1) → k ∈ b.continues.map (fun p => sk p.1) ∨ k ∈ K) :
    ∀ k, k ∈ Old b' → k ∈ Old b ∨ k ∈ K := by
  intro k hk
  simp only [Old, List.mem_append] at hk ⊢
  rcases hk with hk | hk | hk | hk
  · obtain ⟨x, hx, rfl⟩ := List.mem_map.mp hk
    rcases h1 x hx with h | h
    · exact Or.inl (Or.inl (List.mem_map.mpr ⟨x, h, rfl⟩))
    · exact Or.inr h
  · exact (h2 k hk).elim (fun h => Or.inl (Or.inr (Or.inl h))) Or.inr
  · exact (h3 k hk).elim (fun h => Or.inl (Or.inr (Or.inr (Or.inl h)))) Or.inr
  · exact (h4 k hk).elim (fun h => Or.inl (Or.inr (Or.inr (Or.inr h)))) Or.inr

theorem mem_keys_adel {β} {k : Nat} {m : List (Nat × β)} {x : Nat}
    (h : x ∈ (adel k m).map (fun p => sk p.1)) : x ∈ m.map (fun p => sk p.1) := by
  obtain ⟨p, hp, rfl⟩ := List.mem_map.mp h
  exact List.mem_map.mpr ⟨p, (List.mem_filter.mp hp).1, rfl⟩

theorem mem_keys_aset {β} {k : Nat} {v : β} {m : List (Nat × β)} {x : Nat}
    (h : x ∈ (aset k v m).map (fun p => sk p.1)) : x = sk k ∨ x ∈ m.map (fun p => sk p.1) := by
  simp only [List.mem_map] at h
  obtain ⟨p, hp, rfl⟩ := h
  simp only [aset, adel, List.mem_cons, List.mem_filter] at hp
  rcases hp with hp | hp
  · left; rw [hp]
  · right; exact List.mem_map.mpr ⟨p, hp.1, rfl⟩

theorem key_of_aget {β} {k : Nat} {v : β} {m : List (Nat × β)} (h : aget k m = some v) : sk k ∈ m.map (fun p => sk p.1) :=
  List.mem_map.mpr ⟨(k, v), aget_mem h, rfl⟩

theorem frameX_foldl {α} (K) (f : B → α → B) (l : List α) (hf : ∀ b x, x ∈ l → FrameX K b (f b x)) (b : B) :
    FrameX K b (l.foldl f b) :=
  foldl_rel (FrameX.refl K) FrameX.trans f l b hf

theorem aget_map {β} (f : Nat × β → Nat × β) (hf : ∀ p, (f p).1 = p.1) (k : Nat) :
    ∀ m : List (Nat × β), aget k (m.map f) = (aget k m).map (fun v => (f (k, v)).2) := by
  intro m
  induction m with
  | nil => rfl
  | cons p m ih =>
    simp only [List.map_cons, aget, List.lookup]
    rw [hf p]
    by_cases h : (k == p.1) = true
    · have hk : k = p.1 := by simpa using h
      simp only [h, Option.map_some]
      subst hk
      rfl
    · have h' : (k == p.1) = false := by simpa using h
      simp only [h']
      exact ih

theorem map_sk_keys {β} (f : Nat × β → Nat × β) (hf : ∀ p, (f p).1 = p.1) (m : List (Nat × β)) :
    (m.map f).map (fun p => sk p.1) = m.map (fun p => sk p.1) := by
  simp [List.map_map, Function.comp_def, hf]

namespace B

theorem fx_fail (K) (b : B) (m : String) : FrameX K b (b.fail m) := FrameX.inert ..
theorem fx_check (K) (b : B) (c : Bool) (m : String) : FrameX K b (b.check c m) := by
  cases c
  · exact FrameX.refl K b
  · exact fx_fail K b m
theorem fx_connect (K) (b : B) (f : List Nat) (n : Nat) : FrameX K b (b.connect f n) := FrameX.inert ..
theorem fx_setLeavesFresh (K) (b : B) (s : List Nat) : FrameX K b (b.setLeavesFresh s) := FrameX.inert ..
theorem fx_leavesUnion (K) (b : B) (s : List Nat) : FrameX K b (b.leavesUnion s) := FrameX.inert ..
theorem fx_setLeavesRef (K) (b : B) (r : Nat) : FrameX K b (b.setLeavesRef r) := FrameX.inert ..
theorem fx_setActive (K) (b : B) (l : List Nat) : FrameX K b (b.setActive l) := FrameX.inert ..
theorem fx_setRaises (K) (b : B) (r : List (Nat × List Nat)) : FrameX K b (b.setRaises r) := FrameX.inert ..
theorem fx_putSectionEntry (K) (b : B) (k e : Nat) : FrameX K b (b.putSectionEntry k e) := FrameX.inert ..
theorem fx_putCondLeaves (K) (b : B) (k : Nat) (l : List Nat) : FrameX K b (b.putCondLeaves k l) := FrameX.inert ..
theorem fx_putCondEntry (K) (b : B) (k r : Nat) : FrameX K b (b.putCondEntry k r) := FrameX.inert ..
theorem fx_delCondKeys (K) (b : B) (k : Nat) : FrameX K b (b.delCondKeys k) := FrameX.inert ..

theorem fx_pushError (K) (b : B) (n : Nat) : FrameX K b (b.pushError n) :=
  { FrameX.refl K b with
    lin := fun hl => ⟨hl.exits, hl.continues⟩
    errors := fun _ hx => List.mem_append.mpr (Or.inl hx) }

/-- `_add_new_node` gives every pending `finally` section its first node -/
theorem aget_finallySub_pushNode (b : B) (n g : Nat) :
    aget g (b.pushNode n).finallySub =
      (aget g b.finallySub).map (fun v => if b.pendingFinally.contains g then (some n, v.2) else v) := by
  show aget g (b.finallySub.map _) = _
  rw [aget_map _ (fun p => by split <;> rfl)]
  cases aget g b.finallySub with
  | none => rfl
  | some v => simp only [Option.map_some]; split <;> rfl

theorem keys_finallySub_pushNode (b : B) (n : Nat) :
    (b.pushNode n).finallySub.map (fun p => sk p.1) = b.finallySub.map (fun p => sk p.1) :=
  map_sk_keys (fun p => if b.pendingFinally.contains p.1 then (p.1, (some n, p.2.2)) else p)
    (fun p => by split <;> rfl) b.finallySub

end B

def StartedAt (b : B) (T y : Nat) : Prop := T ∉ b.pendingFinally ∧ ∃ e, aget T b.finallySub = some (some y, e)

theorem StartedAt.started {b : B} {T y : Nat} (h : StartedAt b T y) : Started b T := ⟨h.1, y, h.2⟩

theorem wait_startedAt_pushNode {b : B} (n T : Nat) (hw : Wait b T) : StartedAt (b.pushNode n) T n := by
  obtain ⟨hp, x, e, hx⟩ := hw
  refine ⟨List.not_mem_nil, e, ?_⟩
  rw [B.aget_finallySub_pushNode, hx]
  simp [hp]

theorem wait_startedAt_addNewNode {b : B} (n T : Nat) (hw : Wait b T) : StartedAt (b.addNewNode n) T n :=
  wait_startedAt_pushNode (b := b.check (b.nodes.contains n) "ValueError: added twice") n T
    ⟨(B.check_pendingFinally b _ _).symm ▸ hw.1, (B.check_finallySub b _ _).symm ▸ hw.2⟩

namespace B

theorem fx_pushNode (K) (b : B) (n : Nat) (hn : nk n ∈ K) : FrameX K b (b.pushNode n) :=
  { FrameX.refl K b with
    old := old_of_parts
      (fun x hx => (List.mem_append.mp hx).elim Or.inl (fun h => Or.inr (List.mem_singleton.mp h ▸ hn)))
      (fun k hk => Or.inl (keys_finallySub_pushNode b n ▸ hk))
      (fun k hk => Or.inl hk) (fun k hk => Or.inl hk)
    lin := fun hl => ⟨fun k l h x hx => List.mem_append.mpr (Or.inl (hl.exits k l h x hx)),
      fun k l h x hx => List.mem_append.mpr (Or.inl (hl.continues k l h x hx))⟩
    fsub := fun g _ hp => by
      refine ⟨?_, List.not_mem_nil⟩
      rw [aget_finallySub_pushNode]
      cases aget g b.finallySub with
      | none => rfl
      | some v => simp [hp]
    wait := fun g _ hw => Or.inr (wait_startedAt_pushNode n g hw).started
    nodes := fun _ hx => List.mem_append.mpr (Or.inl hx)
    fends := fun g _ => by
      rw [aget_finallySub_pushNode]
      cases aget g b.finallySub with
      | none => rfl
      | some v => simp only [Option.map_some]; split <;> rfl }

theorem fx_putFinallySections (K) (b : B) (n : Nat) (gs : List Nat) (hn : nk n ∈ K) : FrameX K b (b.putFinallySections n gs) :=
  { FrameX.refl K b with
    lin := fun hl => ⟨hl.exits, hl.continues⟩
    fsec := fun _ hj => aget_aset_off hn hj gs b.finallySections }

theorem fx_delFinallySections (K) (b : B) (n : Nat) (hn : nk n ∈ K) : FrameX K b (b.delFinallySections n) :=
  { FrameX.refl K b with
    lin := fun hl => ⟨hl.exits, hl.continues⟩
    fsec := fun _ hj => aget_adel_off hn hj b.finallySections }

theorem aset_lists {K : List Nat} (m : List (Nat × List Nat)) (k : Nat) (l : List Nat)
    (hm : ∀ x, x ∈ l → nk x ∈ K ∨ ∃ l0, aget k m = some l0 ∧ x ∈ l0) :
    ∀ k' l', aget k' (aset k l m) = some l' → ∀ x, x ∈ l' → nk x ∈ K ∨ ∃ l0, aget k' m = some l0 ∧ x ∈ l0 := by
  intro k' l' h x hx
  rw [aget_aset] at h
  by_cases hk : k' = k
  · rw [if_pos hk] at h; cases h; exact hk ▸ hm x hx
  · rw [if_neg hk] at h; exact Or.inr ⟨l', h, hx⟩

theorem aset_inNodes {N : List Nat} (m : List (Nat × List Nat)) (k : Nat) (l : List Nat) (hl : ∀ x, x ∈ l → x ∈ N)
    (hm : ∀ k' l', aget k' m = some l' → ∀ x, x ∈ l' → x ∈ N) :
    ∀ k' l', aget k' (aset k l m) = some l' → ∀ x, x ∈ l' → x ∈ N := by
  intro k' l' h x hx
  rw [aget_aset] at h
  by_cases hk : k' = k
  · rw [if_pos hk] at h; cases h; exact hl x hx
  · rw [if_neg hk] at h; exact hm k' l' h x hx

theorem fx_putExits (K) (b : B) (k : Nat) (l : List Nat) (hk : sk k ∈ K ∨ sk k ∈ b.exits.map (fun p => sk p.1))
    (hm : ∀ x, x ∈ l → nk x ∈ K ∨ ∃ l0, aget k b.exits = some l0 ∧ x ∈ l0)
    (hn : ListsInNodes b → ∀ x, x ∈ l → x ∈ b.nodes) : FrameX K b (b.putExits k l) :=
  { FrameX.refl K b with
    old := old_of_parts (fun x hx => Or.inl hx) (fun k hk => Or.inl hk)
      (fun x hx => (mem_keys_aset hx).elim (fun e => hk.elim (fun h => Or.inr (e ▸ h)) (fun h => Or.inl (e ▸ h))) Or.inl)
      (fun k hk => Or.inl hk)
    lin := fun hl => ⟨aset_inNodes b.exits k l (hn hl) hl.exits, hl.continues⟩
    exitsO := aset_lists b.exits k l hm }

theorem fx_delExits (K) (b : B) (k : Nat) : FrameX K b (b.delExits k) :=
  { FrameX.refl K b with
    old := old_of_parts (fun x hx => Or.inl hx) (fun k hk => Or.inl hk) (fun x hx => Or.inl (mem_keys_adel hx)) (fun k hk => Or.inl hk)
    lin := fun hl => ⟨fun k' l' h => hl.exits k' l' (aget_adel_some h), hl.continues⟩
    exitsO := fun k' l' h x hx => Or.inr ⟨l', aget_adel_some h, hx⟩ }

theorem fx_putContinues (K) (b : B) (k : Nat) (l : List Nat) (hk : sk k ∈ K ∨ sk k ∈ b.continues.map (fun p => sk p.1))
    (hm : ∀ x, x ∈ l → nk x ∈ K ∨ ∃ l0, aget k b.continues = some l0 ∧ x ∈ l0)
    (hn : ListsInNodes b → ∀ x, x ∈ l → x ∈ b.nodes) : FrameX K b (b.putContinues k l) :=
  { FrameX.refl K b with
    old := old_of_parts (fun x hx => Or.inl hx) (fun k hk => Or.inl hk) (fun k hk => Or.inl hk)
      (fun x hx => (mem_keys_aset hx).elim (fun e => hk.elim (fun h => Or.inr (e ▸ h)) (fun h => Or.inl (e ▸ h))) Or.inl)
    lin := fun hl => ⟨hl.exits, aset_inNodes b.continues k l (hn hl) hl.continues⟩
    contO := aset_lists b.continues k l hm }

theorem fx_delLoopKeys (K) (b : B) (k : Nat) : FrameX K b (b.delLoopKeys k) :=
  { FrameX.refl K b with
    old := old_of_parts (fun x hx => Or.inl hx) (fun k hk => Or.inl hk) (fun k hk => Or.inl hk) (fun x hx => Or.inl (mem_keys_adel hx))
    lin := fun hl => ⟨hl.exits, fun k' l' h => hl.continues k' l' (aget_adel_some h)⟩
    contO := fun k' l' h x hx => Or.inr ⟨l', aget_adel_some h, hx⟩ }

theorem fx_enterFinallySection (K) (b : B) (i : Nat) (hi : sk i ∈ K) : FrameX K b (b.enterFinallySection i) :=
  { FrameX.refl K b with
    old := old_of_parts (fun x hx => Or.inl hx)
      (fun x hx => (mem_keys_aset hx).elim (fun e => Or.inr (e ▸ hi)) Or.inl) (fun k hk => Or.inl hk) (fun k hk => Or.inl hk)
    lin := fun hl => ⟨hl.exits, hl.continues⟩
    fsub := fun g hg hp => by
      refine ⟨aget_aset_off hi hg _ _, ?_⟩
      show g ∉ (if b.pendingFinally.contains i then b.pendingFinally else b.pendingFinally ++ [i])
      split
      · exact hp
      · exact fun h => (List.mem_append.mp h).elim hp (fun h => hg (List.mem_singleton.mp h ▸ hi))
    wait := fun g hg hw => by
      obtain ⟨hp, x, e, hx⟩ := hw
      refine Or.inl ⟨?_, x, e, (aget_aset_off hi hg _ _).trans hx⟩
      show g ∈ (if b.pendingFinally.contains i then b.pendingFinally else b.pendingFinally ++ [i])
      split
      · exact hp
      · exact List.mem_append.mpr (Or.inl hp)
    fdir := fun g hg => aget_aset_off hi hg _ _
    fends := fun g hg => congrArg _ (aget_aset_off hi hg _ _) }

theorem fx_closeFinally (K) (b : B) (i : Nat) (beg : Option Nat) (hi : sk i ∈ K) : FrameX K b (b.closeFinally i beg) :=
  { FrameX.refl K b with
    old := old_of_parts (fun x hx => Or.inl hx)
      (fun x hx => (mem_keys_aset hx).elim (fun e => Or.inr (e ▸ hi)) Or.inl) (fun k hk => Or.inl hk) (fun k hk => Or.inl hk)
    lin := fun hl => ⟨hl.exits, hl.continues⟩
    fsub := fun g hg hp => ⟨aget_aset_off hi hg _ _, hp⟩
    wait := fun g hg hw => by
      obtain ⟨hp, x, e, hx⟩ := hw
      exact Or.inl ⟨hp, x, e, (aget_aset_off hi hg _ _).trans hx⟩
    fdir := fun g hg => aget_adel_off hi hg _
    fends := fun g hg => congrArg _ (aget_aset_off hi hg _ _) }

theorem fx_addNewNode (K) (b : B) (n : Nat) (hn : nk n ∈ K) : FrameX K b (b.addNewNode n) :=
  FrameX.trans (fx_check K b _ _) (FrameX.trans (fx_pushNode K _ n hn) (fx_connect K _ _ _))

theorem fx_addOrdinaryNode (K) (b : B) (n : Nat) (hn : nk n ∈ K) : FrameX K b (b.addOrdinaryNode n) :=
  FrameX.trans (fx_addNewNode K b n hn) (fx_setLeavesFresh K _ _)

theorem fx_addJumpNode (K) (b : B) (n : Nat) (gs : List Nat) (hn : nk n ∈ K) : FrameX K b (b.addJumpNode n gs) :=
  FrameX.trans (FrameX.trans (fx_addNewNode K b n hn) (fx_setLeavesFresh K _ _)) (fx_putFinallySections K _ n gs hn)

theorem fx_addExitNode (K) (b : B) (n sec : Nat) (gs : List Nat) (hn : nk n ∈ K) : FrameX K b (b.addExitNode n sec gs) := by
  have h0 := fx_addJumpNode K b n gs hn
  unfold addExitNode
  split
  · rename_i ex hx
    have hx' : aget sec (b.addJumpNode n gs).exits = some ex := by simpa using hx
    refine FrameX.trans h0 (fx_putExits K _ sec _ (Or.inr (key_of_aget hx')) ?_ ?_)
    · intro x hxm
      rcases List.mem_append.mp hxm with h | h
      · exact Or.inr ⟨ex, hx', h⟩
      · simp only [List.mem_singleton] at h; subst h; exact Or.inl hn
    · intro hl x hxm
      rcases List.mem_append.mp hxm with h | h
      · exact hl.exits sec ex hx' x h
      · simp only [List.mem_singleton] at h; subst h; exact mem_nodes_addJumpNode b x gs
  · exact FrameX.trans h0 (fx_fail K _ _)

theorem fx_addContinueNode (K) (b : B) (n sec : Nat) (gs : List Nat) (hn : nk n ∈ K) : FrameX K b (b.addContinueNode n sec gs) := by
  have h0 := fx_addJumpNode K b n gs hn
  unfold addContinueNode
  split
  · rename_i ex hx
    have hx' : aget sec (b.addJumpNode n gs).continues = some ex := by simpa using hx
    refine FrameX.trans h0 (fx_putContinues K _ sec _ (Or.inr (key_of_aget hx')) ?_ ?_)
    · intro x hxm
      rcases List.mem_append.mp hxm with h | h
      · exact Or.inr ⟨ex, hx', h⟩
      · simp only [List.mem_singleton] at h; subst h; exact Or.inl hn
    · intro hl x hxm
      rcases List.mem_append.mp hxm with h | h
      · exact hl.continues sec ex hx' x h
      · simp only [List.mem_singleton] at h; subst h; exact mem_nodes_addJumpNode b x gs
  · exact FrameX.trans h0 (fx_fail K _ _)

theorem fx_connectRaiseNode (K) (b : B) (n : Nat) (gs : List Nat) : FrameX K b (b.connectRaiseNode n gs) := fx_setRaises K b _

theorem fx_guardFold (K) (gs : List Nat) (acc : B × List Nat) : FrameX K acc.1 (gs.foldl guardStep acc).1 := by
  refine foldl_rel (R := fun a a' => FrameX K a.1 a'.1) (fun a => FrameX.refl K a.1) FrameX.trans guardStep gs acc (fun a g _ => ?_)
  unfold guardStep; split
  · exact fx_connect K _ _ _
  · exact fx_fail K _ _

theorem fx_connectJump (K) (b : B) (n : Nat) (hn : nk n ∈ K) : FrameX K b (b.connectJump n).1 := by
  unfold connectJump
  split
  · exact FrameX.refl K b
  · rename_i gs _
    exact FrameX.trans (fx_guardFold K gs (b, [n])) (fx_delFinallySections K _ n hn)

theorem fx_exitStep (K) (b : B) (e : Nat) (he : nk e ∈ K) : FrameX K b (b.exitStep e) :=
  FrameX.trans (fx_connectJump K b e he) (fx_leavesUnion K _ _)

theorem fx_exitSection (K) (b : B) (i : Nat) (hex : ∀ ex, aget i b.exits = some ex → ∀ e, e ∈ ex → nk e ∈ K) :
    FrameX K b (b.exitSection i) := by
  unfold exitSection
  split
  · exact fx_fail K b _
  · rename_i ex hx
    exact FrameX.trans (frameX_foldl K exitStep ex (fun b e he => fx_exitStep K b e (hex ex hx e he)) b) (fx_delExits K _ i)

theorem fx_enterSection (K) (b : B) (i : Nat) (hi : sk i ∈ K) : FrameX K b (b.enterSection i) :=
  FrameX.trans (fx_check K b _ _) (fx_putExits K _ i [] (Or.inl hi) (fun _ h => (List.not_mem_nil h).elim) (fun _ _ h => (List.not_mem_nil h).elim))

/-- the exits registered in a section opened empty were added along the way, hence are among the keys -/
theorem exits_of_frame {K : List Nat} {b bm : B} {i : Nat} (hmid : FrameX K b bm) (h0 : aget i b.exits = some []) :
    ∀ ex, aget i bm.exits = some ex → ∀ e, e ∈ ex → nk e ∈ K := by
  intro ex hex e he
  rcases hmid.exitsO i ex hex e he with h | ⟨l, hl, hel⟩
  · exact h
  · rw [h0] at hl; cases hl; cases hel

theorem conts_of_frame {K : List Nat} {b bm : B} {i : Nat} (hmid : FrameX K b bm) (h0 : aget i b.continues = some []) :
    ∀ cs, aget i bm.continues = some cs → ∀ c, c ∈ cs → nk c ∈ K := by
  intro cs hcs c hc
  rcases hmid.contO i cs hcs c hc with h | ⟨l, hl, hel⟩
  · exact h
  · rw [h0] at hl; cases hl; cases hel

theorem fx_exitLoopSection (K) (b : B) (i : Nat) (hcs : ∀ cs, aget i b.continues = some cs → ∀ c, c ∈ cs → nk c ∈ K) :
    FrameX K b (b.exitLoopSection i) := by
  unfold exitLoopSection
  split
  · rename_i entry cs _ hc
    exact FrameX.trans (FrameX.trans (FrameX.trans (fx_connect K b _ entry)
      (frameX_foldl K (reentryStep entry) cs (fun b c hm => FrameX.trans (fx_connectJump K b c (hcs cs hc c hm)) (fx_connect K _ _ _)) _))
      (fx_setLeavesFresh K _ _)) (fx_delLoopKeys K _ i)
  · exact fx_fail K b _

theorem fx_enterCondSection (K) (b : B) (i : Nat) : FrameX K b (b.enterCondSection i) :=
  FrameX.trans (fx_check K b _ _) (fx_putCondLeaves K _ i [])

theorem fx_newCondBranch (K) (b : B) (i : Nat) : FrameX K b (b.newCondBranch i) := by
  unfold newCondBranch
  split
  · exact fx_fail K b _
  · split
    · exact FrameX.trans (fx_putCondLeaves K b i _) (fx_setLeavesRef K _ _)
    · exact fx_putCondEntry K b i _

theorem fx_exitCondSection (K) (b : B) (i : Nat) : FrameX K b (b.exitCondSection i) := by
  unfold exitCondSection
  split
  · exact fx_fail K b _
  · rename_i splits _
    exact FrameX.trans (FrameX.trans (frameX_foldl K unionStep splits (fun b r _ => fx_leavesUnion K b _) b) (fx_check K _ _ _))
      (fx_delCondKeys K _ i)

theorem fx_enterExceptSection (K) (b : B) (i : Nat) : FrameX K b (b.enterExceptSection i) := by
  unfold enterExceptSection
  split
  · exact fx_leavesUnion K b _
  · exact FrameX.refl K b

theorem fx_exitFinallySection (K) (b : B) (i : Nat) (hi : sk i ∈ K) : FrameX K b (b.exitFinallySection i) := by
  unfold exitFinallySection
  split
  · rename_i beg _ direct _ _
    have h1 := FrameX.trans (fx_check K b (b.pendingFinally.contains i) "assert: Empty finally?") (fx_closeFinally K _ i beg hi)
    cases direct
    · exact FrameX.trans h1 (fx_setLeavesFresh K _ _)
    · exact h1
  · exact fx_fail K b _

theorem fx_beginStatement (K) (b : B) (i : Nat) : FrameX K b (b.beginStatement i) := fx_setActive K b _
theorem fx_endStatement (K) (b : B) (i : Nat) : FrameX K b (b.endStatement i) :=
  FrameX.trans (fx_check K b _ _) (fx_setActive K _ _)

end B

theorem fx_addOrdinaryNodes (K) (ns : List Nat) (hns : ∀ n, n ∈ ns → nk n ∈ K) : ∀ b : B, FrameX K b (addOrdinaryNodes b ns) :=
  frameX_foldl K B.addOrdinaryNode ns (fun b n hn => B.fx_addOrdinaryNode K b n (hns n hn))

theorem mem_tnodes {x : Nat} {l : List Nat} (h : x ∈ l) : nk x ∈ tnodes l := List.mem_map.mpr ⟨x, h, rfl⟩

structure FF (K : List Nat) (b b' : B) : Prop where
  f : Frame K b b'
  x : FrameX K b b'

theorem FF.refl (K : List Nat) (b : B) : FF K b b := ⟨Frame.refl K b, FrameX.refl K b⟩
theorem FF.trans {K : List Nat} {a b c : B} (h1 : FF K a b) (h2 : FF K b c) : FF K a c := ⟨h1.f.trans h2.f, h1.x.trans h2.x⟩
theorem FF.weaken {K K' : List Nat} {b b' : B} (h : FF K b b') (hs : ∀ k, k ∈ K → k ∈ K') : FF K' b b' :=
  ⟨h.f.weaken hs, h.x.weaken hs⟩

theorem ff_beginStatement (K : List Nat) (b : B) (i : Nat) : FF K b (b.beginStatement i) :=
  ⟨B.frame_beginStatement K b i, B.fx_beginStatement K b i⟩
theorem ff_endStatement (K : List Nat) (b : B) (i : Nat) : FF K b (b.endStatement i) :=
  ⟨B.frame_endStatement K b i, B.fx_endStatement K b i⟩
theorem ff_enterCondSection (K : List Nat) (b : B) (i : Nat) (hi : ck i ∈ K) : FF K b (b.enterCondSection i) :=
  ⟨B.frame_enterCondSection K b i hi, B.fx_enterCondSection K b i⟩
theorem ff_newCondBranch (K : List Nat) (b : B) (i : Nat) (hi : ck i ∈ K) : FF K b (b.newCondBranch i) :=
  ⟨B.frame_newCondBranch K b i hi, B.fx_newCondBranch K b i⟩
theorem ff_exitCondSection (K : List Nat) (b : B) (i : Nat) (hi : ck i ∈ K) : FF K b (b.exitCondSection i) :=
  ⟨B.frame_exitCondSection K b i hi, B.fx_exitCondSection K b i⟩
theorem ff_addOrdinaryNodes (K : List Nat) (ns : List Nat) (hns : ∀ n, n ∈ ns → nk n ∈ K) (b : B) : FF K b (addOrdinaryNodes b ns) :=
  ⟨frame_addOrdinaryNodes K ns b, fx_addOrdinaryNodes K ns hns b⟩
theorem ff_enterSection (K : List Nat) (b : B) (i : Nat) (hi : sk i ∈ K) : FF K b (b.enterSection i) :=
  ⟨B.frame_enterSection K b i hi, B.fx_enterSection K b i hi⟩
theorem ff_enterExceptSection (K : List Nat) (b : B) (i : Nat) : FF K b (b.enterExceptSection i) :=
  ⟨B.frame_enterExceptSection K b i, B.fx_enterExceptSection K b i⟩
theorem ff_enterFinallySection (K : List Nat) (b : B) (i : Nat) (hi : sk i ∈ K) : FF K b (b.enterFinallySection i) :=
  ⟨B.frame_enterFinallySection K b i, B.fx_enterFinallySection K b i hi⟩
theorem ff_exitFinallySection (K : List Nat) (b : B) (i : Nat) (hi : sk i ∈ K) : FF K b (b.exitFinallySection i) :=
  ⟨B.frame_exitFinallySection K b i, B.fx_exitFinallySection K b i hi⟩
theorem ff_pushError (K : List Nat) (b : B) (n : Nat) : FF K b (b.pushError n) := ⟨B.frame_pushError K b n, B.fx_pushError K b n⟩
theorem ff_exitSection (K : List Nat) (b : B) (i : Nat) (hi : sk i ∈ K)
    (hex : ∀ ex, aget i b.exits = some ex → ∀ e, e ∈ ex → nk e ∈ K) : FF K b (b.exitSection i) :=
  ⟨B.frame_exitSection K b i hi, B.fx_exitSection K b i hex⟩
theorem ff_exitLoopSection (K : List Nat) (b : B) (i : Nat) (hi : sk i ∈ K)
    (hcs : ∀ cs, aget i b.continues = some cs → ∀ c, c ∈ cs → nk c ∈ K) : FF K b (b.exitLoopSection i) :=
  ⟨B.frame_exitLoopSection K b i hi, B.fx_exitLoopSection K b i hcs⟩

/-- A step that creates a node: whatever waits or is started before is started after.  Closed under frame steps before and
after. -/
structure NodeStep (K : List Nat) (b b' : B) : Prop where
  frame : FF K b b'
  starts : ∀ T, sk T ∉ K → Wait b T ∨ Started b T → Started b' T

theorem NodeStep.pre {K : List Nat} {b b1 b' : B} (h1 : FF K b b1) (h2 : NodeStep K b1 b') : NodeStep K b b' :=
  ⟨h1.trans h2.frame, fun T hT h => h2.starts T hT (h.elim (h1.x.wait T hT) (fun hs => Or.inr (started_mono h1.x hT hs)))⟩

theorem NodeStep.post {K : List Nat} {b b1 b' : B} (h1 : NodeStep K b b1) (h2 : FF K b1 b') : NodeStep K b b' :=
  ⟨h1.frame.trans h2, fun T hT h => started_mono h2.x hT (h1.starts T hT h)⟩

theorem NodeStep.weaken {K K' : List Nat} {b b' : B} (h : NodeStep K b b') (hs : ∀ k, k ∈ K → k ∈ K') : NodeStep K' b b' :=
  ⟨h.frame.weaken hs, fun T hT => h.starts T (fun h' => hT (hs _ h'))⟩

theorem ns_addNewNode (K : List Nat) (b : B) (n : Nat) (hn : nk n ∈ K) : NodeStep K b (b.addNewNode n) := by
  refine ⟨⟨B.frame_addNewNode K b n, B.fx_addNewNode K b n hn⟩, fun T hT h => ?_⟩
  rcases h with h | h
  · exact (wait_startedAt_addNewNode n T h).started
  · exact started_mono (B.fx_addNewNode K b n hn) hT h

theorem ns_addOrdinaryNode (K : List Nat) (b : B) (n : Nat) (hn : nk n ∈ K) : NodeStep K b (b.addOrdinaryNode n) :=
  (ns_addNewNode K b n hn).post ⟨B.frame_setLeavesFresh K _ _, B.fx_setLeavesFresh K _ _⟩

theorem ns_addJumpNode (K : List Nat) (b : B) (n : Nat) (gs : List Nat) (hn : nk n ∈ K) : NodeStep K b (b.addJumpNode n gs) :=
  ((ns_addNewNode K b n hn).post ⟨B.frame_setLeavesFresh K _ _, B.fx_setLeavesFresh K _ _⟩).post
    ⟨B.frame_putFinallySections K _ n gs, B.fx_putFinallySections K _ n gs hn⟩

theorem ns_addExitNode (K : List Nat) (b : B) (n sec : Nat) (gs : List Nat) (hn : nk n ∈ K) :
    NodeStep K b (b.addExitNode n sec gs) := by
  refine ⟨⟨B.frame_addExitNode K b n sec gs, B.fx_addExitNode K b n sec gs hn⟩, fun T hT h => ?_⟩
  obtain ⟨p, x⟩ := (ns_addJumpNode K b n gs hn).starts T hT h
  unfold B.addExitNode
  split <;> exact ⟨p, x⟩

theorem ns_addContinueNode (K : List Nat) (b : B) (n sec : Nat) (gs : List Nat) (hn : nk n ∈ K) :
    NodeStep K b (b.addContinueNode n sec gs) := by
  refine ⟨⟨B.frame_addContinueNode K b n sec gs, B.fx_addContinueNode K b n sec gs hn⟩, fun T hT h => ?_⟩
  obtain ⟨p, x⟩ := (ns_addJumpNode K b n gs hn).starts T hT h
  unfold B.addContinueNode
  split <;> exact ⟨p, x⟩

theorem ns_processExit (K : List Nat) (σ : List Scope) (b : B) (n : Nat) (stop : Stop) (v : Bool) (t : Nat) (hn : nk n ∈ K)
    (ht : (enclosingFinally stop σ).1 = some t) : NodeStep K b (processExit σ b n stop v) := by
  unfold processExit
  split
  · rename_i h'; rw [h'] at ht; cases ht
  · split
    · exact (ns_addExitNode K b n _ _ hn).post ⟨B.frame_connectRaiseNode K _ _ _, B.fx_connectRaiseNode K _ _ _⟩
    · exact ns_addExitNode K b n _ _ hn

theorem ns_processContinue (K : List Nat) (σ : List Scope) (b : B) (n : Nat) (t : Nat) (hn : nk n ∈ K)
    (ht : (enclosingFinally .loop σ).1 = some t) : NodeStep K b (processContinue σ b n) := by
  unfold processContinue
  split
  · rename_i h'; rw [h'] at ht; cases ht
  · exact ns_addContinueNode K b n _ _ hn

theorem ns_enterLoopSection (K : List Nat) (b : B) (i entry : Nat) (hi : sk i ∈ K) (he : nk entry ∈ K) :
    NodeStep K b (b.enterLoopSection i entry) :=
  ((ns_addOrdinaryNode K _ entry he).pre
    ⟨(B.frame_check K b _ _).trans (B.frame_putContinues K _ i [] hi), (B.fx_check K b _ _).trans
      (B.fx_putContinues K _ i [] (Or.inl hi) (fun _ h => (List.not_mem_nil h).elim) (fun _ _ h => (List.not_mem_nil h).elim))⟩).post
    ⟨B.frame_putSectionEntry K _ i entry hi, B.fx_putSectionEntry K _ i entry⟩

theorem ns_addOrdinaryNodes (K : List Nat) (b : B) (n : Nat) (ns : List Nat) (h : ∀ x, x ∈ n :: ns → nk x ∈ K) :
    NodeStep K b (addOrdinaryNodes b (n :: ns)) :=
  (ns_addOrdinaryNode K b n (h n (List.mem_cons_self ..))).post
    (ff_addOrdinaryNodes K ns (fun x hx => h x (List.mem_cons_of_mem _ hx)) _)

end Malt.Cfg
