import MaltModel.Rt.Dedent
namespace Malt.Dedent

theorem unfold_pair (r : Str) : unfold ('\\' :: '\n' :: r) = unfold r := by simp [unfold]

theorem unfold_nopair (c d : Char) (r : Str) (h : ¬ (c = '\\' ∧ d = '\n')) :
    unfold (c :: d :: r) = c :: unfold (d :: r) := by simp [unfold, h]

theorem unfold_cons_ne (c : Char) (r : Str) (h : c ≠ '\\') : unfold (c :: r) = c :: unfold r := by
  cases r with
  | nil => simp [unfold]
  | cons d r => simp [unfold, h]

theorem endsBs_cons_cons (c d : Char) (r : Str) : endsBs (c :: d :: r) = endsBs (d :: r) := by
  simp [endsBs]

theorem endsBs_tail {c : Char} {r : Str} (h : endsBs (c :: r) = false) : endsBs r = false := by
  cases r with
  | nil => rfl
  | cons d r => rwa [endsBs_cons_cons] at h

/-- `a` does not end with a backslash, so no backslash-newline straddles the seam -/
theorem unfold_append {a b : Str} (h : endsBs a = false) : unfold (a ++ b) = unfold a ++ unfold b := by
  induction a using unfold.induct with
  | case1 => simp [unfold]
  | case2 c =>
    have hc : c ≠ '\\' := by
      intro he; subst he; simp [endsBs] at h
    simp [unfold, unfold_cons_ne _ _ hc]
  | case3 c d r hcd ih =>
    obtain ⟨rfl, rfl⟩ := hcd
    rw [List.cons_append, List.cons_append, unfold_pair, unfold_pair]
    exact ih (endsBs_tail (endsBs_tail h))
  | case4 c d r hcd ih =>
    have ih' := ih (endsBs_tail h)
    simp only [List.cons_append] at ih' ⊢
    rw [unfold_nopair c d (r ++ b) hcd, ih', unfold_nopair c d r hcd]
    rfl

theorem unfold_of_not_hasCont (s : Str) (h : hasCont s = false) : unfold s = s := by
  induction s using unfold.induct with
  | case1 => rfl
  | case2 c => rfl
  | case3 c d r hcd _ => simp [hasCont, hcd] at h
  | case4 c d r hcd ih =>
    have h' : hasCont (d :: r) = false := by
      simp only [hasCont, Bool.or_eq_false_iff] at h
      exact h.2
    rw [unfold_nopair c d r hcd, ih h']

theorem gapOk_not_endsBs {g : Str} (h : gapOk g = true) : endsBs g = false := by
  induction g using gapOk.induct with
  | case1 => rfl
  | case2 c =>
    simp only [gapOk, isBlank, Bool.or_eq_true, decide_eq_true_eq] at h
    rcases h with h | h <;> subst h <;> rfl
  | case3 c d r hb ih =>
    simp only [gapOk, hb, if_true] at h
    rw [endsBs_cons_cons]
    exact ih h
  | case4 c d r hb ih =>
    simp only [gapOk, hb, Bool.false_eq_true, if_false, Bool.and_eq_true, decide_eq_true_eq] at h
    obtain ⟨⟨rfl, rfl⟩, hr⟩ := h
    cases r with
    | nil => rfl
    | cons x xs =>
      rw [endsBs_cons_cons, endsBs_cons_cons]
      exact ih hr

theorem unfold_renderA (as : List ATok) (h : unfoldSafe as = true) : unfold (renderA as) = renderA (unfoldGaps as) := by
  induction as with
  | nil => simp [renderA, unfoldGaps, unfold]
  | cons a as ih =>
    simp only [unfoldSafe, List.all_cons, Bool.and_eq_true] at h
    obtain ⟨⟨hg, ht⟩, hrest⟩ := h
    have ih' := ih (by simpa [unfoldSafe] using hrest)
    simp only [textSafe, Bool.and_eq_true, Bool.not_eq_true'] at ht
    simp only [renderA, unfoldGaps, List.flatMap_cons, List.map_cons] at ih' ⊢
    rw [List.append_assoc, unfold_append (gapOk_not_endsBs hg), unfold_append ht.2,
      unfold_of_not_hasCont _ ht.1, ih']
    simp

end Malt.Dedent
