import MaltModel.Proofs.ComposeJumps
import MaltModel.Sem.WrappersTarget
import MaltModel.Conv.Pipeline
/-
The semantic pipeline as a fold over the EXTRACTED pass list (`Malt.Gen.Pipeline.steps`, regenerated from
`PyToPy.transform_ast` by tools/extract_pipeline.py): every step name is interpreted as the stage the proved
core has for it.  `C01_pipeline_uses_extracted_order` (Props/C01Compose.lean) compares the unguarded steps with a literal
list, so a reordering, removal or addition of an unguarded pass in /repo breaks it and with it the end-to-end theorem.
-/
namespace Malt.Sem.Jumps
open Malt.Sem

inductive Prog where
  /-- a `Malt.Sem` function body (source, and the output of the jump passes) -/
  | src (b : Block)
  /-- the functionalised program (`Malt.Func.TBlock`, native target semantics `execNB`) -/
  | tgt (t : Func.TBlock)
  /-- the functionalised program with every expression converted (`execNBW`) -/
  | fin (t : Malt.SemW.TBlockW)

/-- `ann`: the annotation the control-flow pass reads; `eqOn`: EQUALITY_OPERATORS. -/
structure PipeCfg where
  genB : Gen
  genC : Gen
  dr : Name
  rv : Name
  ann : Func.Ann
  eqOn : Bool

inductive Step where
  | verify | initialAnalysis | functions | directives
  | breakStatements | continueStatements | returnStatements
  | callTrees | controlFlow | conditionalExpressions | logicalExpressions | variables
  deriving DecidableEq, Repr

def Step.ofName (s : String) : Option Step :=
  if s = "unsupported_features_checker.verify" then some .verify
  else if s = "initial_analysis" then some .initialAnalysis
  else if s = "functions" then some .functions
  else if s = "directives" then some .directives
  else if s = "break_statements" then some .breakStatements
  else if s = "continue_statements" then some .continueStatements
  else if s = "return_statements" then some .returnStatements
  else if s = "call_trees" then some .callTrees
  else if s = "control_flow" then some .controlFlow
  else if s = "conditional_expressions" then some .conditionalExpressions
  else if s = "logical_expressions" then some .logicalExpressions
  else if s = "variables" then some .variables
  else none

/-- `none` if an unguarded step is unknown.  Feature-guarded steps (`asserts`: ASSERT_STATEMENTS, `lists`/`slices`:
LISTS) are dropped: they do not run for the option sets of C01 that the proved core covers. -/
def decodeSteps : List (String × String) → Option (List Step)
  | [] => some []
  | (s, g) :: rest =>
      if g = "" then
        (match Step.ofName s, decodeSteps rest with
         | some st, some r => some (st :: r)
         | _, _ => none)
      else decodeSteps rest

/-- The stage of one pass; `none` = the proved chain does not cover this pass at this position (a jump pass after
functionalisation, an expression pass before it).
* `functions`, `directives`, the analyses and the feature check have no counterpart in `Malt.Sem` (the
  FunctionScope wrapper is transparent for `toSemFn`, Conv/JumpToSem.lean);
* `return_statements` is `lowerReturn`, the second half of the pass: `ConditionalReturnRewriter`, which
  return_statements.py runs first (`rewriteReturns`; `conditional_return_rewrite_correct`, Props/C01Jumps.lean), is
  not part of the stage;
* the four expression passes (`call_trees`, `conditional_expressions`, `logical_expressions`, `variables`) are
  ONE model (`SemW.wrap`, Props/C01Exprs.lean); it is applied where the last of them (`variables`) runs, the
  other two post-functionalisation passes must come after `control_flow`, and `call_trees` — which in /repo
  runs before `control_flow` — is accounted for there too (`wrap_target_correct` covers all four at once). -/
def stage (c : PipeCfg) : Step → Prog → Option Prog
  | .verify, p => some p
  | .initialAnalysis, p => some p
  | .functions, .src b => some (.src b)
  | .directives, .src b => some (.src b)
  | .breakStatements, .src b => some (.src (lowerBreak c.genB b))
  | .continueStatements, .src b => some (.src (lowerContinue c.genC b))
  | .returnStatements, .src b => some (.src (lowerReturn c.dr c.rv b))
  | .callTrees, .src b => some (.src b)
  | .controlFlow, .src b => (Func.func c.ann b).map .tgt
  | .conditionalExpressions, .tgt t => some (.tgt t)
  | .logicalExpressions, .tgt t => some (.tgt t)
  | .variables, .tgt t => some (.fin (Malt.SemW.wrapTB c.eqOn t))
  | _, _ => none

def runStages (c : PipeCfg) : List Step → Prog → Option Prog
  | [], p => some p
  | s :: rest, p => (stage c s p).bind (runStages c rest)

def runSteps (c : PipeCfg) (steps : List (String × String)) (p : Prog) : Option Prog :=
  (decodeSteps steps).bind fun l => runStages c l p

/-- The precedences this fold relies on are among those `C01_pipeline_order` checks on the extracted list. -/
theorem stage_order_required :
    [("break_statements", "continue_statements"), ("continue_statements", "control_flow"),
     ("break_statements", "control_flow"), ("return_statements", "control_flow"),
     ("control_flow", "conditional_expressions"), ("control_flow", "logical_expressions"),
     ("control_flow", "variables")].all (fun p => Malt.Conv.Pipeline.requiredBefore.contains p) = true := by
  decide +kernel

/-! Everything live and declared: sound for every program all of whose names are in `V`. -/

def allInfo (V : List Name) : Func.Info :=
  { liveIn := V, liveOut := V, definedIn := V, declared := V, undefined := [], nouts := 0 }

def annAll (V : List Name) : Func.Ann := fun _ => allInfo V

end Malt.Sem.Jumps
