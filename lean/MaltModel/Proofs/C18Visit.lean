import MaltModel.Proofs.C18Basic
namespace Malt.Anf
open Malt.Py

theorem trivialOnly_ok {w : String} {x : Bool} {r b : Expr × List Stmt × Nat} :
    trivialOnly w x r = .ok b ↔ x = false ∧ r.2.1 = [] ∧ b = r := by
  unfold trivialOnly
  cases x <;> cases h : r.2.1 <;> simp [eq_comm]

/-- The constructs that are accepted only if visiting them creates no statement (`_visit_trivial_only_…`). -/
def isLazyE : Expr → Bool
  | .boolop .. | .ifexp .. | .lambda .. => true
  | .other _ k _ _ => !(k == "Dict" || k == "Slice" || k == "Yield")
  | _ => false

structure VInv (cfg : Config) (e : Expr) (n : Nat) (e' : Expr) (D : List Stmt) (n' : Nat) : Prop where
  hoists : HoistsOk cfg n D n'
  quiet : quiet cfg e' = true
  same : D = [] → e' = e
  /-- a variable stays a variable: for the targets of `C18_temps` -/
  isName : isNameT e' = isNameT e
  kind : kindOf e' = kindOf e
  trivial : isTrivial e' = isTrivial e
  lazy : isLazyE e = true → D = []

structure VsInv (cfg : Config) (es : List Expr) (n : Nat) (es' : List Expr) (D : List Stmt) (n' : Nat) : Prop where
  hoists : HoistsOk cfg n D n'
  quiet : quiets cfg es' = true
  same : D = [] → es' = es
  length : es'.length = es.length

macro "vopen" h:ident : tactic =>
  `(tactic| simp only [visitE, visitEs, bind_ok, Prod.exists] at $h:ident)
macro "vclose" h:ident : tactic =>
  `(tactic| (simp only [pure, Except.pure, Except.ok.injEq, Prod.mk.injEq, trivialOnly_ok] at $h:ident))

theorem Sat.trivialOnly {w : String} {x : Bool} {r : Expr × List Stmt × Nat} {Q : Expr × List Stmt × Nat → Prop}
    (h : x = false → r.2.1 = [] → Q r) : Sat (trivialOnly w x r) Q := fun _ hb =>
  let ⟨hx, hnil, e⟩ := trivialOnly_ok.mp hb
  e ▸ h hx hnil

theorem Sat.cons {cfg : Config} {e : Expr} {es : List Expr} {n : Nat} {P Q : _ → Prop} (he : Sat (visitE cfg e n) P)
    (hes : ∀ e1 d1 n1, P (e1, d1, n1) → Sat (visitEs cfg es n1) fun (es1, d2, n2) => Q (e1 :: es1, d1 ++ d2, n2)) :
    Sat (visitEs cfg (e :: es) n) Q := by
  unfold visitEs
  exact .bind he fun (e1, d1, n1) hp => .bind (hes e1 d1 n1 hp) fun (es1, d2, n2) hq => .pure hq

theorem Sat.one {cfg : Config} {v : Expr} {n : Nat} {P : Expr × List Stmt × Nat → Prop} (h : Sat (visitE cfg v n) P) :
    Sat (visitEs cfg [v] n) fun (vs, D, n1) => ∃ v1, vs = [v1] ∧ P (v1, D, n1) :=
  .cons h fun v1 d1 n1 hp => .pure ⟨v1, rfl, by rwa [List.append_nil]⟩

theorem visitEs_cons_ok {cfg : Config} {e : Expr} {es : List Expr} {n : Nat} {e1 : Expr} {d1 : List Stmt} {n1 : Nat}
    {es1 : List Expr} {d2 : List Stmt} {n2 : Nat} (h1 : visitE cfg e n = .ok (e1, d1, n1))
    (h2 : visitEs cfg es n1 = .ok (es1, d2, n2)) : visitEs cfg (e :: es) n = .ok (e1 :: es1, d1 ++ d2, n2) := by
  simp [visitEs, h1, h2, bind, Except.bind, pure, Except.pure]

theorem ensureList_length (cfg : Config) (pk fld : String) : ∀ (xs : List Expr) (n : Nat),
    (ensureList cfg pk fld xs n).1.length = xs.length
  | [], n => by simp [ensureList]
  | x :: xs, n => by simp [ensureList, ensureList_length cfg pk fld xs]

theorem quiets_append (cfg : Config) : ∀ (a b : List Expr), quiets cfg (a ++ b) = (quiets cfg a && quiets cfg b)
  | [], b => by simp [quiets]
  | x :: a, b => by simp [quiets, quiets_append cfg a b, Bool.and_assoc]

theorem quiets_take_drop (cfg : Config) (k : Nat) (l : List Expr) :
    quiets cfg l = (quiets cfg (l.take k) && quiets cfg (l.drop k)) := by
  rw [← quiets_append, List.take_append_drop]

theorem take_drop_rebuild {α : Type} (k : Nat) (l a b : List α) (ha : a.length = (l.take k).length)
    (hb : b.length = (l.drop k).length) : (a ++ b).take k = a ∧ (a ++ b).drop k = b := by
  simp only [List.length_take, List.length_drop] at ha hb
  by_cases hk : k ≤ l.length
  · have : a.length = k := by omega
    subst this
    simp
  · have hb0 : b = [] := List.eq_nil_of_length_eq_zero (by omega)
    subst hb0
    have : a.length ≤ k := by omega
    simp [List.take_of_length_le this, List.drop_of_length_le this]

mutual
theorem visitE_sat (cfg : Config) : ∀ (e : Expr) (n : Nat),
    Sat (visitE cfg e n) fun (e', D, n') => VInv cfg e n e' D n'
  | .name .. | .const .. | .noneMarker => fun n => Sat.pure ⟨rfl, rfl, fun _ => rfl, rfl, rfl, rfl, nofun⟩
  | .attr i v a c => fun n => by
      unfold visitE
      refine .bind (visitE_sat cfg v n) fun (v1, d1, n1) iv => .pure ?_
      have he := ensure_spec cfg "Attribute" "value" _ n1 iv.quiet
      refine ⟨iv.hoists.append he.hoists, by simp [quiet, he.quiet, he.ok], fun hd => ?_, rfl, rfl, rfl, nofun⟩
      obtain ⟨hd1, hd2⟩ := List.append_eq_nil_iff.mp hd
      rw [he.same hd2, iv.same hd1]
  | .subscript i v s c => fun n => by
      unfold visitE
      refine .bind (visitE_sat cfg v n) fun (v1, d1, n1) iv => .bind (visitE_sat cfg s n1) fun (s1, d2, n2) is => .pure ?_
      have he1 := ensure_spec cfg "Subscript" "value" _ n2 iv.quiet
      have he2 := ensure_spec cfg "Subscript" "slice" _ (ensure cfg "Subscript" "value" v1 n2).2.2 is.quiet
      refine ⟨((iv.hoists.append is.hoists).append he1.hoists).append he2.hoists,
        by simp [quiet, he1.quiet, he1.ok, he2.quiet, he2.ok], fun hd => ?_, rfl, rfl, rfl, nofun⟩
      simp only [List.append_eq_nil_iff] at hd
      obtain ⟨⟨⟨a1, a2⟩, a3⟩, a4⟩ := hd
      rw [he1.same a3, he2.same a4, iv.same a1, is.same a2]
  | .call i f as ks => fun n => by
      unfold visitE
      refine .bind (visitE_sat cfg f n) fun (f1, d1, n1) i1 => .bind (visitEs_sat cfg as n1) fun (as1, d2, n2) i2 =>
        .bind (visitEs_sat cfg ks n2) fun (ks1, d3, n3) i3 => .pure ?_
      have he1 := ensure_spec cfg "Call" "func" _ n3 i1.quiet
      have he2 := ensureList_spec cfg "Call" "args" _ (ensure cfg "Call" "func" f1 n3).2.2 i2.quiet
      have he3 := ensureList_spec cfg "Call" "keywords" _ (ensureList cfg "Call" "args" as1 (ensure cfg "Call" "func" f1 n3).2.2).2.2
        i3.quiet
      refine ⟨((((i1.hoists.append i2.hoists).append i3.hoists).append he1.hoists).append he2.hoists).append he3.hoists,
        by simp [quiet, he1.quiet, he1.ok, he2.quiet, he2.ok, he3.quiet, he3.ok], fun hd => ?_, rfl, rfl, rfl, nofun⟩
      simp only [List.append_eq_nil_iff] at hd
      obtain ⟨⟨⟨⟨⟨a1, a2⟩, a3⟩, a4⟩, a5⟩, a6⟩ := hd
      rw [he1.same a4, he2.same a5, he3.same a6, i1.same a1, i2.same a2, i3.same a3]
  | .keyword _ _ _ v | .starred _ v _ => fun n => by
      unfold visitE
      refine .bind (visitE_sat cfg v n) fun (v1, d1, n1) iv => .pure ?_
      exact ⟨iv.hoists, by simp [quiet, iv.quiet], fun hd => by rw [iv.same hd], rfl, rfl, rfl, nofun⟩
  | .boolop i isAnd vs => fun n => by
      unfold visitE
      refine .bind (visitEs_sat cfg vs n) fun (vs1, d1, n1) iv => .trivialOnly fun hp hnil => ?_
      have he := ensureList_spec cfg "BoolOp" "values" _ n1 iv.quiet
      simp only [pseudoSelected] at hp
      refine ⟨iv.hoists.append he.hoists, by simp [quiet, he.quiet, he.ok, hp], fun hd => ?_, rfl, rfl, rfl, fun _ => hnil⟩
      obtain ⟨hd1, hd2⟩ := List.append_eq_nil_iff.mp hd
      rw [he.same hd2, iv.same hd1]
  | .unary i op v => fun n => by
      unfold visitE
      refine .bind (visitE_sat cfg v n) fun (v1, d1, n1) iv => .pure ?_
      have he := ensure_spec cfg "UnaryOp" "operand" _ n1 iv.quiet
      refine ⟨iv.hoists.append he.hoists, by simp [quiet, he.quiet, he.ok], fun hd => ?_, rfl, rfl, rfl, nofun⟩
      obtain ⟨hd1, hd2⟩ := List.append_eq_nil_iff.mp hd
      rw [he.same hd2, iv.same hd1]
  | .binop i op l r => fun n => by
      unfold visitE
      refine .guard fun hmm => .bind (visitE_sat cfg l n) fun (v1, d1, n1) iv => .bind (visitE_sat cfg r n1) fun (s1, d2, n2) is =>
        .pure ?_
      have he1 := ensure_spec cfg "BinOp" "left" _ n2 iv.quiet
      have he2 := ensure_spec cfg "BinOp" "right" _ (ensure cfg "BinOp" "left" v1 n2).2.2 is.quiet
      refine ⟨((iv.hoists.append is.hoists).append he1.hoists).append he2.hoists,
        by simp [quiet, he1.quiet, he1.ok, he2.quiet, he2.ok, hmm], fun hd => ?_, rfl, rfl, rfl, nofun⟩
      simp only [List.append_eq_nil_iff] at hd
      obtain ⟨⟨⟨a1, a2⟩, a3⟩, a4⟩ := hd
      rw [he1.same a3, he2.same a4, iv.same a1, is.same a2]
  | .compare i l ops rs => fun n => by
      unfold visitE
      refine .guard fun hlen => .bind (visitE_sat cfg l n) fun (v1, d1, n1) iv => .bind (visitEs_sat cfg rs n1) fun (s1, d2, n2) is =>
        .pure ?_
      have he1 := ensure_spec cfg "Compare" "left" _ n2 iv.quiet
      have he2 := ensureList_spec cfg "Compare" "comparators" _ (ensure cfg "Compare" "left" v1 n2).2.2 is.quiet
      refine ⟨((iv.hoists.append is.hoists).append he1.hoists).append he2.hoists,
        by simp [quiet, he1.quiet, he1.ok, he2.quiet, he2.ok, hlen], fun hd => ?_, rfl, rfl, rfl, nofun⟩
      simp only [List.append_eq_nil_iff] at hd
      obtain ⟨⟨⟨a1, a2⟩, a3⟩, a4⟩ := hd
      rw [he1.same a3, he2.same a4, iv.same a1, is.same a2]
  | .ifexp i t b e => fun n => by
      unfold visitE
      refine .bind (visitE_sat cfg t n) fun (t1, d1, n1) i1 => .bind (visitE_sat cfg b n1) fun (b1, d2, n2) i2 =>
        .bind (visitE_sat cfg e n2) fun (e1, d3, n3) i3 => .trivialOnly fun _ hnil => ?_
      have he1 := ensure_spec cfg "IfExp" "test" _ n3 i1.quiet
      have he2 := ensure_spec cfg "IfExp" "body" _ (ensure cfg "IfExp" "test" t1 n3).2.2 i2.quiet
      have he3 := ensure_spec cfg "IfExp" "orelse" _ (ensure cfg "IfExp" "body" b1 (ensure cfg "IfExp" "test" t1 n3).2.2).2.2 i3.quiet
      refine ⟨((((i1.hoists.append i2.hoists).append i3.hoists).append he1.hoists).append he2.hoists).append he3.hoists,
        by simp [quiet, he1.quiet, he1.ok, he2.quiet, he2.ok, he3.quiet, he3.ok], fun hd => ?_, rfl, rfl, rfl, fun _ => hnil⟩
      simp only [List.append_eq_nil_iff] at hd
      obtain ⟨⟨⟨⟨⟨a1, a2⟩, a3⟩, a4⟩, a5⟩, a6⟩ := hd
      rw [he1.same a4, he2.same a5, he3.same a6, i1.same a1, i2.same a2, i3.same a3]
  | .lambda i as b => fun n => by
      unfold visitE
      refine .bind (visitE_sat cfg as n) fun (v1, d1, n1) iv => .bind (visitE_sat cfg b n1) fun (s1, d2, n2) is =>
        .trivialOnly fun hp hnil => ?_
      have he1 := ensure_spec cfg "Lambda" "body" _ n2 is.quiet
      simp only [pseudoSelected] at hp
      refine ⟨(iv.hoists.append is.hoists).append he1.hoists,
        by simp [quiet, he1.quiet, he1.ok, iv.quiet, hp], fun hd => ?_, rfl, rfl, rfl, fun _ => hnil⟩
      simp only [List.append_eq_nil_iff] at hd
      obtain ⟨⟨a1, a2⟩, a3⟩ := hd
      rw [he1.same a3, iv.same a1, is.same a2]
  | .seq i .set es c => fun n => by
      unfold visitE
      refine .bind (visitEs_sat cfg es n) fun (vs1, d1, n1) iv => .pure ?_
      have he := ensureList_spec cfg "Set" "elts" _ n1 iv.quiet
      refine ⟨iv.hoists.append he.hoists, by simp [quiet, he.quiet, he.ok], fun hd => ?_, rfl, rfl, rfl, nofun⟩
      obtain ⟨hd1, hd2⟩ := List.append_eq_nil_iff.mp hd
      rw [he.same hd2, iv.same hd1]
  | .seq i .tuple es c => fun n => by
      unfold visitE
      refine .bind (visitEs_sat cfg es n) fun (vs1, d1, n1) iv => .ite (fun hc => .pure ?_) (fun _ => .pure ?_)
      · exact ⟨iv.hoists, by simp [quiet, iv.quiet, hc], fun hd => by rw [iv.same hd], rfl, rfl, rfl, nofun⟩
      · have he := ensureList_spec cfg "Tuple" "elts" _ n1 iv.quiet
        refine ⟨iv.hoists.append he.hoists, by simp [quiet, he.quiet, he.ok], fun hd => ?_, rfl, rfl, rfl, nofun⟩
        obtain ⟨hd1, hd2⟩ := List.append_eq_nil_iff.mp hd
        rw [he.same hd2, iv.same hd1]
  | .seq i .list es c => fun n => by
      unfold visitE
      refine .bind (visitEs_sat cfg es n) fun (vs1, d1, n1) iv => .ite (fun hc => .pure ?_) (fun _ => .pure ?_)
      · exact ⟨iv.hoists, by simp [quiet, iv.quiet, hc], fun hd => by rw [iv.same hd], rfl, rfl, rfl, nofun⟩
      · have he := ensureList_spec cfg "List" "elts" _ n1 iv.quiet
        refine ⟨iv.hoists.append he.hoists, by simp [quiet, he.quiet, he.ok], fun hd => ?_, rfl, rfl, rfl, nofun⟩
        obtain ⟨hd1, hd2⟩ := List.append_eq_nil_iff.mp hd
        rw [he.same hd2, iv.same hd1]
  | .namedexpr i t v => fun n => by
      unfold visitE
      refine .bind (visitE_sat cfg t n) fun (v1, d1, n1) iv => .bind (visitE_sat cfg v n1) fun (s1, d2, n2) is => .pure ?_
      refine ⟨iv.hoists.append is.hoists, by simp [quiet, iv.quiet, is.quiet], fun hd => ?_, rfl, rfl, rfl, nofun⟩
      obtain ⟨hd1, hd2⟩ := List.append_eq_nil_iff.mp hd
      rw [iv.same hd1, is.same hd2]
  | .comp .. => fun n => Sat.error
  | .comprehension i t it ifs a => fun n => by
      unfold visitE
      refine .bind (visitE_sat cfg t n) fun (t1, d1, n1) i1 => .bind (visitE_sat cfg it n1) fun (b1, d2, n2) i2 =>
        .bind (visitEs_sat cfg ifs n2) fun (e1, d3, n3) i3 => .pure ?_
      refine ⟨(i1.hoists.append i2.hoists).append i3.hoists,
        by simp [quiet, i1.quiet, i2.quiet, i3.quiet], fun hd => ?_, rfl, rfl, rfl, nofun⟩
      simp only [List.append_eq_nil_iff] at hd
      obtain ⟨⟨a1, a2⟩, a3⟩ := hd
      rw [i1.same a1, i2.same a2, i3.same a3]
  | .arguments i po ar va ko kd kw df => fun n => by
      unfold visitE
      refine .bind (visitEs_sat cfg po n) fun (x1, d1, n1) i1 => .bind (visitEs_sat cfg ar n1) fun (x2, d2, n2) i2 =>
        .bind (visitEs_sat cfg va n2) fun (x3, d3, n3) i3 => .bind (visitEs_sat cfg ko n3) fun (x4, d4, n4) i4 =>
        .bind (visitEs_sat cfg kd n4) fun (x5, d5, n5) i5 => .bind (visitEs_sat cfg kw n5) fun (x6, d6, n6) i6 =>
        .bind (visitEs_sat cfg df n6) fun (x7, d7, n7) i7 => .pure ?_
      refine ⟨(((((i1.hoists.append i2.hoists).append i3.hoists).append i4.hoists).append i5.hoists).append i6.hoists).append i7.hoists,
        by simp [quiet, i1.quiet, i2.quiet, i3.quiet, i4.quiet, i5.quiet, i6.quiet, i7.quiet], fun hd => ?_, rfl, rfl, rfl, nofun⟩
      simp only [List.append_eq_nil_iff] at hd
      obtain ⟨⟨⟨⟨⟨⟨a1, a2⟩, a3⟩, a4⟩, a5⟩, a6⟩, a7⟩ := hd
      rw [i1.same a1, i2.same a2, i3.same a3, i4.same a4, i5.same a5, i6.same a6, i7.same a7]
  | .arg i nm an => fun n => by
      unfold visitE
      refine .bind (visitEs_sat cfg an n) fun (v1, d1, n1) iv => .pure ?_
      exact ⟨iv.hoists, by simp [quiet, iv.quiet], fun hd => by rw [iv.same hd], rfl, rfl, rfl, nofun⟩
  | .withitem i ce ov => fun n => by
      unfold visitE
      refine .bind (visitE_sat cfg ce n) fun (v1, d1, n1) iv => .bind (visitEs_sat cfg ov n1) fun (s1, d2, n2) is => .pure ?_
      refine ⟨iv.hoists.append is.hoists, by simp [quiet, iv.quiet, is.quiet], fun hd => ?_, rfl, rfl, rfl, nofun⟩
      obtain ⟨hd1, hd2⟩ := List.append_eq_nil_iff.mp hd
      rw [iv.same hd1, is.same hd2]
  | .other i k ats ks => fun n => by
      unfold visitE
      refine .ite (fun hk0 => ?dict) fun hk0 => .ite (fun hk1 => ?slice) fun hk1 => .ite (fun hk2 => ?yield) fun hk2 =>
        .ite (fun hk3 => ?lazy) fun hk3 => .ite (fun hk4 => ?joined) fun hk4 => .ite (fun hk5 => ?fvalue) fun _ => .error
      case dict =>
        refine .bind (visitEs_sat cfg ks n) fun (ks1, d1, n1) iv => .pure ?_
        have hq := iv.quiet
        rw [quiets_take_drop cfg (dictNk ats), Bool.and_eq_true] at hq
        have he1 := ensureList_spec cfg "Dict" "keys" _ n1 hq.1
        have hl1 := ensureList_length cfg "Dict" "keys" (ks1.take (dictNk ats)) n1
        generalize ensureList cfg "Dict" "keys" (ks1.take (dictNk ats)) n1 = r1 at he1 hl1 ⊢
        have he2 := ensureList_spec cfg "Dict" "values" _ r1.2.2 hq.2
        have hl2 := ensureList_length cfg "Dict" "values" (ks1.drop (dictNk ats)) r1.2.2
        generalize ensureList cfg "Dict" "values" (ks1.drop (dictNk ats)) r1.2.2 = r2 at he2 hl2 ⊢
        have hr := take_drop_rebuild _ ks1 r1.1 r2.1 hl1 hl2
        refine ⟨(iv.hoists.append he1.hoists).append he2.hoists, ?_, fun hd => ?_, rfl, rfl, rfl, fun hl => by simp [isLazyE, hk0] at hl⟩
        · simp only [quiet, hk0, if_true, hr.1, hr.2, quiets_append, he1.quiet, he1.ok, he2.quiet, he2.ok,
            Bool.and_self]
        · simp only [List.append_eq_nil_iff] at hd
          obtain ⟨⟨a1, a2⟩, a3⟩ := hd
          rw [he1.same a2, he2.same a3, List.take_append_drop, iv.same a1]
      case slice =>
        refine .bind (visitEs_sat cfg ks n) fun (ks1, d1, n1) iv => .pure ?_
        exact ⟨iv.hoists, by simp [quiet, hk0, hk1, iv.quiet], fun hd => by rw [iv.same hd], rfl, rfl, rfl,
          fun hl => by simp [isLazyE, hk1] at hl⟩
      case yield =>
        refine .bind (visitEs_sat cfg ks n) fun (ks1, d1, n1) iv => .pure ?_
        have he := ensureList_spec cfg "Yield" "value" _ n1 iv.quiet
        refine ⟨iv.hoists.append he.hoists, by simp [quiet, hk0, hk1, hk2, he.quiet, he.ok], fun hd => ?_, rfl, rfl, rfl,
          fun hl => by simp [isLazyE, hk2] at hl⟩
        obtain ⟨hd1, hd2⟩ := List.append_eq_nil_iff.mp hd
        rw [he.same hd2, iv.same hd1]
      case lazy =>
        refine .bind (visitEs_sat cfg ks n) fun (ks1, d1, n1) iv => .trivialOnly fun _ hnil => ?_
        have he := ensureList_spec cfg k "value" _ n1 iv.quiet
        refine ⟨iv.hoists.append he.hoists, ?_, fun hd => ?_, rfl, rfl, rfl, fun _ => hnil⟩
        · simp only [quiet, hk0, hk1, hk2, hk3, if_true, he.quiet, he.ok, Bool.and_self]; simp
        · obtain ⟨hd1, hd2⟩ := List.append_eq_nil_iff.mp hd
          rw [he.same hd2, iv.same hd1]
      case joined =>
        refine .bind (visitEs_sat cfg ks n) fun (ks1, d1, n1) iv => .trivialOnly fun _ hnil => ?_
        have he := ensureList_spec cfg k "values" _ n1 iv.quiet
        refine ⟨iv.hoists.append he.hoists, ?_, fun hd => ?_, rfl, rfl, rfl, fun _ => hnil⟩
        · simp only [quiet, hk0, hk1, hk2, hk3, hk4, if_true, he.quiet, he.ok, Bool.and_self]; simp
        · obtain ⟨hd1, hd2⟩ := List.append_eq_nil_iff.mp hd
          rw [he.same hd2, iv.same hd1]
      case fvalue =>
        refine .bind (visitEs_sat cfg ks n) fun (ks1, d1, n1) iv => .guard fun hconv => .trivialOnly fun _ hnil => ?_
        have hq := iv.quiet
        rw [quiets_take_drop cfg 1, Bool.and_eq_true] at hq
        have he1 := ensureList_spec cfg k "value" _ n1 hq.1
        have hl1 := ensureList_length cfg k "value" (ks1.take 1) n1
        generalize ensureList cfg k "value" (ks1.take 1) n1 = r1 at he1 hl1 hnil ⊢
        have he2 := ensureList_spec cfg k "format_spec" _ r1.2.2 hq.2
        have hl2 := ensureList_length cfg k "format_spec" (ks1.drop 1) r1.2.2
        generalize ensureList cfg k "format_spec" (ks1.drop 1) r1.2.2 = r2 at he2 hl2 hnil ⊢
        have hr := take_drop_rebuild _ ks1 r1.1 r2.1 hl1 hl2
        refine ⟨(iv.hoists.append he1.hoists).append he2.hoists, ?_, fun hd => ?_, rfl, rfl, rfl, fun _ => hnil⟩
        · simp only [quiet, hk0, hk1, hk2, hk3, hk4, hk5, if_true, hr.1, hr.2, quiets_append, he1.quiet,
            he1.ok, he2.quiet, he2.ok, Bool.and_self]
          simpa using hconv
        · simp only [List.append_eq_nil_iff] at hd
          obtain ⟨⟨a1, a2⟩, a3⟩ := hd
          rw [he1.same a2, he2.same a3, List.take_append_drop, iv.same a1]
theorem visitEs_sat (cfg : Config) : ∀ (es : List Expr) (n : Nat),
    Sat (visitEs cfg es n) fun (es', D, n') => VsInv cfg es n es' D n'
  | [] => fun n => Sat.pure ⟨rfl, rfl, fun _ => rfl, rfl⟩
  | e :: es => fun n => by
      refine .cons (visitE_sat cfg e n) fun e1 d1 n1 iv => (visitEs_sat cfg es n1).mono fun (es1, d2, n2) is => ?_
      refine ⟨iv.hoists.append is.hoists, by simp [quiets, iv.quiet, is.quiet], fun hd => ?_, congrArg (· + 1) is.length⟩
      obtain ⟨hd1, hd2⟩ := List.append_eq_nil_iff.mp hd
      rw [iv.same hd1, is.same hd2]
end

theorem visitE_inv {cfg : Config} {e : Expr} {n : Nat} {e' : Expr} {D : List Stmt} {n' : Nat}
    (h : visitE cfg e n = .ok (e', D, n')) : VInv cfg e n e' D n' := visitE_sat cfg e n _ h

theorem visitEs_inv {cfg : Config} {es : List Expr} {n : Nat} {es' : List Expr} {D : List Stmt} {n' : Nat}
    (h : visitEs cfg es n = .ok (es', D, n')) : VsInv cfg es n es' D n' := visitEs_sat cfg es n _ h

theorem visitEs_length {cfg : Config} {es : List Expr} {n : Nat} {es' : List Expr} {D : List Stmt} {n' : Nat}
    (h : visitEs cfg es n = .ok (es', D, n')) : es'.length = es.length := (visitEs_inv h).length

end Malt.Anf
