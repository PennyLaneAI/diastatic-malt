import MaltModel.Proofs.C04Traverse
import MaltModel.Conv.CallTrees
namespace Malt.C04
open Malt.Py Malt.Conv Malt.Conv.NoNative

def CF (l : List Off) : Prop := ∀ o ∈ l, o.kind ≠ "Call"

theorem CF_nil : CF [] := nofun
theorem CF_append {a b : List Off} : CF (a ++ b) ↔ CF a ∧ CF b := List.forall_mem_append
theorem CF_ite_other {c : Bool} {k : String} {i : Nat} {d : String} (hk : k ≠ "Call") :
    CF (if c then [] else [⟨k, i, d⟩]) := by
  cases c <;> simp [CF, hk]

theorem CF.append {a b : List Off} (ha : CF a) (hb : CF b) : CF (a ++ b) := CF_append.mpr ⟨ha, hb⟩
theorem CF.cons {k : String} {i : Nat} {d : String} {l : List Off} (hk : k ≠ "Call") (h : CF l) : CF (⟨k, i, d⟩ :: l) :=
  List.forall_mem_cons.mpr ⟨hk, h⟩
theorem CF_ite_not (op : String) (i : Nat) : CF (if op == "Not" then [⟨"Not", i, ""⟩] else []) := by
  split
  · exact CF.cons (by decide) CF_nil
  · exact CF_nil

/-- E2: inside a with-item (`w = true`) no call is reported -/
theorem withItem_CF (cfg : Cfg) (sc : List String) (e : Expr) (pos : Pos) : CF (offE cfg sc true pos e) :=
  forall_mem_offE (R := fun _ => True) (fun _ _ _ _ => trivial)
    (fun _ _ _ _ ho => (own_kind_cases ho).elim (fun hc => nomatch hc.2) (·.1)) e pos trivial

theorem withItems_CF (cfg : Cfg) (sc : List String) (es : List Expr) (ps : List Pos) : CF (offEs cfg sc true ps es) :=
  forall_mem_offEs (fun e _ pos => withItem_CF cfg sc e pos) ps

theorem sliceKind_lit {e : Expr} {r : String} (h : sliceKind e = .lit r) : ∃ i k, e = .const i k r := by
  cases e with
  | const i k r' =>
      simp only [sliceKind] at h
      split at h
      · cases h
      · cases h; exact ⟨i, k, rfl⟩
  | seq i k es c => simp only [sliceKind] at h; split at h <;> cases h
  | other i k ats ks => simp only [sliceKind] at h; split at h <;> cases h
  | _ => cases h

/-- an expression that has a qualified name contains no call -/
theorem qn_spec (env : CallTrees.Env) (ctx : String) (e : Expr) :
    ∀ s, qnStr e = some s → CallTrees.visitE env ctx e = e ∧ calleeQn e = some s := by
  -- the clauses of `qnStr`: name; attribute; subscript whose slice has no QN / is a literal / has a QN, with both QNs or not; other
  fun_induction qnStr e with
  | case1 i s c => intro _ h; exact ⟨by simp [CallTrees.visitE], h⟩
  | case2 i v a c ih =>
      intro s h
      obtain ⟨b, hb, rfl⟩ := Option.map_eq_some_iff.mp h
      obtain ⟨h1, h2⟩ := ih b hb
      exact ⟨by simp [CallTrees.visitE, h1], by simp only [calleeQn, h2, Option.map_some]⟩
  | case3 i v sl c hk => intro s h; cases h
  | case4 i v sl c r hk ih =>
      intro s h
      obtain ⟨b, hb, rfl⟩ := Option.map_eq_some_iff.mp h
      obtain ⟨i', k', rfl⟩ := sliceKind_lit hk
      obtain ⟨h1, h2⟩ := ih b hb
      exact ⟨by simp [CallTrees.visitE, h1], by simp only [calleeQn, hk, h2, Option.map_some]⟩
  | case5 i v sl c hk x b hb hx ihs ihv =>
      intro s h
      obtain ⟨s1, s2⟩ := ihs x hx
      obtain ⟨v1, v2⟩ := ihv b hb
      exact ⟨by simp [CallTrees.visitE, s1, v1], by simp only [calleeQn, hk, s2, v2]; exact h⟩
  | case6 i v sl c hk hno ihs ihv => intro s h; cases h
  | case7 t h1 h2 h3 => intro s h; cases h

theorem qnStr_adjustCtx : ∀ (e : Expr) (ov : Option Ctx), qnStr (adjustCtx ov e) = qnStr e := by
  intro e
  fun_induction qnStr e with
  | case1 i s c => intro ov; rfl
  | case2 i v a c ih => intro ov; simp only [adjustCtx, qnStr, ih]
  | case3 i v sl c hk => intro ov; simp only [adjustCtx, qnStr, sliceKind_adjustCtx, hk]
  | case4 i v sl c r hk ih => intro ov; simp only [adjustCtx, qnStr, sliceKind_adjustCtx, hk, ih]
  | case5 i v sl c hk x b hb hx ihs ihv => intro ov; simp only [adjustCtx, qnStr, sliceKind_adjustCtx, hk, ihs, ihv, hb, hx]
  | case6 i v sl c hk hno ihs ihv =>
      intro ov
      simp only [adjustCtx, qnStr, sliceKind_adjustCtx, hk, ihs, ihv]
  | case7 t h1 h2 h3 =>
      intro ov
      cases t with
      | name i s c => exact (h1 i s c rfl).elim
      | attr i v a c => exact (h2 i v a c rfl).elim
      | subscript i v s c => exact (h3 i v s c rfl).elim
      | seq i k es c => cases k <;> rfl
      | _ => rfl

/-! E7: the argument packing of `converted_call` -/
theorem offEs_nil_append (cfg : Cfg) (sc : List String) (w : Bool) (a b : List Expr) :
    offEs cfg sc w [] (a ++ b) = offEs cfg sc w [] a ++ offEs cfg sc w [] b := by
  rw [offEs_nil, offEs_nil, offEs_nil, List.flatMap_append]

theorem tupleCall_CF (cfg : Cfg) (sc : List String) (w : Bool) (v : Expr) (hv : CF (offE cfg sc w .normal v)) :
    CF (offE cfg sc w .packA (.call 0 (nm "tuple") [v] [])) := by
  have hok : callOk cfg sc w .packA (nm "tuple") [v] [] = true := by simp [callOk, packOk, isNameOf, ldName, nm]
  rw [offE_call_ok hok (q := "tuple") rfl, offE_nm, (by decide : argPositions "tuple" = [])]
  simpa [offEs, headPos] using hv

theorem consume_CF (cfg : Cfg) (sc : List String) (w : Bool) (acc spec : List Expr)
    (ha : CF (offEs cfg sc w [] acc)) (hs : ∀ x ∈ spec, CF (offE cfg sc w .packA x)) :
    ∀ x ∈ CallTrees.consume acc spec, CF (offE cfg sc w .packA x) := by
  unfold CallTrees.consume
  split
  · exact hs
  · intro x hx
    rcases List.mem_append.mp hx with h | h
    · exact hs x h
    · simp at h; subst h; simpa [offE] using ha

theorem argSpec_CF (cfg : Cfg) (sc : List String) (w : Bool) :
    ∀ (args acc spec : List Expr), CF (offEs cfg sc w [] acc) → (∀ x ∈ spec, CF (offE cfg sc w .packA x)) →
      CF (offEs cfg sc w [] args) → ∀ x ∈ CallTrees.argSpec acc spec args, CF (offE cfg sc w .packA x)
  | [], acc, spec, ha, hs, _ => by
      simp only [CallTrees.argSpec]; exact consume_CF cfg sc w acc spec ha hs
  | a :: rest, acc, spec, ha, hs, hargs => by
      simp only [offEs, headPos, List.tail_nil, CF_append] at hargs
      cases a
      case starred i v c =>
        simp only [CallTrees.argSpec]
        refine argSpec_CF cfg sc w rest [] _ (by simp [offEs, CF_nil]) ?_ hargs.2
        intro x hx
        rcases List.mem_append.mp hx with h | h
        · exact consume_CF cfg sc w acc spec ha hs x h
        · simp at h; subst h
          exact tupleCall_CF cfg sc w v (by simpa [offE] using hargs.1)
      all_goals
        simp only [CallTrees.argSpec]
        refine argSpec_CF cfg sc w rest _ spec ?_ hs hargs.2
        rw [offEs_nil_append, CF_append]
        exact ⟨ha, by simpa [offEs, headPos] using hargs.1⟩

theorem addAll_CF (cfg : Cfg) (sc : List String) (w : Bool) :
    ∀ (xs : List Expr) (r : Expr), CF (offE cfg sc w .packA r) → (∀ x ∈ xs, CF (offE cfg sc w .packA x)) →
      CF (offE cfg sc w .packA (CallTrees.addAll r xs))
  | [], r, hr, _ => by simpa [CallTrees.addAll] using hr
  | x :: xs, r, hr, hx => by
      simp only [CallTrees.addAll]
      refine addAll_CF cfg sc w xs _ ?_ (fun y hy => hx y (List.mem_cons_of_mem _ hy))
      have hk : kidPos .packA "Add" = .packA := by decide
      simp only [offE, hk, CF_append]
      exact ⟨hr, hx x (List.mem_cons_self ..)⟩

theorem argsToTuple_CF (cfg : Cfg) (sc : List String) (w : Bool) (args : List Expr)
    (h : CF (offEs cfg sc w [] args)) : CF (offE cfg sc w .packA (CallTrees.argsToTuple args)) := by
  unfold CallTrees.argsToTuple
  have hs := argSpec_CF cfg sc w args [] [] (by simp [offEs, CF_nil]) (by intro x hx; cases hx) h
  split
  · simp [offE, offEs, CF_nil]
  · rename_i x xs heq
    rw [heq] at hs
    exact addAll_CF cfg sc w xs x (hs x (List.mem_cons_self ..)) (fun y hy => hs y (List.mem_cons_of_mem _ hy))

theorem kwargsToDict_CF (cfg : Cfg) (sc : List String) (w : Bool) (kws : List Expr)
    (h : CF (offEs cfg sc w [] kws)) : CF (offE cfg sc w .packK (CallTrees.kwargsToDict kws)) := by
  unfold CallTrees.kwargsToDict
  split
  · simp [noneConst, offE, CF_nil]
  · have hok : callOk cfg sc w .packK (nm "dict") [] kws = true := by simp [callOk, packOk, isNameOf, ldName, nm]
    rw [offE_call_ok hok (q := "dict") rfl, offE_nm]
    simpa [offEs] using h

theorem convertedCall_CF (cfg : Cfg) (sc : List String) (w : Bool) (pos : Pos) (ctx : String) (f : Expr) (as ks : List Expr)
    (hf : CF (offE cfg sc w .normal f)) (ha : CF (offEs cfg sc w [] as)) (hk : CF (offEs cfg sc w [] ks)) :
    CF (offE cfg sc w pos (CallTrees.convertedCall ctx f as ks)) := by
  unfold CallTrees.convertedCall
  have hq : (calleeQn (ag "converted_call")).getD "" = "ag__.converted_call" := by decide
  have hok : callOk cfg sc w pos (ag "converted_call")
      [tmplArg f, tmplArg (CallTrees.argsToTuple as), tmplArg (CallTrees.kwargsToDict ks), nm ctx] [] = true := by
    have : startsWith "ag__.converted_call" "ag__." = true := by decide
    simp [callOk, hq, allowedCallee, this]
  rw [offE_call_ok hok hq, offE_ag, (by decide : argPositions "ag__.converted_call" = [.normal, .packA, .packK])]
  simp only [offEs, headPos, List.tail, offE_tmplArg, offE_nm, List.nil_append, List.append_nil, CF_append]
  exact ⟨hf, argsToTuple_CF cfg sc w as ha, kwargsToDict_CF cfg sc w ks hk⟩

section main
variable (env : CallTrees.Env) (cfg : Cfg) (hb : cfg.builtinsOn = env.builtinsOn)

/-- Every function context name the annotations mention is a scope name known to the checker (the functions converter makes
`with ag__.FunctionScope(…) as <ctx>` the body of every `def`; assumed here of all annotated names at once). -/
def ScOk (sc : List String) : Prop := ∀ i c, env.ctxOf i = some c → c ∈ sc

include hb in
theorem keep_allowed (sc : List String) (ctx full : String) (hctx : ctx ∈ sc)
    (h : CallTrees.keep env ctx (some full) = true) : allowedCallee cfg sc full = true := by
  simp only [CallTrees.keep, CallTrees.debuggers, Bool.or_eq_true, Bool.and_eq_true] at h
  simp only [allowedCallee, NoNative.debuggers, Bool.or_eq_true, Bool.and_eq_true, List.any_eq_true]
  rcases h with ((h1 | h2) | h3) | h4
  · exact Or.inl (Or.inl (Or.inl h1))
  · exact Or.inl (Or.inl (Or.inr ⟨ctx, hctx, h2⟩))
  · exact Or.inl (Or.inr h3)
  · exact Or.inr (by rw [hb]; exact h4)

theorem ctxOf_getD_mem (sc : List String) (hsc : ScOk env sc) (ctx : String) (hctx : ctx ∈ sc) (i : Nat) :
    (env.ctxOf i).getD ctx ∈ sc := by
  cases h : env.ctxOf i with
  | none => simpa using hctx
  | some c => simpa using hsc i c h

include hb in
/-- the tests by which `visit_Call` keeps a call are the exemptions E3–E6, read off the same name (`qn_spec`) -/
theorem keptCall_CF (sc : List String) (ctx : String) (hctx : ctx ∈ sc) (w : Bool) (pos : Pos) (i : Nat) {f : Expr}
    {full : String} (hq : qnStr f = some full) (hkeep : CallTrees.keep env ctx (some full) = true) {as ks : List Expr}
    (hf : CF (offE cfg sc w .normal f)) (ha : ∀ ps, CF (offEs cfg sc w ps as)) (hk : CF (offEs cfg sc w [] ks)) :
    CF (offE cfg sc w pos (.call i f as ks)) := by
  have hcq := (qn_spec env ctx f full hq).2
  have hok : callOk cfg sc w pos f as ks = true := by
    simp [callOk, hcq, keep_allowed env cfg hb sc ctx full hctx hkeep]
  rw [offE_call_ok hok rfl]
  exact (hf.append (ha _)).append hk

include hb in
mutual
theorem visitE_CF : ∀ (e : Expr) (sc : List String) (ctx : String) (w : Bool) (pos : Pos), ScOk env sc → ctx ∈ sc →
    CF (offE cfg sc w pos (CallTrees.visitE env ctx e))
  | .name .., _, _, _, _, _, _ => CF_nil
  | .const .., _, _, _, _, _, _ => CF_nil
  | .noneMarker, _, _, _, _, _, _ => CF_nil
  | .call i f as ks, sc, ctx, w, pos, hsc, hctx => by
      simp only [CallTrees.visitE]
      have hf := visitE_CF f sc ctx w .normal hsc hctx
      split
      · rename_i hkeep
        cases hq : qnStr f with
        | none => simp [hq, CallTrees.keep] at hkeep
        | some full =>
            rw [hq] at hkeep
            rw [(qn_spec env ctx f full hq).1] at hf ⊢
            exact keptCall_CF env cfg hb sc ctx hctx w pos i hq hkeep hf (fun ps => visitEs_CF as sc ctx w ps hsc hctx)
              (visitEs_CF ks sc ctx w _ hsc hctx)
      · exact convertedCall_CF cfg sc w pos ctx _ _ _ hf (visitEs_CF as sc ctx w _ hsc hctx) (visitEs_CF ks sc ctx w _ hsc hctx)
  | .lambda i a b, sc, ctx, w, pos, hsc, hctx =>
      have hc := ctxOf_getD_mem env sc hsc ctx hctx i
      (visitE_CF a sc _ w _ hsc hc).append (visitE_CF b sc _ w _ hsc hc)
  | .boolop i b vs, sc, ctx, w, pos, hsc, hctx => .cons (by decide : "BoolOp" ≠ "Call") (visitEs_CF vs sc ctx w _ hsc hctx)
  | .unary i op e, sc, ctx, w, pos, hsc, hctx => (CF_ite_not op i).append (visitE_CF e sc ctx w _ hsc hctx)
  | .ifexp i t b e, sc, ctx, w, pos, hsc, hctx =>
      .cons (by decide : "IfExp" ≠ "Call") (((visitE_CF t sc ctx w _ hsc hctx).append (visitE_CF b sc ctx w _ hsc hctx)).append (visitE_CF e sc ctx w _ hsc hctx))
  | .compare i l ops rs, sc, ctx, w, pos, hsc, hctx =>
      ((CF_ite_other (by decide : "Compare" ≠ "Call")).append (visitE_CF l sc ctx w _ hsc hctx)).append (visitEs_CF rs sc ctx w _ hsc hctx)
  | .binop i op l r, sc, ctx, w, pos, hsc, hctx => (visitE_CF l sc ctx w _ hsc hctx).append (visitE_CF r sc ctx w _ hsc hctx)
  | .attr i v a c, sc, ctx, w, pos, hsc, hctx => visitE_CF v sc ctx w _ hsc hctx
  | .subscript i v s c, sc, ctx, w, pos, hsc, hctx => (visitE_CF v sc ctx w _ hsc hctx).append (visitE_CF s sc ctx w _ hsc hctx)
  | .keyword i a h v, sc, ctx, w, pos, hsc, hctx => visitE_CF v sc ctx w _ hsc hctx
  | .seq i k es c, sc, ctx, w, pos, hsc, hctx => visitEs_CF es sc ctx w _ hsc hctx
  | .starred i v c, sc, ctx, w, pos, hsc, hctx => visitE_CF v sc ctx w _ hsc hctx
  | .namedexpr i t v, sc, ctx, w, pos, hsc, hctx => (visitE_CF t sc ctx w _ hsc hctx).append (visitE_CF v sc ctx w _ hsc hctx)
  | .comp i k es gs, sc, ctx, w, pos, hsc, hctx => (visitEs_CF es sc ctx w _ hsc hctx).append (visitEs_CF gs sc ctx w _ hsc hctx)
  | .comprehension i t it ifs a, sc, ctx, w, pos, hsc, hctx => ((visitE_CF t sc ctx w _ hsc hctx).append (visitE_CF it sc ctx w _ hsc hctx)).append (visitEs_CF ifs sc ctx w _ hsc hctx)
  | .arguments i a b c d e f g, sc, ctx, w, pos, hsc, hctx =>
      ((((((visitEs_CF a sc ctx w _ hsc hctx).append (visitEs_CF b sc ctx w _ hsc hctx)).append (visitEs_CF c sc ctx w _ hsc hctx)).append (visitEs_CF d sc ctx w _ hsc hctx)).append (visitEs_CF e sc ctx w _ hsc hctx)).append
        (visitEs_CF f sc ctx w _ hsc hctx)).append (visitEs_CF g sc ctx w _ hsc hctx)
  | .arg i n an, sc, ctx, w, pos, hsc, hctx => visitEs_CF an sc ctx w _ hsc hctx
  | .withitem i c v, sc, ctx, w, pos, hsc, hctx => (visitE_CF c sc ctx w _ hsc hctx).append (visitEs_CF v sc ctx w _ hsc hctx)
  | .other i k ats ks, sc, ctx, w, pos, hsc, hctx => visitEs_CF ks sc ctx w _ hsc hctx
theorem visitEs_CF : ∀ (es : List Expr) (sc : List String) (ctx : String) (w : Bool) (ps : List Pos), ScOk env sc → ctx ∈ sc →
    CF (offEs cfg sc w ps (CallTrees.visitEs env ctx es))
  | [], _, _, _, _, _, _ => CF_nil
  | e :: es, sc, ctx, w, _, hsc, hctx => (visitE_CF e sc ctx w _ hsc hctx).append (visitEs_CF es sc ctx w _ hsc hctx)
end

theorem plainArg_off (cfg : Cfg) (sc : List String) (w : Bool) (pos : Pos) {e : Expr}
    (h : CallTrees.isPlainArg e = true) : offE cfg sc w pos e = [] := by
  cases e with
  | arg i n an => cases List.isEmpty_iff.mp h; rfl
  | _ => cases h

theorem plainArgs_off (cfg : Cfg) (sc : List String) (w : Bool) :
    ∀ (es : List Expr), es.all CallTrees.isPlainArg = true → offEs cfg sc w [] es = []
  | [], _ => rfl
  | e :: es, h => by
      rw [List.all_cons, Bool.and_eq_true] at h
      simp only [offEs, plainArg_off cfg sc w _ h.1, List.tail_nil, plainArgs_off cfg sc w es h.2, List.append_nil]

include hb in
theorem visitDefaults_CF (as : Expr) (sc : List String) (ctx : String) (hsc : ScOk env sc) (hctx : ctx ∈ sc)
    (hp : CallTrees.plainArgs as = true) :
    CF (offE cfg sc false .normal (CallTrees.visitDefaults env ctx as)) := by
  cases as with
  | arguments i po ar va ko kd kw df =>
      simp only [CallTrees.plainArgs, List.all_append, Bool.and_eq_true] at hp
      obtain ⟨⟨⟨⟨hpo, har⟩, hva⟩, hko⟩, hkw⟩ := hp
      simp only [CallTrees.visitDefaults, offE, plainArgs_off cfg sc false po hpo, plainArgs_off cfg sc false ar har,
        plainArgs_off cfg sc false va hva, plainArgs_off cfg sc false ko hko, plainArgs_off cfg sc false kw hkw,
        List.nil_append, List.append_nil, CF_append]
      exact ⟨visitEs_CF env cfg hb kd sc ctx false _ hsc hctx, visitEs_CF env cfg hb df sc ctx false _ hsc hctx⟩
  | _ => cases hp

theorem ScOk_append (sc : List String) (extra : List String) (h : ScOk env sc) : ScOk env (extra ++ sc) :=
  fun i c hc => List.mem_append_right _ (h i c hc)

include hb in
mutual
theorem visitS_CF : ∀ (s : Stmt) (sc : List String) (ctx : String) (roles : List String) (tail : Bool),
    ScOk env sc → ctx ∈ sc → CallTrees.plainParams s = true →
    CF (offS cfg sc roles tail (CallTrees.visitS env ctx s))
  | .functionDef i n as b ds rs isA, sc, ctx, roles, tail, hsc, hctx, hp => by
      simp only [CallTrees.plainParams, Bool.and_eq_true, Bool.or_eq_true] at hp
      simp only [CallTrees.visitS]
      split
      · exact (((visitE_CF env cfg hb as sc ctx false _ hsc hctx).append (visitEs_CF env cfg hb ds sc ctx false _ hsc hctx)).append (visitEs_CF env cfg hb rs sc ctx false _ hsc hctx)).append (visitB_CF b sc ctx _ _ hsc hctx hp.2)
      · rename_i hA
        have hpa : CallTrees.plainArgs as = true := hp.1.resolve_left hA
        have hc := ctxOf_getD_mem env sc hsc ctx hctx i
        exact (((visitDefaults_CF env cfg hb as sc ctx hsc hctx hpa).append (visitEs_CF env cfg hb ds sc ctx false _ hsc hctx)).append
          (visitEs_CF env cfg hb rs sc _ false _ hsc hc)).append (visitB_CF b sc _ _ _ hsc hc hp.2)
  | .with_ i its b isA, sc, ctx, roles, tail, hsc, hctx, hp => by
      simp only [CallTrees.visitS]
      split
      · exact (withItems_CF cfg sc _ _).append
          (visitB_CF b _ ctx _ _ (ScOk_append env sc _ hsc) (List.mem_append_right _ hctx) hp)
      · exact (withItems_CF cfg sc _ _).append
          (visitB_CF b _ ctx _ _ (ScOk_append env sc _ hsc) (List.mem_append_right _ hctx) hp)
  | .classDef i n bs ks b ds, sc, ctx, roles, tail, hsc, hctx, hp =>
      (((visitEs_CF env cfg hb bs sc ctx false _ hsc hctx).append (visitEs_CF env cfg hb ks sc ctx false _ hsc hctx)).append (visitEs_CF env cfg hb ds sc ctx false _ hsc hctx)).append (visitB_CF b sc ctx _ _ hsc hctx hp)
  | .ret i v, sc, ctx, roles, tail, hsc, hctx, _ => (CF_ite_other (by decide : "Return" ≠ "Call")).append (visitEs_CF env cfg hb v sc ctx false _ hsc hctx)
  | .delete i ts, sc, ctx, roles, tail, hsc, hctx, _ => visitEs_CF env cfg hb ts sc ctx false _ hsc hctx
  | .assign i ts v, sc, ctx, roles, tail, hsc, hctx, _ => (visitEs_CF env cfg hb ts sc ctx false _ hsc hctx).append (visitE_CF env cfg hb v sc ctx false _ hsc hctx)
  | .augAssign i t op v, sc, ctx, roles, tail, hsc, hctx, _ => (visitE_CF env cfg hb t sc ctx false _ hsc hctx).append (visitE_CF env cfg hb v sc ctx false _ hsc hctx)
  | .annAssign i t an v s, sc, ctx, roles, tail, hsc, hctx, _ => ((visitE_CF env cfg hb t sc ctx false _ hsc hctx).append (visitE_CF env cfg hb an sc ctx false _ hsc hctx)).append (visitEs_CF env cfg hb v sc ctx false _ hsc hctx)
  | .for_ i t it b e x isA, sc, ctx, roles, tail, hsc, hctx, hp => by
      simp only [CallTrees.plainParams, Bool.and_eq_true] at hp
      exact .cons (by decide : "For" ≠ "Call") ((((visitE_CF env cfg hb t sc ctx false _ hsc hctx).append (visitE_CF env cfg hb it sc ctx false _ hsc hctx)).append (visitB_CF b sc ctx _ _ hsc hctx hp.1)).append (visitB_CF e sc ctx _ _ hsc hctx hp.2))
  | .while_ i t b e, sc, ctx, roles, tail, hsc, hctx, hp => by
      simp only [CallTrees.plainParams, Bool.and_eq_true] at hp
      exact .cons (by decide : "While" ≠ "Call") (((visitE_CF env cfg hb t sc ctx false _ hsc hctx).append (visitB_CF b sc ctx _ _ hsc hctx hp.1)).append (visitB_CF e sc ctx _ _ hsc hctx hp.2))
  | .if_ i t b e, sc, ctx, roles, tail, hsc, hctx, hp => by
      simp only [CallTrees.plainParams, Bool.and_eq_true] at hp
      exact .cons (by decide : "If" ≠ "Call") (((visitE_CF env cfg hb t sc ctx false _ hsc hctx).append (visitB_CF b sc ctx _ _ hsc hctx hp.1)).append (visitB_CF e sc ctx _ _ hsc hctx hp.2))
  | .raise i e c, sc, ctx, roles, tail, hsc, hctx, _ => (visitEs_CF env cfg hb e sc ctx false _ hsc hctx).append (visitEs_CF env cfg hb c sc ctx false _ hsc hctx)
  | .try_ i b hs e f, sc, ctx, roles, tail, hsc, hctx, hp => by
      simp only [CallTrees.plainParams, Bool.and_eq_true] at hp
      exact (((visitB_CF b sc ctx _ _ hsc hctx hp.1.1.1).append (visitB_CF hs sc ctx _ _ hsc hctx hp.1.1.2)).append (visitB_CF e sc ctx _ _ hsc hctx hp.1.2)).append (visitB_CF f sc ctx _ _ hsc hctx hp.2)
  | .handler i t n b, sc, ctx, roles, tail, hsc, hctx, hp => (visitEs_CF env cfg hb t sc ctx false _ hsc hctx).append (visitB_CF b sc ctx _ _ hsc hctx hp)
  | .assert_ i t m, sc, ctx, roles, tail, hsc, hctx, _ => (visitE_CF env cfg hb t sc ctx false _ hsc hctx).append (visitEs_CF env cfg hb m sc ctx false _ hsc hctx)
  | .import_ .., _, _, _, _, _, _, _ => CF_nil
  | .importFrom .., _, _, _, _, _, _, _ => CF_nil
  | .global .., _, _, _, _, _, _, _ => CF_nil
  | .nonlocal .., _, _, _, _, _, _, _ => CF_nil
  | .expr i v, sc, ctx, roles, tail, hsc, hctx, _ => visitE_CF env cfg hb v sc ctx false _ hsc hctx
  | .pass .., _, _, _, _, _, _, _ => CF_nil
  | .break_ .., _, _, _, _, _, _, _ => .cons (by decide : "Break" ≠ "Call") CF_nil
  | .continue_ .., _, _, _, _, _, _, _ => .cons (by decide : "Continue" ≠ "Call") CF_nil
  | .other i k es bs, sc, ctx, roles, tail, hsc, hctx, hp => (visitEs_CF env cfg hb es sc ctx false _ hsc hctx).append (visitB_CF bs sc ctx _ _ hsc hctx hp)
theorem visitB_CF : ∀ (b : List Stmt) (sc : List String) (ctx : String) (roles : List String) (tail : Bool),
    ScOk env sc → ctx ∈ sc → CallTrees.plainParamsB b = true →
    CF (offB cfg sc roles tail (CallTrees.visitB env ctx b))
  | [], _, _, _, _, _, _, _ => CF_nil
  | s :: ss, sc, ctx, roles, tail, hsc, hctx, hp => by
      simp only [CallTrees.plainParamsB, Bool.and_eq_true] at hp
      exact (visitS_CF s sc ctx roles _ hsc hctx hp.1).append (visitB_CF ss sc ctx roles tail hsc hctx hp.2)
end

end main

end Malt.C04
