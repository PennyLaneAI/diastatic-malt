import MaltModel.Proofs.C18Sem1
import MaltModel.Proofs.C18Visit
namespace Malt.Anf
open Malt.Py Malt.SemAnf

theorem adjustCtxs_length : ∀ (es : List Expr) (ov : Option Ctx), (adjustCtxs ov es).length = es.length
  | [], ov => by simp [adjustCtxs]
  | e :: es, ov => by simp [adjustCtxs, adjustCtxs_length es]

mutual
theorem frag_adjust_nw : ∀ (e : Expr) (ov : Option Ctx), noWalrus e = true → fragE e = true →
    fragE (adjustCtx ov e) = true ∧ noWalrus (adjustCtx ov e) = true
  | .name .., ov, _, _ => by simp [adjustCtx, fragE, noWalrus]
  | .const .., ov, _, _ => by simp [adjustCtx, fragE, noWalrus]
  | .attr i v a c, ov, hnw, hf => by
      simp only [noWalrus] at hnw
      simp only [fragE, Bool.and_eq_true] at hf
      have := frag_adjust_nw v (some .load) hnw hf.1
      simp [adjustCtx, fragE, noWalrus, this.1, this.2]
  | .subscript i v s c, ov, hnw, hf => by
      simp only [noWalrus, Bool.and_eq_true] at hnw
      simp only [fragE, Bool.and_eq_true] at hf
      have h1 := frag_adjust_nw v (some .load) hnw.1 hf.1.1.1
      have h2 := frag_adjust_nw s (some .load) hnw.2 hf.1.1.2
      simp [adjustCtx, fragE, noWalrus, h1.1, h1.2, h2.1, h2.2]
  | .call i f as ks, ov, hnw, hf => by
      simp only [noWalrus, Bool.and_eq_true] at hnw
      simp only [fragE, Bool.and_eq_true, List.isEmpty_iff] at hf
      obtain ⟨⟨hff, hfa⟩, rfl⟩ := hf
      have h1 := frag_adjust_nw f none hnw.1.1 hff
      have h2 := frags_adjust_nw as none hnw.1.2 hfa
      simp [adjustCtx, adjustCtxs, fragE, noWalrus, noWalruss, h1.1, h1.2, h2.1, h2.2]
  | .unary i op e, ov, hnw, hf => by
      simp only [noWalrus] at hnw
      simp only [fragE] at hf
      have := frag_adjust_nw e ov hnw hf
      simp [adjustCtx, fragE, noWalrus, this.1, this.2]
  | .binop i op l r, ov, hnw, hf => by
      simp only [noWalrus, Bool.and_eq_true] at hnw
      simp only [fragE, Bool.and_eq_true] at hf
      have h1 := frag_adjust_nw l ov hnw.1 hf.1
      have h2 := frag_adjust_nw r ov hnw.2 hf.2
      simp [adjustCtx, fragE, noWalrus, h1.1, h1.2, h2.1, h2.2]
  | .compare i l ops rs, ov, hnw, hf => by
      simp only [noWalrus, Bool.and_eq_true] at hnw
      simp only [fragE, Bool.and_eq_true] at hf
      obtain ⟨⟨⟨hl, hrs⟩, hops⟩, hlen⟩ := hf
      have h1 := frag_adjust_nw l ov hnw.1 hl
      have h2 := frags_adjust_nw rs ov hnw.2 hrs
      simp [adjustCtx, fragE, noWalrus, h1.1, h1.2, h2.1, h2.2, hops, adjustCtxs_length, hlen]
  | .seq i .set es c, ov, hnw, hf | .seq i .tuple es c, ov, hnw, hf | .seq i .list es c, ov, hnw, hf => by
      simp only [noWalrus] at hnw
      simp only [fragE, Bool.and_eq_true] at hf
      have h2 := frags_adjust_nw es ov hnw hf.1
      simp [adjustCtx, fragE, noWalrus, h2.1, h2.2]
  | .namedexpr .., _, hnw, _ => by simp [noWalrus] at hnw
  | .keyword .., _, _, h | .boolop .., _, _, h | .ifexp .., _, _, h | .lambda .., _, _, h | .starred .., _, _, h
  | .comp .., _, _, h | .comprehension .., _, _, h | .arguments .., _, _, h | .arg .., _, _, h | .withitem .., _, _, h
  | .noneMarker, _, _, h | .other .., _, _, h => by notfrag h
theorem frags_adjust_nw : ∀ (es : List Expr) (ov : Option Ctx), noWalruss es = true → fragEs es = true →
    fragEs (adjustCtxs ov es) = true ∧ noWalruss (adjustCtxs ov es) = true
  | [], ov, _, _ => by simp [adjustCtxs, fragEs, noWalruss]
  | e :: es, ov, hnw, hf => by
      simp only [noWalruss, Bool.and_eq_true] at hnw
      simp only [fragEs, Bool.and_eq_true] at hf
      have h1 := frag_adjust_nw e ov hnw.1 hf.1
      have h2 := frags_adjust_nw es ov hnw.2 hf.2
      simp [adjustCtxs, fragEs, noWalruss, h1.1, h1.2, h2.1, h2.2]
end

theorem adjust_node (O : Oracle) {e : Expr} (ov : Option Ctx) (hn : nodeE e = true) :
    ∃ ov', nodeE (adjustCtx ov e) = true ∧ kids (adjustCtx ov e) = adjustCtxs ov' (kids e) ∧
      stepE O (adjustCtx ov e) = stepE O e := by
  revert hn
  fun_cases nodeE e <;> intro hn
  case case8 => cases hn
  case case1 | case2 => exact ⟨some .load, by simp [adjustCtx, nodeE], by simp [adjustCtx, kids, kidsOf, adjustCtxs], by simp [adjustCtx, stepE]⟩
  case case3 => exact ⟨none, by simp [adjustCtx, nodeE], by simp [adjustCtx, kids, kidsOf, adjustCtxs, tag_map_snd], by simp [adjustCtx, stepE]⟩
  case case7 i k es c =>
    cases k <;> exact ⟨ov, by simp [adjustCtx, nodeE], by simp [adjustCtx, kids, kidsOf, tag_map_snd], by simp [adjustCtx, stepE]⟩
  all_goals exact ⟨ov, by simp [adjustCtx, nodeE], by simp [adjustCtx, kids, kidsOf, adjustCtxs, tag_map_snd], by simp [adjustCtx, stepE]⟩

theorem eval_adjust (O : Oracle) :
    (∀ e, fragE e = true → ∀ (ov : Option Ctx) (σ : St), noWalrus e = true → evalE O (adjustCtx ov e) σ = evalE O e σ) ∧
    (∀ es, fragEs es = true → ∀ (ov : Option Ctx) (σ : St), noWalruss es = true →
      evalOpts O (adjustCtxs ov es) σ = evalOpts O es σ) := by
  refine fragE_ind ?name ?const ?node ?walrus ?nil ?cons
  case name => intro i s c ov σ _; simp [adjustCtx, evalE]
  case const => intro i k r ov σ _; simp [adjustCtx, evalE]
  case node =>
    intro e hn hf ih ov σ hnw
    obtain ⟨ov', hn', hk, hst⟩ := adjust_node O ov hn
    rw [evalE_node O hn' (frag_adjust_nw e ov hnw hf).1, evalE_node O hn hf, hk, hst]
    simp only [bindK, ih ov' σ (noWalrus_node hn hf ▸ hnw)]
  case walrus =>
    intro i j s v _ ov σ hnw
    simp [noWalrus] at hnw
  case nil => intro ov σ _; simp [adjustCtxs]
  case cons =>
    intro e es _ ihe ihes ov σ hnw
    simp only [noWalruss, Bool.and_eq_true] at hnw
    simp only [adjustCtxs, evalOpts_cons, ihe ov σ hnw.1, fun σ1 => ihes ov σ1 hnw.2]

theorem evalE_adjust (O : Oracle) (e : Expr) (ov : Option Ctx) (σ : St) (hnw : noWalrus e = true) (hf : fragE e = true) :
    evalE O (adjustCtx ov e) σ = evalE O e σ := (eval_adjust O).1 e hf ov σ hnw

theorem evalArgs_adjust (O : Oracle) : ∀ (es : List Expr) (ov : Option Ctx) (σ : St), noWalruss es = true →
    fragEs es = true → evalArgs O (adjustCtxs ov es) σ = evalArgs O es σ := by
  intro es ov σ hnw hf
  rw [evalArgs_eq_evalOpts O _ σ (frags_adjust_nw es ov hnw hf).1, evalArgs_eq_evalOpts O es σ hf, (eval_adjust O).2 es hf ov σ hnw]

theorem evalCmp_adjust (O : Oracle) : ∀ (rs : List Expr) (ov : Option Ctx) (x : Val) (ops : List String) (σ : St),
    noWalruss rs = true → fragEs rs = true → evalCmp O x ops (adjustCtxs ov rs) σ = evalCmp O x ops rs σ
  | [], ov, x, ops, σ, _, _ => by cases ops <;> simp [adjustCtxs, evalCmp]
  | r :: rs, ov, x, [], σ, _, _ => by simp [adjustCtxs, evalCmp]
  | r :: rs, ov, x, op :: ops, σ, hnw, h => by
      simp only [noWalruss, Bool.and_eq_true] at hnw
      simp only [fragEs, Bool.and_eq_true] at h
      simp only [adjustCtxs, evalCmp_cons, bindK, evalE_adjust O r _ _ hnw.1 h.1,
        fun y σ1 => evalCmp_adjust O rs ov y ops σ1 hnw.2 h.2]

theorem fragE_hasCtx_nw {x : Expr} (hf : fragE x = true) (hc : hasCtx x = true) : noWalrus x = true := by
  cases x <;> simp [hasCtx] at hc <;> simp [fragE] at hf
  · simp [noWalrus]
  · simp [noWalrus, hf.2]
  · simp [noWalrus, hf.1.2, hf.2]
  · simp [noWalrus, hf.2]

theorem evalE_hoistCopy (O : Oracle) (x : Expr) (σ : St) (hf : fragE x = true) : evalE O (hoistCopy x) σ = evalE O x σ := by
  unfold hoistCopy
  split
  · next hc => exact evalE_adjust O x _ σ (fragE_hasCtx_nw hf hc) hf
  · rfl

theorem execB_append (O : Oracle) : ∀ (A B : List Stmt) (σ : St),
    execB O (A ++ B) σ = match execB O A σ with
      | (.normal, σ1) => execB O B σ1
      | r => r
  | [], B, σ => by simp [execB]
  | s :: A, B, σ => by
      simp only [List.cons_append, execB]
      rcases hs : execS O s σ with ⟨o, σ1⟩
      cases o <;> simp [execB_append O A B σ1]

theorem execB_single (O : Oracle) (s : Stmt) (σ : St) : execB O [s] σ = execS O s σ := by
  simp only [execB]
  rcases execS O s σ with ⟨o, σ1⟩
  cases o <;> rfl

theorem exec_tmpAssign (O : Oracle) (k : Nat) (x : Expr) (σ : St) (hf : fragE x = true) :
    execS O (tmpAssign k x) σ =
      match evalE O x σ with
      | (.ok v, σ1) => (.normal, σ1.set (tmpName k) v)
      | (.error e, σ1) => (.raise e, σ1) := by
  simp only [tmpAssign, execS, evalE_hoistCopy O x σ hf]
  rcases evalE O x σ with ⟨r, σ1⟩
  cases r <;> simp [assignEach, assignTo]

abbrev FragW (W : String → Prop) (x : Expr) : Prop := fragE x = true ∧ ∀ y ∈ writesE x, W y

theorem hoists_frame (O : Oracle) (W : String → Prop) : ∀ (H : List Stmt) (a b : Nat) (σ : St),
    HoistsP (FragW W) a H b →
    ∀ y, ¬ W y → (∀ k, a ≤ k → y ≠ tmpName k) → (execB O H σ).2.get y = σ.get y
  | [], a, b, σ, _ => by simp [execB]
  | s :: H, a, b, σ, h => by
      obtain ⟨⟨x, rfl, hf, hw⟩, h2⟩ := h
      simp only [execB, exec_tmpAssign O a x σ hf]
      rcases hv : evalE O x σ with ⟨r, σ1⟩
      have hfr := fun y (hy : y ∉ writesE x) => evalE_frame O x σ y hf hy
      rw [hv] at hfr
      cases r with
      | error e =>
        exact fun y hy _ => hfr y (fun hm => hy (hw y hm))
      | ok v =>
        have ih := hoists_frame O W H (a + 1) b (σ1.set (tmpName a) v) h2
        intro y hy hk
        rw [ih y hy (fun k hk1 => hk k (Nat.le_of_succ_le hk1)), get_set, if_neg (hk a (Nat.le_refl a))]
        exact hfr y (fun hm => hy (hw y hm))

theorem hoists_frame_tmp (O : Oracle) {W : String → Prop} {H : List Stmt} {a b m : Nat} (σ : St)
    (h : HoistsP (FragW W) a H b) (hW : ∀ y, W y → isTempName y = false)
    (hm : m < a) : (execB O H σ).2.get (tmpName m) = σ.get (tmpName m) := by
  refine hoists_frame O W H a b σ h (tmpName m) (fun hw => ?_) (fun k hk heq => ?_)
  · exact ne_tmpName (hW _ hw) m rfl
  · have := tmpName_inj heq
    omega

theorem fragE_not_wrapper {e : Expr} (h : fragE e = true) : isWrapperB e = false := by
  cases e <;> first | rfl | (simp [fragE] at h)

theorem ensure_frag_cases (cfg : Config) (pk fld : String) (x : Expr) (n : Nat) (hf : fragE x = true) :
    (ensure cfg pk fld x n = (x, [], n) ∧ okChild cfg pk fld x = true) ∨
    (ensure cfg pk fld x n = (.name 0 (tmpName n) .load, [tmpAssign n x], n + 1) ∧ okChild cfg pk fld x = false) :=
  ensure_plain_cases cfg pk fld x n (fragE_not_wrapper hf)

/-- `W`: any set containing what the visited expression rebinds. -/
structure FInv (W : String → Prop) (e' : Expr) (n : Nat) (D : List Stmt) (n' : Nat) : Prop where
  frag : fragE e' = true
  writes : ∀ y ∈ writesE e', W y
  hoists : HoistsP (FragW W) n D n'

structure FsInv (W : String → Prop) (es' : List Expr) (n : Nat) (D : List Stmt) (n' : Nat) : Prop where
  frag : fragEs es' = true
  writes : ∀ y ∈ writesEs es', W y
  hoists : HoistsP (FragW W) n D n'

theorem FsInv.mono {W W' : String → Prop} {es : List Expr} {n : Nat} {D : List Stmt} {n' : Nat} (h : FsInv W es n D n')
    (hW : ∀ y, W y → W' y) : FsInv W' es n D n' :=
  ⟨h.frag, fun y hy => hW y (h.writes y hy), h.hoists.mono fun _ hx => ⟨hx.1, fun y hy => hW y (hx.2 y hy)⟩⟩

/-- `_ensure_fields_in_anf` over a list of (field, child) positions. -/
def ensureFs (cfg : Config) (pk : String) : List String → List Expr → Nat → List Expr × List Stmt × Nat
  | f :: fs, e :: es, n =>
      let r := ensure cfg pk f e n
      let r2 := ensureFs cfg pk fs es r.2.2
      (r.1 :: r2.1, r.2.1 ++ r2.2.1, r2.2.2)
  | _, _, n => ([], [], n)

theorem ensureFs_const_eq_ensureList {α : Type} (cfg : Config) (pk fld : String) : ∀ (l : List α) (es : List Expr) (n : Nat),
    l.length = es.length → ensureFs cfg pk (l.map fun _ => fld) es n = ensureList cfg pk fld es n
  | [], [], n, _ => by simp [ensureFs, ensureList]
  | [], _ :: _, n, h => by simp at h
  | _ :: _, [], n, h => by simp at h
  | a :: l, e :: es, n, h => by
      simp [ensureFs, ensureList, ensureFs_const_eq_ensureList cfg pk fld l es _ (by simpa using h)]

theorem ensureList_eq_ensureFs (cfg : Config) (pk fld : String) : ∀ (es : List Expr) (n : Nat),
    ensureList cfg pk fld es n = ensureFs cfg pk (es.map fun _ => fld) es n :=
  fun es n => (ensureFs_const_eq_ensureList cfg pk fld es es n rfl).symm

theorem ensureFs_ind {cfg : Config} {pk : String} {M : List Expr → Nat → List Expr × List Stmt × Nat → Prop}
    (stop : ∀ xs n, M xs n ([], [], n))
    (keep : ∀ x xs n r, fragE x = true → M xs n r → M (x :: xs) n (x :: r.1, r.2.1, r.2.2))
    (hoist : ∀ x xs n r, fragE x = true → M xs (n + 1) r →
      M (x :: xs) n (.name 0 (tmpName n) .load :: r.1, tmpAssign n x :: r.2.1, r.2.2)) :
    ∀ (fs : List String) (xs : List Expr) (n : Nat), fragEs xs = true → M xs n (ensureFs cfg pk fs xs n)
  | [], xs, n, _ => stop xs n
  | _ :: _, [], n, _ => stop [] n
  | f :: fs, x :: xs, n, hf => by
      simp only [fragEs, Bool.and_eq_true] at hf
      rcases ensure_frag_cases cfg pk f x n hf.1 with ⟨h1, -⟩ | ⟨h1, -⟩
      · rw [show ensureFs cfg pk (f :: fs) (x :: xs) n = (x :: (ensureFs cfg pk fs xs n).1, (ensureFs cfg pk fs xs n).2.1,
          (ensureFs cfg pk fs xs n).2.2) by simp only [ensureFs, h1, List.nil_append]]
        exact keep x xs n _ hf.1 (ensureFs_ind stop keep hoist fs xs n hf.2)
      · rw [show ensureFs cfg pk (f :: fs) (x :: xs) n = (.name 0 (tmpName n) .load :: (ensureFs cfg pk fs xs (n + 1)).1,
          tmpAssign n x :: (ensureFs cfg pk fs xs (n + 1)).2.1, (ensureFs cfg pk fs xs (n + 1)).2.2) by
            simp only [ensureFs, h1, List.singleton_append]]
        exact hoist x xs n _ hf.1 (ensureFs_ind stop keep hoist fs xs (n + 1) hf.2)

theorem ensureFs_length (cfg : Config) (pk : String) : ∀ (fs : List String) (xs : List Expr) (n : Nat),
    fs.length = xs.length → (ensureFs cfg pk fs xs n).1.length = xs.length
  | [], [], _, _ => rfl
  | [], _ :: _, _, h | _ :: _, [], _, h => by simp at h
  | f :: fs, x :: xs, n, h => by simp [ensureFs, ensureFs_length cfg pk fs xs _ (by simpa using h)]

theorem ensureFs_ok (cfg : Config) (pk : String) : ∀ (fs : List String) (xs : List Expr) (n : Nat),
    fs.length = xs.length → (∀ p ∈ fs.zip xs, okChild cfg pk p.1 p.2 = true) → ensureFs cfg pk fs xs n = (xs, [], n)
  | [], [], n, _, _ => by simp [ensureFs]
  | [], _ :: _, n, hl, _ => by simp at hl
  | _ :: _, [], n, hl, _ => by simp at hl
  | f :: fs, x :: xs, n, hl, h => by
      have h1 := ensure_ok cfg pk f x n (h (f, x) (by simp))
      have h2 := ensureFs_ok cfg pk fs xs n (by simpa using hl) (fun p hp => h p (by simp [hp]))
      simp [ensureFs, h1, h2]

theorem ensureFs_finv {cfg : Config} {pk : String} {W : String → Prop} (fs : List String) (xs : List Expr) (n : Nat)
    (hf : fragEs xs = true) (hw : ∀ y ∈ writesEs xs, W y) :
    FsInv W (ensureFs cfg pk fs xs n).1 n (ensureFs cfg pk fs xs n).2.1 (ensureFs cfg pk fs xs n).2.2 := by
  refine ensureFs_ind (M := fun xs n r => (∀ y ∈ writesEs xs, W y) → FsInv W r.1 n r.2.1 r.2.2) ?_ ?_ ?_ fs xs n hf hw
  · exact fun xs n _ => ⟨rfl, by simp [writesEs], rfl⟩
  · intro x xs n r hx ih hw
    simp only [writesEs, List.mem_append] at hw
    have i := ih fun y hy => hw y (Or.inr hy)
    refine ⟨by simp [fragEs, hx, i.frag], fun y hy => ?_, i.hoists⟩
    simp only [writesEs, List.mem_append] at hy
    exact hy.elim (fun h => hw y (Or.inl h)) (i.writes y)
  · intro x xs n r hx ih hw
    simp only [writesEs, List.mem_append] at hw
    have i := ih fun y hy => hw y (Or.inr hy)
    exact ⟨by simp [fragEs, fragE, i.frag], by simpa [writesEs, writesE] using i.writes,
      ⟨x, rfl, hx, fun y hy => hw y (Or.inl hy)⟩, i.hoists⟩

/-- A tuple or list display in Store context: its elements are visited, not ensured. -/
def storeSeq : Expr → Bool
  | .seq _ k _ c => k != .set && c == .store
  | _ => false

def ensureKids (cfg : Config) (e : Expr) (ks : List Expr) (n : Nat) : List Expr × List Stmt × Nat :=
  if storeSeq e then (ks, [], n) else ensureFs cfg (kindOf e) ((kidsOf e).map (·.1)) ks n

theorem ensureKids_length {cfg : Config} {e : Expr} {ks : List Expr} (n : Nat) (h : ks.length = (kids e).length) :
    (ensureKids cfg e ks n).1.length = (kids e).length := by
  unfold ensureKids
  split
  · exact h
  · rw [ensureFs_length _ _ _ _ _ (by simpa [kids] using h.symm), h]

theorem visitE_node {cfg : Config} {e : Expr} (n : Nat) (hn : nodeE e = true) (hf : fragE e = true) :
    Sat (visitE cfg e n) fun r => ∃ ks1 d1 n1, visitEs cfg (kids e) n = .ok (ks1, d1, n1) ∧
      r = (withKids e (ensureKids cfg e ks1 n1).1, d1 ++ (ensureKids cfg e ks1 n1).2.1, (ensureKids cfg e ks1 n1).2.2) := by
  revert hn
  fun_cases nodeE e <;> intro hn
  case case1 i v a c =>
    unfold visitE
    refine .bind_eq fun (v1, d1, n1) hv => .pure ⟨[v1], d1 ++ [], n1, visitEs_cons_ok hv rfl, ?_⟩
    simp [ensureKids, storeSeq, kidsOf, kindOf, ensureFs, withKids]
  case case2 i v s c =>
    unfold visitE
    refine .bind_eq fun (v1, d1, n1) hv => .bind_eq fun (s1, d2, n2) hs =>
      .pure ⟨[v1, s1], d1 ++ (d2 ++ []), n2, visitEs_cons_ok hv (visitEs_cons_ok hs rfl), ?_⟩
    simp [ensureKids, storeSeq, kidsOf, kindOf, ensureFs, withKids]
  case case3 i f as ks =>
    simp only [fragE, Bool.and_eq_true, List.isEmpty_iff] at hf
    obtain ⟨-, rfl⟩ := hf
    unfold visitE
    refine .bind_eq fun (f1, d1, n1) hv => .bind_eq fun (as1, d2, n2) has => .bind_eq fun (ks1, d3, n3) hks => .pure ?_
    cases hks
    refine ⟨f1 :: as1, d1 ++ d2, n2, by simpa [kids, kidsOf, tag_map_snd] using visitEs_cons_ok hv has, ?_⟩
    simp [ensureKids, storeSeq, kidsOf, kindOf, ensureFs, withKids, ensureList, tag_map_fst,
      ensureFs_const_eq_ensureList cfg "Call" "args" as as1 _ (visitEs_length has).symm]
  case case4 i op v =>
    unfold visitE
    refine .bind_eq fun (v1, d1, n1) hv => .pure ⟨[v1], d1 ++ [], n1, visitEs_cons_ok hv rfl, ?_⟩
    simp [ensureKids, storeSeq, kidsOf, kindOf, ensureFs, withKids]
  case case5 i op l r =>
    unfold visitE
    refine .guard fun _ => .bind_eq fun (v1, d1, n1) hv => .bind_eq fun (s1, d2, n2) hs =>
      .pure ⟨[v1, s1], d1 ++ (d2 ++ []), n2, visitEs_cons_ok hv (visitEs_cons_ok hs rfl), ?_⟩
    simp [ensureKids, storeSeq, kidsOf, kindOf, ensureFs, withKids]
  case case6 i l ops rs =>
    unfold visitE
    refine .guard fun _ => .bind_eq fun (l1, d1, n1) hv => .bind_eq fun (rs1, d2, n2) hrs =>
      .pure ⟨l1 :: rs1, d1 ++ d2, n2, by simpa [kids, kidsOf, tag_map_snd] using visitEs_cons_ok hv hrs, ?_⟩
    simp [ensureKids, storeSeq, kidsOf, kindOf, ensureFs, withKids, tag_map_fst,
      ensureFs_const_eq_ensureList cfg "Compare" "comparators" rs rs1 _ (visitEs_length hrs).symm]
  case case7 i k es c =>
    cases k <;> unfold visitE
    case set =>
      refine .bind_eq fun (es1, d1, n1) hv => .pure ⟨es1, d1, n1, by simpa [kids, kidsOf, tag_map_snd] using hv, ?_⟩
      simp [ensureKids, storeSeq, kidsOf, kindOf, withKids, tag_map_fst,
        ensureFs_const_eq_ensureList cfg _ "elts" es es1 _ (visitEs_length hv).symm]
    all_goals
      refine .bind_eq fun (es1, d1, n1) hv => .ite
        (fun hcs => .pure ⟨es1, d1, n1, by simpa [kids, kidsOf, tag_map_snd] using hv, ?_⟩)
        (fun hcs => .pure ⟨es1, d1, n1, by simpa [kids, kidsOf, tag_map_snd] using hv, ?_⟩)
      · simp [ensureKids, storeSeq, withKids, hcs]
      · simp [ensureKids, storeSeq, kidsOf, kindOf, withKids, tag_map_fst, hcs,
          ensureFs_const_eq_ensureList cfg _ "elts" es es1 _ (visitEs_length hv).symm]
  case case8 => cases hn

theorem Sat.node {cfg : Config} {e : Expr} {n : Nat} (hn : nodeE e = true) (hf : fragE e = true)
    {Ps Q : _ → Prop} (hk : Sat (visitEs cfg (kids e) n) Ps)
    (h : ∀ ks1 d1 n1 ks2 H n2, Ps (ks1, d1, n1) → visitEs cfg (kids e) n = .ok (ks1, d1, n1) →
      ensureKids cfg e ks1 n1 = (ks2, H, n2) → ks2.length = (kids e).length →
      visitE cfg e n = .ok (withKids e ks2, d1 ++ H, n2) → Q (withKids e ks2, d1 ++ H, n2)) :
    Sat (visitE cfg e n) Q := fun r hr => by
  obtain ⟨ks1, d1, n1, hv, rfl⟩ := visitE_node n hn hf r hr
  exact h ks1 d1 n1 _ _ _ (hk _ hv) hv rfl (ensureKids_length n1 (visitEs_length hv)) hr

theorem Sat.walrus {cfg : Config} {i j : Nat} {s : String} {v : Expr} {n : Nat} {P Q : _ → Prop}
    (hv : Sat (visitE cfg v n) P) (h : ∀ v1 d n', P (v1, d, n') → Q (.namedexpr i (.name j s .store) v1, d, n')) :
    Sat (visitE cfg (.namedexpr i (.name j s .store) v) n) Q := by
  unfold visitE
  refine .bind (Sat.ok _) fun _ ht => ?_
  subst ht
  exact .bind hv fun (v1, d, n') hp => .pure (h v1 d n' hp)

def OldOrTemp (N : String → Prop) (b : Nat) (y : String) : Prop := N y ∨ ∃ k, k < b ∧ y = tmpName k

theorem OldOrTemp.mono {N : String → Prop} {b b' : Nat} {y : String} (h : OldOrTemp N b y) (hb : b ≤ b') : OldOrTemp N b' y :=
  h.imp id fun ⟨k, h2, h3⟩ => ⟨k, Nat.lt_of_lt_of_le h2 hb, h3⟩

abbrev NamesIn (N : String → Prop) (b : Nat) (v : Expr) : Prop := ∀ y ∈ namesE v, OldOrTemp N b y

theorem ensureFs_ninv {cfg : Config} {pk : String} {N : String → Prop} (fs : List String) (xs : List Expr) (n : Nat)
    (hf : fragEs xs = true) (hx : ∀ y ∈ namesEs xs, OldOrTemp N n y) :
    (∀ y ∈ namesEs (ensureFs cfg pk fs xs n).1, OldOrTemp N (ensureFs cfg pk fs xs n).2.2 y) ∧ n ≤ (ensureFs cfg pk fs xs n).2.2 := by
  refine ensureFs_ind (M := fun xs n r => (∀ y ∈ namesEs xs, OldOrTemp N n y) →
    (∀ y ∈ namesEs r.1, OldOrTemp N r.2.2 y) ∧ n ≤ r.2.2) ?_ ?_ ?_ fs xs n hf hx
  · exact fun xs n _ => ⟨by simp [namesEs], Nat.le_refl _⟩
  · intro x xs n r _ ih hx
    simp only [namesEs, List.mem_append] at hx
    obtain ⟨i, l⟩ := ih fun y hy => hx y (Or.inr hy)
    refine ⟨fun y hy => ?_, l⟩
    simp only [namesEs, List.mem_append] at hy
    exact hy.elim (fun h => (hx y (Or.inl h)).mono l) (i y)
  · intro x xs n r _ ih hx
    simp only [namesEs, List.mem_append] at hx
    obtain ⟨i, l⟩ := ih fun y hy => (hx y (Or.inr hy)).mono (Nat.le_succ n)
    refine ⟨fun y hy => ?_, Nat.le_of_succ_le l⟩
    simp only [namesEs, namesE, List.mem_append, List.mem_singleton] at hy
    exact hy.elim (fun h => Or.inr ⟨n, l, h⟩) (i y)

theorem ensureKids_inv {cfg : Config} {e : Expr} {W N : String → Prop} {ks : List Expr} {n : Nat} (hf : fragEs ks = true)
    (hw : ∀ y ∈ writesEs ks, W y) (hN : ∀ y ∈ namesEs ks, OldOrTemp N n y) :
    FsInv W (ensureKids cfg e ks n).1 n (ensureKids cfg e ks n).2.1 (ensureKids cfg e ks n).2.2 ∧
      ∀ y ∈ namesEs (ensureKids cfg e ks n).1, OldOrTemp N (ensureKids cfg e ks n).2.2 y := by
  unfold ensureKids
  split
  · exact ⟨⟨hf, hw, rfl⟩, hN⟩
  · exact ⟨ensureFs_finv _ ks n hf hw, (ensureFs_ninv _ ks n hf hN).1⟩

theorem visit_finv (cfg : Config) :
    (∀ e, fragE e = true → ∀ (W N : String → Prop) (n : Nat), (∀ y ∈ writesE e, W y) → (∀ y ∈ namesE e, N y) →
      Sat (visitE cfg e n) fun (e', D, n') => FInv W e' n D n' ∧ NamesIn N n' e') ∧
    (∀ es, fragEs es = true → ∀ (W N : String → Prop) (n : Nat), (∀ y ∈ writesEs es, W y) → (∀ y ∈ namesEs es, N y) →
      Sat (visitEs cfg es n) fun (es', D, n') => FsInv W es' n D n' ∧ ∀ y ∈ namesEs es', OldOrTemp N n' y) := by
  refine fragE_ind ?name ?const ?node ?walrus ?nil ?cons
  case name => exact fun i s c W N n _ hN => Sat.pure ⟨⟨rfl, by simp [writesE], rfl⟩, fun y hy => Or.inl (hN y hy)⟩
  case const => exact fun i k r W N n _ _ => Sat.pure ⟨⟨rfl, by simp [writesE], rfl⟩, fun y hy => by simp [namesE] at hy⟩
  case node =>
    intro e hn hf ih W N n hw hN
    rw [writesE_node hn hf] at hw
    rw [namesE_node hn hf] at hN
    -- `W` := what the old operands rebind: `fragE_withKids` wants the new ones to rebind nothing else
    refine .node hn hf (ih (· ∈ writesEs (kids e)) N n (fun _ h => h) hN) fun ks1 d1 n1 ks2 H n2 ⟨i1, j1⟩ _ hE hlen _ => ?_
    obtain ⟨i2, j2⟩ := ensureKids_inv (cfg := cfg) (e := e) i1.frag i1.writes j1
    rw [hE] at i2 j2
    refine ⟨⟨fragE_withKids hn hf hlen i2.frag (writesE_node hn hf ▸ i2.writes), fun y hy => ?_,
      (i1.mono hw).hoists.append (i2.mono hw).hoists⟩, fun y hy => ?_⟩
    · rw [(names_withKids hn hf hlen).2] at hy
      exact hw y (i2.writes y hy)
    · rw [(names_withKids hn hf hlen).1] at hy
      exact j2 y hy
  case walrus =>
    intro i j s v ih W N n hw hN
    simp only [writesE, namesE, List.mem_append, List.mem_singleton] at hw hN
    refine .walrus (ih W N n (fun y hy => hw y (Or.inr hy)) fun y hy => hN y (Or.inr hy)) fun v1 d n' ⟨iv, jv⟩ =>
      ⟨⟨by simp [fragE, iv.frag], fun y hy => ?_, iv.hoists⟩, fun y hy => ?_⟩
    · simp only [writesE, namesE, List.mem_append, List.mem_singleton] at hy
      exact hy.elim (fun h => hw y (Or.inl h)) (iv.writes y)
    · simp only [namesE, List.mem_append, List.mem_singleton] at hy
      exact hy.elim (fun h => Or.inl (hN y (Or.inl h))) (jv y)
  case nil => exact fun W N n _ _ => Sat.pure ⟨⟨rfl, by simp [writesEs], rfl⟩, by simp [namesEs]⟩
  case cons =>
    intro e es _ ihe ihes W N n hw hN
    simp only [writesEs, namesEs, List.mem_append] at hw hN
    refine .cons (ihe W N n (fun y hy => hw y (Or.inl hy)) fun y hy => hN y (Or.inl hy)) fun e1 d1 n1 ⟨iv, jv⟩ =>
      Sat.mono (ihes W N n1 (fun y hy => hw y (Or.inr hy)) fun y hy => hN y (Or.inr hy)) fun (es1, d2, n2) ⟨is, js⟩ => ?_
    refine ⟨⟨by simp [fragEs, iv.frag, is.frag], fun y hy => ?_, iv.hoists.append is.hoists⟩, fun y hy => ?_⟩
    · simp only [writesEs, List.mem_append] at hy
      exact hy.elim (iv.writes y) (is.writes y)
    · simp only [namesEs, List.mem_append] at hy
      exact hy.elim (fun h => (jv y h).mono is.hoists.le) (js y)

theorem visitE_finv {cfg : Config} (W : String → Prop) {e : Expr} {n : Nat} {e' : Expr} {D : List Stmt} {n' : Nat}
    (hf : fragE e = true) (hw : ∀ y ∈ writesE e, W y) (h : visitE cfg e n = .ok (e', D, n')) : FInv W e' n D n' :=
  ((visit_finv cfg).1 e hf W (fun _ => True) n hw (fun _ _ => trivial) _ h).1

theorem visitEs_finv {cfg : Config} (W : String → Prop) {es : List Expr} {n : Nat} {es' : List Expr} {D : List Stmt}
    {n' : Nat} (hf : fragEs es = true) (hw : ∀ y ∈ writesEs es, W y) (h : visitEs cfg es n = .ok (es', D, n')) :
    FsInv W es' n D n' :=
  ((visit_finv cfg).2 es hf W (fun _ => True) n hw (fun _ _ => trivial) _ h).1

theorem visitE_ninv {cfg : Config} (N : String → Prop) {e : Expr} {n : Nat} {e' : Expr} {D : List Stmt} {n' : Nat}
    (hf : fragE e = true) (hN : ∀ y ∈ namesE e, N y) (h : visitE cfg e n = .ok (e', D, n')) : NamesIn N n' e' :=
  ((visit_finv cfg).1 e hf (fun _ => True) N n (fun _ _ => trivial) hN _ h).2

theorem visitE_frag {cfg : Config} {e : Expr} {n : Nat} {e' : Expr} {D : List Stmt} {n' : Nat} (hf : fragE e = true)
    (h : visitE cfg e n = .ok (e', D, n')) : fragE e' = true :=
  (visitE_finv (fun _ => True) hf (fun _ _ => trivial) h).frag

end Malt.Anf
