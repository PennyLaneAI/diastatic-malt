import MaltModel.Proofs.C08Dynamic
/-
What evaluating an expression reads / rebinds according to `Spec.Dynamic` is contained in the effect `effC` of the
activity model, comprehensions included (no named expression inside them).
-/
namespace Malt.Analysis
open Malt.Py Malt.Spec

/-- `hid`: the iteration variables of the open comprehensions. -/
def CompInv (cs : List QSet) (hid : List String) : Prop := ∀ l ∈ cs, ∀ s, QN.sym s ∈ l → s ∈ hid

theorem CompInv.nil (hid : List String) : CompInv [] hid := by intro l hl; simp at hl

theorem CompInv.mono {cs : List QSet} {hid hid' : List String} (h : CompInv cs hid) (hs : ∀ s ∈ hid, s ∈ hid') : CompInv cs hid' :=
  fun l hl s hsl => hs s (h l hl s hsl)

theorem CompInv.cons_nil {cs : List QSet} {hid : List String} (h : CompInv cs hid) : CompInv ([] :: cs) hid := by
  intro l hl s hs
  simp only [List.mem_cons] at hl
  rcases hl with rfl | hl
  · simp at hs
  · exact h l hl s hs

theorem CompInv.tail {cs : List QSet} {hid : List String} (h : CompInv cs hid) : CompInv cs.tail hid :=
  fun l hl s hs => h l (List.mem_of_mem_tail hl) s hs

theorem not_hidden_of_inv {cs : List QSet} {hid : List String} (h : CompInv cs hid) {s : String} (hs : s ∉ hid) :
    hiddenByComps cs (.sym s) = false := by
  simp only [hiddenByComps, QN.ownerSet, List.any_nil, Bool.or_false, List.any_eq_false, List.contains_eq_mem,
    decide_eq_true_eq]
  intro l hl hm
  exact hs (h l hl s hm)

theorem trackC_inv (cs : List QSet) (hid : List String) (hinv : CompInv cs hid) (q? : Option QN) (c : Ctx) (cw aug anno : Bool)
    (hst : ∀ s, q? = some (.sym s) → c = .store → cs ≠ [] → s ∈ hid) : CompInv (trackC cs q? c cw aug anno).2 hid := by
  unfold trackC
  cases q? with
  | none => exact hinv
  | some qn =>
    simp only
    split
    · exact hinv
    · cases c with
      | load => exact hinv
      | del => exact hinv
      | store =>
        cases cs with
        | nil => exact CompInv.nil _
        | cons l ls =>
          intro l' hl' s' hs'
          simp only [List.mem_cons] at hl'
          rcases hl' with rfl | hl'
          · simp only [QSet.mem_ins] at hs'
            rcases hs' with rfl | hs'
            · exact hst s' rfl rfl (by simp)
            · exact hinv l (by simp) s' hs'
          · exact hinv l' (List.mem_cons_of_mem _ hl') s' hs'

theorem trackC_name (cs : List QSet) (hid : List String) (hinv : CompInv cs hid) (s : String) (c : Ctx) (aug anno : Bool)
    (hst : c = .store → cs ≠ [] → s ∈ hid) :
    (c = .load → s ∉ hid → QN.sym s ∈ (trackC cs (some (.sym s)) c false aug anno).1.read) ∧
    (c = .store → s ∉ hid → QN.sym s ∈ (trackC cs (some (.sym s)) c false aug anno).1.modified) := by
  refine ⟨fun hc hs => ?_, fun hc hs => ?_⟩
  · subst hc
    simp [trackC, not_hidden_of_inv hinv hs, trackEff]
  · subst hc
    cases cs with
    | nil => simp [trackC, hiddenByComps, trackEff]
    | cons l ls => exact absurd (hst rfl (by simp)) hs

theorem effC_tail : (e : Expr) → (fns : List FnCtx) → (aug anno : Bool) → (c : QSet) → (cs : List QSet) →
    (effC fns aug anno (c :: cs) e).2.tail = cs :=
  fun e fns aug anno c cs => (effC_shape_all.1 e fns aug anno (c :: cs)).tail

theorem storesOkE_comp {b : Bool} {hid : List String} {i : Nat} {k : CompKind} {elts gens : List Expr}
    (h : storesOkE b hid (.comp i k elts gens) = true) : ∃ gi t it ifs ia rest, gens = .comprehension gi t it ifs ia :: rest := by
  refine Classical.byContradiction fun h' => ?_
  rw [storesOkE] at h
  · cases h
  · exact fun gi t it ifs ia rest e => h' ⟨gi, t, it, ifs, ia, rest, e⟩

theorem storesOkE_lambda_other {b : Bool} {hid : List String} {i : Nat} {args body : Expr}
    (h' : ∀ ai po ar va ko kd kw df, args = .arguments ai po ar va ko kd kw df → False) :
    storesOkE b hid (.lambda i args body) = storesOkE b hid body := by
  rw [storesOkE]
  · exact Bool.true_and _
  · exact h'

theorem storesOk_mono_all :
    (∀ e b hid hid', (∀ s ∈ hid, s ∈ hid') → storesOkE b hid e = true → storesOkE b hid' e = true) ∧
    (∀ es b hid hid', (∀ s ∈ hid, s ∈ hid') → storesOkEs b hid es = true → storesOkEs b hid' es = true) := by
  apply Expr.plain_ind
  case nil => intros; rfl
  case cons =>
    intro _ _ ihe ihs b hid hid' hm h
    simp only [storesOkEs, Bool.and_eq_true] at h ⊢
    exact ⟨ihe b hid hid' hm h.1, ihs b hid hid' hm h.2⟩
  case plain => intro _ _ hk ih b hid hid' hm h; rw [storesOkE_plain hk] at h ⊢; exact ih b hid hid' hm h
  case name =>
    intro _ s c b hid hid' hm h
    simp only [storesOkE, Bool.or_eq_true, bne_iff_ne, ne_eq, Bool.not_eq_true', List.contains_eq_mem, decide_eq_true_eq] at h ⊢
    exact h.imp_right (hm s)
  case attr => intro _ _ _ _ ih b hid hid' hm h; simp only [storesOkE] at h ⊢; exact ih b hid hid' hm h
  case subscript =>
    intro _ _ _ _ ihv ihs b hid hid' hm h
    simp only [storesOkE, Bool.and_eq_true] at h ⊢
    exact ⟨ihv b hid hid' hm h.1, ihs b hid hid' hm h.2⟩
  case call =>
    intro _ _ _ _ ihf ihas ihks b hid hid' hm h
    simp only [storesOkE, Bool.and_eq_true] at h ⊢
    exact ⟨⟨ihf b hid hid' hm h.1.1, ihas b hid hid' hm h.1.2⟩, ihks b hid hid' hm h.2⟩
  case lambda =>
    intro _ args _ ih ihb b hid hid' hm h
    by_cases ha : ∃ ai po ar va ko kd kw df, args = .arguments ai po ar va ko kd kw df
    · obtain ⟨_, _, _, _, _, _, _, _, rfl⟩ := ha
      obtain ⟨ihkd, ihdf⟩ := ih _ _ _ _ _ _ _ _ rfl
      simp only [storesOkE, Bool.and_eq_true] at h ⊢
      exact ⟨⟨ihkd b hid hid' hm h.1.1, ihdf b hid hid' hm h.1.2⟩, ihb b hid hid' hm h.2⟩
    · have ha' := fun ai po ar va ko kd kw df e => ha ⟨ai, po, ar, va, ko, kd, kw, df, e⟩
      rw [storesOkE_lambda_other ha'] at h ⊢
      exact ihb b hid hid' hm h
  case comp =>
    intro _ _ elts gens ihe ihg ihp b hid hid' hm h
    obtain ⟨gi, t, it, ifs, ia, rest, rfl⟩ := storesOkE_comp h
    have hm' : ∀ s ∈ compTargets (.comprehension gi t it ifs ia :: rest) ++ hid,
        s ∈ compTargets (.comprehension gi t it ifs ia :: rest) ++ hid' :=
      fun s hs => (List.mem_append.mp hs).elim (List.mem_append_left _) (fun hs => List.mem_append_right _ (hm s hs))
    simp only [storesOkE, Bool.and_eq_true] at h ⊢
    exact ⟨⟨(ihp _ _ _ _ _ _ rfl).2.1 true hid hid' hm h.1.1, ihg true _ _ hm' h.1.2⟩, ihe true _ _ hm' h.2⟩
  case comprehension =>
    intro _ _ _ _ _ iht ihit ihifs b hid hid' hm h
    simp only [storesOkE, Bool.and_eq_true] at h ⊢
    exact ⟨⟨iht b hid hid' hm h.1.1, ihit b hid hid' hm h.1.2⟩, ihifs b hid hid' hm h.2⟩
  case arguments => intros; rfl
  case arg => intro _ _ _ ih b hid hid' hm h; simp only [storesOkE] at h ⊢; exact ih b hid hid' hm h
  case withitem =>
    intro _ _ _ ihc ihv b hid hid' hm h
    simp only [storesOkE, Bool.and_eq_true] at h ⊢
    exact ⟨ihc b hid hid' hm h.1, ihv b hid hid' hm h.2⟩

theorem storesOks_mono : (es : List Expr) → (b : Bool) → (hid hid' : List String) → (∀ s ∈ hid, s ∈ hid') →
    storesOkEs b hid es = true → storesOkEs b hid' es = true :=
  storesOk_mono_all.2

@[simp] theorem Eff.exported_false_read' (d : Eff) : (d.exported false).read = d.read := rfl

def ReadsOk (fns : List FnCtx) (aug anno : Bool) (cs : List QSet) (hid : List String) (rs : List String) (r : Eff × List QSet) : Prop :=
  (∀ x ∈ rs, QN.sym x ∈ r.1.read) ∧ CompInv r.2 hid

/-- `b`: the flag of `storesOkE`. -/
structure OpenInv (b : Bool) (hid : List String) (cs : List QSet) : Prop where
  isOpen : cs.isEmpty = !b
  inv : CompInv cs hid

theorem OpenInv.mono {b : Bool} {hid hid' : List String} {cs : List QSet} (h : OpenInv b hid cs)
    (hs : ∀ s ∈ hid, s ∈ hid') : OpenInv b hid' cs :=
  ⟨h.isOpen, h.inv.mono hs⟩

theorem OpenInv.track {b : Bool} {hid : List String} {cs : List QSet} (h : OpenInv b hid cs) (q? : Option QN) (c : Ctx)
    (cw aug anno : Bool) (hst : ∀ s, q? = some (.sym s) → c = .store → cs ≠ [] → s ∈ hid) :
    OpenInv b hid (trackC cs q? c cw aug anno).2 :=
  ⟨by rw [(trackC_shape cs q? c cw aug anno).isEmpty]; exact h.isOpen, trackC_inv cs hid h.inv q? c cw aug anno hst⟩

theorem OpenInv.track_composite {b : Bool} {hid : List String} {cs : List QSet} (h : OpenInv b hid cs) (q? : Option QN)
    (hq : ∀ s, q? ≠ some (.sym s)) (c : Ctx) (cw aug anno : Bool) : OpenInv b hid (trackC cs q? c cw aug anno).2 :=
  h.track q? c cw aug anno fun s e => absurd e (hq s)

theorem access_name {b : Bool} {hid : List String} {cs : List QSet} (hi : OpenInv b hid cs) (i : Nat) (s : String) (c : Ctx)
    (aug anno : Bool) (hso : storesOkE b hid (.name i s c) = true) :
    (trackC cs (some (.sym s)) c false aug anno).1.Has (readsE hid (.name i s c)) (writesE hid (.name i s c)) ∧
    OpenInv b hid (trackC cs (some (.sym s)) c false aug anno).2 := by
  simp only [storesOkE, Bool.or_eq_true, bne_iff_ne, ne_eq, Bool.not_eq_true', List.contains_eq_mem, decide_eq_true_eq] at hso
  have hst : c = .store → cs ≠ [] → s ∈ hid := by
    intro hc hne
    rcases hso with (h | h) | h
    · exact absurd hc h
    · have := hi.isOpen
      rw [h] at this
      exact absurd (List.isEmpty_iff.mp this) hne
    · exact h
  obtain ⟨h1, h2⟩ := trackC_name cs hid hi.inv s c aug anno hst
  refine ⟨⟨fun x hx => ?_, fun x hx => ?_⟩, hi.track _ c false aug anno fun s' e => by cases e; exact hst⟩
  · simp only [readsE] at hx
    split at hx
    · rename_i hh
      simp only [Bool.and_eq_true, beq_iff_eq, Bool.not_eq_true', List.contains_eq_mem, decide_eq_false_iff_not] at hh
      rw [List.mem_singleton.mp hx]
      exact h1 hh.1 hh.2
    · exact absurd hx List.not_mem_nil
  · simp only [writesE] at hx
    split at hx
    · rename_i hh
      simp only [Bool.and_eq_true, beq_iff_eq, Bool.not_eq_true', List.contains_eq_mem, decide_eq_false_iff_not] at hh
      rw [List.mem_singleton.mp hx]
      exact h2 hh.1 hh.2
    · exact absurd hx List.not_mem_nil

/-- While comprehensions are open every store is, by `storesOkE`, to an iteration variable, which is not `modified`. -/
theorem accessC_all :
    (∀ e, FragC e = true → ∀ fns aug anno b hid cs, OpenInv b hid cs → storesOkE b hid e = true →
      (effC fns aug anno cs e).1.Has (readsE hid e) (writesE hid e) ∧ OpenInv b hid (effC fns aug anno cs e).2) ∧
    (∀ es, FragCs es = true → ∀ fns aug anno b hid cs, OpenInv b hid cs → storesOkEs b hid es = true →
      (effCs fns aug anno cs es).1.Has (readsEs hid es) (writesEs hid es) ∧ OpenInv b hid (effCs fns aug anno cs es).2) := by
  apply Expr.plain_ind
  case nil => intro _ _ _ _ _ _ _ hi _; exact ⟨Eff.Has.nil _, hi⟩
  case cons =>
    intro _ _ ihe ihs hf fns aug anno b hid cs hi hso
    simp only [FragCs, Bool.and_eq_true] at hf
    simp only [storesOkEs, Bool.and_eq_true] at hso
    obtain ⟨a1, i1⟩ := ihe hf.1 fns aug anno b hid cs hi hso.1
    obtain ⟨a2, i2⟩ := ihs hf.2 fns aug anno b hid _ i1 hso.2
    simp only [readsEs, writesEs, effCs]
    exact ⟨a1.append a2, i2⟩
  case plain =>
    intro _ _ hk ih hf fns aug anno b hid cs hi hso
    rw [FragC_plain hk] at hf
    rw [storesOkE_plain hk] at hso
    rw [effC_plain hk, readsE_plain hk, writesE_plain hk]
    exact ih hf fns aug anno b hid cs hi hso
  case name => intro i s c _ fns aug anno b hid cs hi hso; simpa only [effC] using access_name hi i s c aug anno hso
  case attr =>
    intro i v a c ih hf fns aug anno b hid cs hi hso
    simp only [FragC] at hf
    simp only [storesOkE] at hso
    obtain ⟨a1, i1⟩ := ih hf fns aug anno b hid cs hi hso
    simp only [readsE, writesE, effC]
    exact ⟨a1.inl _, i1.track_composite _ (qnOf_attr_ne_sym i v a c) _ _ _ _⟩
  case subscript =>
    intro i v s c ihv ihs hf fns aug anno b hid cs hi hso
    simp only [FragC, Bool.and_eq_true] at hf
    simp only [storesOkE, Bool.and_eq_true] at hso
    obtain ⟨a1, i1⟩ := ihv hf.1 fns aug anno b hid cs hi hso.1
    obtain ⟨a2, i2⟩ := ihs hf.2 fns aug anno b hid _ i1 hso.2
    simp only [readsE, writesE, effC]
    exact ⟨(a1.append a2).inl _, i2.track_composite _ (qnOf_subscript_ne_sym i v s c) _ _ _ _⟩
  case call =>
    intro _ _ _ _ ihf ihas ihks hf fns aug anno b hid cs hi hso
    simp only [FragC, Bool.and_eq_true] at hf
    simp only [storesOkE, Bool.and_eq_true] at hso
    obtain ⟨a1, i1⟩ := ihas hf.1.2 fns aug anno b hid cs hi hso.1.2
    obtain ⟨a2, i2⟩ := ihks hf.2 fns aug anno b hid _ i1 hso.2
    obtain ⟨a3, i3⟩ := ihf hf.1.1 fns aug anno b hid _ i2 hso.1.1
    simp only [readsE, writesE, effC, List.append_assoc]
    exact ⟨(a3.inr _).both ((a1.append a2).exported.inl _), i3⟩
  case lambda =>
    intro i args body ih ihb hf fns aug anno b hid cs hi hso
    obtain ⟨ai, po, ar, va, ko, kd, kw, df, rfl, -, hkd, hdf, hbody⟩ := FragC.lambda hf
    obtain ⟨ihkd, ihdf⟩ := ih _ _ _ _ _ _ _ _ rfl
    simp only [storesOkE, Bool.and_eq_true] at hso
    obtain ⟨a1, i1⟩ := ihkd hkd (.lam i :: fns) aug anno b hid cs hi hso.1.1
    obtain ⟨a2, i2⟩ := ihdf hdf (.lam i :: fns) aug anno b hid _ i1 hso.1.2
    obtain ⟨-, i3⟩ := ihb hbody (.lam i :: fns) aug anno b hid _ i2 hso.2
    simp only [readsE, writesE, effC]
    exact ⟨((((a1.append a2).inl _).exported.inl _).inl _), i3⟩
  case comp =>
    intro _ _ elts gens ihe _ ihp hf fns aug anno b hid cs hi hso
    obtain ⟨gi, t, it, ifs, ia, rest, rfl⟩ := storesOkE_comp hso
    obtain ⟨iht, ihit, ihifs, ihrest⟩ := ihp _ _ _ _ _ _ rfl
    simp only [FragC, FragCs, Bool.and_eq_true] at hf
    obtain ⟨helts, ⟨⟨hft, hfit⟩, hfifs⟩, hfrest⟩ := hf
    simp only [storesOkE, storesOkEs, Bool.and_eq_true] at hso
    obtain ⟨⟨hit0, ⟨⟨hst, hsit⟩, hsifs⟩, hsrest⟩, hselts⟩ := hso
    have hsub : ∀ s ∈ hid, s ∈ compTargets (.comprehension gi t it ifs ia :: rest) ++ hid :=
      fun s hs => List.mem_append_right _ hs
    -- the first iterable is evaluated outside the comprehension's own scope (its targets hide nothing there: `hid`),
    -- but the model visits it with the comprehension already open (hence `true` in `storesOkE`)
    obtain ⟨a1, i1⟩ := ihit hfit fns aug anno true hid ([] :: cs) ⟨rfl, hi.inv.cons_nil⟩ hit0
    obtain ⟨a2, i2⟩ := iht hft fns aug anno true _ _ (i1.mono hsub) hst
    obtain ⟨-, i3⟩ := iht hft fns aug anno true _ _ i2 hst
    obtain ⟨-, i4⟩ := ihit hfit fns aug anno true _ _ i3 hsit
    obtain ⟨a5, i5⟩ := ihifs hfifs fns aug anno true _ _ i4 hsifs
    obtain ⟨a6, i6⟩ := ihrest hfrest fns aug anno true _ _ i5 hsrest
    obtain ⟨a7, -⟩ := ihe helts fns aug anno true _ _ i6 hselts
    refine ⟨?_, ?_⟩
    · simp only [readsE, writesE, effC, effCs]
      exact (((((a1.append a2).inl _).inl _).append a5).append a6).append a7
    · rw [effC_comp_snd]
      exact hi
  case comprehension =>
    intro _ _ _ _ _ iht ihit ihifs hf fns aug anno b hid cs hi hso
    simp only [FragC, Bool.and_eq_true] at hf
    simp only [storesOkE, Bool.and_eq_true] at hso
    obtain ⟨a1, i1⟩ := ihit hf.1.2 fns aug anno b hid cs hi hso.1.2
    obtain ⟨a2, i2⟩ := iht hf.1.1 fns aug anno b hid _ i1 hso.1.1
    obtain ⟨-, i3⟩ := iht hf.1.1 fns aug anno b hid _ i2 hso.1.1
    obtain ⟨-, i4⟩ := ihit hf.1.2 fns aug anno b hid _ i3 hso.1.2
    obtain ⟨a5, i5⟩ := ihifs hf.2 fns aug anno b hid _ i4 hso.2
    simp only [readsE, writesE, effC]
    exact ⟨(((a1.append a2).inl _).inl _).append a5, i5⟩
  case arguments => intro _ _ _ _ _ _ _ _ hf; cases hf
  case arg => intro _ _ _ _ hf; cases hf
  case withitem =>
    intro _ _ _ ihc ihv hf fns aug anno b hid cs hi hso
    simp only [FragC, Bool.and_eq_true] at hf
    simp only [storesOkE, Bool.and_eq_true] at hso
    obtain ⟨a1, i1⟩ := ihc hf.1 fns aug anno b hid cs hi hso.1
    obtain ⟨a2, i2⟩ := ihv hf.2 fns aug anno b hid _ i1 hso.2
    simp only [readsE, writesE, effC]
    exact ⟨(a1.append a2).exported, i2⟩

theorem writes_nil_all : (∀ e hid, storesOkE true hid e = true → writesE hid e = []) ∧
    (∀ es hid, storesOkEs true hid es = true → writesEs hid es = []) := by
  apply Expr.plain_ind
  case nil => intros; rfl
  case cons =>
    intro _ _ ihe ihs hid h
    simp only [storesOkEs, Bool.and_eq_true] at h
    simp only [writesEs, ihe hid h.1, ihs hid h.2, List.append_nil]
  case plain => intro _ _ hk ih hid h; rw [storesOkE_plain hk] at h; rw [writesE_plain hk]; exact ih hid h
  case name =>
    intro _ s c hid h
    simp only [storesOkE, Bool.not_true, Bool.or_false, Bool.or_eq_true, bne_iff_ne, ne_eq, List.contains_eq_mem,
      decide_eq_true_eq] at h
    simp only [writesE]
    split
    · rename_i hh
      simp only [Bool.and_eq_true, beq_iff_eq, Bool.not_eq_true', List.contains_eq_mem, decide_eq_false_iff_not] at hh
      exact h.elim (fun h => absurd hh.1 h) (fun h => absurd h hh.2)
    · rfl
  case attr => intro _ _ _ _ ih hid h; simp only [storesOkE] at h; simp only [writesE, ih hid h]
  case subscript =>
    intro _ _ _ _ ihv ihs hid h
    simp only [storesOkE, Bool.and_eq_true] at h
    simp only [writesE, ihv hid h.1, ihs hid h.2, List.append_nil]
  case call =>
    intro _ _ _ _ ihf ihas ihks hid h
    simp only [storesOkE, Bool.and_eq_true] at h
    simp only [writesE, ihf hid h.1.1, ihas hid h.1.2, ihks hid h.2, List.append_nil]
  case lambda =>
    intro _ args _ ih _ hid h
    cases args with
    | arguments =>
      obtain ⟨ihkd, ihdf⟩ := ih _ _ _ _ _ _ _ _ rfl
      simp only [storesOkE, Bool.and_eq_true] at h
      simp only [writesE, ihkd hid h.1.1, ihdf hid h.1.2, List.append_nil]
    | _ => rfl
  case comp =>
    intro _ _ _ gens ihe _ ihp hid h
    obtain ⟨gi, t, it, ifs, ia, rest, rfl⟩ := storesOkE_comp h
    obtain ⟨iht, ihit, ihifs, ihrest⟩ := ihp _ _ _ _ _ _ rfl
    simp only [storesOkE, storesOkEs, Bool.and_eq_true] at h
    obtain ⟨⟨hit0, ⟨⟨hst, _⟩, hsifs⟩, hsrest⟩, hselts⟩ := h
    simp only [writesE, ihit hid hit0, iht _ hst, ihifs _ hsifs, ihrest _ hsrest, ihe _ hselts, List.append_nil]
  case comprehension =>
    intro _ _ _ _ _ iht ihit ihifs hid h
    simp only [storesOkE, Bool.and_eq_true] at h
    simp only [writesE, iht hid h.1.1, ihit hid h.1.2, ihifs hid h.2, List.append_nil]
  case arguments => intros; rfl
  case arg => intro _ _ _ ih hid h; simp only [storesOkE] at h; simp only [writesE, ih hid h]
  case withitem =>
    intro _ _ _ ihc ihv hid h
    simp only [storesOkE, Bool.and_eq_true] at h
    simp only [writesE, ihc hid h.1, ihv hid h.2, List.append_nil]

theorem writess_nil : (es : List Expr) → (hid : List String) → storesOkEs true hid es = true → writesEs hid es = [] :=
  writes_nil_all.2

@[simp] theorem Eff.exported_false_modified' (d : Eff) : (d.exported false).modified = d.modified := rfl

theorem accessD (e : Expr) (hf : FragD e = true) (fns : List FnCtx) (aug anno : Bool) :
    (effC fns aug anno [] e).1.Has (readsE [] e) (writesE [] e) := by
  simp only [FragD, Bool.and_eq_true] at hf
  exact (accessC_all.1 e hf.1 fns aug anno false [] [] ⟨rfl, CompInv.nil _⟩ hf.2).1

theorem accessDs (es : List Expr) (hf : FragDs es = true) (fns : List FnCtx) (aug anno : Bool) :
    (effCs fns aug anno [] es).1.Has (readsEs [] es) (writesEs [] es) :=
  (accessC_all.2 es ((FragDs_iff es).mp hf).1 fns aug anno false [] [] ⟨rfl, CompInv.nil _⟩ ((FragDs_iff es).mp hf).2).1

theorem targetEff_effC (fns : List FnCtx) (aug anno : Bool) :
    TargetEff (fun e => (effC fns aug anno [] e).1) (fun es => (effCs fns aug anno [] es).1) :=
  ⟨fun _ _ _ _ => by simp only [effC], fun _ _ _ => by simp only [effC], fun _ _ => by simp only [effCs, effC_nil]⟩

theorem delsD_all (fns : List FnCtx) (aug anno : Bool) :
    (∀ e, ∀ x ∈ delNames e, QN.sym x ∈ (effC fns aug anno [] e).1.deleted) ∧
    (∀ es, ∀ x ∈ delNamesL es, QN.sym x ∈ (effCs fns aug anno [] es).1.deleted) :=
  (targetEff_effC fns aug anno).dels (fun _ _ => by simp [effC, trackC, hiddenByComps, trackEff])

theorem delsD : (e : Expr) → (fns : List FnCtx) → (aug anno : Bool) →
    ∀ x ∈ delNames e, QN.sym x ∈ (effC fns aug anno [] e).1.deleted :=
  fun e fns aug anno => (delsD_all fns aug anno).1 e

theorem augTargetsD_all (fns : List FnCtx) (anno : Bool) :
    (∀ e, ∀ x ∈ targetNames e, QN.sym x ∈ (effC fns true anno [] e).1.read) ∧
    (∀ es, ∀ x ∈ targetNamesL es, QN.sym x ∈ (effCs fns true anno [] es).1.read) :=
  (targetEff_effC fns true anno).targets (fun _ _ c => by cases c <;> simp [effC, trackC, hiddenByComps, trackEff])

theorem augTargetsDs : (es : List Expr) → (fns : List FnCtx) → (anno : Bool) →
    ∀ x ∈ targetNamesL es, QN.sym x ∈ (effCs fns true anno [] es).1.read :=
  fun es fns anno => (augTargetsD_all fns anno).2 es

end Malt.Analysis
