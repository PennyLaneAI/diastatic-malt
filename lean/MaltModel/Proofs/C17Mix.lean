import MaltModel.Proofs.C17Rel
import MaltModel.Proofs.C17Fresh
/- Node identity of the instantiated tree: fresh labels for everything that is copied, and the labels of the nodes
`visit_arg` inserts without a copy, each exactly where `sharedE` lists it.  `Mix s n L n' S`: the labels of `L` that are ≥ `s` are exactly `n, …, n'-1` (in order) and those below `s` are exactly `S`.
`s` is the threshold below which all labels of the bindings lie (`startLabel b`), `n`/`n'` the counter before/after
producing the nodes labelled `L`. -/
namespace Malt.Conv.Template
open Malt.Py

def Mix (s n : Nat) (L : List Nat) (n' : Nat) (S : List Nat) : Prop :=
  n ≤ n' ∧ L.filter (fun l => decide (s ≤ l)) = List.range' n (n' - n) ∧ L.filter (fun l => !decide (s ≤ l)) = S

theorem Mix.nil (s n : Nat) : Mix s n [] n [] := by simp [Mix]

theorem Mix.le {s n n' : Nat} {L S : List Nat} (h : Mix s n L n' S) : n ≤ n' := h.1

theorem Mix.of_fresh {s n n' : Nat} {L : List Nat} (h : Fresh n L n') (hs : s ≤ n) : Mix s n L n' [] := by
  obtain ⟨hle, rfl⟩ := h
  refine ⟨hle, List.filter_eq_self.2 fun a ha => ?_, List.filter_eq_nil_iff.2 fun a ha => ?_⟩
  · rw [List.mem_range'_1] at ha
    simp; omega
  · rw [List.mem_range'_1] at ha
    simp; omega

theorem Mix.append {s a b c : Nat} {L1 L2 S1 S2 : List Nat} (h1 : Mix s a L1 b S1) (h2 : Mix s b L2 c S2) :
    Mix s a (L1 ++ L2) c (S1 ++ S2) := by
  obtain ⟨ha, f1, g1⟩ := h1
  obtain ⟨hb, f2, g2⟩ := h2
  refine ⟨Nat.le_trans ha hb, ?_, ?_⟩
  · rw [List.filter_append, f1, f2]
    exact range'_append_sub ha hb
  · rw [List.filter_append, g1, g2]

theorem Mix.shared {s n : Nat} {L : List Nat} (h : ∀ l ∈ L, l < s) : Mix s n L n L := by
  refine ⟨Nat.le_refl _, ?_, ?_⟩
  · simp only [Nat.sub_self, List.range'_zero]
    apply List.filter_eq_nil_iff.2
    intro a ha
    have := h a ha
    simp; omega
  · apply List.filter_eq_self.2
    intro a ha
    have := h a ha
    simp; omega

theorem nodup_of_partition (p : Nat → Bool) (L : List Nat) (h1 : (L.filter p).Nodup)
    (h2 : (L.filter (fun l => !p l)).Nodup) : L.Nodup := by
  refine (List.filter_append_perm p L).nodup_iff.1 (List.nodup_append.2 ⟨h1, h2, ?_⟩)
  rintro a ha _ hb rfl
  have hp := (List.mem_filter.1 ha).2
  have hn := (List.mem_filter.1 hb).2
  simp [hp] at hn

theorem Mix.nodup {s n n' : Nat} {L S : List Nat} (h : Mix s n L n' S) (hS : S.Nodup) : L.Nodup := by
  obtain ⟨_, hhigh, hlow⟩ := h
  apply nodup_of_partition (fun l => decide (s ≤ l)) L
  · rw [hhigh]; exact List.nodup_range'
  · rw [hlow]; exact hS

theorem Mix.low_mem {s n n' : Nat} {L S : List Nat} (h : Mix s n L n' S) : ∀ l ∈ L, l < s → l ∈ S := by
  obtain ⟨_, _, hlow⟩ := h
  intro l hl hlt
  rw [← hlow]
  exact List.mem_filter.2 ⟨hl, by simp; omega⟩

theorem Mix.high_bounds {s n n' : Nat} {L S : List Nat} (h : Mix s n L n' S) : ∀ l ∈ L, s ≤ l → n ≤ l ∧ l < n' := by
  obtain ⟨_, hhigh, _⟩ := h
  intro l hl hge
  have : l ∈ L.filter (fun l => decide (s ≤ l)) := List.mem_filter.2 ⟨hl, by simp; omega⟩
  rw [hhigh, List.mem_range'_1] at this
  omega

/-! The side condition `s ≤ n` travels with the counter: in this form the rules for a node and for consecutive fields
compose without arithmetic. -/
theorem Mix.node {s n n' : Nat} {L S : List Nat} (h : s ≤ n + 1 → Mix s (n + 1) L n' S) (hs : s ≤ n) : Mix s n (n :: L) n' S := by
  have := Mix.append (Mix.of_fresh (Fresh.single n) hs) (h (Nat.le_succ_of_le hs))
  simpa using this

theorem Mix.and_then {s a b c : Nat} {L1 L2 S1 S2 : List Nat} (h1 : s ≤ a → Mix s a L1 b S1) (h2 : s ≤ b → Mix s b L2 c S2)
    (hs : s ≤ a) : Mix s a (L1 ++ L2) c (S1 ++ S2) :=
  have m1 := h1 hs
  Mix.append m1 (h2 (Nat.le_trans hs m1.le))

theorem labelsEs_append : ∀ (l r : List Expr), labelsEs (l ++ r) = labelsEs l ++ labelsEs r
  | [], r => by simp [labelsEs]
  | e :: l, r => by simp [labelsEs, labelsEs_append l r]

theorem labelsSs_append : ∀ (l r : List Stmt), labelsSs (l ++ r) = labelsSs l ++ labelsSs r
  | [], r => by simp [labelsSs]
  | e :: l, r => by simp [labelsSs, labelsSs_append l r]

theorem labelsEs_single (x : Expr) : labelsEs [x] = labelsE x := by simp [labelsEs]

theorem labelsSs_single (x : Stmt) : labelsSs [x] = labelsS x := by simp [labelsSs]

theorem Mix.of_one {s n n' : Nat} {x : Expr} {S : List Nat} (h : s ≤ n → Mix s n (labelsEs [x]) n' S) :
    s ≤ n → Mix s n (labelsE x) n' S := by
  rwa [labelsEs_single] at h

theorem Mix.one {s n n' : Nat} {x : Expr} {S : List Nat} (h : s ≤ n → Mix s n (labelsE x) n' S) :
    s ≤ n → Mix s n (labelsEs [x]) n' S := by
  rwa [labelsEs_single]

theorem Mix.oneS {s n n' : Nat} {x : Stmt} {S : List Nat} (h : s ≤ n → Mix s n (labelsS x) n' S) :
    s ≤ n → Mix s n (labelsSs [x]) n' S := by
  rwa [labelsSs_single]

theorem mem_bindingLabels : ∀ (b : Bindings) {k : String} {bd : Binding}, (k, bd) ∈ b → ∀ l ∈ bd.labels, l ∈ bindingLabels b
  | (k', v) :: r, k, bd, h, l, hl => by
      simp only [bindingLabels, List.mem_append]
      rcases List.mem_cons.1 h with h | h
      · cases h
        exact Or.inl hl
      · exact Or.inr (mem_bindingLabels r h l hl)

theorem lookup_labels {b : Bindings} {s : String} {bd : Binding} (h : b.lookup s = some bd) :
    ∀ l ∈ labelsEs bd.exprs, l ∈ bindingLabels b := by
  obtain ⟨k, hk⟩ := lookup_mem b s bd h
  intro l hl
  refine mem_bindingLabels b hk l ?_
  cases bd <;> simp_all [Binding.exprs, Binding.labels, labelsEs]

theorem labelsEs_filter_sub (p : Expr → Bool) : ∀ (es : List Expr), ∀ l ∈ labelsEs (es.filter p), l ∈ labelsEs es
  | [], l, h => by simp [labelsEs] at h
  | e :: es, l, h => by
      simp only [List.filter_cons] at h
      simp only [labelsEs, List.mem_append]
      split at h
      · simp only [labelsEs, List.mem_append] at h
        rcases h with h | h
        · exact Or.inl h
        · exact Or.inr (labelsEs_filter_sub p es l h)
      · exact Or.inr (labelsEs_filter_sub p es l h)

theorem argRepl_mix (s : Nat) (es : List Expr) (n : Nat) : (∀ l ∈ labelsEs es, l < s) → s ≤ n →
    Mix s n (labelsEs (argRepl es n).1) (argRepl es n).2 (labelsEs (es.filter notName)) := by
  refine argRepl_induct (motive := fun es n t => (∀ l ∈ labelsEs es, l < s) → s ≤ n →
    Mix s n (labelsEs t.1) t.2 (labelsEs (es.filter notName))) (fun _ _ _ => Mix.nil _ _) ?_ ?_ es n
  · exact fun i id c r n ih hl => Mix.node (ih fun l h => hl l (List.mem_cons_of_mem _ h))
  · intro e r n hne ih hl
    simp only [List.filter_cons, notName, hne, Bool.not_false, if_true]
    exact Mix.and_then (fun _ => Mix.shared fun l h => hl l (List.mem_append_left _ h))
      (ih fun l h => hl l (List.mem_append_right _ h))

theorem InstE.mix {b : Bindings} {s : Nat} (hb : ∀ l ∈ bindingLabels b, l < s) {e : Expr} {n : Nat} {r : List Expr} {n' : Nat}
    (h : InstE b e n r n') : s ≤ n → Mix s n (labelsEs r) n' (sharedE b e) := by
  induction h using InstE.rec (motive_2 := fun es n r n' _ => s ≤ n → Mix s n (labelsEs r) n' (sharedEs b es)) with
  | noneMarker => exact Mix.one (fun _ => Mix.nil _ _)
  | nameFree hl | const => exact Mix.one (Mix.node (fun _ => Mix.nil _ _))
  | nameBound hl =>
      rw [map_adjTop_labelsEs]
      exact Mix.of_fresh (copy_freshEs _ _)
  | attr h0 ha ih0 | starred h0 ih0 | unary h0 ih0 => exact Mix.one (Mix.node (Mix.of_one ih0))
  | keywordBound hl hk =>
      simp only [sharedE, hl]
      exact Mix.of_fresh (copy_freshEs _ _)
  | keywordFree hl h0 ih0 =>
      simp only [sharedE, hl]
      exact Mix.one (Mix.node (Mix.of_one ih0))
  | argFree hl =>
      simp only [sharedE, hl]
      exact Mix.one (Mix.node (Mix.of_fresh (copy_freshEs _ _)))
  | argBound hl =>
      simp only [sharedE, hl]
      exact argRepl_mix s _ _ fun l h => hb l (lookup_labels hl l h)
  | subscript h0 h1 ih0 ih1 | binop h0 h1 ih0 ih1 | lambda h0 h1 ih0 ih1 | namedexpr h0 h1 ih0 ih1 =>
      exact Mix.one (Mix.node (Mix.and_then (Mix.of_one ih0) (Mix.of_one ih1)))
  | seq h0 ih0 | boolop h0 ih0 | other h0 ih0 => exact Mix.one (Mix.node ih0)
  | call h0 h1 h2 ih0 ih1 ih2 => exact Mix.one (Mix.node (Mix.and_then (Mix.of_one ih0) (Mix.and_then ih1 ih2)))
  | compare h0 h1 ih0 ih1 | withitem h0 h1 ih0 ih1 => exact Mix.one (Mix.node (Mix.and_then (Mix.of_one ih0) ih1))
  | ifexp h0 h1 h2 ih0 ih1 ih2 => exact Mix.one (Mix.node (Mix.and_then (Mix.of_one ih0) (Mix.and_then (Mix.of_one ih1) (Mix.of_one ih2))))
  | comp h0 h1 ih0 ih1 => exact Mix.one (Mix.node (Mix.and_then ih0 ih1))
  | comprehension h0 h1 h2 ih0 ih1 ih2 => exact Mix.one (Mix.node (Mix.and_then (Mix.of_one ih0) (Mix.and_then (Mix.of_one ih1) ih2)))
  | arguments h0 h1 h2 h3 h4 h5 h6 ih0 ih1 ih2 ih3 ih4 ih5 ih6 =>
      exact Mix.one (Mix.node (Mix.and_then ih0 (Mix.and_then ih1 (Mix.and_then ih2 (Mix.and_then ih3 (Mix.and_then ih4 (Mix.and_then ih5 ih6)))))))
  | nil => exact Mix.nil _ _
  | cons h0 h1 ih0 ih1 hs =>
      rw [labelsEs_append]
      exact Mix.and_then ih0 ih1 hs

theorem InstEs.mix {b : Bindings} {s : Nat} (hb : ∀ l ∈ bindingLabels b, l < s) {es : List Expr} {n : Nat} {r : List Expr} {n' : Nat}
    (h : InstEs b es n r n') : s ≤ n → Mix s n (labelsEs r) n' (sharedEs b es) :=
  h.thread (Q := fun es n r n' => s ≤ n → Mix s n (labelsEs r) n' (sharedEs b es)) (fun _ _ => Mix.nil _ _)
    fun h0 ih1 => labelsEs_append _ _ ▸ Mix.and_then (h0.mix hb) ih1

theorem InstS.mix {b : Bindings} {s : Nat} (hb : ∀ l ∈ bindingLabels b, l < s) {st : Stmt} {n : Nat} {r : List Stmt} {n' : Nat}
    (h : InstS b st n r n') : s ≤ n → Mix s n (labelsSs r) n' (sharedS b st) := by
  induction h using InstS.rec (motive_2 := fun ss n r n' _ => s ≤ n → Mix s n (labelsSs r) n' (sharedSs b ss)) with
  | exprFree hl => exact Mix.oneS (Mix.node (Mix.node (fun _ => Mix.nil _ _)))
  | exprStmt hl => exact Mix.oneS (Mix.of_fresh (copy_freshS _ _))
  | exprStmts hl => exact Mix.of_fresh (copy_freshSs _ _)
  | exprEmpty hl => exact fun _ => Mix.nil _ _
  | expr hv h0 =>
      rw [sharedS_expr b _ hv]
      exact Mix.oneS (Mix.node (Mix.of_one (InstE.mix hb h0)))
  | functionDef h0 h1 h2 h3 hn ih1 =>
      exact Mix.oneS (Mix.node (Mix.and_then (Mix.of_one (InstE.mix hb h0)) (Mix.and_then ih1 (Mix.and_then (InstEs.mix hb h2) (InstEs.mix hb h3)))))
  | classDef h0 h1 h2 h3 ih2 =>
      exact Mix.oneS (Mix.node (Mix.and_then (InstEs.mix hb h0) (Mix.and_then (InstEs.mix hb h1) (Mix.and_then ih2 (InstEs.mix hb h3)))))
  | ret h0 | delete h0 => exact Mix.oneS (Mix.node (InstEs.mix hb h0))
  | assign h0 h1 => exact Mix.oneS (Mix.node (Mix.and_then (InstEs.mix hb h0) (Mix.of_one (InstE.mix hb h1))))
  | augAssign h0 h1 => exact Mix.oneS (Mix.node (Mix.and_then (Mix.of_one (InstE.mix hb h0)) (Mix.of_one (InstE.mix hb h1))))
  | annAssign h0 h1 h2 =>
      exact Mix.oneS (Mix.node (Mix.and_then (Mix.of_one (InstE.mix hb h0)) (Mix.and_then (Mix.of_one (InstE.mix hb h1)) (InstEs.mix hb h2))))
  | for_ h0 h1 h2 h3 h4 ih2 ih3 =>
      exact Mix.oneS (Mix.node (Mix.and_then (Mix.of_one (InstE.mix hb h0)) (Mix.and_then (Mix.of_one (InstE.mix hb h1)) (Mix.and_then ih2 (Mix.and_then ih3 (InstEs.mix hb h4))))))
  | while_ h0 h1 h2 ih1 ih2 | if_ h0 h1 h2 ih1 ih2 => exact Mix.oneS (Mix.node (Mix.and_then (Mix.of_one (InstE.mix hb h0)) (Mix.and_then ih1 ih2)))
  | with_ h0 h1 ih1 | handler h0 h1 ih1 | other h0 h1 ih1 => exact Mix.oneS (Mix.node (Mix.and_then (InstEs.mix hb h0) ih1))
  | raise h0 h1 => exact Mix.oneS (Mix.node (Mix.and_then (InstEs.mix hb h0) (InstEs.mix hb h1)))
  | try_ h0 h1 h2 h3 ih0 ih1 ih2 ih3 => exact Mix.oneS (Mix.node (Mix.and_then ih0 (Mix.and_then ih1 (Mix.and_then ih2 ih3))))
  | assert_ h0 h1 => exact Mix.oneS (Mix.node (Mix.and_then (Mix.of_one (InstE.mix hb h0)) (InstEs.mix hb h1)))
  | import_ | importFrom | global | nonlocal | pass | break_ | continue_ => exact Mix.oneS (Mix.node (fun _ => Mix.nil _ _))
  | nil => exact Mix.nil _ _
  | cons h0 h1 ih0 ih1 hs =>
      rw [labelsSs_append]
      exact Mix.and_then ih0 ih1 hs

theorem InstSs.mix {b : Bindings} {s : Nat} (hb : ∀ l ∈ bindingLabels b, l < s) {ss : List Stmt} {n : Nat} {r : List Stmt} {n' : Nat}
    (h : InstSs b ss n r n') : s ≤ n → Mix s n (labelsSs r) n' (sharedSs b ss) :=
  h.thread (Q := fun ss n r n' => s ≤ n → Mix s n (labelsSs r) n' (sharedSs b ss)) (fun _ _ => Mix.nil _ _)
    fun h0 ih1 => labelsSs_append _ _ ▸ Mix.and_then (h0.mix hb) ih1

theorem instS_mix (b : Bindings) (s : Nat) (hb : ∀ l ∈ bindingLabels b, l < s) : ∀ (st : Stmt) (n : Nat) (r : List Stmt) (n' : Nat),
    s ≤ n → instS b st n = .ok (r, n') → Mix s n (labelsSs r) n' (sharedS b st) :=
  fun st n r n' hs h => (InstS.of_instS b st n r n' h).mix hb hs

theorem instantiate_mix {t : List Stmt} {b : Bindings} {r : List Stmt} (h : instantiate t b = .ok r) :
    ∃ n', Mix (startLabel b) (startLabel b) (labelsSs r) n' (sharedSs b t) :=
  let ⟨n', hi⟩ := InstSs.of_instantiate h
  ⟨n', hi.mix (lt_startLabel b) (Nat.le_refl _)⟩

theorem filter_notName_eq_nil {es : List Expr} (h : es.all isName = true) : es.filter notName = [] := by
  simpa [List.filter_eq_nil_iff, notName] using h

theorem sharedE_eq_nil (b : Bindings) (e : Expr) : argsOkE b e = true → sharedE b e = [] := by
  induction e using Expr.rec (motive_2 := fun es => argsOkEs b es = true → sharedEs b es = []) with
  | arg i nm an _ =>
      unfold argsOkE sharedE
      split
      · intro h; rw [filter_notName_eq_nil h]; rfl
      · intro _; rfl
  | keyword i a h v ih =>
      unfold argsOkE sharedE
      split
      · intro _; rfl
      · exact ih
  | nil => rfl
  | cons e es ih0 ih1 h =>
      simp only [argsOkEs, Bool.and_eq_true] at h
      simp only [sharedEs, ih0 h.1, ih1 h.2, List.append_nil]
  | _ => unfold argsOkE sharedE; simp_all

theorem sharedEs_eq_nil (b : Bindings) : ∀ (es : List Expr), argsOkEs b es = true → sharedEs b es = []
  | [], _ => rfl
  | e :: es, h => by
      simp only [argsOkEs, Bool.and_eq_true] at h
      simp only [sharedEs, sharedE_eq_nil b e h.1, sharedEs_eq_nil b es h.2, List.append_nil]

theorem sharedS_eq_nil (b : Bindings) (st : Stmt) : argsOkS b st = true → sharedS b st = [] := by
  induction st using Stmt.rec (motive_2 := fun ss => argsOkSs b ss = true → sharedSs b ss = []) with
  | expr i v =>
      cases hv : isName v
      · rw [argsOkS_expr b i hv, sharedS_expr b i hv]
        exact sharedE_eq_nil b v
      · obtain ⟨j, s, c, rfl⟩ := isName_eq_true hv
        exact fun _ => rfl
  | nil => rfl
  | cons s ss ih0 ih1 h =>
      simp only [argsOkSs, Bool.and_eq_true] at h
      simp only [sharedSs, ih0 h.1, ih1 h.2, List.append_nil]
  | _ => unfold argsOkS sharedS; simp_all [sharedE_eq_nil, sharedEs_eq_nil]

theorem sharedSs_eq_nil (b : Bindings) : ∀ (ss : List Stmt), argsOkSs b ss = true → sharedSs b ss = []
  | [], _ => rfl
  | st :: ss, h => by
      simp only [argsOkSs, Bool.and_eq_true] at h
      simp only [sharedSs, sharedS_eq_nil b st h.1, sharedSs_eq_nil b ss h.2, List.append_nil]

end Malt.Conv.Template
