import MaltModel.Sem.Wrappers
namespace Malt.C01Exprs
open Malt.Sem (Name Val BinOp Exc Event St Ext truthy ofBool evalBin)
open Malt.SemW

abbrev R := Except Exc Val × St
abbrev RL := Except Exc (List Val) × St

theorem truthy_ofBool (b : Bool) : truthy (ofBool b) = b := by cases b <;> rfl

theorem evalBin_eq (v w : Val) : evalBin .eq v w = .ok (ofBool (v == w)) := by
  cases v <;> cases w <;> rfl

theorem evalBin_ne (v w : Val) : evalBin .ne v w = .ok (ofBool (!truthy (ofBool (v == w)))) := by
  rw [truthy_ofBool]
  cases v <;> cases w <;> rfl

/-- What `_process_binop` produces: the operator itself, or `ag__.eq` / `ag__.not_eq` for `==` / `!=`. -/
theorem cmp_cases (eqOn : Bool) (op : BinOp) (l r : Expr) :
    cmp eqOn op l r = .bin op l r ∨ (op = .eq ∧ cmp eqOn op l r = .eq_ l r) ∨
      (op = .ne ∧ cmp eqOn op l r = .notEq_ l r) := by
  cases eqOn <;> cases op <;>
    first | exact .inl rfl | exact .inr (.inl ⟨rfl, rfl⟩) | exact .inr (.inr ⟨rfl, rfl⟩)

theorem cmp_sem (X : Ext) (eqOn : Bool) (op : BinOp) (l r : Expr) (σ : St) :
    evalW X (cmp eqOn op l r) σ = evalW X (.bin op l r) σ := by
  rcases cmp_cases eqOn op l r with h | ⟨rfl, h⟩ | ⟨rfl, h⟩ <;> rw [h]
  · simp only [evalW, evalBin_eq]
  · simp only [evalW, evalBin_ne]

/-! Sequencing of "evaluate to a list of values" computations; the argument packing is a re-association. -/
def seqL (f g : St → RL) : St → RL := fun σ =>
  match f σ with
  | (.ok vs, σ') => (match g σ' with
      | (.ok ws, σ'') => (.ok (vs ++ ws), σ'')
      | r => r)
  | r => r

def unitL : St → RL := fun σ => (.ok [], σ)

def one (X : Ext) (e : Expr) : St → RL := fun σ =>
  match evalW X e σ with
  | (.ok v, σ') => (.ok [v], σ')
  | (.error ex, σ') => (.error ex, σ')

def spl (X : Ext) (e : Expr) : St → RL := fun σ =>
  match evalW X e σ with
  | (.ok v, σ') => (match splice v with
      | .ok items => (.ok items, σ')
      | .error ex => (.error ex, σ'))
  | (.error ex, σ') => (.error ex, σ')

theorem one_congr (X : Ext) {a b : Expr} (h : ∀ σ, evalW X a σ = evalW X b σ) : one X a = one X b := by
  funext σ; simp only [one, h]

theorem spl_congr (X : Ext) {a b : Expr} (h : ∀ σ, evalW X a σ = evalW X b σ) : spl X a = spl X b := by
  funext σ; simp only [spl, h]

theorem seqL_unit_left (g : St → RL) : seqL unitL g = g := by
  funext σ
  simp only [seqL, unitL]
  rcases g σ with ⟨_ | ws, σ2⟩ <;> rfl

theorem seqL_unit_right (f : St → RL) : seqL f unitL = f := by
  funext σ
  simp only [seqL, unitL]
  rcases f σ with ⟨_ | vs, σ1⟩
  · rfl
  · exact congrArg (fun l => (Except.ok l, σ1)) (List.append_nil vs)

theorem seqL_assoc (f g h : St → RL) : seqL (seqL f g) h = seqL f (seqL g h) := by
  funext σ
  unfold seqL
  rcases f σ with ⟨_ | vs, σ1⟩
  · rfl
  · dsimp only
    rcases g σ1 with ⟨_ | ws, σ2⟩
    · rfl
    · dsimp only
      rcases h σ2 with ⟨_ | us, σ3⟩
      · rfl
      · exact congrArg (fun l => (Except.ok l, σ3)) (List.append_assoc ..)

theorem evalTup_nil (X : Ext) : evalTup X [] = unitL := by funext σ; rfl

theorem seqL_one (X : Ext) (e : Expr) (g : St → RL) (σ : St) :
    seqL (one X e) g σ = (match evalW X e σ with
      | (.ok v, σ') => (match g σ' with
          | (.ok vs, σ'') => (.ok (v :: vs), σ'')
          | r => r)
      | (.error ex, σ') => (.error ex, σ')) := by
  simp only [seqL, one]
  rcases evalW X e σ with ⟨_ | v, σ1⟩
  · rfl
  · rcases g σ1 with ⟨_ | vs, σ2⟩ <;> rfl

theorem evalTup_cons (X : Ext) (e : Expr) (es : List Expr) : evalTup X (e :: es) = seqL (one X e) (evalTup X es) := by
  funext σ; rw [seqL_one, evalTup]; rfl

theorem evalTup_snoc (X : Ext) : ∀ (acc : List Expr) (a : Expr), evalTup X (acc ++ [a]) = seqL (evalTup X acc) (one X a)
  | [], a => by
      rw [List.nil_append, evalTup_cons, evalTup_nil, seqL_unit_left, seqL_unit_right]
  | e :: acc, a => by
      rw [List.cons_append, evalTup_cons, evalTup_cons, evalTup_snoc X acc a, seqL_assoc]

theorem evalArgs_nil (X : Ext) : evalArgs X [] = unitL := by funext σ; rfl

theorem evalArgs_star (X : Ext) (e : Expr) (es : List Expr) :
    evalArgs X (.star e :: es) = seqL (spl X e) (evalArgs X es) := by
  funext σ
  simp only [evalArgs, seqL, spl]
  rcases evalW X e σ with ⟨_ | v, σ1⟩
  · rfl
  · dsimp only
    rcases splice v with _ | items
    · rfl
    · dsimp only
      rcases evalArgs X es σ1 with ⟨_ | vs, σ2⟩ <;> rfl

def plain : Expr → Bool
  | .star _ => false
  | _ => true

theorem ne_star_of_plain {e : Expr} (h : plain e = true) (x : Expr) : e = .star x → False := by
  rintro rfl; cases h

theorem evalArgs_plain (X : Ext) {e : Expr} {es : List Expr} (h : plain e = true) :
    evalArgs X (e :: es) = seqL (one X e) (evalArgs X es) := by
  funext σ; rw [seqL_one, evalArgs.eq_3 X σ e es (ne_star_of_plain h)]; rfl

def evalPacks (X : Ext) : List Pack → St → RL
  | [] => unitL
  | p :: ps => seqL (evalPack X p) (evalPacks X ps)

theorem evalPack_add (X : Ext) (p q : Pack) : evalPack X (.add p q) = seqL (evalPack X p) (evalPack X q) := by
  funext σ; simp only [evalPack, seqL]
  rcases evalPack X p σ with ⟨_ | vs, σ1⟩
  · rfl
  · rcases evalPack X q σ1 with ⟨_ | ws, σ2⟩ <;> rfl

theorem evalPack_tupleOf (X : Ext) (e : Expr) : evalPack X (.tupleOf e) = spl X e := by
  funext σ; simp only [evalPack, spl]
  rcases evalW X e σ with ⟨_ | v, σ1⟩
  · rfl
  · rcases splice v with _ | items <;> rfl

theorem evalPack_tup (X : Ext) (es : List Expr) : evalPack X (.tup es) = evalTup X es := by
  funext σ; simp only [evalPack]

theorem evalPacks_append (X : Ext) : ∀ (a b : List Pack), evalPacks X (a ++ b) = seqL (evalPacks X a) (evalPacks X b)
  | [], b => by simp [evalPacks, seqL_unit_left]
  | p :: a, b => by simp [evalPacks, evalPacks_append X a b, seqL_assoc]

theorem evalPack_addAll (X : Ext) : ∀ (xs : List Pack) (r : Pack),
    evalPack X (addAll r xs) = seqL (evalPack X r) (evalPacks X xs)
  | [], r => by simp [addAll, evalPacks, seqL_unit_right]
  | x :: xs, r => by simp [addAll, evalPacks, evalPack_addAll X xs, evalPack_add, seqL_assoc]

theorem evalPacks_consume (X : Ext) (acc : List Expr) (spec : List Pack) :
    evalPacks X (consume acc spec) = seqL (evalPacks X spec) (evalTup X acc) := by
  unfold consume
  split
  · rename_i h
    have : acc = [] := List.isEmpty_iff.mp h
    subst this
    rw [evalTup_nil, seqL_unit_right]
  · rw [evalPacks_append]
    simp [evalPacks, evalPack_tup, seqL_unit_right]

theorem argSpec_star (acc : List Expr) (spec : List Pack) (e : Expr) (rest : List Expr) :
    argSpec acc spec (.star e :: rest) = argSpec [] (consume acc spec ++ [.tupleOf e]) rest := by simp only [argSpec]

theorem argSpec_plain (acc : List Expr) (spec : List Pack) (a : Expr) (rest : List Expr) (h : plain a = true) :
    argSpec acc spec (a :: rest) = argSpec (acc ++ [a]) spec rest :=
  argSpec.eq_3 acc spec a rest (ne_star_of_plain h)

/-- Invariant of the builder: finished pieces, pending plain arguments, what is still to come. -/
theorem evalPacks_argSpec (X : Ext) : ∀ (args acc : List Expr) (spec : List Pack),
    evalPacks X (argSpec acc spec args) = seqL (evalPacks X spec) (seqL (evalTup X acc) (evalArgs X args))
  | [], acc, spec => by
      simp only [argSpec]
      rw [evalPacks_consume, evalArgs_nil, seqL_unit_right]
  | a :: rest, acc, spec => by
      cases hp : plain a with
      | false =>
          cases a <;> cases hp
          rw [argSpec_star, evalPacks_argSpec X rest [] _, evalPacks_append, evalPacks_consume, evalArgs_star, evalTup_nil]
          simp only [evalPacks, evalPack_tupleOf, seqL_unit_left, seqL_unit_right, seqL_assoc]
      | true =>
          rw [argSpec_plain acc spec a rest hp, evalPacks_argSpec X rest _ spec, evalTup_snoc,
            evalArgs_plain X hp]
          simp only [seqL_assoc]

theorem packOf_sem (X : Ext) (args : List Expr) (σ : St) : evalPack X (packOf args) σ = evalArgs X args σ := by
  have h := evalPacks_argSpec X args [] []
  simp only [evalPacks, evalTup_nil, seqL_unit_left] at h
  rw [← h, packOf]
  cases argSpec [] [] args with
  | nil => rw [evalPack_tup, evalTup_nil]; rfl
  | cons x xs => rw [evalPack_addAll]; rfl

def SemPure (X : Ext) (e : Expr) : Prop := ∀ σ, (evalW X e σ).2 = σ

/-- The `match` is the one every compound clause of `evalW` starts with; Lean shares the auxiliary matcher, so the
lemma applies to an unfolded `evalW X (.not e) σ` etc. by unification. -/
theorem state_bind {r : R} {σ : St} {k : Val → St → R} (hr : r.2 = σ) (hk : ∀ v, (k v σ).2 = σ) :
    (match r with | (.ok v, σ') => k v σ' | e => e).2 = σ := by
  rcases r with ⟨_ | v, σ1⟩
  · exact hr
  · cases hr; exact hk v

theorem state_if {r₁ r₂ : R} {σ : St} (c : Bool) (h₁ : r₁.2 = σ) (h₂ : r₂.2 = σ) :
    (if c then r₁ else r₂).2 = σ := by
  cases c <;> assumption

theorem evalChain_cons (X : Ext) (prev : Val) (op : BinOp) (ops : List BinOp) (e : Expr) (es : List Expr) (σ : St) :
    evalChain X prev (op :: ops) (e :: es) σ =
      (match evalW X e σ with
       | (.ok w, σ') => (match evalBin op prev w with
          | .ok r => if (!ops.isEmpty && !es.isEmpty && truthy r) = true then evalChain X w ops es σ' else (.ok r, σ')
          | .error ex => (.error ex, σ'))
       | r => r) := by
  cases ops <;> cases es <;> rfl

mutual
theorem pureE_state (X : Ext) : ∀ (e : Expr), pureE e = true → SemPure X e
  | .const _, _, _ | .star _, _, _ => rfl
  | .var x, _, σ | .ld x, _, σ => by simp only [evalW]; cases σ.env x <;> rfl
  | .not e, h, σ | .not_ e, h, σ => state_bind (pureE_state X e h σ) fun _ => rfl
  | .and a b, h, σ | .and_ a b, h, σ =>
      have h := Bool.and_eq_true_iff.mp h
      state_bind (pureE_state X a h.1 σ) fun v => state_if _ (pureE_state X b h.2 σ) rfl
  | .or a b, h, σ | .or_ a b, h, σ =>
      have h := Bool.and_eq_true_iff.mp h
      state_bind (pureE_state X a h.1 σ) fun v => state_if _ rfl (pureE_state X b h.2 σ)
  | .ite c t e, h, σ | .ifExp c t e, h, σ =>
      have h := Bool.and_eq_true_iff.mp h
      have hc := Bool.and_eq_true_iff.mp h.1
      state_bind (pureE_state X c hc.1 σ) fun v =>
        state_if _ (pureE_state X t hc.2 σ) (pureE_state X e h.2 σ)
  | .bin op a b, h, σ =>
      have h := Bool.and_eq_true_iff.mp h
      state_bind (pureE_state X a h.1 σ) fun v => state_bind (pureE_state X b h.2 σ) fun w => by
        cases evalBin op v w <;> rfl
  | .eq_ a b, h, σ | .notEq_ a b, h, σ =>
      have h := Bool.and_eq_true_iff.mp h
      state_bind (pureE_state X a h.1 σ) fun v => state_bind (pureE_state X b h.2 σ) fun _ => rfl
  | .chain f ops rest, h, σ =>
      have h := Bool.and_eq_true_iff.mp h
      state_bind (pureE_state X f h.1 σ) fun v => pureL_chain X rest h.2 v ops σ
  | .call .., h, _ | .convCall .., h, _ => by simp only [pureE, Bool.false_eq_true] at h
theorem pureL_chain (X : Ext) : ∀ (es : List Expr), pureL es = true → ∀ prev ops σ, (evalChain X prev ops es σ).2 = σ
  | [], _, prev, ops, σ => by cases ops <;> rfl
  | e :: es, h, prev, ops, σ => by
      cases ops with
      | nil => rfl
      | cons op ops =>
          simp only [pureL, Bool.and_eq_true] at h
          rw [evalChain_cons]
          refine state_bind (pureE_state X e h.1 σ) fun w => ?_
          cases evalBin op prev w with
          | error ex => rfl
          | ok r => exact state_if _ (pureL_chain X es h.2 w ops σ) rfl
end

/-- What the left-nested `and_` chain built by `wrapChain` computes once its prefix has evaluated to `res`. -/
def tailSem (X : Ext) (eqOn : Bool) : R → Expr → List BinOp → List Expr → R
  | res, left, op :: ops, r :: rs =>
      (match res with
       | (.ok v, σ1) => if truthy v then tailSem X eqOn (evalW X (cmp eqOn op left r) σ1) r ops rs else (.ok v, σ1)
       | e => e)
  | res, _, _, _ => res

theorem tailSem_stop (X : Ext) (eqOn : Bool) (v : Val) (σ1 : St) (hv : truthy v = false) :
    ∀ (ops : List BinOp) (rs : List Expr) (left : Expr), tailSem X eqOn (.ok v, σ1) left ops rs = (.ok v, σ1)
  | [], _, _ | _ :: _, [], _ => by simp [tailSem]
  | _ :: _, _ :: _, _ => by simp [tailSem, hv]

theorem tailSem_err (X : Ext) (eqOn : Bool) (ex : Exc) (σ1 : St) :
    ∀ (ops : List BinOp) (rs : List Expr) (left : Expr), tailSem X eqOn (.error ex, σ1) left ops rs = (.error ex, σ1)
  | [], _, _ | _ :: _, [], _ => by simp [tailSem]
  | _ :: _, _ :: _, _ => by simp [tailSem]

def wrapChainFrom (eqOn : Bool) : Expr → Expr → List BinOp → List Expr → Expr
  | acc, left, op :: ops, r :: rs => wrapChainFrom eqOn (.and_ acc (cmp eqOn op left r)) r ops rs
  | acc, _, _, _ => acc

theorem wrapChain_some (eqOn : Bool) : ∀ (ops : List BinOp) (rs : List Expr) (acc left : Expr),
    wrapChain eqOn (some acc) left ops rs = some (wrapChainFrom eqOn acc left ops rs)
  | [], _, _, _ | _ :: _, [], _, _ => by simp only [wrapChain, wrapChainFrom]
  | op :: ops, r :: rs, acc, left => by
      simp only [wrapChain, wrapChainFrom]
      exact wrapChain_some eqOn ops rs _ r

theorem wrapChainFrom_sem (X : Ext) (eqOn : Bool) : ∀ (ops : List BinOp) (rs : List Expr) (acc left : Expr) (σ : St),
    evalW X (wrapChainFrom eqOn acc left ops rs) σ = tailSem X eqOn (evalW X acc σ) left ops rs
  | [], _, _, _, _ | _ :: _, [], _, _, _ => by simp only [wrapChainFrom, tailSem]
  | op :: ops, r :: rs, acc, left, σ => by
      rw [wrapChainFrom, wrapChainFrom_sem X eqOn ops rs]
      simp only [evalW, tailSem]
      rcases evalW X acc σ with ⟨ex | v, σ1⟩
      · exact tailSem_err ..
      · dsimp only
        cases hv : truthy v
        · exact tailSem_stop X eqOn v σ1 hv ..
        · rfl

/-- Python's chain = the `and_` chain, when every re-used (middle) operand is semantically pure. -/
theorem tailSem_chain (X : Ext) (eqOn : Bool) :
    ∀ (ops : List BinOp) (rs : List Expr) (op : BinOp) (r left : Expr) (prev : Val) (σ σ1 : St),
      evalW X left σ = (.ok prev, σ1) → (∀ m ∈ middles (r :: rs), SemPure X m) →
      tailSem X eqOn (evalW X (cmp eqOn op left r) σ) r ops rs = evalChain X prev (op :: ops) (r :: rs) σ1
  | ops, rs, op, r, left, prev, σ, σ1, hl, hm => by
      rw [cmp_sem]
      simp only [evalW, hl, evalChain]
      rcases hr : evalW X r σ1 with ⟨ex | w, σ2⟩
      · exact tailSem_err ..
      · dsimp only
        cases hb : evalBin op prev w with
        | error ex => exact tailSem_err ..
        | ok res =>
            dsimp only
            cases ops with
            | nil => simp only [tailSem]
            | cons op2 ops2 =>
                cases rs with
                | nil => simp only [tailSem]
                | cons r2 rs2 =>
                    simp only [tailSem]
                    cases hv : truthy res
                    · rfl
                    · simp only [if_true]
                      have h2 : σ2 = σ1 := by have := hm r (List.mem_cons_self ..) σ1; rw [hr] at this; exact this
                      subst h2
                      exact tailSem_chain X eqOn ops2 rs2 op2 r2 r w σ2 σ2 hr
                        (fun m hmm => hm m (List.mem_cons_of_mem _ hmm))

theorem chain_sem (X : Ext) (eqOn : Bool) (first : Expr) (ops : List BinOp) (rs : List Expr)
    (hm : ∀ m ∈ middles rs, SemPure X m) (σ : St) :
    evalW X (chainResult first (wrapChain eqOn none first ops rs)) σ = evalW X (.chain first ops rs) σ := by
  match ops, rs, hm with
  | [], _, _ | _ :: _, [], _ =>
      simp only [wrapChain, chainResult, evalW]
      rcases evalW X first σ with ⟨ex | v, σ1⟩ <;> simp [evalChain]
  | op :: ops, r :: rs, hm =>
      simp only [wrapChain, wrapChain_some, chainResult]
      rw [wrapChainFrom_sem]
      simp only [evalW]
      rcases hf : evalW X first σ with ⟨ex | v, σ1⟩
      · rw [cmp_sem]; simp [evalW, hf, tailSem_err]
      · exact tailSem_chain X eqOn ops rs op r first v σ σ1 hf hm

inductive SemEqL (X : Ext) : List Expr → List Expr → Prop
  | nil : SemEqL X [] []
  | cons : (∀ σ, evalW X a σ = evalW X b σ) → SemEqL X as bs → SemEqL X (a :: as) (b :: bs)

theorem evalChain_congr (X : Ext) {as bs : List Expr} (h : SemEqL X as bs) :
    ∀ (prev : Val) (ops : List BinOp) (σ : St), evalChain X prev ops as σ = evalChain X prev ops bs σ := by
  induction h with
  | nil => intros; rfl
  | @cons a b as' bs' hab hrest ih =>
      intro prev ops σ
      cases ops with
      | nil => simp [evalChain]
      | cons op ops =>
          have hl : as'.isEmpty = bs'.isEmpty := by cases hrest <;> rfl
          simp only [evalChain_cons, hab, ih, hl]

theorem SemEqL.semPure_middles {X : Ext} {as bs : List Expr} (h : SemEqL X as bs) :
    (∀ m ∈ middles bs, SemPure X m) → ∀ m ∈ middles as, SemPure X m := by
  induction h with
  | nil => intro _ m hm; simp [middles] at hm
  | @cons a b as' bs' hab hrest ih =>
      intro hb m hm
      cases hrest with
      | nil => simp [middles] at hm
      | @cons a2 b2 as2 bs2 hab2 hrest2 =>
          simp only [middles, List.mem_cons] at hm
          rcases hm with rfl | hm
          · intro σ; rw [hab]; exact hb b (by simp [middles]) σ
          · exact ih (fun m' hm' => hb m' (by simp only [middles]; exact List.mem_cons_of_mem _ hm')) m
              (by simpa [middles] using hm)

theorem pureL_eq_all : ∀ es : List Expr, pureL es = es.all pureE
  | [] => rfl
  | e :: es => by rw [pureL, pureL_eq_all es, List.all_cons]

theorem pureL_mem (es : List Expr) (h : pureL es = true) : ∀ m ∈ es, pureE m = true :=
  List.all_eq_true.mp (pureL_eq_all es ▸ h)

theorem plain_cmp (eqOn : Bool) (op : BinOp) (l r : Expr) : plain (cmp eqOn op l r) = true := by
  rcases cmp_cases eqOn op l r with h | ⟨_, h⟩ | ⟨_, h⟩ <;> rw [h] <;> rfl

theorem wrapChainFrom_plain (eqOn : Bool) : ∀ (ops : List BinOp) (rs : List Expr) (acc left : Expr),
    plain acc = true → plain (wrapChainFrom eqOn acc left ops rs) = true
  | [], _, _, _, h | _ :: _, [], _, _, h => by simpa only [wrapChainFrom] using h
  | op :: ops, r :: rs, acc, left, _ => by
      rw [wrapChainFrom]
      exact wrapChainFrom_plain eqOn ops rs _ r rfl

theorem plain_wrap (eqOn : Bool) (e : Expr) : plain (wrap eqOn e) = plain e := by
  cases e with
  | bin op a b => simp only [wrap]; rw [plain_cmp]; rfl
  | chain f ops rest =>
      simp only [wrap]
      cases ops with
      | nil => simp only [wrapChain, chainResult, plain]
      | cons op ops =>
        cases hr : wrapL eqOn rest with
        | nil => simp only [wrapChain, chainResult, plain]
        | cons r rs =>
          simp only [wrapChain, wrapChain_some, chainResult]
          exact wrapChainFrom_plain eqOn ops rs _ r (plain_cmp ..)
  | _ => rfl

mutual
/-- Without `chainsOk` the statement is false (`expr_wrappers_counterexample`): the `and_` chain that replaces
`a < b < c` evaluates the re-used middle operand twice, which is harmless when it leaves the state alone
(`tailSem_chain`). -/
theorem wrap_sem (X : Ext) (eqOn : Bool) : ∀ (e : Expr), chainsOk e = true → ∀ σ, evalW X (wrap eqOn e) σ = evalW X e σ
  | .not e, h, σ => by
      simp only [chainsOk] at h
      simp only [wrap, evalW, wrap_sem X eqOn e h]
  | .and a b, h, σ | .or a b, h, σ => by
      simp only [chainsOk, Bool.and_eq_true] at h
      simp only [wrap, evalW, wrap_sem X eqOn a h.1, wrap_sem X eqOn b h.2]
  | .ite c t e, h, σ => by
      simp only [chainsOk, Bool.and_eq_true] at h
      simp only [wrap, evalW, wrap_sem X eqOn c h.1.1, wrap_sem X eqOn t h.1.2, wrap_sem X eqOn e h.2]
  | .bin op a b, h, σ => by
      simp only [chainsOk, Bool.and_eq_true] at h
      simp only [wrap]
      rw [cmp_sem]
      simp only [evalW, wrap_sem X eqOn a h.1, wrap_sem X eqOn b h.2]
  | .chain first ops rest, h, σ => by
      simp only [chainsOk, Bool.and_eq_true] at h
      have hL := wrapL_semEq X eqOn rest h.1.2
      have hpure : ∀ m ∈ middles rest, SemPure X m :=
        fun m hm => pureE_state X m (pureL_mem _ h.2 m hm)
      simp only [wrap]
      rw [chain_sem X eqOn (wrap eqOn first) ops (wrapL eqOn rest) (hL.semPure_middles hpure) σ]
      simp only [evalW, wrap_sem X eqOn first h.1.1]
      rcases evalW X first σ with ⟨ex | v, σ1⟩
      · rfl
      · exact evalChain_congr X hL v ops σ1
  | .call f args, h, σ => by
      simp only [chainsOk] at h
      simp only [wrap, evalW]
      rw [packOf_sem, wrapL_args X eqOn args h σ]
  | .const _, _, _ | .var _, _, _ | .star _, _, _ | .ld _, _, _ | .not_ _, _, _ | .and_ _ _, _, _ | .or_ _ _, _, _
  | .ifExp _ _ _, _, _ | .eq_ _ _, _, _ | .notEq_ _ _, _, _ | .convCall _ _, _, _ => rfl
theorem wrapL_semEq (X : Ext) (eqOn : Bool) : ∀ (es : List Expr), chainsOkL es = true → SemEqL X (wrapL eqOn es) es
  | [], _ => by simp only [wrapL]; exact .nil
  | e :: es, h => by
      simp only [chainsOkL, Bool.and_eq_true] at h
      simp only [wrapL]
      exact .cons (wrap_sem X eqOn e h.1) (wrapL_semEq X eqOn es h.2)
/- No corollary of `wrapL_semEq`: `evalW (.star e)` is an error, `evalArgs` evaluates under the star. -/
theorem wrapL_args (X : Ext) (eqOn : Bool) : ∀ (es : List Expr), chainsOkL es = true →
    ∀ σ, evalArgs X (wrapL eqOn es) σ = evalArgs X es σ
  | [], _, σ => rfl
  | e :: es, h, σ => by
      simp only [chainsOkL, Bool.and_eq_true] at h
      have ih : evalArgs X (wrapL eqOn es) = evalArgs X es := funext (wrapL_args X eqOn es h.2)
      cases hp : plain e with
      | false =>
          -- `cases e`, not `obtain ⟨x, rfl⟩`: the recursive call on `x` below must stay structural
          cases e <;> cases hp
          rename_i x
          simp only [chainsOk] at h
          simp only [wrapL, wrap]
          rw [evalArgs_star, evalArgs_star, spl_congr X (wrap_sem X eqOn x h.1), ih]
      | true =>
          simp only [wrapL]
          rw [evalArgs_plain X (by rw [plain_wrap]; exact hp), evalArgs_plain X hp,
            one_congr X (wrap_sem X eqOn e h.1), ih]
end

theorem plain_ofSem (e : Malt.Sem.Expr) : plain (ofSem e) = true := by
  cases e <;> rfl

mutual
theorem ofSem_eval (X : Ext) : ∀ (e : Malt.Sem.Expr) (σ : St), evalW X (ofSem e) σ = Malt.Sem.evalE X e σ
  | .const _, _ | .var _, _ => rfl
  | .not e, σ => by
      simp only [ofSem, evalW, Malt.Sem.evalE, ofSem_eval X e]
      rfl
  | .and a b, σ | .or a b, σ | .bin _ a b, σ => by
      simp only [ofSem, evalW, Malt.Sem.evalE, ofSem_eval X a, ofSem_eval X b]
      rfl
  | .ite c t e, σ => by
      simp only [ofSem, evalW, Malt.Sem.evalE, ofSem_eval X c, ofSem_eval X t, ofSem_eval X e]
      rfl
  | .call f args, σ => by
      simp only [ofSem, evalW, Malt.Sem.evalE, ofSemL_eval X args]
      rfl
theorem ofSemL_eval (X : Ext) : ∀ (es : List Malt.Sem.Expr) (σ : St), evalArgs X (ofSemL es) σ = Malt.Sem.evalArgs X es σ
  | [], σ => rfl
  | e :: es, σ => by
      simp only [ofSemL]
      rw [evalArgs_plain X (plain_ofSem e)]
      simp only [seqL, one, ofSem_eval X e, Malt.Sem.evalArgs, ofSemL_eval X es]
      rcases Malt.Sem.evalE X e σ with ⟨ex | v, σ1⟩
      · rfl
      · dsimp only
        rcases Malt.Sem.evalArgs X es σ1 with ⟨ex | vs, σ2⟩ <;> rfl
end

mutual
theorem chainsOk_ofSem : ∀ (e : Malt.Sem.Expr), chainsOk (ofSem e) = true
  | .const _ | .var _ => rfl
  | .not e => by simp [ofSem, chainsOk, chainsOk_ofSem e]
  | .and a b | .or a b | .bin _ a b => by simp [ofSem, chainsOk, chainsOk_ofSem a, chainsOk_ofSem b]
  | .ite c t e => by simp [ofSem, chainsOk, chainsOk_ofSem c, chainsOk_ofSem t, chainsOk_ofSem e]
  | .call _ args => by simp [ofSem, chainsOk, chainsOkL_ofSem args]
theorem chainsOkL_ofSem : ∀ (es : List Malt.Sem.Expr), chainsOkL (ofSemL es) = true
  | [] => rfl
  | e :: es => by simp [ofSemL, chainsOkL, chainsOk_ofSem e, chainsOkL_ofSem es]
end

end Malt.C01Exprs
