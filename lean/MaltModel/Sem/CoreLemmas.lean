import MaltModel.Sem.Core
set_option linter.unusedSectionVars false  -- the `include` of the induction-principle section
/-
`evalE` and `exec` of `Sem/Core.lean` are taken apart into a few combinators (`bindE`; `valThen`, `andThen`, `loopThen`,
`extraThen`, `handleThen`, `finallyThen`, over which the target interpreters of `Func/` are read as well) with one
equation per syntactic form; a property is proved once per combinator (`Sub`: more fuel, `Post`: every completed run,
`Matched`: two runs in lock step) and read off the equations.  Transformation proofs reason about the names a pass generates through
`Agree G` / `Clean* G`.
-/
namespace Malt.Sem

@[simp] theorem St.set_env_eq (σ : St) (x : Name) (v : Val) : (σ.set x v).env x = some v :=
  if_pos rfl

theorem St.set_env_ne (σ : St) {x y : Name} (v : Val) (h : y ≠ x) : (σ.set x v).env y = σ.env y :=
  if_neg h

@[simp] theorem St.set_log (σ : St) (x : Name) (v : Val) : (σ.set x v).log = σ.log := rfl
@[simp] theorem St.push_env (σ : St) (e : Event) : (σ.push e).env = σ.env := rfl
@[simp] theorem St.push_log (σ : St) (e : Event) : (σ.push e).log = σ.log ++ [e] := rfl

def bindE {α β : Type} (r : Except Exc α × St) (k : α → St → Except Exc β × St) : Except Exc β × St :=
  match r with
  | (.ok v, σ) => k v σ
  | (.error ex, σ) => (.error ex, σ)

section
variable (X : Ext) (σ : St)

theorem evalE_var (x : Name) :
    evalE X (.var x) σ = ((match σ.env x with | some v => .ok v | none => .error (.nameError x)), σ) := by
  rw [evalE]; cases σ.env x <;> rfl

theorem evalE_not (e : Expr) :
    evalE X (.not e) σ = bindE (evalE X e σ) fun v σ' => (.ok (ofBool (!truthy v)), σ') := by
  rw [evalE]; rcases evalE X e σ with ⟨_ | _, _⟩ <;> rfl

theorem evalE_and (a b : Expr) :
    evalE X (.and a b) σ = bindE (evalE X a σ) fun v σ' => if truthy v then evalE X b σ' else (.ok v, σ') := by
  rw [evalE]; rcases evalE X a σ with ⟨_ | _, _⟩ <;> rfl

theorem evalE_or (a b : Expr) :
    evalE X (.or a b) σ = bindE (evalE X a σ) fun v σ' => if truthy v then (.ok v, σ') else evalE X b σ' := by
  rw [evalE]; rcases evalE X a σ with ⟨_ | _, _⟩ <;> rfl

theorem evalE_ite (c t e : Expr) :
    evalE X (.ite c t e) σ = bindE (evalE X c σ) fun v σ' => if truthy v then evalE X t σ' else evalE X e σ' := by
  rw [evalE]; rcases evalE X c σ with ⟨_ | _, _⟩ <;> rfl

theorem evalE_bin (op : BinOp) (a b : Expr) :
    evalE X (.bin op a b) σ =
      bindE (evalE X a σ) fun v σ' => bindE (evalE X b σ') fun w σ'' => (evalBin op v w, σ'') := by
  rw [evalE]
  rcases evalE X a σ with ⟨_ | v, σ'⟩
  · rfl
  · simp only [bindE]
    rcases evalE X b σ' with ⟨_ | w, _⟩
    · rfl
    · simp only; cases evalBin op v w <;> rfl

theorem evalE_call (f : Name) (args : List Expr) :
    evalE X (.call f args) σ =
      bindE (evalArgs X args σ) fun vs σ' => (.ok (X.f f vs σ'.log), σ'.push (.call f vs)) := by
  rw [evalE]; rcases evalArgs X args σ with ⟨_ | _, _⟩ <;> rfl

theorem evalArgs_cons (e : Expr) (es : List Expr) :
    evalArgs X (e :: es) σ =
      bindE (evalE X e σ) fun v σ' => bindE (evalArgs X es σ') fun vs σ'' => (.ok (v :: vs), σ'') := by
  rw [evalArgs]
  rcases evalE X e σ with ⟨_ | v, σ'⟩
  · rfl
  · simp only [bindE]; rcases evalArgs X es σ' with ⟨_ | _, _⟩ <;> rfl

end

section
variable {mE : Expr → Prop} {mL : List Expr → Prop}
  (const : ∀ v, mE (.const v)) (var : ∀ x, mE (.var x)) (notE : ∀ e, mE e → mE (.not e))
  (andE : ∀ a b, mE a → mE b → mE (.and a b)) (orE : ∀ a b, mE a → mE b → mE (.or a b))
  (iteE : ∀ c t e, mE c → mE t → mE e → mE (.ite c t e)) (binE : ∀ op a b, mE a → mE b → mE (.bin op a b))
  (callE : ∀ f args, mL args → mE (.call f args))
  (nil : mL []) (cons : ∀ e es, mE e → mL es → mL (e :: es))
include const var notE andE orE iteE binE callE nil cons

mutual
theorem expr_ind : ∀ e, mE e
  | .const v => const v
  | .var x => var x
  | .not e => notE e (expr_ind e)
  | .and a b => andE a b (expr_ind a) (expr_ind b)
  | .or a b => orE a b (expr_ind a) (expr_ind b)
  | .ite c t e => iteE c t e (expr_ind c) (expr_ind t) (expr_ind e)
  | .bin op a b => binE op a b (expr_ind a) (expr_ind b)
  | .call f args => callE f args (exprs_ind args)
theorem exprs_ind : ∀ es, mL es
  | [] => nil
  | e :: es => cons e es (expr_ind e) (exprs_ind es)
end

theorem expr_induct : (∀ e, mE e) ∧ (∀ es, mL es) :=
  ⟨expr_ind const var notE andE orE iteE binE callE nil cons,
   exprs_ind const var notE andE orE iteE binE callE nil cons⟩
end

section
variable {mS : Stmt → Prop} {mB : List Stmt → Prop} {mH : List (Nat × List Stmt) → Prop}
  (assign : ∀ x e, mS (.assign x e)) (expr : ∀ e, mS (.expr e)) (pass : mS .pass)
  (brk : mS .brk) (cont : mS .cont) (ret : ∀ e, mS (.ret e)) (raise : ∀ t, mS (.raise t))
  (ifS : ∀ c t e, mB t → mB e → mS (.ifS c t e))
  (whileS : ∀ c b, mB b → mS (.whileS c b)) (forS : ∀ x it ex b, mB b → mS (.forS x it ex b))
  (tryS : ∀ b hs f, mB b → mH hs → mB f → mS (.tryS b hs f)) (withS : ∀ t b, mB b → mS (.withS t b))
  (nil : mB []) (cons : ∀ s r, mS s → mB r → mB (s :: r))
  (hnil : mH []) (hcons : ∀ t b r, mB b → mH r → mH ((t, b) :: r))
include assign expr pass brk cont ret raise ifS whileS forS tryS withS nil cons hnil hcons

mutual
theorem stmt_ind : ∀ s, mS s
  | .assign x e => assign x e
  | .expr e => expr e
  | .pass => pass
  | .brk => brk
  | .cont => cont
  | .ret e => ret e
  | .raise t => raise t
  | .ifS c t e => ifS c t e (block_ind t) (block_ind e)
  | .whileS c b => whileS c b (block_ind b)
  | .forS x it ex b => forS x it ex b (block_ind b)
  | .tryS b hs f => tryS b hs f (block_ind b) (handlers_ind hs) (block_ind f)
  | .withS t b => withS t b (block_ind b)
theorem block_ind : ∀ b, mB b
  | [] => nil
  | s :: r => cons s r (stmt_ind s) (block_ind r)
theorem handlers_ind : ∀ hs, mH hs
  | [] => hnil
  | (t, b) :: r => hcons t b r (block_ind b) (handlers_ind r)
end

theorem stmt_induct : (∀ s, mS s) ∧ (∀ b, mB b) ∧ (∀ hs, mH hs) :=
  ⟨stmt_ind assign expr pass brk cont ret raise ifS whileS forS tryS withS nil cons hnil hcons,
   block_ind assign expr pass brk cont ret raise ifS whileS forS tryS withS nil cons hnil hcons,
   handlers_ind assign expr pass brk cont ret raise ifS whileS forS tryS withS nil cons hnil hcons⟩
end

theorem bindE_env {α β : Type} {r : Except Exc α × St} {k : α → St → Except Exc β × St} {σ : St}
    (hr : r.2.env = σ.env) (hk : ∀ v σ', σ'.env = σ.env → (k v σ').2.env = σ.env) :
    (bindE r k).2.env = σ.env := by
  obtain ⟨_ | v, σ'⟩ := r
  · exact hr
  · exact hk v σ' hr

/-- A property of evaluation results that holds of the leaves and passes through `bindE` holds of `evalE`. -/
theorem evalE_post (X : Ext) {Q : ∀ {α : Type}, St → Except Exc α × St → Prop}
    (ok : ∀ {α : Type} (σ : St) (v : α), Q σ (.ok v, σ))
    (bind : ∀ {α β : Type} {σ : St} {r : Except Exc α × St} {k : α → St → Except Exc β × St},
      Q σ r → (∀ v τ, Q τ (k v τ)) → Q σ (bindE r k))
    (var : ∀ σ x, Q σ ((.error (.nameError x) : Except Exc Val), σ))
    (bin : ∀ σ op v w, Q σ (evalBin op v w, σ))
    (call : ∀ (σ : St) f vs, Q σ ((.ok (X.f f vs σ.log) : Except Exc Val), σ.push (.call f vs))) :
    (∀ e σ, Q σ (evalE X e σ)) ∧ (∀ es σ, Q σ (evalArgs X es σ)) := by
  have ite : ∀ {α : Type} {σ : St} {c : Prop} [Decidable c] {a b : Except Exc α × St}, Q σ a → Q σ b →
      Q σ (if c then a else b) := fun ha hb => by split <;> assumption
  apply expr_induct
  case const => exact fun v σ => ok σ v
  case nil => exact fun σ => ok σ []
  case var =>
    intro x σ
    rw [evalE_var]
    cases σ.env x with
    | none => exact var σ x
    | some v => exact ok σ v
  case notE => intro e ih σ; rw [evalE_not]; exact bind (ih σ) fun v τ => ok τ _
  case andE => intro a b iha ihb σ; rw [evalE_and]; exact bind (iha σ) fun v τ => ite (ihb τ) (ok τ v)
  case orE => intro a b iha ihb σ; rw [evalE_or]; exact bind (iha σ) fun v τ => ite (ok τ v) (ihb τ)
  case iteE => intro c t e ihc iht ihe σ; rw [evalE_ite]; exact bind (ihc σ) fun v τ => ite (iht τ) (ihe τ)
  case binE =>
    intro op a b iha ihb σ; rw [evalE_bin]; exact bind (iha σ) fun v τ => bind (ihb τ) fun w υ => bin υ op v w
  case callE => intro f args ih σ; rw [evalE_call]; exact bind (ih σ) fun vs τ => call τ f vs
  case cons =>
    intro e es ihe ihes σ; rw [evalArgs_cons]; exact bind (ihe σ) fun v τ => bind (ihes τ) fun vs υ => ok υ _

theorem evalE_env_all (X : Ext) :
    (∀ (e : Expr) (σ : St), (evalE X e σ).2.env = σ.env) ∧
    (∀ (es : List Expr) (σ : St), (evalArgs X es σ).2.env = σ.env) :=
  evalE_post X (Q := fun σ r => r.2.env = σ.env) (fun _ _ => rfl)
    (fun hr hk => bindE_env hr fun v τ h => (hk v τ).trans h) (fun _ _ => rfl) (fun _ _ _ _ => rfl)
    (fun _ _ _ => rfl)

theorem evalE_env (X : Ext) : ∀ (e : Expr) (σ : St), (evalE X e σ).2.env = σ.env := (evalE_env_all X).1
theorem evalArgs_env (X : Ext) : ∀ (es : List Expr) (σ : St), (evalArgs X es σ).2.env = σ.env :=
  (evalE_env_all X).2

section Seq
variable {S α : Type}

def valThen (r : Except Exc α × S) (k : α → S → Option (Out × S)) : Option (Out × S) :=
  match r with
  | (.ok v, σ) => k v σ
  | (.error ex, σ) => some (.exc ex, σ)

def andThen (r : Option (Out × S)) (k : S → Option (Out × S)) : Option (Out × S) :=
  match r with
  | none => none
  | some (.normal, σ) => k σ
  | some r => some r

def loopThen (r : Option (Out × S)) (k : S → Option (Out × S)) : Option (Out × S) :=
  match r with
  | none => none
  | some (.normal, σ) => k σ
  | some (.cont, σ) => k σ
  | some (.brk, σ) => some (.normal, σ)
  | some r => some r

def extraThen (ev : Expr → S → Except Exc Val × S) (extra : Option Expr) (k : S → Option (Out × S)) (σ : S) :
    Option (Out × S) :=
  match extra with
  | none => k σ
  | some t => valThen (ev t σ) fun tv σ' => if truthy tv then k σ' else some (.normal, σ')

def handleThen {B : Type} (find : Exc → Option B) (run : B → S → Option (Out × S)) : Out × S → Option (Out × S)
  | (.exc ex, σ) => (match find ex with
      | some hb => run hb σ
      | none => some (.exc ex, σ))
  | r => some r

/-- The `finally` step of `try`: a non-normal outcome of the block replaces the pending one. -/
def finallyThen (run : S → Option (Out × S)) : Out × S → Option (Out × S)
  | (o, σ) => andThen (run σ) fun σ₃ => some (o, σ₃)

theorem valThen_ok {r : Except Exc α × S} {v : α} {σ : S} {k : α → S → Option (Out × S)} (h : r = (.ok v, σ)) :
    valThen r k = k v σ := by
  rw [h]; rfl

theorem valThen_err {r : Except Exc α × S} {ex : Exc} {σ : S} {k : α → S → Option (Out × S)} (h : r = (.error ex, σ)) :
    valThen r k = some (.exc ex, σ) := by
  rw [h]; rfl

theorem valThen_cases {r : Except Exc α × S} {k : α → S → Option (Out × S)} {res : Out × S} {motive : Prop}
    (h : valThen r k = some res) (ok : ∀ v σ, r = (.ok v, σ) → k v σ = some res → motive)
    (err : ∀ ex σ, r = (.error ex, σ) → res = (.exc ex, σ) → motive) : motive := by
  rcases r with ⟨ex | v, σ⟩
  · exact err ex σ rfl (Option.some.inj h).symm
  · exact ok v σ rfl h

theorem andThen_inv {a : Option (Out × S)} {k : S → Option (Out × S)} {r : Out × S} (h : andThen a k = some r) :
    ∃ o σ, a = some (o, σ) ∧ ((o = .normal ∧ k σ = some r) ∨ (o ≠ .normal ∧ r = (o, σ))) := by
  rcases a with _ | ⟨o, σ⟩
  · cases h
  · refine ⟨o, σ, rfl, ?_⟩
    cases o <;> first | exact Or.inl ⟨rfl, h⟩ | exact Or.inr ⟨by simp, (Option.some.inj h).symm⟩

theorem loopThen_inv {a : Option (Out × S)} {k : S → Option (Out × S)} {r : Out × S} (h : loopThen a k = some r) :
    ∃ o σ, a = some (o, σ) ∧ loopThen (some (o, σ)) k = some r := by
  rcases a with _ | ⟨o, σ⟩
  · cases h
  · exact ⟨o, σ, rfl, h⟩

theorem loopThen_cases {k : S → Option (Out × S)} {ob o : Out} {τ σ1 : S} {motive : Prop}
    (h : loopThen (some (ob, τ)) k = some (o, σ1))
    (go : k τ = some (o, σ1) → (∀ k' (υ : S), loopThen (some (ob, υ)) k' = k' υ) → motive)
    (stop : σ1 = τ → (∀ k' (υ : S), loopThen (some (ob, υ)) k' = some (o, υ)) → motive) : motive := by
  cases ob with
  | normal => exact go h fun _ _ => rfl
  | cont => exact go h fun _ _ => rfl
  | brk => cases h; exact stop rfl fun _ _ => rfl
  | ret w => cases h; exact stop rfl fun _ _ => rfl
  | exc e => cases h; exact stop rfl fun _ _ => rfl

section
variable {B : Type} {find : Exc → Option B} {run : B → S → Option (Out × S)} {o : Out} {σ : S}

theorem handleThen_cases {r : Out × S} {motive : Prop} (h : handleThen find run (o, σ) = some r)
    (caught : ∀ ex hb, o = .exc ex → find ex = some hb → run hb σ = some r → motive)
    (pass : (∀ ex, o = .exc ex → find ex = none) → r = (o, σ) → motive) : motive := by
  cases o with
  | exc ex =>
    rw [handleThen] at h
    cases hf : find ex with
    | none => rw [hf] at h; exact pass (fun _ he => by cases he; exact hf) (Option.some.inj h).symm
    | some hb => rw [hf] at h; exact caught ex hb rfl hf h
  | _ => exact pass nofun (Option.some.inj h).symm

theorem handleThen_caught {ex : Exc} {hb : B} (σ : S) (h : find ex = some hb) :
    handleThen find run (.exc ex, σ) = run hb σ := by
  rw [handleThen, h]

theorem handleThen_pass (σ : S) (h : ∀ ex, o = .exc ex → find ex = none) : handleThen find run (o, σ) = some (o, σ) := by
  cases o with
  | exc ex => rw [handleThen, h ex rfl]
  | _ => rfl

end

section
variable {run : S → Option (Out × S)} {o : Out} {τ : S}

theorem finallyThen_inv {r : Out × S} (h : finallyThen run (o, τ) = some r) :
    ∃ of σf, run τ = some (of, σf) ∧ ((of = .normal ∧ r = (o, σf)) ∨ (of ≠ .normal ∧ r = (of, σf))) := by
  obtain ⟨of, σf, hf, h⟩ := andThen_inv h
  exact ⟨of, σf, hf, h.imp (fun h => ⟨h.1, (Option.some.inj h.2).symm⟩) id⟩

theorem finallyThen_of_normal {σf : S} (h : run τ = some (.normal, σf)) : finallyThen run (o, τ) = some (o, σf) := by
  rw [finallyThen, h]; rfl

theorem finallyThen_of_abrupt {of : Out} {σf : S} (h : run τ = some (of, σf)) (hne : of ≠ .normal) :
    finallyThen run (o, τ) = some (of, σf) := by
  rw [finallyThen, h]
  cases of with
  | normal => exact absurd rfl hne
  | _ => rfl

end

def Sub (a b : Option α) : Prop := ∀ r, a = some r → b = some r

theorem Sub.rfl {a : Option α} : Sub a a := fun _ h => h

theorem ite_sub {c : Prop} [Decidable c] {a a' b b' : Option α} (ha : Sub a a') (hb : Sub b b') :
    Sub (if c then a else b) (if c then a' else b') := by
  split
  · exact ha
  · exact hb

theorem valThen_sub {r : Except Exc α × S} {k k' : α → S → Option (Out × S)} (h : ∀ v σ, Sub (k v σ) (k' v σ)) :
    Sub (valThen r k) (valThen r k') := by
  rcases r with ⟨_ | v, σ⟩
  · exact Sub.rfl
  · exact h v σ

theorem andThen_sub {a a' : Option (Out × S)} {k k' : S → Option (Out × S)} (ha : Sub a a')
    (h : ∀ σ, Sub (k σ) (k' σ)) : Sub (andThen a k) (andThen a' k') := by
  intro r hr
  rcases a with _ | ⟨o, σ⟩
  · cases hr
  · rw [ha _ rfl]
    cases o with
    | normal => exact h σ r hr
    | _ => exact hr

theorem loopThen_sub {a a' : Option (Out × S)} {k k' : S → Option (Out × S)} (ha : Sub a a')
    (h : ∀ σ, Sub (k σ) (k' σ)) : Sub (loopThen a k) (loopThen a' k') := by
  intro r hr
  rcases a with _ | ⟨o, σ⟩
  · cases hr
  · rw [ha _ rfl]
    cases o with
    | normal | cont => exact h σ r hr
    | _ => exact hr

theorem extraThen_sub {ev : Expr → S → Except Exc Val × S} {extra : Option Expr} {σ : S}
    {k k' : S → Option (Out × S)} (h : ∀ σ, Sub (k σ) (k' σ)) :
    Sub (extraThen ev extra k σ) (extraThen ev extra k' σ) := by
  cases extra with
  | none => exact h σ
  | some t => exact valThen_sub fun tv σ' => ite_sub (h σ') Sub.rfl

theorem handleThen_sub {B : Type} {find : Exc → Option B} {run run' : B → S → Option (Out × S)}
    (h : ∀ b σ, Sub (run b σ) (run' b σ)) (r : Out × S) : Sub (handleThen find run r) (handleThen find run' r) := by
  obtain ⟨o, σ⟩ := r
  cases o with
  | exc ex =>
    simp only [handleThen]
    cases find ex with
    | none => exact Sub.rfl
    | some hb => exact h hb σ
  | _ => exact Sub.rfl

theorem finallyThen_sub {run run' : S → Option (Out × S)} (h : ∀ σ, Sub (run σ) (run' σ)) (r : Out × S) :
    Sub (finallyThen run r) (finallyThen run' r) :=
  andThen_sub (h r.2) fun _ => Sub.rfl

theorem bind_sub {β γ : Type} {a a' : Option β} {f f' : β → Option γ} (ha : Sub a a') (hf : ∀ x, Sub (f x) (f' x)) :
    Sub (a.bind f) (a'.bind f') := by
  intro r hr
  cases a with
  | none => cases hr
  | some x => rw [ha _ rfl]; exact hf x r hr

def Matched {S' : Type} (Q : S → S' → Prop) (a : Option (Out × S)) (b : Option (Out × S')) : Prop :=
  ∀ o σ, a = some (o, σ) → ∃ σ', b = some (o, σ') ∧ Q σ σ'

section
variable {S' : Type} {Q : S → S' → Prop}

theorem Matched.pure {o : Out} {σ : S} {σ' : S'} (h : Q σ σ') : Matched Q (some (o, σ)) (some (o, σ')) :=
  fun _ _ e => by cases e; exact ⟨σ', rfl, h⟩

theorem ite_matched {c : Prop} [Decidable c] {a b : Option (Out × S)} {a' b' : Option (Out × S')}
    (ha : Matched Q a a') (hb : Matched Q b b') : Matched Q (if c then a else b) (if c then a' else b') := by
  split
  · exact ha
  · exact hb

theorem valThen_matched {r : Except Exc α × S} {r' : Except Exc α × S'} {k : α → S → Option (Out × S)}
    {k' : α → S' → Option (Out × S')} (h1 : r.1 = r'.1) (h2 : Q r.2 r'.2)
    (hk : ∀ v, Matched Q (k v r.2) (k' v r'.2)) : Matched Q (valThen r k) (valThen r' k') := by
  obtain ⟨res, σ⟩ := r
  obtain ⟨res', σ'⟩ := r'
  cases h1
  cases res with
  | error ex => exact Matched.pure h2
  | ok v => exact hk v

theorem andThen_matched {a : Option (Out × S)} {a' : Option (Out × S')} {k : S → Option (Out × S)}
    {k' : S' → Option (Out × S')} (ha : Matched Q a a') (hk : ∀ σ σ', Q σ σ' → Matched Q (k σ) (k' σ')) :
    Matched Q (andThen a k) (andThen a' k') := by
  rcases a with _ | ⟨o, σ⟩
  · exact fun _ _ e => by cases e
  · obtain ⟨σ', rfl, hq⟩ := ha o σ rfl
    cases o with
    | normal => exact hk σ σ' hq
    | _ => exact Matched.pure hq

theorem loopThen_matched {a : Option (Out × S)} {a' : Option (Out × S')} {k : S → Option (Out × S)}
    {k' : S' → Option (Out × S')} (ha : Matched Q a a') (hk : ∀ σ σ', Q σ σ' → Matched Q (k σ) (k' σ')) :
    Matched Q (loopThen a k) (loopThen a' k') := by
  rcases a with _ | ⟨o, σ⟩
  · exact fun _ _ e => by cases e
  · obtain ⟨σ', rfl, hq⟩ := ha o σ rfl
    cases o with
    | normal | cont => exact hk σ σ' hq
    | brk => exact Matched.pure (o := .normal) hq
    | _ => exact Matched.pure hq

theorem extraThen_matched {ev : Expr → S → Except Exc Val × S} {ev' : Expr → S' → Except Exc Val × S'}
    {extra : Option Expr} {σ : S} {σ' : S'} {k : S → Option (Out × S)} {k' : S' → Option (Out × S')}
    (hev : ∀ t, extra = some t → (ev t σ).1 = (ev' t σ').1 ∧ Q (ev t σ).2 (ev' t σ').2) (hq : Q σ σ')
    (hk : ∀ σ σ', Q σ σ' → Matched Q (k σ) (k' σ')) : Matched Q (extraThen ev extra k σ) (extraThen ev' extra k' σ') := by
  cases extra with
  | none => exact hk σ σ' hq
  | some t =>
    obtain ⟨h1, h2⟩ := hev t rfl
    exact valThen_matched h1 h2 fun tv => ite_matched (hk _ _ h2) (Matched.pure h2)

theorem bind_matched {a : Option (Out × S)} {a' : Option (Out × S')} {f : Out × S → Option (Out × S)}
    {f' : Out × S' → Option (Out × S')} (ha : Matched Q a a') (hf : ∀ o σ σ', Q σ σ' → Matched Q (f (o, σ)) (f' (o, σ'))) :
    Matched Q (a.bind f) (a'.bind f') := by
  rcases a with _ | ⟨o, σ⟩
  · exact fun _ _ e => by cases e
  · obtain ⟨σ', rfl, hq⟩ := ha o σ rfl
    exact hf o σ σ' hq

theorem handleThen_matched {B : Type} {find : Exc → Option B} {run : B → S → Option (Out × S)}
    {run' : B → S' → Option (Out × S')} {o : Out} {σ : S} {σ' : S'} (hq : Q σ σ')
    (h : ∀ ex hb, o = .exc ex → find ex = some hb → Matched Q (run hb σ) (run' hb σ')) :
    Matched Q (handleThen find run (o, σ)) (handleThen find run' (o, σ')) := by
  cases o with
  | exc ex =>
    simp only [handleThen]
    cases hf : find ex with
    | none => exact .pure hq
    | some hb => exact h ex hb rfl hf
  | _ => exact .pure hq

theorem finallyThen_matched {run : S → Option (Out × S)} {run' : S' → Option (Out × S')} {o : Out} {σ : S} {σ' : S'}
    (h : Matched Q (run σ) (run' σ')) : Matched Q (finallyThen run (o, σ)) (finallyThen run' (o, σ')) :=
  andThen_matched h fun _ _ hq => .pure hq

end

def Post (P : Out → S → Prop) (a : Option (Out × S)) : Prop := ∀ o τ, a = some (o, τ) → P o τ

theorem Post.pure {P : Out → S → Prop} {o : Out} {τ : S} (h : P o τ) : Post P (some (o, τ)) :=
  fun _ _ e => by cases e; exact h

theorem Post.none {P : Out → S → Prop} : Post P (none : Option (Out × S)) := fun _ _ e => by cases e

theorem Post.mono {P Q : Out → S → Prop} {a : Option (Out × S)} (ha : Post P a) (h : ∀ o τ, P o τ → Q o τ) :
    Post Q a := fun o τ e => h o τ (ha o τ e)

theorem Post.and {P Q : Out → S → Prop} {a : Option (Out × S)} (hp : Post P a) (hq : Post Q a) :
    Post (fun o τ => P o τ ∧ Q o τ) a := fun o τ e => ⟨hp o τ e, hq o τ e⟩

theorem ite_post {P : Out → S → Prop} {c : Prop} [Decidable c] {a b : Option (Out × S)} (ha : c → Post P a)
    (hb : ¬c → Post P b) : Post P (if c then a else b) := by
  split
  · exact ha ‹_›
  · exact hb ‹_›

theorem valThen_post {P : Out → S → Prop} {r : Except Exc α × S} {k : α → S → Option (Out × S)}
    (hk : ∀ v, r.1 = .ok v → Post P (k v r.2)) (he : ∀ ex, r.1 = .error ex → P (.exc ex) r.2) : Post P (valThen r k) := by
  rcases r with ⟨_ | v, σ⟩
  · exact Post.pure (he _ rfl)
  · exact hk v rfl

theorem andThen_post {P Q : Out → S → Prop} {a : Option (Out × S)} {k : S → Option (Out × S)} (ha : Post Q a)
    (hk : ∀ τ, Q .normal τ → Post P (k τ)) (hQ : ∀ o τ, o ≠ .normal → Q o τ → P o τ) : Post P (andThen a k) := by
  rcases a with _ | ⟨o, τ⟩
  · exact .none
  · have h := ha o τ rfl
    cases o <;> first | exact hk τ h | exact Post.pure (hQ _ τ (by simp) h)

theorem loopThen_post {P Q : Out → S → Prop} {a : Option (Out × S)} {k : S → Option (Out × S)} (ha : Post Q a)
    (hk : ∀ o τ, o = .normal ∨ o = .cont → Q o τ → Post P (k τ)) (hb : ∀ τ, Q .brk τ → P .normal τ)
    (hQ : ∀ o τ, o ≠ .normal → o ≠ .cont → o ≠ .brk → Q o τ → P o τ) : Post P (loopThen a k) := by
  rcases a with _ | ⟨o, τ⟩
  · exact .none
  · have h := ha o τ rfl
    cases o with
    | normal => exact hk _ τ (.inl rfl) h
    | cont => exact hk _ τ (.inr rfl) h
    | brk => exact .pure (hb τ h)
    | ret v => exact .pure (hQ _ τ nofun nofun nofun h)
    | exc e => exact .pure (hQ _ τ nofun nofun nofun h)

/-- `I`: kept by evaluating the test; the loop may also end in such a state, normally or with an error of the test. -/
theorem extraThen_post {P : Out → S → Prop} {I : S → Prop} {ev : Expr → S → Except Exc Val × S} {extra : Option Expr}
    {σ : S} {k : S → Option (Out × S)} (hI : I σ) (hev : ∀ t τ, I τ → I (ev t τ).2) (hk : ∀ τ, I τ → Post P (k τ))
    (hn : ∀ τ, I τ → P .normal τ) (he : ∀ t ex, (ev t σ).1 = .error ex → I (ev t σ).2 → P (.exc ex) (ev t σ).2) :
    Post P (extraThen ev extra k σ) := by
  cases extra with
  | none => exact hk σ hI
  | some t =>
    exact valThen_post (fun tv _ => ite_post (fun _ => hk _ (hev t σ hI)) fun _ => Post.pure (hn _ (hev t σ hI)))
      fun ex hex => he t ex hex (hev t σ hI)

theorem bind_post {P Q : Out → S → Prop} {a : Option (Out × S)} {f : Out × S → Option (Out × S)}
    (ha : Post Q a) (hf : ∀ o τ, Q o τ → Post P (f (o, τ))) : Post P (a.bind f) := by
  rcases a with _ | ⟨o, τ⟩
  · exact .none
  · exact hf o τ (ha o τ rfl)

theorem handleThen_post {B : Type} {P : Out → S → Prop} {find : Exc → Option B} {run : B → S → Option (Out × S)} {o : Out}
    {σ : S} (hc : ∀ ex hb, o = .exc ex → find ex = some hb → Post P (run hb σ))
    (hp : (∀ ex, o = .exc ex → find ex = none) → P o σ) : Post P (handleThen find run (o, σ)) :=
  fun _ _ h => handleThen_cases h (fun ex hb he hf hr => hc ex hb he hf _ _ hr) fun hn hr => by cases hr; exact hp hn

theorem finallyThen_post {P Q : Out → S → Prop} {run : S → Option (Out × S)} {o : Out} {σ : S} (ha : Post Q (run σ))
    (hn : ∀ τ, Q .normal τ → P o τ) (hQ : ∀ of τ, of ≠ .normal → Q of τ → P of τ) : Post P (finallyThen run (o, σ)) :=
  andThen_post ha (fun τ h => .pure (hn τ h)) hQ

end Seq

section
variable (X : Ext) (n : Nat) (σ : St)

theorem exec_assign (x : Name) (e : Expr) :
    exec X (n+1) (.assign x e) σ = valThen (evalE X e σ) fun v σ' => some (.normal, σ'.set x v) := by
  rw [exec]; rcases evalE X e σ with ⟨_ | _, _⟩ <;> rfl

theorem exec_expr (e : Expr) :
    exec X (n+1) (.expr e) σ = valThen (evalE X e σ) fun _ σ' => some (.normal, σ') := by
  rw [exec]; rcases evalE X e σ with ⟨_ | _, _⟩ <;> rfl

theorem exec_ret (e : Expr) :
    exec X (n+1) (.ret (some e)) σ = valThen (evalE X e σ) fun v σ' => some (.ret v, σ') := by
  rw [exec]; rcases evalE X e σ with ⟨_ | _, _⟩ <;> rfl

theorem exec_if (c : Expr) (t e : Block) :
    exec X (n+1) (.ifS c t e) σ =
      valThen (evalE X c σ) fun v σ' => if truthy v then execB X n t σ' else execB X n e σ' := by
  rw [exec]; rcases evalE X c σ with ⟨_ | _, _⟩ <;> rfl

theorem exec_while (c : Expr) (b : Block) :
    exec X (n+1) (.whileS c b) σ =
      valThen (evalE X c σ) fun v σ' =>
        if truthy v then loopThen (execB X n b σ') (exec X n (.whileS c b)) else some (.normal, σ') := by
  rw [exec]; unfold valThen
  rcases evalE X c σ with ⟨_ | v, σ'⟩
  · rfl
  · dsimp only
    cases truthy v
    · rfl
    · rcases execB X n b σ' with _ | ⟨_ | _, _⟩ <;> rfl

theorem exec_for (x : Name) (it : Expr) (ex : Option Expr) (b : Block) :
    exec X (n+1) (.forS x it ex b) σ =
      valThen (evalE X it σ) fun v σ' => (match iterItems v with
        | .ok items => extraThen (evalE X) ex (execFor X n x ex b items) σ'
        | .error e => some (.exc e, σ')) := by
  rw [exec]; unfold valThen
  rcases evalE X it σ with ⟨_ | v, σ'⟩
  · rfl
  · dsimp only
    cases iterItems v with
    | error e => rfl
    | ok items =>
      cases ex with
      | none => rfl
      | some t =>
        dsimp only [extraThen]
        rcases evalE X t σ' with ⟨_ | _, _⟩ <;> rfl

theorem exec_try (body : Block) (hs : List (Nat × Block)) (fin : Block) :
    exec X (n+1) (.tryS body hs fin) σ
      = (execB X n body σ).bind fun r =>
          (handleThen (findHandler hs) (execB X n) r).bind (finallyThen (execB X n fin)) := by
  conv => lhs; whnf
  rcases execB X n body σ with _ | ⟨o, σ'⟩
  · rfl
  cases o with
  | exc ex =>
    simp only [Option.bind_some, handleThen]
    rcases findHandler hs ex with _ | hbk
    · simp only [Option.bind_some, finallyThen]
      rcases execB X n fin σ' with _ | ⟨_ | _, _⟩ <;> rfl
    · simp only
      rcases execB X n hbk σ' with _ | ⟨o2, σ2⟩
      · rfl
      · simp only [Option.bind_some, finallyThen]
        rcases execB X n fin σ2 with _ | ⟨_ | _, _⟩ <;> rfl
  | _ =>
    simp only [handleThen, Option.bind_some, finallyThen]
    rcases execB X n fin σ' with _ | ⟨_ | _, _⟩ <;> rfl

theorem exec_with (tag : Int) (body : Block) :
    exec X (n+1) (.withS tag body) σ =
      (execB X n body (σ.push (.enter tag))).bind fun r => some (r.1, r.2.push (.exit tag)) := by
  rw [exec]; cases execB X n body (σ.push (.enter tag)) <;> rfl

theorem execB_nil : execB X (n+1) [] σ = some (.normal, σ) := rfl

theorem execB_cons (s : Stmt) (rest : Block) :
    execB X (n+1) (s :: rest) σ = andThen (exec X n s σ) (execB X n rest) := by
  rw [execB]
  rcases exec X n s σ with _ | ⟨_ | _, _⟩ <;> rfl

theorem execFor_cons (x : Name) (ex : Option Expr) (b : Block) (v : Val) (items : List Val) :
    execFor X (n+1) x ex b (v :: items) σ =
      loopThen (execB X n b (σ.set x v)) (extraThen (evalE X) ex (execFor X n x ex b items)) := by
  rw [execFor]
  rcases execB X n b (σ.set x v) with _ | ⟨_ | _, τ⟩ <;> try rfl
  all_goals
    cases ex with
    | none => rfl
    | some t =>
      conv => lhs; whnf
      conv => rhs; whnf
      rcases evalE X t τ with ⟨_ | _, _⟩ <;> rfl

end

theorem execB_cons_inv {X : Ext} {n : Nat} {s : Stmt} {rest : Block} {σ : St} {r : Out × St}
    (h : execB X (n+1) (s :: rest) σ = some r) :
    ∃ os σs, exec X n s σ = some (os, σs) ∧
      ((os = .normal ∧ execB X n rest σs = some r) ∨ (os ≠ .normal ∧ r = (os, σs))) :=
  andThen_inv (execB_cons X n σ s rest ▸ h)

theorem execB_cons_normal {X : Ext} {n : Nat} {s : Stmt} {rest : Block} {σ σs : St}
    (h : exec X n s σ = some (.normal, σs)) : execB X (n+1) (s :: rest) σ = execB X n rest σs := by
  rw [execB_cons, h]; rfl

theorem execB_cons_abrupt {X : Ext} {n : Nat} {s : Stmt} {rest : Block} {σ σs : St} {os : Out}
    (h : exec X n s σ = some (os, σs)) (ho : os ≠ .normal) : execB X (n+1) (s :: rest) σ = some (os, σs) := by
  rw [execB_cons, h]
  cases os with
  | normal => exact absurd rfl ho
  | _ => rfl

theorem execB_singleton {X : Ext} {n : Nat} {s : Stmt} {σ : St} {r : Out × St}
    (h : exec X n s σ = some r) : execB X (n+1) [s] σ = some r := by
  obtain ⟨o, τ⟩ := r
  cases n with
  | zero => exact nomatch h
  | succ n =>
    by_cases ho : o = .normal
    · subst ho; rw [execB_cons_normal h, execB_nil]
    · exact execB_cons_abrupt h ho

theorem exec_if_err {X : Ext} {n : Nat} {c : Expr} {t e : Block} {σ τ : St} {ex : Exc}
    (hc : evalE X c σ = (.error ex, τ)) : exec X (n+1) (.ifS c t e) σ = some (.exc ex, τ) := by
  rw [exec_if, valThen_err hc]

theorem exec_if_true {X : Ext} {n : Nat} {c : Expr} {t e : Block} {σ τ : St} {v : Val}
    (hc : evalE X c σ = (.ok v, τ)) (hv : truthy v = true) : exec X (n+1) (.ifS c t e) σ = execB X n t τ := by
  rw [exec_if, valThen_ok hc, if_pos hv]

theorem exec_if_false {X : Ext} {n : Nat} {c : Expr} {t e : Block} {σ τ : St} {v : Val}
    (hc : evalE X c σ = (.ok v, τ)) (hv : ¬ truthy v = true) : exec X (n+1) (.ifS c t e) σ = execB X n e τ := by
  rw [exec_if, valThen_ok hc, if_neg hv]

theorem exec_if_cases {X : Ext} {n : Nat} {c : Expr} {t e : Block} {σ : St} {r : Out × St} {motive : Prop}
    (h : exec X (n+1) (.ifS c t e) σ = some r)
    (err : ∀ ex τ, evalE X c σ = (.error ex, τ) → r = (.exc ex, τ) → motive)
    (then_ : ∀ v τ, evalE X c σ = (.ok v, τ) → truthy v = true → execB X n t τ = some r → motive)
    (else_ : ∀ v τ, evalE X c σ = (.ok v, τ) → ¬ truthy v = true → execB X n e τ = some r → motive) : motive := by
  rw [exec_if] at h
  refine valThen_cases h (fun v τ hv hk => ?_) err
  by_cases htv : truthy v = true
  · rw [if_pos htv] at hk; exact then_ v τ hv htv hk
  · rw [if_neg htv] at hk; exact else_ v τ hv htv hk

theorem exec_while_err {X : Ext} {n : Nat} {c : Expr} {b : Block} {σ τ : St} {ex : Exc}
    (hc : evalE X c σ = (.error ex, τ)) : exec X (n+1) (.whileS c b) σ = some (.exc ex, τ) := by
  rw [exec_while, valThen_err hc]

theorem exec_while_false {X : Ext} {n : Nat} {c : Expr} {b : Block} {σ τ : St} {v : Val}
    (hc : evalE X c σ = (.ok v, τ)) (hv : truthy v = false) : exec X (n+1) (.whileS c b) σ = some (.normal, τ) := by
  rw [exec_while, valThen_ok hc, hv]; rfl

theorem exec_while_true {X : Ext} {n : Nat} {c : Expr} {b : Block} {σ τ : St} {v : Val}
    (hc : evalE X c σ = (.ok v, τ)) (hv : truthy v = true) :
    exec X (n+1) (.whileS c b) σ = loopThen (execB X n b τ) (exec X n (.whileS c b)) := by
  rw [exec_while, valThen_ok hc, if_pos hv]

theorem exec_while_step {X : Ext} {n : Nat} {c : Expr} {b : Block} {σ τ τ1 : St} {v : Val} {ob : Out}
    (hc : evalE X c σ = (.ok v, τ)) (hv : truthy v = true) (hb : execB X n b τ = some (ob, τ1)) :
    exec X (n+1) (.whileS c b) σ = loopThen (some (ob, τ1)) (exec X n (.whileS c b)) := by
  rw [exec_while_true hc hv, hb]

theorem exec_while_cases {X : Ext} {n : Nat} {c : Expr} {b : Block} {σ : St} {r : Out × St} {motive : Prop}
    (h : exec X (n+1) (.whileS c b) σ = some r)
    (err : ∀ ex τ, evalE X c σ = (.error ex, τ) → r = (.exc ex, τ) → motive)
    (stop : ∀ v τ, evalE X c σ = (.ok v, τ) → truthy v = false → r = (.normal, τ) → motive)
    (iter : ∀ v τ ob τ1, evalE X c σ = (.ok v, τ) → truthy v = true → execB X n b τ = some (ob, τ1) →
      loopThen (some (ob, τ1)) (exec X n (.whileS c b)) = some r → motive) : motive := by
  rcases hr : evalE X c σ with ⟨rc, τ⟩
  cases rc with
  | error ex => rw [exec_while_err hr] at h; exact err ex τ hr (Option.some.inj h).symm
  | ok v =>
    cases hv : truthy v with
    | false => rw [exec_while_false hr hv] at h; exact stop v τ hr hv (Option.some.inj h).symm
    | true =>
      rw [exec_while_true hr hv] at h
      obtain ⟨ob, τ1, hb, hl⟩ := loopThen_inv h
      exact iter v τ ob τ1 hr hv hb hl

theorem execFor_step {X : Ext} {n : Nat} {x : Name} {ex : Option Expr} {b : Block} {v : Val} {items : List Val}
    {σ τ : St} {ob : Out} (hb : execB X n b (σ.set x v) = some (ob, τ)) :
    execFor X (n+1) x ex b (v :: items) σ =
      loopThen (some (ob, τ)) (extraThen (evalE X) ex (execFor X n x ex b items)) := by
  rw [execFor_cons, hb]

section
variable {X : Ext} {n : Nat} {x : Name} {it : Expr} {ex : Option Expr} {b : Block} {σ τ : St}

theorem exec_for_err {e : Exc} (h : evalE X it σ = (.error e, τ)) :
    exec X (n+1) (.forS x it ex b) σ = some (.exc e, τ) := by
  rw [exec_for, valThen_err h]

theorem exec_for_bad {v : Val} {e : Exc} (h : evalE X it σ = (.ok v, τ)) (hi : iterItems v = .error e) :
    exec X (n+1) (.forS x it ex b) σ = some (.exc e, τ) := by
  rw [exec_for, valThen_ok h, hi]

theorem exec_for_go {v : Val} {items : List Val} (h : evalE X it σ = (.ok v, τ)) (hi : iterItems v = .ok items) :
    exec X (n+1) (.forS x it ex b) σ = extraThen (evalE X) ex (execFor X n x ex b items) τ := by
  rw [exec_for, valThen_ok h, hi]

theorem exec_for_cases {r : Out × St} {motive : Prop} (h : exec X (n+1) (.forS x it ex b) σ = some r)
    (err : ∀ e τ, evalE X it σ = (.error e, τ) → r = (.exc e, τ) → motive)
    (bad : ∀ v τ e, evalE X it σ = (.ok v, τ) → iterItems v = .error e → r = (.exc e, τ) → motive)
    (go : ∀ v τ items, evalE X it σ = (.ok v, τ) → iterItems v = .ok items →
      extraThen (evalE X) ex (execFor X n x ex b items) τ = some r → motive) : motive := by
  rw [exec_for] at h
  refine valThen_cases h (fun v τ hv hk => ?_) err
  cases hi : iterItems v with
  | error e => rw [hi] at hk; exact bad v τ e hv hi (Option.some.inj hk).symm
  | ok items => rw [hi] at hk; exact go v τ items hv hi hk

end

theorem exec_try_inv {X : Ext} {n : Nat} {body : Block} {hs : List (Nat × Block)} {fin : Block}
    {σ : St} {r3 : Out × St} (h : exec X (n+1) (.tryS body hs fin) σ = some r3) :
    ∃ r1 r2, execB X n body σ = some r1 ∧ handleThen (findHandler hs) (execB X n) r1 = some r2 ∧
      finallyThen (execB X n fin) r2 = some r3 := by
  rw [exec_try] at h
  obtain ⟨r1, h1, h'⟩ := Option.bind_eq_some_iff.mp h
  obtain ⟨r2, h2, h3⟩ := Option.bind_eq_some_iff.mp h'
  exact ⟨r1, r2, h1, h2, h3⟩

theorem exec_mono_all (X : Ext) : ∀ n m, n ≤ m →
    (∀ s σ, Sub (exec X n s σ) (exec X m s σ)) ∧ (∀ b σ, Sub (execB X n b σ) (execB X m b σ)) ∧
    (∀ x ex b items σ, Sub (execFor X n x ex b items σ) (execFor X m x ex b items σ))
  | 0, _, _ => ⟨fun _ _ _ h => (nomatch h), fun _ _ _ h => (nomatch h), fun _ _ _ _ _ _ h => (nomatch h)⟩
  | n+1, m+1, hnm => by
    obtain ⟨ihS, ihB, ihF⟩ := exec_mono_all X n m (Nat.le_of_succ_le_succ hnm)
    refine ⟨fun s σ => ?_, fun b σ => ?_, fun x ex b items σ => ?_⟩
    · cases s with
      | ifS c t e =>
        rw [exec_if, exec_if]
        exact valThen_sub fun v σ' => ite_sub (ihB _ _) (ihB _ _)
      | whileS c b =>
        rw [exec_while, exec_while]
        exact valThen_sub fun v σ' => ite_sub (loopThen_sub (ihB _ _) (ihS _)) Sub.rfl
      | forS x it ex b =>
        rw [exec_for, exec_for]
        refine valThen_sub fun v σ' => ?_
        cases iterItems v with
        | error e => exact Sub.rfl
        | ok items => exact extraThen_sub (ihF _ _ _ _)
      | tryS body hs fin =>
        rw [exec_try, exec_try]
        exact bind_sub (ihB _ _) fun r => bind_sub (handleThen_sub ihB r) (finallyThen_sub (ihB fin))
      | withS tag body =>
        rw [exec_with, exec_with]
        exact bind_sub (ihB _ _) fun _ => Sub.rfl
      | ret e => cases e <;> exact Sub.rfl
      | _ => exact Sub.rfl
    · cases b with
      | nil => exact Sub.rfl
      | cons s rest => rw [execB_cons, execB_cons]; exact andThen_sub (ihS _ _) (ihB rest)
    · cases items with
      | nil => exact Sub.rfl
      | cons v items =>
        rw [execFor_cons, execFor_cons]
        exact loopThen_sub (ihB _ _) fun τ => extraThen_sub (ihF _ _ _ _)
  | n+1, 0, h => absurd h (Nat.not_succ_le_zero n)

theorem exec_mono (X : Ext) {n : Nat} {s : Stmt} {σ : St} {r : Out × St}
    (h : exec X n s σ = some r) {m : Nat} (hm : n ≤ m) : exec X m s σ = some r :=
  (exec_mono_all X n m hm).1 s σ r h

theorem execB_mono (X : Ext) {n : Nat} {b : Block} {σ : St} {r : Out × St}
    (h : execB X n b σ = some r) {m : Nat} (hm : n ≤ m) : execB X m b σ = some r :=
  (exec_mono_all X n m hm).2.1 b σ r h

theorem execFor_mono (X : Ext) {n : Nat} {x : Name} {ex : Option Expr} {b : Block} {items : List Val}
    {σ : St} {r : Out × St}
    (h : execFor X n x ex b items σ = some r) {m : Nat} (hm : n ≤ m) :
    execFor X m x ex b items σ = some r :=
  (exec_mono_all X n m hm).2.2 x ex b items σ r h

theorem extraThen_mono (X : Ext) {n m : Nat} {x : Name} {ex ex' : Option Expr} {b : Block} {items : List Val}
    {σ : St} {r : Out × St} (h : extraThen (evalE X) ex' (execFor X n x ex b items) σ = some r) (hm : n ≤ m) :
    extraThen (evalE X) ex' (execFor X m x ex b items) σ = some r :=
  extraThen_sub (fun _ _ hr => execFor_mono X hr hm) _ h

theorem exec_try_of (X : Ext) {m1 m2 m3 : Nat} {body : Block} {hs : List (Nat × Block)} {fin : Block}
    {σ : St} {r1 r2 r3 : Out × St} (h1 : execB X m1 body σ = some r1)
    (h2 : handleThen (findHandler hs) (execB X m2) r1 = some r2) (h3 : finallyThen (execB X m3 fin) r2 = some r3) :
    exec X (max m1 (max m2 m3) + 1) (.tryS body hs fin) σ = some r3 := by
  have l2 : m2 ≤ max m1 (max m2 m3) := Nat.le_trans (Nat.le_max_left _ _) (Nat.le_max_right _ _)
  have l3 : m3 ≤ max m1 (max m2 m3) := Nat.le_trans (Nat.le_max_right _ _) (Nat.le_max_right _ _)
  rw [exec_try, execB_mono X h1 (Nat.le_max_left _ _), Option.bind_some,
    handleThen_sub (fun _ _ _ h => execB_mono X h l2) _ _ h2, Option.bind_some]
  exact finallyThen_sub (fun _ _ h => execB_mono X h l3) _ _ h3

theorem execB_append {X : Ext} {a b : Block} : ∀ {n m : Nat} {σ τ : St} {r : Out × St},
    execB X n a σ = some (.normal, τ) → execB X m b τ = some r → execB X (n + m) (a ++ b) σ = some r := by
  induction a with
  | nil =>
    intro n m σ τ r h1 h2
    cases n with
    | zero => exact nomatch h1
    | succ n => cases h1; exact execB_mono X h2 (by omega)
  | cons s rest ih =>
    intro n m σ τ r h1 h2
    cases n with
    | zero => exact nomatch h1
    | succ n =>
      obtain ⟨os, σs, hs, hcase⟩ := execB_cons_inv h1
      rcases hcase with ⟨rfl, hr⟩ | ⟨hn, hr⟩
      · have : n + 1 + m = (n + m) + 1 := by omega
        rw [this, List.cons_append, execB_cons_normal (exec_mono X hs (by omega))]
        exact ih hr h2
      · cases hr; exact absurd rfl hn

theorem execB_append_abrupt {X : Ext} {a : Block} (b : Block) : ∀ {n : Nat} {σ τ : St} {o : Out},
    execB X n a σ = some (o, τ) → o ≠ .normal → execB X n (a ++ b) σ = some (o, τ) := by
  induction a with
  | nil =>
    intro n σ τ o h1 ho
    cases n with
    | zero => exact nomatch h1
    | succ n => cases h1; exact absurd rfl ho
  | cons s rest ih =>
    intro n σ τ o h1 ho
    cases n with
    | zero => exact nomatch h1
    | succ n =>
      obtain ⟨os, σs, hs, hcase⟩ := execB_cons_inv h1
      rcases hcase with ⟨rfl, hr⟩ | ⟨hn, hr⟩
      · rw [List.cons_append, execB_cons_normal hs]
        exact ih hr ho
      · cases hr
        rw [List.cons_append]; exact execB_cons_abrupt hs hn

theorem execB_append_inv (X : Ext) : ∀ (a : Block) (m : Nat) (μ : St) (b : Block) (r : Out × St),
    execB X m (a ++ b) μ = some r →
    ∃ o₁ ν, execB X m a μ = some (o₁, ν) ∧
      ((o₁ = .normal ∧ ∃ m₂, execB X m₂ b ν = some r) ∨ (o₁ ≠ .normal ∧ r = (o₁, ν)))
  | _, 0, _, _, _, h => by cases h
  | [], m+1, μ, b, r, h => ⟨.normal, μ, rfl, Or.inl ⟨rfl, m+1, h⟩⟩
  | s :: a, m+1, μ, b, r, h => by
      obtain ⟨o, μ₁, hs, hc⟩ := execB_cons_inv (rest := a ++ b) h
      rcases hc with ⟨rfl, hrest⟩ | ⟨hne, rfl⟩
      · rw [execB_cons_normal hs]; exact execB_append_inv X a m μ₁ b r hrest
      · exact ⟨o, μ₁, execB_cons_abrupt hs hne, Or.inr ⟨hne, rfl⟩⟩

/-- Only `raise E<tag>` is ever caught, by the first handler for that tag. -/
theorem findHandler_cons (t : Nat) (b : Block) (hs : List (Nat × Block)) (ex : Exc) :
    findHandler ((t, b) :: hs) ex =
      (match ex with
       | .user t' => if t = t' then some b else findHandler hs ex
       | _ => none) := by
  cases ex with
  | user t' =>
    by_cases h : t = t'
    · simp [findHandler, h]
    · simp [findHandler, h]
  | _ => rfl

theorem findHandler_ind {P : Block → Prop} {Q : List (Nat × Block) → Prop}
    (head : ∀ t b hs, Q ((t, b) :: hs) → P b) (tail : ∀ t b hs, Q ((t, b) :: hs) → Q hs) :
    ∀ (hs : List (Nat × Block)) (ex : Exc) (hb : Block), Q hs → findHandler hs ex = some hb → P hb
  | [], ex, hb, _, h => by cases ex <;> cases h
  | (t, b) :: hs, ex, hb, hq, h => by
      rw [findHandler_cons] at h
      cases ex with
      | user t' =>
        dsimp only at h
        split at h
        · cases h; exact head t b hs hq
        · exact findHandler_ind head tail hs _ hb (tail t b hs hq) h
      | _ => cases h

theorem findHandler_lower {R : Block → Block → Prop} {f : List (Nat × Block) → List (Nat × Block)}
    (hnil : f [] = []) (hcons : ∀ t b hs, ∃ b', f ((t, b) :: hs) = (t, b') :: f hs ∧ R b b') (ex : Exc) :
    ∀ hs, (findHandler hs ex = none → findHandler (f hs) ex = none) ∧
      (∀ hb, findHandler hs ex = some hb → ∃ hb', findHandler (f hs) ex = some hb' ∧ R hb hb')
  | [] => by rw [hnil]; exact ⟨id, fun _ h => by cases ex <;> cases h⟩
  | (t, b) :: hs => by
      obtain ⟨b', hf, hr⟩ := hcons t b hs
      rw [hf, findHandler_cons, findHandler_cons]
      cases ex with
      | user t' =>
        dsimp only
        by_cases ht : t = t'
        · rw [if_pos ht, if_pos ht]
          exact ⟨nofun, fun hb h => by cases h; exact ⟨b', rfl, hr⟩⟩
        · rw [if_neg ht, if_neg ht]
          exact findHandler_lower hnil hcons (.user t') hs
      | _ => exact ⟨id, nofun⟩

/-- An exception no `except E<tag>` handler of the core language catches (NameError, TypeError). -/
def Out.fatal : Out → Prop
  | .exc (.nameError _) => True
  | .exc .typeError => True
  | _ => False

theorem findHandler_fatal {hs : List (Nat × Block)} {ex : Exc} (h : Out.fatal (.exc ex)) :
    findHandler hs ex = none := by
  cases ex with
  | user t => exact h.elim
  | _ => rfl

namespace Jumps

theorem evalBin_err_fatal {op : BinOp} {a b : Val} {ex : Exc} (h : evalBin op a b = .error ex) :
    Out.fatal (.exc ex) := by
  have : ex = .typeError := by
    unfold evalBin at h
    split at h <;> first | (cases h; rfl) | cases h
  rw [this]; trivial

theorem evalE_err_fatal_all (X : Ext) :
    (∀ (e : Expr) (σ τ : St) (ex : Exc), evalE X e σ = (.error ex, τ) → Out.fatal (.exc ex)) ∧
    (∀ (es : List Expr) (σ τ : St) (ex : Exc), evalArgs X es σ = (.error ex, τ) → Out.fatal (.exc ex)) := by
  have h := evalE_post X (Q := fun _ r => ∀ ex, r.1 = .error ex → Out.fatal (.exc ex)) (fun _ _ _ h => nomatch h)
    (fun {_ _ _ r _} hr hk ex h => by
      obtain ⟨a, τ⟩ := r
      cases a with
      | error e => cases h; exact hr _ rfl
      | ok v => exact hk v τ ex h)
    (fun _ _ _ h => by cases h; trivial) (fun _ _ _ _ _ h => evalBin_err_fatal h) (fun _ _ _ _ h => nomatch h)
  exact ⟨fun e σ τ ex he => h.1 e σ ex (by rw [he]), fun es σ τ ex he => h.2 es σ ex (by rw [he])⟩

theorem evalE_err_fatal (X : Ext) : ∀ (e : Expr) (σ τ : St) (ex : Exc),
    evalE X e σ = (.error ex, τ) → Out.fatal (.exc ex) := (evalE_err_fatal_all X).1
theorem evalArgs_err_fatal (X : Ext) : ∀ (es : List Expr) (σ τ : St) (ex : Exc),
    evalArgs X es σ = (.error ex, τ) → Out.fatal (.exc ex) := (evalE_err_fatal_all X).2

theorem iterItems_err_fatal {v : Val} {ex : Exc} (h : iterItems v = .error ex) : Out.fatal (.exc ex) := by
  cases v with
  | none => cases h; trivial
  | _ => cases h

theorem fatal_ne_normal {o : Out} (h : Out.fatal o) : o ≠ .normal := by
  intro he; subst he; exact h
theorem fatal_ne_brk {o : Out} (h : Out.fatal o) : o ≠ .brk := by
  intro he; subst he; exact h
theorem fatal_ne_cont {o : Out} (h : Out.fatal o) : o ≠ .cont := by
  intro he; subst he; exact h
theorem fatal_ne_ret {o : Out} (h : Out.fatal o) (v : Val) : o ≠ .ret v := by
  intro he; subst he; exact h

end Jumps

mutual
def CleanE (G : Name → Prop) : Expr → Prop
  | .const _ => True
  | .var x => ¬ G x
  | .not e => CleanE G e
  | .and a b => CleanE G a ∧ CleanE G b
  | .or a b => CleanE G a ∧ CleanE G b
  | .ite c t e => CleanE G c ∧ CleanE G t ∧ CleanE G e
  | .bin _ a b => CleanE G a ∧ CleanE G b
  | .call _ args => CleanEs G args
def CleanEs (G : Name → Prop) : List Expr → Prop
  | [] => True
  | e :: es => CleanE G e ∧ CleanEs G es
end

def CleanO (G : Name → Prop) : Option Expr → Prop
  | none => True
  | some e => CleanE G e

mutual
/-- The statement neither reads nor writes a hidden name. -/
def CleanS (G : Name → Prop) : Stmt → Prop
  | .assign x e => ¬ G x ∧ CleanE G e
  | .expr e => CleanE G e
  | .ifS c t e => CleanE G c ∧ CleanB G t ∧ CleanB G e
  | .whileS c b => CleanE G c ∧ CleanB G b
  | .forS x it extra b => ¬ G x ∧ CleanE G it ∧ CleanO G extra ∧ CleanB G b
  | .ret e => CleanO G e
  | .tryS b hs f => CleanB G b ∧ CleanH G hs ∧ CleanB G f
  | .withS _ b => CleanB G b
  | .brk => True
  | .cont => True
  | .raise _ => True
  | .pass => True
def CleanB (G : Name → Prop) : List Stmt → Prop
  | [] => True
  | s :: rest => CleanS G s ∧ CleanB G rest
def CleanH (G : Name → Prop) : List (Nat × List Stmt) → Prop
  | [] => True
  | (_, b) :: hs => CleanB G b ∧ CleanH G hs
end

theorem CleanH_find {G : Name → Prop} {hs : List (Nat × Block)} {ex : Exc} {hb : Block}
    (hc : CleanH G hs) (h : findHandler hs ex = some hb) : CleanB G hb :=
  findHandler_ind (Q := CleanH G) (fun _ _ _ hq => hq.1) (fun _ _ _ hq => hq.2) hs ex hb hc h

/-- Equal logs, equal environments outside the hidden names. -/
def Agree (G : Name → Prop) (σ σ' : St) : Prop :=
  σ.log = σ'.log ∧ ∀ x, ¬ G x → σ.env x = σ'.env x

theorem Agree.refl (G : Name → Prop) (σ : St) : Agree G σ σ := ⟨rfl, fun _ _ => rfl⟩

theorem Agree.set {G : Name → Prop} {σ σ' : St} (h : Agree G σ σ') (x : Name) (v : Val) :
    Agree G (σ.set x v) (σ'.set x v) := by
  refine ⟨h.1, fun y hy => ?_⟩
  by_cases hyx : y = x
  · rw [hyx, St.set_env_eq, St.set_env_eq]
  · rw [St.set_env_ne _ _ hyx, St.set_env_ne _ _ hyx]; exact h.2 y hy

theorem Agree.setHidden {G : Name → Prop} {σ σ' : St} (h : Agree G σ σ') {x : Name} (hx : G x) (v : Val) :
    Agree G σ (σ'.set x v) :=
  ⟨h.1, fun y hy => by rw [St.set_env_ne _ _ (fun he => hy (by rw [he]; exact hx))]; exact h.2 y hy⟩

theorem Agree.push {G : Name → Prop} {σ σ' : St} (h : Agree G σ σ') (e : Event) :
    Agree G (σ.push e) (σ'.push e) :=
  ⟨by rw [St.push_log, St.push_log, h.1], h.2⟩

theorem Agree.weaken {G G' : Name → Prop} {σ τ : St} (h : Agree G σ τ) (hs : ∀ x, G x → G' x) : Agree G' σ τ :=
  ⟨h.1, fun x hx => h.2 x (fun hg => hx (hs x hg))⟩

theorem Agree.trans {G : Name → Prop} {a b c : St} (h1 : Agree G a b) (h2 : Agree G b c) : Agree G a c :=
  ⟨h1.1.trans h2.1, fun x hx => (h1.2 x hx).trans (h2.2 x hx)⟩

/-- `σ'` has the values of `σ` on `G`. -/
def SameHidden (G : Name → Prop) (σ σ' : St) : Prop := ∀ x, G x → σ'.env x = σ.env x

theorem SameHidden.refl (G : Name → Prop) (σ : St) : SameHidden G σ σ := fun _ _ => rfl

theorem SameHidden.trans {G : Name → Prop} {a b c : St} (h1 : SameHidden G a b) (h2 : SameHidden G b c) :
    SameHidden G a c := fun x hx => by rw [h2 x hx, h1 x hx]

theorem SameHidden.of_env {G : Name → Prop} {σ τ : St} (h : τ.env = σ.env) : SameHidden G σ τ :=
  fun x _ => by rw [h]

theorem SameHidden.set {G : Name → Prop} {σ τ : St} (h : SameHidden G σ τ) {x : Name} (hx : ¬ G x) (v : Val) :
    SameHidden G σ (τ.set x v) := by
  intro y hy
  have hne : y ≠ x := fun he => hx (he ▸ hy)
  rw [St.set_env_ne _ _ hne]
  exact h y hy

theorem bindE_agree {G : Name → Prop} {α β : Type} {r r' : Except Exc α × St}
    {k k' : α → St → Except Exc β × St} (hr : r'.1 = r.1 ∧ Agree G r.2 r'.2)
    (hk : ∀ v τ τ', Agree G τ τ' → (k' v τ').1 = (k v τ).1 ∧ Agree G (k v τ).2 (k' v τ').2) :
    (bindE r' k').1 = (bindE r k).1 ∧ Agree G (bindE r k).2 (bindE r' k').2 := by
  obtain ⟨a, τ⟩ := r
  obtain ⟨a', τ'⟩ := r'
  obtain ⟨rfl, hag⟩ := hr
  cases a' with
  | error ex => exact ⟨rfl, hag⟩
  | ok v => exact hk v τ τ' hag

theorem evalE_agree_all (X : Ext) (G : Name → Prop) :
    (∀ (e : Expr) (σ σ' : St), CleanE G e → Agree G σ σ' →
      (evalE X e σ').1 = (evalE X e σ).1 ∧ Agree G (evalE X e σ).2 (evalE X e σ').2) ∧
    (∀ (es : List Expr) (σ σ' : St), CleanEs G es → Agree G σ σ' →
      (evalArgs X es σ').1 = (evalArgs X es σ).1 ∧ Agree G (evalArgs X es σ).2 (evalArgs X es σ').2) := by
  apply expr_induct
  case const => exact fun _ _ _ _ h => ⟨rfl, h⟩
  case nil => exact fun _ _ _ h => ⟨rfl, h⟩
  case var => intro x σ σ' hc h; rw [evalE_var, evalE_var, h.2 x hc]; exact ⟨rfl, h⟩
  case notE =>
    intro e ih σ σ' hc h
    rw [evalE_not, evalE_not]
    exact bindE_agree (ih σ σ' hc h) fun _ _ _ hag => ⟨rfl, hag⟩
  case andE =>
    intro a b iha ihb σ σ' hc h
    rw [evalE_and, evalE_and]
    refine bindE_agree (iha σ σ' hc.1 h) fun v τ τ' hag => ?_
    split
    · exact ihb τ τ' hc.2 hag
    · exact ⟨rfl, hag⟩
  case orE =>
    intro a b iha ihb σ σ' hc h
    rw [evalE_or, evalE_or]
    refine bindE_agree (iha σ σ' hc.1 h) fun v τ τ' hag => ?_
    split
    · exact ⟨rfl, hag⟩
    · exact ihb τ τ' hc.2 hag
  case iteE =>
    intro c t e ihc iht ihe σ σ' hc h
    rw [evalE_ite, evalE_ite]
    refine bindE_agree (ihc σ σ' hc.1 h) fun v τ τ' hag => ?_
    split
    · exact iht τ τ' hc.2.1 hag
    · exact ihe τ τ' hc.2.2 hag
  case binE =>
    intro op a b iha ihb σ σ' hc h
    rw [evalE_bin, evalE_bin]
    exact bindE_agree (iha σ σ' hc.1 h) fun v τ τ' hag =>
      bindE_agree (ihb τ τ' hc.2 hag) fun _ _ _ hag' => ⟨rfl, hag'⟩
  case callE =>
    intro f args ih σ σ' hc h
    rw [evalE_call, evalE_call]
    exact bindE_agree (ih σ σ' hc h) fun vs τ τ' hag => ⟨by rw [hag.1], hag.push _⟩
  case cons =>
    intro e es ihe ihes σ σ' hc h
    rw [evalArgs_cons, evalArgs_cons]
    exact bindE_agree (ihe σ σ' hc.1 h) fun v τ τ' hag =>
      bindE_agree (ihes τ τ' hc.2 hag) fun _ _ _ hag' => ⟨rfl, hag'⟩

theorem evalE_agree (X : Ext) (G : Name → Prop) : ∀ (e : Expr) (σ σ' : St), CleanE G e → Agree G σ σ' →
    (evalE X e σ').1 = (evalE X e σ).1 ∧ Agree G (evalE X e σ).2 (evalE X e σ').2 := (evalE_agree_all X G).1
theorem evalArgs_agree (X : Ext) (G : Name → Prop) : ∀ (es : List Expr) (σ σ' : St), CleanEs G es → Agree G σ σ' →
    (evalArgs X es σ').1 = (evalArgs X es σ).1 ∧ Agree G (evalArgs X es σ).2 (evalArgs X es σ').2 :=
  (evalE_agree_all X G).2

/-- `τ'.env = σ'.env`: what holds of generated names before the evaluation holds after it. -/
theorem evalE_agree' {X : Ext} {G : Name → Prop} {e : Expr} {σ σ' τ : St} {r : Except Exc Val}
    (hc : CleanE G e) (hag : Agree G σ σ') (h : evalE X e σ = (r, τ)) :
    ∃ τ', evalE X e σ' = (r, τ') ∧ Agree G τ τ' ∧ τ'.env = σ'.env := by
  obtain ⟨h1, h2⟩ := evalE_agree X G e σ σ' hc hag
  rw [h] at h1 h2
  exact ⟨(evalE X e σ').2, Prod.ext h1 rfl, h2, evalE_env X e σ'⟩

/-- `σ₀` stays fixed along a run, so that the states of the two runs are related in the same way at every step. -/
def AgreeFrom (G : Name → Prop) (σ₀ τ τ' : St) : Prop := Agree G τ τ' ∧ SameHidden G σ₀ τ'

theorem evalE_agreeFrom (X : Ext) {G : Name → Prop} {σ₀ σ σ' : St} {e : Expr} (hc : CleanE G e)
    (h : AgreeFrom G σ₀ σ σ') :
    (evalE X e σ).1 = (evalE X e σ').1 ∧ AgreeFrom G σ₀ (evalE X e σ).2 (evalE X e σ').2 := by
  obtain ⟨h1, h2⟩ := evalE_agree X G e σ σ' hc h.1
  exact ⟨h1.symm, h2, fun x hx => by rw [evalE_env]; exact h.2 x hx⟩

theorem exec_agree_all (X : Ext) (G : Name → Prop) (σ₀ : St) : ∀ n,
    (∀ s σ σ', CleanS G s → AgreeFrom G σ₀ σ σ' → Matched (AgreeFrom G σ₀) (exec X n s σ) (exec X n s σ')) ∧
    (∀ b σ σ', CleanB G b → AgreeFrom G σ₀ σ σ' → Matched (AgreeFrom G σ₀) (execB X n b σ) (execB X n b σ')) ∧
    (∀ x ex b items σ σ', ¬ G x → CleanO G ex → CleanB G b → AgreeFrom G σ₀ σ σ' →
      Matched (AgreeFrom G σ₀) (execFor X n x ex b items σ) (execFor X n x ex b items σ'))
  | 0 => ⟨fun _ _ _ _ _ _ _ h => (nomatch h), fun _ _ _ _ _ _ _ h => (nomatch h),
      fun _ _ _ _ _ _ _ _ _ _ _ _ h => (nomatch h)⟩
  | n+1 => by
    obtain ⟨ihS, ihB, ihF⟩ := exec_agree_all X G σ₀ n
    have next : ∀ x ex b items, ¬ G x → CleanO G ex → CleanB G b → ∀ τ τ', AgreeFrom G σ₀ τ τ' →
        Matched (AgreeFrom G σ₀) (extraThen (evalE X) ex (execFor X n x ex b items) τ)
          (extraThen (evalE X) ex (execFor X n x ex b items) τ') :=
      fun x ex b items hx hcex hcb τ τ' h =>
        extraThen_matched (fun t ht => evalE_agreeFrom X (by subst ht; exact hcex) h) h fun _ _ h' =>
          ihF _ _ _ _ _ _ hx hcex hcb h'
    refine ⟨fun s σ σ' hc h => ?_, fun b σ σ' hc h => ?_, fun x ex b items σ σ' hx hcex hcb h => ?_⟩
    · cases s with
      | assign x e =>
        rw [exec_assign, exec_assign]
        have he := evalE_agreeFrom X hc.2 h
        exact valThen_matched he.1 he.2 fun v => .pure ⟨he.2.1.set x v, he.2.2.set hc.1 v⟩
      | expr e =>
        rw [exec_expr, exec_expr]
        have he := evalE_agreeFrom X hc h
        exact valThen_matched he.1 he.2 fun v => .pure he.2
      | ret e =>
        cases e with
        | none => exact .pure h
        | some e =>
          rw [exec_ret, exec_ret]
          have he := evalE_agreeFrom X hc h
          exact valThen_matched he.1 he.2 fun v => .pure he.2
      | ifS c t e =>
        rw [exec_if, exec_if]
        have he := evalE_agreeFrom X hc.1 h
        exact valThen_matched he.1 he.2 fun v => ite_matched (ihB _ _ _ hc.2.1 he.2) (ihB _ _ _ hc.2.2 he.2)
      | whileS c b =>
        rw [exec_while, exec_while]
        have he := evalE_agreeFrom X hc.1 h
        exact valThen_matched he.1 he.2 fun v =>
          ite_matched (loopThen_matched (ihB _ _ _ hc.2 he.2) fun _ _ h' => ihS _ _ _ hc h') (.pure he.2)
      | forS x it ex b =>
        obtain ⟨hx, hcit, hcex, hcb⟩ := hc
        rw [exec_for, exec_for]
        have he := evalE_agreeFrom X hcit h
        refine valThen_matched he.1 he.2 fun v => ?_
        cases iterItems v with
        | error e => exact .pure he.2
        | ok items => exact next x ex b items hx hcex hcb _ _ he.2
      | tryS body hs fin =>
        obtain ⟨hcb, hch, hcf⟩ := hc
        rw [exec_try, exec_try]
        exact bind_matched (ihB _ _ _ hcb h) fun ob τ τ' hb =>
          bind_matched (handleThen_matched hb fun ex hbk _ hf => ihB _ _ _ (CleanH_find hch hf) hb) fun oa τa τa' ha =>
            finallyThen_matched (ihB _ _ _ hcf ha)
      | withS tag body =>
        rw [exec_with, exec_with]
        exact bind_matched (ihB _ _ _ hc ⟨h.1.push _, h.2⟩) fun o τ τ' h' => .pure ⟨h'.1.push _, h'.2⟩
      | _ => exact .pure h
    · cases b with
      | nil => exact .pure h
      | cons s rest =>
        rw [execB_cons, execB_cons]
        exact andThen_matched (ihS _ _ _ hc.1 h) fun _ _ h' => ihB _ _ _ hc.2 h'
    · cases items with
      | nil => exact .pure h
      | cons v items =>
        rw [execFor_cons, execFor_cons]
        exact loopThen_matched (ihB _ _ _ hcb ⟨h.1.set x v, h.2.set hx v⟩) (next x ex b items hx hcex hcb)

theorem exec_agree (X : Ext) (G : Name → Prop) {n : Nat} {s : Stmt} {σ σ' σ1 : St} {o : Out}
    (hc : CleanS G s) (hag : Agree G σ σ') (h : exec X n s σ = some (o, σ1)) :
    ∃ σ1', exec X n s σ' = some (o, σ1') ∧ Agree G σ1 σ1' ∧ SameHidden G σ' σ1' :=
  (exec_agree_all X G σ' n).1 s σ σ' hc ⟨hag, .refl G σ'⟩ o σ1 h

theorem execB_agree (X : Ext) (G : Name → Prop) {n : Nat} {b : Block} {σ σ' σ1 : St} {o : Out}
    (hc : CleanB G b) (hag : Agree G σ σ') (h : execB X n b σ = some (o, σ1)) :
    ∃ σ1', execB X n b σ' = some (o, σ1') ∧ Agree G σ1 σ1' ∧ SameHidden G σ' σ1' :=
  (exec_agree_all X G σ' n).2.1 b σ σ' hc ⟨hag, .refl G σ'⟩ o σ1 h

/-! Unlike `exec_agree` the two loops may have different bodies, so the fuel differs. -/

section
variable {X : Ext} {G : Name → Prop}

theorem extraThen_cases {ex : Option Expr} {τ τ' σ1 : St} {k : St → Option (Out × St)} {o : Out} {motive : Prop}
    (hcex : CleanO G ex) (hag : Agree G τ τ') (h : extraThen (evalE X) ex k τ = some (o, σ1))
    (go : ∀ υ υ', Agree G υ υ' → υ'.env = τ'.env → k υ = some (o, σ1) →
      (∀ k', extraThen (evalE X) ex k' τ' = k' υ') → motive)
    (stop : ∀ υ', Agree G σ1 υ' → υ'.env = τ'.env → (o = .normal ∨ ∃ e, o = .exc e) →
      (∀ k', extraThen (evalE X) ex k' τ' = some (o, υ')) → motive) :
    motive := by
  cases ex with
  | none => exact go τ τ' hag rfl h fun _ => rfl
  | some t =>
    refine valThen_cases h (fun tv υ hr hk => ?_) (fun e υ hr he => ?_)
      <;> obtain ⟨υ', hr', hag', henv⟩ := evalE_agree' hcex hag hr
    · by_cases htv : truthy tv = true
      · rw [if_pos htv] at hk
        exact go υ υ' hag' henv hk fun k' => by rw [extraThen, valThen_ok hr', if_pos htv]
      · rw [if_neg htv] at hk; cases hk
        exact stop υ' hag' henv (.inl rfl) fun k' => by rw [extraThen, valThen_ok hr', if_neg htv]
    · cases he
      exact stop υ' hag' henv (.inr ⟨e, rfl⟩) fun k' => by rw [extraThen, valThen_err hr']

theorem exec_for_head {x : Name} {it : Expr} {ex ex' : Option Expr} {b b' : Block} {σ σ' σ1 : St} {o : Out} {n : Nat}
    {Q : Out → St → Prop} (hcit : CleanE G it) (hag : Agree G σ σ')
    (h : exec X (n+1) (.forS x it ex b) σ = some (o, σ1))
    (stop : ∀ e τ', o = .exc e → Agree G σ1 τ' → τ'.env = σ'.env → Q o τ')
    (go : ∀ items τ τ', Agree G τ τ' → τ'.env = σ'.env →
      extraThen (evalE X) ex (execFor X n x ex b items) τ = some (o, σ1) →
      ∃ m σ1' o', extraThen (evalE X) ex' (execFor X m x ex' b' items) τ' = some (o', σ1') ∧ Q o' σ1') :
    ∃ m σ1' o', exec X m (.forS x it ex' b') σ' = some (o', σ1') ∧ Q o' σ1' := by
  refine exec_for_cases h (fun e τ hr he => ?_) (fun v τ e hr hit he => ?_) (fun v τ items hr hit hk => ?_)
    <;> obtain ⟨τ', hr', hag', henv⟩ := evalE_agree' hcit hag hr
  · cases he; exact ⟨1, τ', _, exec_for_err hr', stop e τ' rfl hag' henv⟩
  · cases he; exact ⟨1, τ', _, exec_for_bad hr' hit, stop e τ' rfl hag' henv⟩
  · obtain ⟨m, σ1', o', hx, hq⟩ := go items τ τ' hag' henv hk
    exact ⟨m + 1, σ1', o', (exec_for_go hr' hit).trans hx, hq⟩

variable {K : Name → Prop} {b b' : Block}

/-- The body `b'` reproduces the runs of `b` up to what no loop can tell apart (`continue` or normal completion), leaving
alone the names `K` (some of the generated names `G`, which it may write otherwise).  Then a loop around `b'` reproduces
the loop around `b`. -/
def BodyCongr (X : Ext) (G K : Name → Prop) (b b' : Block) : Prop :=
  ∀ {n τ τ' ob τ1}, Agree G τ τ' → execB X n b τ = some (ob, τ1) →
    ∃ m τ1' ob', execB X m b' τ' = some (ob', τ1') ∧ Agree G τ1 τ1' ∧
      (∀ k (υ : St), loopThen (some (ob', υ)) k = loopThen (some (ob, υ)) k) ∧ SameHidden K τ' τ1'

theorem while_congr {c : Expr} (hc : CleanE G c)
    (hbody : BodyCongr X G K b b') :
    ∀ n σ σ' o σ1, Agree G σ σ' → exec X n (.whileS c b) σ = some (o, σ1) →
      ∃ m σ1', exec X m (.whileS c b') σ' = some (o, σ1') ∧ Agree G σ1 σ1' ∧ SameHidden K σ' σ1' := by
  intro n
  induction n with
  | zero => exact fun _ _ _ _ _ h => nomatch h
  | succ n ih =>
    intro σ σ' o σ1 hag h
    refine exec_while_cases h (fun ex τ hr he => ?_) (fun v τ hr hv he => ?_) (fun v τ ob τ1 hr hv hb hl => ?_)
      <;> obtain ⟨τ', hr', hag', henv⟩ := evalE_agree' hc hag hr
    · cases he; exact ⟨1, τ', exec_while_err hr', hag', .of_env henv⟩
    · cases he; exact ⟨1, τ', exec_while_false hr' hv, hag', .of_env henv⟩
    · obtain ⟨m1, τ1', ob', hx1, hag1, hob, hfr1⟩ := hbody hag' hb
      have hfr : SameHidden K σ' τ1' := (SameHidden.of_env henv).trans hfr1
      refine loopThen_cases hl (fun hk hgo => ?_) (fun hs hstop => ?_)
      · obtain ⟨m2, σ1', hx2, hag2, hfr2⟩ := ih τ1 τ1' o σ1 hag1 hk
        refine ⟨max m1 m2 + 1, σ1', ?_, hag2, hfr.trans hfr2⟩
        rw [exec_while_step hr' hv (execB_mono X hx1 (Nat.le_max_left _ _)), hob, hgo]
        exact exec_mono X hx2 (Nat.le_max_right _ _)
      · subst hs
        exact ⟨m1 + 1, τ1', by rw [exec_while_step hr' hv hx1, hob, hstop], hag1, hfr⟩

theorem extraThen_congr {x : Name} {ex : Option Expr} {n : Nat} (hcex : CleanO G ex)
    (hF : ∀ items σ σ' o σ1, Agree G σ σ' → execFor X n x ex b items σ = some (o, σ1) →
      ∃ m σ1', execFor X m x ex b' items σ' = some (o, σ1') ∧ Agree G σ1 σ1' ∧ SameHidden K σ' σ1')
    {items : List Val} {τ τ' σ1 : St} {o : Out} (hag : Agree G τ τ')
    (h : extraThen (evalE X) ex (execFor X n x ex b items) τ = some (o, σ1)) :
    ∃ m σ1', extraThen (evalE X) ex (execFor X m x ex b' items) τ' = some (o, σ1') ∧ Agree G σ1 σ1' ∧
      SameHidden K τ' σ1' := by
  refine extraThen_cases hcex hag h (fun υ υ' hag2 henv hk hgo => ?_) (fun υ' hag2 henv _ hstop => ?_)
  · obtain ⟨m, σ1', hx, hag3, hfr⟩ := hF items υ υ' o σ1 hag2 hk
    exact ⟨m, σ1', by rw [hgo]; exact hx, hag3, (SameHidden.of_env henv).trans hfr⟩
  · exact ⟨0, υ', hstop _, hag2, .of_env henv⟩

/-- `hx`, `hK`: the loop variable, which every iteration writes, is not among the names `K`. -/
theorem for_congr {x : Name} {ex : Option Expr} (hx : ¬ G x) (hK : ∀ y, K y → G y) (hcex : CleanO G ex)
    (hbody : BodyCongr X G K b b') :
    ∀ n items σ σ' o σ1, Agree G σ σ' → execFor X n x ex b items σ = some (o, σ1) →
      ∃ m σ1', execFor X m x ex b' items σ' = some (o, σ1') ∧ Agree G σ1 σ1' ∧ SameHidden K σ' σ1' := by
  intro n
  induction n with
  | zero => exact fun _ _ _ _ _ _ h => nomatch h
  | succ n ih =>
    intro items σ σ' o σ1 hag h
    cases items with
    | nil => cases h; exact ⟨1, σ', rfl, hag, .refl _ _⟩
    | cons v items =>
      rw [execFor_cons] at h
      obtain ⟨ob, τ1, hb, hl⟩ := loopThen_inv h
      obtain ⟨m1, τ1', ob', hx1, hag1, hob, hfr1⟩ := hbody (hag.set x v) hb
      have hfr : SameHidden K σ' τ1' := ((SameHidden.refl K σ').set (fun hk => hx (hK x hk)) v).trans hfr1
      refine loopThen_cases hl (fun hk hgo => ?_) (fun hs hstop => ?_)
      · obtain ⟨m2, σ1', hx2, hag2, hfr2⟩ := extraThen_congr hcex ih hag1 hk
        refine ⟨max m1 m2 + 1, σ1', ?_, hag2, hfr.trans hfr2⟩
        rw [execFor_step (execB_mono X hx1 (Nat.le_max_left _ _)), hob, hgo]
        exact extraThen_mono X hx2 (Nat.le_max_right _ _)
      · subst hs
        exact ⟨m1 + 1, τ1', by rw [execFor_step hx1, hob, hstop], hag1, hfr⟩

theorem exec_for_congr {x : Name} {it : Expr} {ex : Option Expr} (hx : ¬ G x) (hK : ∀ y, K y → G y)
    (hcit : CleanE G it) (hcex : CleanO G ex) (hbody : BodyCongr X G K b b') :
    ∀ n σ σ' o σ1, Agree G σ σ' → exec X n (.forS x it ex b) σ = some (o, σ1) →
      ∃ m σ1', exec X m (.forS x it ex b') σ' = some (o, σ1') ∧ Agree G σ1 σ1' ∧ SameHidden K σ' σ1' := by
  intro n σ σ' o σ1 hag h
  cases n with
  | zero => exact nomatch h
  | succ n =>
    obtain ⟨m, σ1', o', hx', rfl, hq⟩ := exec_for_head
      (Q := fun o' τ' => o' = o ∧ Agree G σ1 τ' ∧ SameHidden K σ' τ') hcit hag h
      (fun _ τ' _ hag' henv => ⟨rfl, hag', .of_env henv⟩) fun items τ τ' hag' henv hk => by
        obtain ⟨m, σ1', hx', hag1, hfr⟩ := extraThen_congr hcex (for_congr hx hK hcex hbody n) hag' hk
        exact ⟨m, σ1', o, hx', rfl, hag1, (SameHidden.of_env henv).trans hfr⟩
    exact ⟨m, σ1', hx', hq⟩

end

end Malt.Sem
